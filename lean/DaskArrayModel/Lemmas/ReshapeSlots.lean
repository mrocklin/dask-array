/-
Slot lists as axes: how the in-place updates of `reshape_rechunk` (`Model/Reshape.lean`) read as lists of
`(length, chunks)` axes, what its inner loops (`growLeft`, `setMany`, `allFull`) leave behind at natural-number
indices, and `SlotGroup`: a range of slots that holds a group in pivot form — kept by `_smooth_chunks`, read as a
`PivotForm` list of axes.
-/
import DaskArrayModel.Lemmas.ReshapeHelpers
namespace Dask.Reshape
open Dask.ND

/-- the chunk tuples held by a slot list (`None` reads as `()`) -/
def val (r : Slots) : List Chunks := r.map (fun o => o.getD [])

def axes (shape : List Nat) (r : Slots) : List Axis := List.zip shape (val r)

theorem val_length (r : Slots) : (val r).length = r.length := by simp [val]

theorem val_getElem? (r : Slots) (k : Nat) : (val r)[k]? = (r[k]?).map (fun o => o.getD []) := by
  simp [val]

theorem axes_length {shape : List Nat} {r : Slots} (h : r.length = shape.length) :
    (axes shape r).length = shape.length := by
  simp [axes, List.length_zip, val_length, h]

theorem axes_getElem?_some {shape : List Nat} {r : Slots} {k d : Nat} {c : Chunks}
    (h1 : shape[k]? = some d) (h2 : r[k]? = some (some c)) : (axes shape r)[k]? = some (d, c) := by
  unfold axes
  rw [List.getElem?_zip_eq_some]
  refine ⟨h1, ?_⟩
  rw [val_getElem?, h2]; rfl

theorem axes_getElem?_inv {shape : List Nat} {r : Slots} {k : Nat} {a : Axis}
    (h : (axes shape r)[k]? = some a) : shape[k]? = some a.1 ∧ ∃ o, r[k]? = some o ∧ o.getD [] = a.2 := by
  unfold axes at h
  rw [List.getElem?_zip_eq_some] at h
  refine ⟨h.1, ?_⟩
  have h2 := h.2
  rw [val_getElem?] at h2
  cases hr : r[k]? with
  | none => rw [hr] at h2; simp at h2
  | some o => rw [hr] at h2; simp at h2; exact ⟨o, rfl, h2⟩

theorem axes_drop_congr {shape : List Nat} {r r' : Slots} {p : Nat}
    (h : ∀ k, p ≤ k → r'[k]? = r[k]?) : (axes shape r').drop p = (axes shape r).drop p := by
  unfold axes List.zip
  rw [List.drop_zipWith, List.drop_zipWith]
  congr 1
  apply List.ext_getElem?
  intro j
  rw [List.getElem?_drop, List.getElem?_drop, val_getElem?, val_getElem?, h _ (Nat.le_add_right p j)]

theorem axes_drop_cons {shape : List Nat} {r : Slots} {k d : Nat} {c : Chunks}
    (h1 : shape[k]? = some d) (h2 : r[k]? = some (some c)) :
    (axes shape r).drop k = (d, c) :: (axes shape r).drop (k + 1) := by
  have h := axes_getElem?_some h1 h2
  obtain ⟨hk, hv⟩ := List.getElem?_eq_some_iff.mp h
  rw [List.drop_eq_getElem_cons hk, hv]

theorem axes_drop_set {shape : List Nat} {r : Slots} {k d : Nat} {c : Chunks}
    (h1 : shape[k]? = some d) (hk : k < r.length) :
    (axes shape (r.set k (some c))).drop k = (d, c) :: (axes shape r).drop (k + 1) := by
  rw [axes_drop_cons h1 (List.getElem?_set_self hk)]
  congr 1
  exact axes_drop_congr fun j hj => List.getElem?_set_ne (Nat.ne_of_lt hj)

theorem shapeA_zip {shape : List Nat} {cs : List Chunks} (h : cs.length = shape.length) :
    shapeA (List.zip shape cs) = shape :=
  List.map_fst_zip (Nat.le_of_eq h.symm)

theorem chunksA_zip {shape : List Nat} {cs : List Chunks} (h : cs.length = shape.length) :
    chunksA (List.zip shape cs) = cs :=
  List.map_snd_zip (Nat.le_of_eq h)

theorem shapeA_axes_drop {shape : List Nat} {r : Slots} (h : r.length = shape.length) (p : Nat) :
    shapeA ((axes shape r).drop p) = shape.drop p := by
  unfold shapeA
  rw [List.map_drop]
  exact congrArg (List.drop p) (shapeA_zip ((val_length r).trans h))

theorem shapeA_axes_seg {shape : List Nat} {r : Slots} (h : r.length = shape.length) (L cnt : Nat) :
    shapeA (((axes shape r).drop L).take cnt) = (shape.drop L).take cnt := by
  rw [← shapeA_axes_drop h L]; exact List.map_take

theorem chunksA_axes_seg {shape : List Nat} {r : Slots} (h : r.length = shape.length) (L cnt : Nat) :
    chunksA (((axes shape r).drop L).take cnt) = ((val r).drop L).take cnt := by
  unfold chunksA
  rw [List.map_take, List.map_drop]
  exact congrArg (fun l => (l.drop L).take cnt) (chunksA_zip ((val_length r).trans h))

theorem reduceMul_ok {l : List Nat} {p : Nat} (h : reduceMul l = .ok p) : l ≠ [] ∧ p = prodL l := by
  cases l with
  | nil => simp [reduceMul] at h
  | cons x xs => simp only [reduceMul, Except.ok.injEq] at h; exact ⟨by simp, h.symm⟩

theorem growLeft_ok {shape : List Nat} {ii : Int} {d : Nat} (fuel : Nat) : ∀ x y : Int,
    growLeft shape ii d fuel x = .ok y → y ≤ x ∧ (-1 ≤ x → -1 ≤ y) := by
  induction fuel with
  | zero => exact fun _ _ h => nomatch h
  | succ fuel ih =>
    intro x y h
    -- `growLeft … (fuel + 1) x` is `if 0 ≤ x then (reduceMul … >>= fun p => if p < d then growLeft … fuel (x - 1) else
    -- pure x) else pure x`, by definition
    by_cases hx : 0 ≤ x
    · obtain ⟨p, _, h⟩ := bind_ok.mp ((if_pos hx).symm.trans h)
      by_cases hp : p < d
      · rw [if_pos hp] at h
        obtain ⟨h1, h2⟩ := ih (x - 1) y h
        exact ⟨Int.le_trans h1 (Int.sub_le_self x (by decide)), fun _ => h2 (Int.sub_le_sub_right hx 1)⟩
      · rw [if_neg hp, pure_ok] at h; exact h ▸ ⟨Int.le_refl x, id⟩
    · exact pure_ok.mp ((if_neg hx).symm.trans h) ▸ ⟨Int.le_refl x, id⟩

theorem pySlice_last {α : Type} {l : List α} {i : Nat} {v : α} (h : l[i]? = some v) :
    pySlice l (-1) ((i : Int) + 1) = [] ∨ pySlice l (-1) ((i : Int) + 1) = [v] := by
  obtain ⟨hi, hv⟩ := List.getElem?_eq_some_iff.mp h
  have c1 : pyClamp l.length (-1) = l.length - 1 := by
    unfold pyClamp; rw [if_pos (by decide), Int.add_comm]; exact Int.toNat_sub l.length 1
  unfold pySlice
  rw [c1, ← Int.natCast_add_one, pyClamp_ofNat, Nat.min_eq_left hi]
  rcases Nat.eq_or_lt_of_le hi with h' | h'
  · right
    rw [← h']
    show List.take (i + 1 - (i + 1 - 1)) (List.drop (i + 1 - 1) l) = [v]
    rw [Nat.add_sub_cancel, Nat.add_sub_cancel_left, List.drop_eq_getElem_cons hi, hv,
      List.take_succ_cons, List.take_zero]
  · left
    rw [Nat.sub_eq_zero_of_le (Nat.le_sub_one_of_lt h'), List.take_zero]

/-- The loop cannot run off the left end: `shape[-1 : i + 1]` multiplies to `shape[i] ≠ d` or raises. -/
theorem group_left {shape : List Nat} {i d : Nat} {fuel : Nat} {ileft : Int} {p p' : Nat}
    (hlt : shape[i]? = some p') (hne : p' ≠ d)
    (hg : growLeft shape (i : Int) d fuel ((i : Int) - 1) = .ok ileft)
    (hp : reduceMul (pySlice shape ileft ((i : Int) + 1)) = .ok p) (hpd : p = d) :
    ∃ L : Nat, ileft = (L : Int) ∧ L < i ∧ prodL ((shape.drop L).take (i + 1 - L)) = d := by
  have hi : i < shape.length := (List.getElem?_eq_some_iff.mp hlt).1
  obtain ⟨h1, h2⟩ := growLeft_ok _ _ _ hg
  rcases Int.lt_or_le ileft 0 with hneg | hpos
  · exfalso
    have hil : ileft = -1 :=
      Int.le_antisymm (Int.le_of_lt_add_one hneg) (h2 (Int.sub_le_sub_right (Int.natCast_nonneg i) 1))
    subst hil
    rcases pySlice_last hlt with e | e
    · rw [e] at hp; cases hp
    · rw [e] at hp
      exact hne ((Nat.mul_one p').symm.trans ((reduceMul_ok hp).2.symm.trans hpd))
  · obtain ⟨L, rfl⟩ := Int.eq_ofNat_of_zero_le hpos
    refine ⟨L, rfl, Int.ofNat_lt.mp (Int.le_sub_one_iff.mp h1), ?_⟩
    rw [← Int.natCast_add_one, pySlice_nat shape _ _ hi] at hp
    rw [← (reduceMul_ok hp).2, hpd]

theorem setMany_range {f : Int → Except Err Chunks} {a b : Nat} {r r' : Slots}
    (h : setMany f r (pyRange (a : Int) (b : Int)) = .ok r') :
    r'.length = r.length ∧ (∀ k : Nat, (k < a ∨ b ≤ k) → r'[k]? = r[k]?) ∧
      (∀ k : Nat, a ≤ k → k < b → k < r.length ∧ ∃ v, f (k : Int) = .ok v ∧ r'[k]? = some (some v)) := by
  induction hn : b - a generalizing a r with
  | zero =>
    have hba := Nat.le_of_sub_eq_zero hn
    rw [pyRange_empty a b hba] at h
    cases h
    exact ⟨rfl, fun _ _ => rfl, fun k h1 h2 => absurd (Nat.lt_of_le_of_lt h1 h2) (Nat.not_lt_of_le hba)⟩
  | succ n ih =>
    have hab : a < b := Nat.lt_of_sub_eq_succ hn
    rw [pyRange_cons a b hab] at h
    obtain ⟨v, hv, h⟩ := bind_ok.mp h
    obtain ⟨r1, hr1, h⟩ := bind_ok.mp h
    obtain ⟨ha, rfl⟩ := pySet_nat_ok hr1
    obtain ⟨ih1, ih2, ih3⟩ := ih h ((Nat.sub_add_eq b a 1).trans (congrArg (· - 1) hn))
    refine ⟨ih1.trans (List.length_set ..), fun k hk => ?_, fun k hk1 hk2 => ?_⟩
    · rw [ih2 k (hk.imp_left Nat.lt_succ_of_lt), List.getElem?_set_ne]
      exact hk.elim Nat.ne_of_gt fun hk => Nat.ne_of_lt (Nat.lt_of_lt_of_le hab hk)
    · rcases Nat.eq_or_lt_of_le hk1 with rfl | h'
      · exact ⟨ha, v, hv, by rw [ih2 a (Or.inl (Nat.lt_succ_self a)), List.getElem?_set_self ha]⟩
      · obtain ⟨h3, h4⟩ := ih3 k h' hk2
        exact ⟨(List.length_set ..) ▸ h3, h4⟩

theorem allFull_range {inshape : List Nat} {inchunks : List Chunks} {a b : Nat}
    (h : allFull inshape inchunks (pyRange (a : Int) (b : Int)) = .ok true) :
    ∀ k : Nat, a ≤ k → k < b → ∃ c d, inchunks[k]? = some c ∧ inshape[k]? = some d ∧ c.length = d := by
  induction hn : b - a generalizing a with
  | zero => exact fun k h1 h2 => absurd (Nat.lt_of_le_of_lt h1 h2) (Nat.not_lt_of_le (Nat.le_of_sub_eq_zero hn))
  | succ n ih =>
    rw [pyRange_cons a b (Nat.lt_of_sub_eq_succ hn)] at h
    obtain ⟨c, hc, h⟩ := bind_ok.mp h
    obtain ⟨d, hd, h⟩ := bind_ok.mp h
    by_cases hlen : c.length = d
    · rw [if_pos hlen] at h
      intro k hk1 hk2
      rcases Nat.eq_or_lt_of_le hk1 with rfl | h'
      · exact ⟨c, d, pyGet_nat_ok hc, pyGet_nat_ok hd, hlen⟩
      · exact ih h ((Nat.sub_add_eq b a 1).trans (congrArg (· - 1) hn)) k h' hk2
    · rw [if_neg hlen] at h; cases h

theorem mem_seg {α : Type} {l : List α} {L i : Nat} {x : α} (h : x ∈ (l.drop L).take (i - L)) :
    ∃ k, L ≤ k ∧ k < i ∧ l[k]? = some x := by
  obtain ⟨j, hj⟩ := List.mem_iff_getElem?.mp h
  rw [List.getElem?_take] at hj
  split at hj
  next hlt =>
    rw [List.getElem?_drop] at hj
    exact ⟨L + j, Nat.le_add_right L j, Nat.add_lt_of_lt_sub' hlt, hj⟩
  next => cases hj

theorem seg_split {α : Type} {l : List α} {L p i : Nat} {a : α} (h1 : L ≤ p) (h2 : p ≤ i)
    (ha : l[p]? = some a) :
    (l.drop L).take (i + 1 - L) = (l.drop L).take (p - L) ++ a :: (l.drop (p + 1)).take (i + 1 - (p + 1)) := by
  obtain ⟨hp, hv⟩ := List.getElem?_eq_some_iff.mp ha
  have e1 : i + 1 - L = (p - L) + ((i + 1 - (p + 1)) + 1) := by
    rw [Nat.add_sub_add_right, ← Nat.sub_add_comm h2, Nat.add_comm (p - L),
      Nat.sub_add_sub_cancel (Nat.le_add_right_of_le h2) h1]
  rw [e1, List.take_add, List.drop_drop, Nat.add_sub_cancel' h1, List.drop_eq_getElem_cons hp, hv,
    List.take_succ_cons]

/-- Slots `L..i` of `r` hold a group in pivot form over `shape`: every slot a chunking of its axis (`(1,)` on an
axis of length 1); all-ones tuples up to a free slot `p`, whole-axis tuples after it.  The writes of the merge
and split branches establish it, `_smooth_chunks` keeps it, and it reads as a `PivotForm` list of axes. -/
structure SlotGroup (shape : List Nat) (L i : Nat) (r : Slots) : Prop where
  slot : ∀ k, L ≤ k → k ≤ i →
    ∃ c d, r[k]? = some (some c) ∧ shape[k]? = some d ∧ c.sum = d ∧ (d = 1 → c = [1])
  pivot : ∃ p, L ≤ p ∧ p ≤ i ∧ (∀ k c, L ≤ k → k < p → r[k]? = some (some c) → allOnes c = true) ∧
    (∀ k, p < k → k ≤ i → r[k]? = some (some [shape.getD k 0]))

theorem SlotGroup.set {shape : List Nat} {L i q : Nat} {r : Slots} {c c' : Chunks} (g : SlotGroup shape L i r)
    (hLq : L ≤ q) (hqi : q ≤ i)
    (hall : ∀ k, L ≤ k → k < q → ∃ ck, r[k]? = some (some ck) ∧ allOnes ck = true)
    (hq : r[q]? = some (some c)) (hnot : allOnes c = false) (hsum : c'.sum = c.sum) :
    SlotGroup shape L i (r.set q (some c')) := by
  refine ⟨fun k hk1 hk2 => ?_, ?_⟩
  · by_cases hkq : q = k
    · subst hkq
      obtain ⟨c0, d, h1, h2, h3, h4⟩ := g.slot q hk1 hk2
      cases hq.symm.trans h1
      refine ⟨c', d, List.getElem?_set_self (List.getElem?_eq_some_iff.mp hq).1, h2, hsum.trans h3, fun hd => ?_⟩
      rw [h4 hd] at hnot; cases hnot
    · rw [List.getElem?_set_ne hkq]; exact g.slot k hk1 hk2
  · obtain ⟨p, _, _, hpre, hpost⟩ := g.pivot
    -- slot `q` is not all ones, so it is not left of the old free slot `p`
    have hpq : p ≤ q := Nat.le_of_not_lt fun h' => by
      rw [hpre q c hLq h' hq] at hnot; cases hnot
    refine ⟨q, hLq, hqi, fun k ck hk1 hk2 hk => ?_, fun k hk1 hk2 => ?_⟩
    · obtain ⟨ck', h1, h2⟩ := hall k hk1 hk2
      cases h1.symm.trans ((List.getElem?_set_ne (Nat.ne_of_gt hk2)).symm.trans hk)
      exact h2
    · rw [List.getElem?_set_ne (Nat.ne_of_lt hk1)]
      exact hpost k (Nat.lt_of_le_of_lt hpq hk1) hk2

theorem SmoothRel.group {shape : List Nat} {L i : Nat} {r r' : Slots} (h : SmoothRel L i r r') :
    SlotGroup shape L i r → SlotGroup shape L i r' := by
  induction h with
  | refl r => exact id
  | step r r' q c c' hLq hqi hall hq hnot hsum _ ih => exact fun g => ih (g.set hLq hqi hall hq hnot hsum)

theorem SlotGroup.toAxes {shape : List Nat} {r : Slots} {L i : Nat} (hL : L ≤ i) (g : SlotGroup shape L i r) :
    PivotForm (((axes shape r).drop L).take (i + 1 - L)) ∧
      (∀ a ∈ ((axes shape r).drop L).take (i + 1 - L), ValidAx a) ∧
      (axes shape r).drop L = ((axes shape r).drop L).take (i + 1 - L) ++ (axes shape r).drop (i + 1) := by
  have hax : ∀ k, L ≤ k → k < i + 1 → ∃ c d, r[k]? = some (some c) ∧ c.sum = d ∧ shape.getD k 0 = d ∧
      (axes shape r)[k]? = some (d, c) := by
    intro k hk1 hk2
    obtain ⟨c, d, h1, h2, h3, _⟩ := g.slot k hk1 (Nat.le_of_lt_succ hk2)
    exact ⟨c, d, h1, h3, getD_of_getElem? h2, axes_getElem?_some h2 h1⟩
  refine ⟨?_, ?_, ?_⟩
  · obtain ⟨p, hLp, hpi, hpre, hpost⟩ := g.pivot
    obtain ⟨cp, dp, _, _, _, hp⟩ := hax p hLp (Nat.lt_succ_of_le hpi)
    refine ⟨_, _, _, seg_split hLp hpi hp, ?_, ?_⟩
    · intro a ha
      obtain ⟨k, hk1, hk2, hk⟩ := mem_seg ha
      obtain ⟨c, d, h1, h3, _, h4⟩ := hax k hk1 (Nat.lt_succ_of_le (Nat.le_trans (Nat.le_of_lt hk2) hpi))
      cases h4.symm.trans hk
      show c = List.replicate d 1
      rw [← h3]; exact allOnes_sum (hpre k c hk1 hk2 h1)
    · intro a ha
      obtain ⟨k, hk1, hk2, hk⟩ := mem_seg ha
      obtain ⟨c, d, h1, _, h3, h4⟩ := hax k (Nat.le_trans hLp (Nat.le_of_lt hk1)) hk2
      cases h4.symm.trans hk
      cases (hpost k hk1 (Nat.le_of_lt_succ hk2)).symm.trans h1
      show [shape.getD k 0] = [d]
      rw [h3]
  · intro a ha
    obtain ⟨k, hk1, hk2, hk⟩ := mem_seg ha
    obtain ⟨c, d, _, h3, _, h4⟩ := hax k hk1 hk2
    cases h4.symm.trans hk
    exact h3
  · have e : (axes shape r).drop (i + 1) = ((axes shape r).drop L).drop (i + 1 - L) := by
      rw [List.drop_drop, Nat.add_sub_cancel' (Nat.le_succ_of_le hL)]
    rw [e, List.take_append_drop]

theorem repeatL_add {α : Type} (t : List α) (a b : Nat) : repeatL t (a + b) = repeatL t a ++ repeatL t b := by
  induction a with
  | zero => rw [Nat.zero_add]; rfl
  | succ a ih =>
    rw [Nat.add_right_comm a 1 b]
    exact (congrArg (t ++ ·) ih).trans (List.append_assoc ..).symm

theorem repeatL_mul {α : Type} (t : List α) (a b : Nat) : repeatL (repeatL t a) b = repeatL t (b * a) := by
  induction b with
  | zero => rw [Nat.zero_mul]; rfl
  | succ b ih =>
    rw [Nat.add_mul, Nat.one_mul, Nat.add_comm (b * a), repeatL_add t a, ← ih]; rfl

end Dask.Reshape
