/-
Refinement of the contraction plan (Model/Contract.lean): the block computed for every output block index is
the block of the NumPy contraction on the advertised extent.  A product term read from the blocks is the term
of the whole arrays at the global index (`npTerm_block`); a sum over the contracted index ranges is the sum
over the contracted block grid of the sums over each block's ranges (`regroup`); `dropMasked_correct` puts
the two together for the direct block and for the cascade's root block (`tree_sum`, `tree_rootKey_shape`).
-/
import DaskArrayModel.Lemmas.ContractTree
namespace Dask.Contract
open Dask.Py Dask.ND Dask.Reduce Dask.Lemmas.Reduce

theorem map_sum_eq_map (l : Layout) :
    l.map List.sum = (List.range l.length).map (fun p => (l.getD p []).sum) := by
  conv => lhs; rw [← map_getD_range l []]
  exact List.map_map

theorem npShape_eq (obs : List (List Nat × Arr Int)) (rank : Nat) (Lf : Nat → Nat)
    (h1 : ∀ ob ∈ obs, ∀ q ∈ ob.1.zip ob.2.shape, q.2 = Lf q.1 ∨ q.2 = 1)
    (h2 : ∀ p, p < rank → ∃ ob ∈ obs, ∃ q ∈ ob.1.zip ob.2.shape, q.1 = p ∧ q.2 = Lf p) :
    npShape obs rank = (List.range rank).map Lf := by
  unfold npShape
  apply List.map_congr_left
  intro p hp
  apply bdim_eq
  · intro n hn
    simp only [lensAt, List.mem_flatMap, List.mem_map, List.mem_filter] at hn
    obtain ⟨ob, hob, q, ⟨hq, hqp⟩, rfl⟩ := hn
    have := h1 ob hob q hq
    have e : q.1 = p := by simpa using hqp
    rw [e] at this; exact this
  · obtain ⟨ob, hob, q, hq, e1, e2⟩ := h2 p (List.mem_range.mp hp)
    simp only [lensAt, List.mem_flatMap, List.mem_map, List.mem_filter]
    exact ⟨ob, hob, q, ⟨hq, by simp [e1]⟩, e2⟩

structure OpdOK (full : Layout) (o : Opd) : Prop where
  len : o.pos.length = o.chunks.length
  sums : o.chunks.map List.sum = o.arr.shape
  ax : ∀ t, t < o.pos.length → o.pos.getD t 0 < full.length ∧
    (o.chunks.getD t [] = full.getD (o.pos.getD t 0) [] ∨ o.chunks.getD t [] = [1])

theorem OpdOK.of_wf {full : Layout} {o : Opd} (h : o.wf full = true) : OpdOK full o := by
  simp only [Opd.wf, Bool.and_eq_true, decide_eq_true_eq, List.all_eq_true, Bool.or_eq_true] at h
  obtain ⟨⟨h1, h2⟩, h3⟩ := h
  refine ⟨h1, h2, ?_⟩
  intro t ht
  exact h3 _ (getD_mem_zip o.pos o.chunks 0 [] t ht (by omega))

structure PlanOK (P : Plan) : Prop where
  slen : P.split.length = P.full.length
  ne : ∀ cs ∈ P.full, cs ≠ []
  ops : ∀ o ∈ P.ops, OpdOK P.full o
  cov : ∀ p, p < P.full.length → ∃ o ∈ P.ops, ∃ t, t < o.pos.length ∧ o.pos.getD t 0 = p ∧
    o.chunks.getD t [] = P.full.getD p []
  dok : depthOK P.split (numblocks P.full) P.depth
  direct : P.direct = true → maskedOne P.split (numblocks P.full)

theorem depthOK_of_all (sp : List Nat) (full : Layout) (d : Nat) (h : sp.length = full.length)
    (hne : ∀ cs ∈ full, cs ≠ []) (hall : ∀ q ∈ sp.zip full, q.1 = 0 ∨ (2 ≤ q.1 ∧ q.2.length ≤ q.1 ^ d)) :
    depthOK sp (numblocks full) d := by
  induction sp, full, h using list_induction₂ with
  | nil => trivial
  | cons s sp cs full _ ih =>
    have ih := ih (fun c hc => hne c (List.mem_cons_of_mem _ hc)) (fun q hq => hall q (List.mem_cons_of_mem _ hq))
    cases s with
    | zero => exact ih
    | succ s =>
      have h1 := (hall (s + 1, cs) List.mem_cons_self).resolve_left (Nat.succ_ne_zero s)
      exact ⟨Nat.le_of_succ_le_succ h1.1, List.length_pos_iff.mpr (hne cs List.mem_cons_self), h1.2, ih⟩

theorem maskedOne_of_all (sp : List Nat) (full : Layout) (h : sp.length = full.length)
    (hall : ∀ q ∈ sp.zip full, q.1 = 0 ∨ q.2.length = 1) : maskedOne sp (numblocks full) := by
  induction sp, full, h using list_induction₂ with
  | nil => trivial
  | cons s sp cs full _ ih =>
    have ih := ih (fun q hq => hall q (List.mem_cons_of_mem _ hq))
    cases s with
    | zero => exact ih
    | succ s => exact ⟨(hall (s + 1, cs) List.mem_cons_self).resolve_left (Nat.succ_ne_zero s), ih⟩

theorem PlanOK.of_wf {P : Plan} (h : P.WF) : PlanOK P := by
  unfold Plan.WF Plan.wf at h
  simp only [Bool.and_eq_true, Bool.or_eq_true, decide_eq_true_eq, List.all_eq_true] at h
  obtain ⟨⟨⟨⟨⟨⟨h1, h2⟩, h3⟩, h4⟩, _⟩, h6⟩, h7⟩ := h
  have hne : ∀ cs ∈ P.full, cs ≠ [] := by
    intro cs hcs e
    have := h2 cs hcs
    rw [e] at this
    cases this
  refine ⟨h1, hne, fun o ho => OpdOK.of_wf (h3 o ho), ?_, depthOK_of_all _ _ _ h1 hne h6, ?_⟩
  · intro p hp
    have := h4 p (List.mem_range.mpr hp)
    simp only [covered, List.any_eq_true, Bool.and_eq_true, beq_iff_eq, decide_eq_true_eq] at this
    obtain ⟨o, ho, q, hq, e1, e2⟩ := this
    obtain ⟨t, ht1, _, rfl⟩ := mem_zip_getD o.pos o.chunks 0 [] q hq
    exact ⟨o, ho, t, ht1, e1, e2⟩
  · intro hd
    exact maskedOne_of_all _ _ h1 (h7.resolve_left (by rw [hd]; exact Bool.false_ne_true))

theorem depBid_length (o : Opd) (bid : List Nat) (h : o.pos.length = o.chunks.length) :
    (depBid o bid).length = o.chunks.length := by
  simp [depBid, h]

theorem depBid_getD (o : Opd) (bid : List Nat) (h : o.pos.length = o.chunks.length) (t : Nat)
    (ht : t < o.pos.length) :
    (depBid o bid).getD t 0 = bid.getD (o.pos.getD t 0) 0 % (o.chunks.getD t []).length := by
  unfold depBid
  rw [getD_zipWith _ o.pos o.chunks t 0 [] 0 ht (by omega)]

theorem opBlock_shape_length (o : Opd) (bid : List Nat) (h : o.pos.length = o.chunks.length) :
    (opBlock o bid).shape.length = o.pos.length := by
  show (blockShape o.chunks (depBid o bid)).length = _
  rw [blockShape_length (depBid_length o bid h), h]

theorem opBlock_shape_getD (o : Opd) (bid : List Nat) (h : o.pos.length = o.chunks.length) (t : Nat)
    (ht : t < o.pos.length) :
    (opBlock o bid).shape.getD t 0
      = (o.chunks.getD t []).getD (bid.getD (o.pos.getD t 0) 0 % (o.chunks.getD t []).length) 0 := by
  show (blockShape o.chunks (depBid o bid)).getD t 0 = _
  rw [blockShape_getD (depBid_length o bid h) t (by omega), depBid_getD o bid h t ht]

/-- On an axis with the label's own chunks both reads are in range, so neither broadcasts; a `(1,)` axis is read at 0
on both sides. -/
theorem axis_read (cs fp : List Nat) (b x : Nat) (hcase : cs = fp ∨ cs = [1]) (hb : b < fp.length)
    (hx : x < fp.getD b 0) :
    (cs.take (b % cs.length)).sum + bc (cs.getD (b % cs.length) 0) x
      = bc cs.sum ((fp.take b).sum + x) := by
  rcases hcase with e | e
  · subst e
    rw [Nat.mod_eq_of_lt hb, bc_of_lt hx,
      bc_of_lt (Nat.lt_of_lt_of_le (Nat.add_lt_add_left hx (cs.take b).sum) (Layout.nstart_end_le cs b))]
  · subst e
    simp [bc, Nat.mod_one]

theorem rd_block (full : Layout) (o : Opd) (hok : OpdOK full o) (bid x : List Nat)
    (hb : validBid full bid) (hx : InB x (blockShape full bid)) :
    vadd (origin o.chunks (depBid o bid)) (rd o.pos (opBlock o bid).shape x)
      = rd o.pos o.arr.shape (vadd (origin full bid) x) := by
  have hbl : bid.length = full.length := hb.length_eq
  have hxl : x.length = full.length := by rw [hx.length_eq, blockShape_length hbl]
  have hdl := depBid_length o bid hok.len
  have hsl := opBlock_shape_length o bid hok.len
  have hal : o.arr.shape.length = o.pos.length := by rw [← hok.sums, List.length_map, hok.len]
  have hol : (origin o.chunks (depBid o bid)).length = o.pos.length := by
    rw [origin_length hdl, hok.len]
  have hrl : (rd o.pos (opBlock o bid).shape x).length = o.pos.length := by
    simp [rd, hsl]
  apply ext_getD 0
  · rw [vadd_length (by rw [hol, hrl]), hol]; simp [rd, hal]
  · intro t ht
    rw [vadd_length (by rw [hol, hrl]), hol] at ht
    obtain ⟨hp, hcase⟩ := hok.ax t ht
    have hbp := hb.getD_lt _ hp
    have hxp : x.getD (o.pos.getD t 0) 0 < (full.getD (o.pos.getD t 0) []).getD (bid.getD (o.pos.getD t 0) 0) 0 := by
      have := hx.getD_lt (o.pos.getD t 0) (by rw [blockShape_length hbl]; exact hp)
      rwa [blockShape_getD hbl _ hp] at this
    rw [vadd_getD t (by rw [hol]; exact ht) (by rw [hrl]; exact ht),
      origin_getD hdl t (by rw [← hok.len]; exact ht), depBid_getD o bid hok.len t ht]
    unfold rd
    rw [getD_zipWith _ o.pos (opBlock o bid).shape t 0 0 0 ht (by rw [hsl]; exact ht),
      getD_zipWith _ o.pos o.arr.shape t 0 0 0 ht (by rw [hal]; exact ht),
      opBlock_shape_getD o bid hok.len t ht,
      vadd_getD _ (by rw [origin_length hbl]; exact hp) (by rw [hxl]; exact hp),
      origin_getD hbl _ hp, ← hok.sums, getD_map List.sum o.chunks t [] 0 (by rw [← hok.len]; exact ht)]
    exact axis_read _ _ _ _ hcase hbp hxp

def wholeObs (P : Plan) : List (List Nat × Arr Int) := P.ops.map (fun o => (o.pos, o.arr))
def blockObs (P : Plan) (bid : List Nat) : List (List Nat × Arr Int) :=
  P.ops.map (fun o => (o.pos, opBlock o bid))

theorem contractDen_def (P : Plan) : contractDen P =
    ⟨keep P.mask (npShape (wholeObs P) P.mask.length), fun j =>
      lsum (allIdx (pick P.mask (npShape (wholeObs P) P.mask.length)))
        (fun c => npTerm (wholeObs P) (merge P.mask j c))⟩ := rfl

theorem blockProd_def (P : Plan) (bid : List Nat) : blockProd P bid =
    ⟨setMasked P.mask (npShape (blockObs P bid) P.mask.length) 1, fun i =>
      lsum (allIdx (pick P.mask (npShape (blockObs P bid) P.mask.length)))
        (fun c => npTerm (blockObs P bid) (merge P.mask (keep P.mask i) c))⟩ := rfl

theorem maskOf_split (P : Plan) : maskOf P.split = P.mask := rfl

theorem npTerm_block (P : Plan) (hP : PlanOK P) (bid x : List Nat) (hb : validBid P.full bid)
    (hx : InB x (blockShape P.full bid)) :
    npTerm (blockObs P bid) x = npTerm (wholeObs P) (vadd (origin P.full bid) x) := by
  unfold npTerm blockObs wholeObs
  rw [List.map_map, List.map_map]
  refine congrArg _ ?_
  apply List.map_congr_left
  intro o ho
  show o.arr.get (vadd (origin o.chunks (depBid o bid)) (rd o.pos (opBlock o bid).shape x)) = _
  rw [rd_block P.full o (hP.ops o ho) bid x hb hx]
  rfl

theorem mask_length (P : Plan) : P.mask.length = P.split.length := by simp [Plan.mask]

/-- NumPy's broadcast shape of one array per operand of a plan (the whole operands, or one block of each):
an axis with the label's own chunks has the length `Lf` of its position, a `(1,)` axis has length 1. -/
theorem npShape_ops (P : Plan) (hP : PlanOK P) (A : Opd → Arr Int) (Lf : Nat → Nat)
    (hlen : ∀ o ∈ P.ops, (A o).shape.length = o.pos.length)
    (hown : ∀ o ∈ P.ops, ∀ t, t < o.pos.length → o.chunks.getD t [] = P.full.getD (o.pos.getD t 0) [] →
      (A o).shape.getD t 0 = Lf (o.pos.getD t 0))
    (hone : ∀ o ∈ P.ops, ∀ t, t < o.pos.length → o.chunks.getD t [] = [1] → (A o).shape.getD t 0 = 1) :
    npShape (P.ops.map (fun o => (o.pos, A o))) P.mask.length = (List.range P.full.length).map Lf := by
  rw [mask_length, hP.slen]
  apply npShape_eq
  · intro ob hob q hq
    obtain ⟨o, ho, rfl⟩ := List.mem_map.mp hob
    obtain ⟨t, ht1, _, rfl⟩ := mem_zip_getD o.pos (A o).shape 0 0 q hq
    rcases ((hP.ops o ho).ax t ht1).2 with e | e
    · exact Or.inl (hown o ho t ht1 e)
    · exact Or.inr (hone o ho t ht1 e)
  · intro p hp
    obtain ⟨o, ho, t, ht, e1, e2⟩ := hP.cov p hp
    subst e1
    exact ⟨_, List.mem_map.mpr ⟨o, ho, rfl⟩, _, getD_mem_zip _ _ 0 0 t ht (hlen o ho ▸ ht), rfl, hown o ho t ht e2⟩

theorem npShape_whole (P : Plan) (hP : PlanOK P) :
    npShape (wholeObs P) P.mask.length = P.full.map List.sum := by
  rw [map_sum_eq_map]
  apply npShape_ops P hP (·.arr)
  · intro o ho
    rw [← (hP.ops o ho).sums, List.length_map, (hP.ops o ho).len]
  · intro o ho t ht e
    rw [← (hP.ops o ho).sums, getD_map List.sum o.chunks t [] 0 ((hP.ops o ho).len ▸ ht), e]
  · intro o ho t ht e
    rw [← (hP.ops o ho).sums, getD_map List.sum o.chunks t [] 0 ((hP.ops o ho).len ▸ ht), e]
    rfl

theorem npShape_block (P : Plan) (hP : PlanOK P) (bid : List Nat) (hb : validBid P.full bid) :
    npShape (blockObs P bid) P.mask.length = blockShape P.full bid := by
  rw [blockShape_eq_map _ _ hb.length_eq]
  apply npShape_ops P hP (opBlock · bid)
  · intro o ho
    exact opBlock_shape_length o bid (hP.ops o ho).len
  · intro o ho t ht e
    rw [opBlock_shape_getD o bid (hP.ops o ho).len t ht, e,
      Nat.mod_eq_of_lt (hb.getD_lt _ ((hP.ops o ho).ax t ht).1)]
  · intro o ho t ht e
    rw [opBlock_shape_getD o bid (hP.ops o ho).len t ht, e]
    show [1].getD (_ % 1) 0 = 1
    rw [Nat.mod_one]
    rfl

theorem regroup1 : ∀ (cs : List Nat) (H : Nat → Int),
    lsum (List.range cs.length) (fun k => lsum (List.range (cs.getD k 0)) (fun u => H ((cs.take k).sum + u)))
      = lsum (List.range cs.sum) H
  | [], H => rfl
  | c :: cs, H => by
    have ih := regroup1 cs (fun t => H (c + t))
    rw [List.length_cons, List.range_succ_eq_map, lsum_cons, lsum_map, List.sum_cons, List.range_add,
      lsum_append, lsum_map, ← ih]
    refine congr (congrArg _ ?_) ?_
    · apply lsum_congr
      intro u _
      simp
    · apply lsum_congr
      intro k _
      simp only [Nat.succ_eq_add_one, List.getD_cons_succ, List.take_succ_cons, List.sum_cons]
      apply lsum_congr
      intro u _
      refine congrArg _ ?_
      omega

theorem regroup : ∀ (cl : Layout) (F : List Nat → Int),
    lsum (allIdx (numblocks cl)) (fun kb =>
        lsum (allIdx (blockShape cl kb)) (fun c => F (vadd (origin cl kb) c)))
      = lsum (allIdx (cl.map List.sum)) F
  | [], F => by
    simp only [numblocks, List.map_nil, lsum_allIdx_nil, blockShape, origin, vadd,
      List.zipWith_nil_left]
  | cs :: cl, F => by
    simp only [numblocks, List.map_cons]
    rw [lsum_allIdx_cons, lsum_allIdx_cons, ← regroup1 cs]
    apply lsum_congr
    intro k _
    have e : ∀ kb, lsum (allIdx (blockShape (cs :: cl) (k :: kb)))
          (fun c => F (vadd (origin (cs :: cl) (k :: kb)) c))
        = lsum (List.range (cs.getD k 0)) (fun u =>
            lsum (allIdx (blockShape cl kb)) (fun c => F (((cs.take k).sum + u) :: vadd (origin cl kb) c))) := by
      intro kb
      simp only [blockShape, origin, List.zipWith_cons_cons]
      rw [lsum_allIdx_cons]
      apply lsum_congr
      intro u _
      apply lsum_congr
      intro c _
      simp only [vadd, List.zipWith_cons_cons]
    rw [lsum_congr (fun kb _ => e kb), lsum_swap]
    apply lsum_congr
    intro u _
    have ih := regroup cl (fun r => F (((cs.take k).sum + u) :: r))
    simp only [numblocks] at ih
    exact ih

theorem setMasked_idem (m : List Bool) (l : List Nat) (v : Nat) :
    setMasked m (setMasked m l v) v = setMasked m l v := by
  unfold setMasked
  induction m generalizing l with
  | nil => simp
  | cons b m ih =>
    cases l with
    | nil => simp
    | cons x l =>
      simp only [List.zipWith_cons_cons]
      rw [ih l]
      cases b <;> simp

theorem blockProd_shape (P : Plan) (hP : PlanOK P) (bid : List Nat) (hb : validBid P.full bid) :
    (blockProd P bid).shape = setMasked P.mask (blockShape P.full bid) 1 := by
  rw [blockProd_def, npShape_block P hP bid hb]

theorem blockProd_get (P : Plan) (hP : PlanOK P) (bid : List Nat) (hb : validBid P.full bid)
    (i : List Nat) :
    (blockProd P bid).get i
      = lsum (allIdx (pick P.mask (blockShape P.full bid)))
          (fun c => npTerm (blockObs P bid) (merge P.mask (keep P.mask i) c)) := by
  rw [blockProd_def, npShape_block P hP bid hb]

theorem blockShape_len_mask (P : Plan) (hP : PlanOK P) (bid : List Nat) (hb : validBid P.full bid) :
    (blockShape P.full bid).length = P.mask.length := by
  rw [blockShape_length hb.length_eq, mask_length, hP.slen]

/-- the per-block `sum(keepdims=True)` does not change a product block (its contracted axes have
length 1 already) -/
theorem level0_get (P : Plan) (hP : PlanOK P) (bid : List Nat) (hb : validBid P.full bid)
    (i : List Nat) (hi : i.length = P.mask.length) :
    (level0 P bid).get i = (blockProd P bid).get i := by
  have hsl := blockShape_len_mask P hP bid hb
  show lsum (allIdx (pick P.mask (blockProd P bid).shape))
      (fun c => (blockProd P bid).get (merge P.mask (keep P.mask i) c)) = _
  rw [blockProd_shape P hP bid hb, setMasked_eq_merge _ _ _ hsl,
    pick_merge _ _ _ (keep_length _ _ hsl) (by rw [List.length_map]; exact pick_length _ _ hsl),
    allIdx_ones, lsum_singleton, blockProd_get P hP bid hb, blockProd_get P hP bid hb,
    keep_merge _ _ _ (keep_length _ _ hi) (by rw [List.length_map]; exact pick_length _ _ hsl)]

theorem level0_shape (P : Plan) (hP : PlanOK P) (bid : List Nat) (hb : validBid P.full bid) :
    (level0 P bid).shape = setMasked P.mask (blockShape P.full bid) 1 := by
  show setMasked P.mask (blockProd P bid).shape 1 = _
  rw [blockProd_shape P hP bid hb, setMasked_idem]

theorem okOb_of_InB (sp nb ob : List Nat) (hl : sp.length = nb.length)
    (h : InB ob (keep (maskOf sp) nb)) : okOb sp nb ob := by
  induction sp, nb, hl using list_induction₂ generalizing ob with
  | nil => cases ob with
    | nil => trivial
    | cons _ _ => exact h.elim
  | cons s sp n nb _ ih =>
    cases s with
    | zero => cases ob with
      | nil => exact h.elim
      | cons o ob => exact ⟨h.1, ih ob h.2⟩
    | succ s => exact ih ob h

theorem numblocks_keep (m : List Bool) (l : Layout) : numblocks (keep m l) = keep m (numblocks l) := by
  unfold numblocks; rw [keep_map]

theorem numblocks_pick (m : List Bool) (l : Layout) : numblocks (pick m l) = pick m (numblocks l) := by
  unfold numblocks; rw [pick_map]

theorem blockShape_merge (m : List Bool) (l : Layout) (f c : List Nat) (h : l.length = m.length) :
    blockShape l (merge m f c) = merge m (blockShape (keep m l) f) (blockShape (pick m l) c) := by
  unfold blockShape
  conv => lhs; rw [← merge_keep_pick m l h]
  rw [zipWith_merge]

theorem origin_merge (m : List Bool) (l : Layout) (f c : List Nat) (h : l.length = m.length) :
    origin l (merge m f c) = merge m (origin (keep m l) f) (origin (pick m l) c) := by
  unfold origin
  conv => lhs; rw [← merge_keep_pick m l h]
  rw [zipWith_merge]

theorem vadd_merge (m : List Bool) (a b a' b' : List Nat) :
    vadd (merge m a b) (merge m a' b') = merge m (vadd a a') (vadd b b') := by
  unfold vadd; rw [zipWith_merge]

theorem validBid_merge (m : List Bool) (l : Layout) (f c : List Nat) (h : l.length = m.length)
    (hf : validBid (keep m l) f) (hc : validBid (pick m l) c) : validBid l (merge m f c) := by
  unfold validBid at *
  rw [numblocks_keep] at hf
  rw [numblocks_pick] at hc
  exact InB_merge m _ (by simp [numblocks, h]) f c hf hc

theorem PlanOK.full_length {P : Plan} (hP : PlanOK P) : P.full.length = P.mask.length := by
  rw [mask_length, hP.slen]

theorem blockShape_keep_length {P : Plan} (hP : PlanOK P) {ob : List Nat} (hob : validBid (outChunks P) ob) :
    (blockShape (outChunks P) ob).length = nF P.mask := by
  rw [blockShape_length hob.length_eq]; exact keep_length _ _ hP.full_length

theorem blockShape_pick_length {P : Plan} (hP : PlanOK P) {kb : List Nat}
    (hkb : validBid (pick P.mask P.full) kb) : (blockShape (pick P.mask P.full) kb).length = nT P.mask := by
  rw [blockShape_length hkb.length_eq]; exact pick_length _ _ hP.full_length

theorem keep_root_shape (P : Plan) (hP : PlanOK P) (ob : List Nat) (hob : validBid (outChunks P) ob)
    (hz : validBid (pick P.mask P.full) (zerosOf P.mask)) :
    keep P.mask (setMasked P.mask (blockShape P.full (merge P.mask ob (zerosOf P.mask))) 1)
      = blockShape (outChunks P) ob := by
  have hfl := hP.full_length
  have hsl := blockShape_len_mask P hP _ (validBid_merge P.mask P.full ob _ hfl hob hz)
  have h1 : (blockShape (keep P.mask P.full) ob).length = nF P.mask := blockShape_keep_length hP hob
  rw [setMasked_eq_merge _ _ _ hsl,
    keep_merge _ _ _ (keep_length _ _ hsl) (by rw [List.length_map]; exact pick_length _ _ hsl),
    blockShape_merge _ _ _ _ hfl, keep_merge _ _ _ h1 (blockShape_pick_length hP hz)]
  rfl

theorem blockProd_partial (P : Plan) (hP : PlanOK P) (bid : List Nat) (hb : validBid P.full bid) (i : List Nat)
    (hi : InB (keep P.mask i) (keep P.mask (blockShape P.full bid))) :
    (blockProd P bid).get i = lsum (allIdx (pick P.mask (blockShape P.full bid))) (fun c =>
      npTerm (wholeObs P) (vadd (origin P.full bid) (merge P.mask (keep P.mask i) c))) := by
  rw [blockProd_get P hP bid hb]
  exact lsum_congr fun c hc => npTerm_block P hP bid _ hb
    (InB_merge P.mask _ (blockShape_len_mask P hP bid hb) _ _ hi ((mem_allIdx _ _).mp hc))

theorem prod_term (P : Plan) (hP : PlanOK P) (ob kb j : List Nat)
    (hob : validBid (outChunks P) ob) (hkb : validBid (pick P.mask P.full) kb)
    (hj : InB j (blockShape (outChunks P) ob)) :
    (blockProd P (merge P.mask ob kb)).get (merge P.mask j (zerosOf P.mask))
      = lsum (allIdx (blockShape (pick P.mask P.full) kb)) (fun c =>
          npTerm (wholeObs P) (merge P.mask (vadd (origin (outChunks P) ob) j)
            (vadd (origin (pick P.mask P.full) kb) c))) := by
  have hfl := hP.full_length
  have h1 : (blockShape (keep P.mask P.full) ob).length = nF P.mask := blockShape_keep_length hP hob
  have h2 := blockShape_pick_length hP hkb
  have hjk : keep P.mask (merge P.mask j (zerosOf P.mask)) = j :=
    keep_merge _ _ _ (hj.length_eq.trans h1) (zerosOf_length _)
  rw [blockProd_partial P hP _ (validBid_merge P.mask P.full ob kb hfl hob hkb) _
      (by rw [hjk, blockShape_merge _ _ _ _ hfl, keep_merge _ _ _ h1 h2]; exact hj),
    hjk, blockShape_merge _ _ _ _ hfl, pick_merge _ _ _ h1 h2, origin_merge _ _ _ _ hfl]
  exact lsum_congr fun c _ => by rw [vadd_merge]; rfl

theorem contractDen_shape (P : Plan) (hP : PlanOK P) :
    (contractDen P).shape = (outChunks P).map List.sum := by
  rw [contractDen_def, npShape_whole P hP, outChunks, keep_map]

theorem contractDen_get (P : Plan) (hP : PlanOK P) (j : List Nat) :
    (contractDen P).get j
      = lsum (allIdx (pick P.mask (P.full.map List.sum))) (fun c => npTerm (wholeObs P) (merge P.mask j c)) := by
  rw [contractDen_def, npShape_whole P hP]

theorem validBid_pick (P : Plan) (kb : List Nat) (h : InB kb (pick P.mask (numblocks P.full))) :
    validBid (pick P.mask P.full) kb := by
  unfold validBid; rw [numblocks_pick]; exact h

theorem dropMasked_correct (P : Plan) (hP : PlanOK P) (ob : List Nat) (hob : validBid (outChunks P) ob)
    (B : Arr Int) (hsh : keep P.mask B.shape = blockShape (outChunks P) ob)
    (hval : ∀ j, InB j (blockShape (outChunks P) ob) →
      B.get (merge P.mask j (zerosOf P.mask)) = lsum (allIdx (pick P.mask (numblocks P.full)))
        (fun kb => (blockProd P (merge P.mask ob kb)).get (merge P.mask j (zerosOf P.mask)))) :
    Arr.Equiv (dropMasked P.mask B) (restrict (contractDen P) (extent (outChunks P) ob)) := by
  have hsh' : (dropMasked P.mask B).shape = blockShape (outChunks P) ob := hsh
  refine ⟨hsh', fun j hj => ?_⟩
  rw [hsh'] at hj
  show B.get (merge P.mask j (zerosOf P.mask)) = (contractDen P).get (vadd (origin (outChunks P) ob) j)
  rw [hval j hj, contractDen_get P hP, pick_map, ← regroup (pick P.mask P.full)
    (fun cg => npTerm (wholeObs P) (merge P.mask (vadd (origin (outChunks P) ob) j) cg)), numblocks_pick]
  exact lsum_congr fun kb hkb =>
    prod_term P hP ob kb j hob (validBid_pick P kb ((mem_allIdx _ _).mp hkb)) hj

/-- **Refinement.**  For every well-formed plan and every block index of the result, the block the
plan computes (blockwise product, per-block sum, `PartialReduce` cascade of any fan-in / sufficient
depth, or matmul's direct squeeze) is the block of the NumPy contraction on the extent advertised by
`outChunks`. -/
theorem outBlock_refines (P : Plan) (hP : PlanOK P) (ob : List Nat) (hob : validBid (outChunks P) ob) :
    Arr.Equiv (outBlock P ob) (restrict (contractDen P) (extent (outChunks P) ob)) := by
  have hfl := hP.full_length
  have hbv : ∀ kb, InB kb (pick P.mask (numblocks P.full)) → validBid P.full (merge P.mask ob kb) :=
    fun kb h => validBid_merge P.mask P.full ob kb hfl hob (validBid_pick P kb h)
  have hz0 : InB (zerosOf P.mask) (pick P.mask (numblocks P.full)) := zeros_InB P.split _ _ hP.dok
  have hroot := keep_root_shape P hP ob hob (validBid_pick P _ hz0)
  unfold outBlock
  by_cases hdir : P.direct = true
  · -- matmul's squeeze: one block on every contracted axis
    rw [if_pos hdir]
    have hall := allIdx_pick_one P.split _ (hP.direct hdir)
    rw [maskOf_split] at hall
    apply dropMasked_correct P hP ob hob _ (by rw [blockProd_shape P hP _ (hbv _ hz0)]; exact hroot)
    intro j _
    rw [hall, lsum_singleton]
  · -- the cascade: the root block has the shape of the root block of level 0 and holds the sum over the grid
    rw [if_neg hdir]
    have hok : okOb P.split (numblocks P.full) ob := by
      apply okOb_of_InB _ _ _ (by rw [numblocks, List.length_map, hP.slen])
      rw [maskOf_split]
      have := hob
      unfold validBid outChunks at this
      rwa [numblocks_keep] at this
    apply dropMasked_correct P hP ob hob
    · rw [show (levelBlocks P P.depth (merge P.mask ob (zerosOf P.mask))).shape
          = (level0 P (merge P.mask ob (zerosOf P.mask))).shape from
        tree_rootKey_shape P.split ob P.depth _ (level0 P) hok hP.dok, level0_shape P hP _ (hbv _ hz0)]
      exact hroot
    · intro j hj
      have hjl : j.length = nF P.mask := hj.length_eq.trans (blockShape_keep_length hP hob)
      refine ((tree_addBlocks_get P.split _ P.depth _ (level0 P) _).trans
        (tree_sum P.split ob P.depth _ _ hok hP.dok)).trans (lsum_congr fun kb hkb => ?_)
      exact level0_get P hP _ (hbv kb ((mem_allIdx _ _).mp hkb)) _ (merge_length _ _ _ hjl (zerosOf_length _))

theorem computeOut_correct (P : Plan) (hP : PlanOK P) : Arr.Equiv (computeOut P) (contractDen P) :=
  assemble_of_blocks (contractDen P) (outChunks P) (outBlock P) (contractDen_shape P hP).symm
    (fun ob hob => outBlock_refines P hP ob hob)

theorem prodChunks_blockShape (P : Plan) (hP : PlanOK P) (bid : List Nat) (hb : validBid P.full bid) :
    blockShape (prodChunks P) bid = setMasked P.mask (blockShape P.full bid) 1 := by
  have hfl := hP.full_length
  have hbl : bid.length = P.full.length := hb.length_eq
  have hpl : (prodChunks P).length = P.full.length := by simp [prodChunks, hfl]
  apply ext_getD 0
  · rw [blockShape_length (by rw [hbl, hpl]), hpl, setMasked_length _ _ _ (by rw [blockShape_length hbl, hfl]), hfl]
  · intro p hp
    rw [blockShape_length (by rw [hbl, hpl]), hpl] at hp
    rw [blockShape_getD (by rw [hbl, hpl]) p (by rw [hpl]; exact hp)]
    unfold prodChunks setMasked
    rw [getD_zipWith _ P.mask P.full p false [] [] (by rw [← hfl]; exact hp) hp,
      getD_zipWith _ P.mask (blockShape P.full bid) p false 0 0 (by rw [← hfl]; exact hp)
        (by rw [blockShape_length hbl]; exact hp),
      blockShape_getD hbl p hp]
    cases hm : P.mask.getD p false
    · simp
    · simp only [if_true]
      rw [getD_map (fun _ => 1) (P.full.getD p []) (bid.getD p 0) 0 0 (hb.getD_lt p hp)]

theorem contractDen_zero (P : Plan) (hP : PlanOK P) (h0 : 0 ∈ pick P.mask (P.full.map List.sum))
    (j : List Nat) : (contractDen P).get j = 0 := by
  rw [contractDen_get P hP, allIdx_of_zero_mem _ h0]
  rfl

theorem restrict_equiv {a b : Arr Int} (h : Arr.Equiv a b) (l : Layout) (bid : List Nat)
    (hl : l.map List.sum = a.shape) (hb : validBid l bid) :
    Arr.Equiv (restrict a (extent l bid)) (restrict b (extent l bid)) := by
  refine ⟨rfl, ?_⟩
  intro i hi
  have := InB_vadd_origin hb hi
  rw [hl] at this
  exact h.2 _ this

end Dask.Contract
