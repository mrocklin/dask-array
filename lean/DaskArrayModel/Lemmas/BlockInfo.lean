/-
The block_info model (Model/BlockInfo.lean).  `starts c` are the prefix sums of the
chunk list `c`, so the extent of block `j` is `[sum of the earlier chunks, that + c[j])`
(`extent_eq`, `extent_len`), which is why the extents tile the axis; `arrayLocation` / `chunkShape` of a
valid block id are these extents and chunk lengths axis by axis (`arrayLocation_spec`); the
per-input block id rule of a broadcasting input stays below the block count of each axis (`inputId_lt`), and ids that
do so name an existing block (`validBid_map`).
-/
import DaskArrayModel.Model.BlockInfo
import DaskArrayModel.Lemmas.Layout
namespace Dask.Lemmas.BlockInfo
open Dask.BlockInfo

theorem starts_length : ∀ c : List Nat, (starts c).length = c.length + 1
  | [] => rfl
  | _ :: xs => congrArg (· + 1) ((List.length_map _).trans (starts_length xs))

theorem starts_getD (c : List Nat) (j : Nat) (h : j ≤ c.length) : (starts c).getD j 0 = nsum (c.take j) := by
  induction c generalizing j with
  | nil => rw [Nat.le_zero.mp h]; rfl
  | cons x xs ih =>
    cases j with
    | zero => rfl
    | succ j =>
      have hj : j ≤ xs.length := Nat.le_of_succ_le_succ h
      show ((starts xs).map (x + ·)).getD j 0 = x + nsum (xs.take j)
      rw [Dask.Py.getD_map _ _ _ 0 0 (by rw [starts_length]; exact Nat.lt_succ_of_le hj), ih j hj]

theorem nsum_eq_sum : ∀ c : List Nat, nsum c = c.sum
  | [] => rfl
  | x :: xs => (congrArg (x + ·) (nsum_eq_sum xs)).trans List.sum_cons.symm

theorem nsum_take_succ (c : List Nat) (j : Nat) : nsum (c.take (j + 1)) = nsum (c.take j) + c.getD j 0 := by
  rw [nsum_eq_sum, nsum_eq_sum]; exact Dask.Layout.nstart_succ c j

theorem extent_eq (c : List Nat) (j : Nat) (h : j < c.length) :
    extent c j = (nsum (c.take j), nsum (c.take j) + c.getD j 0) := by
  unfold extent
  rw [starts_getD c j (by omega), starts_getD c (j + 1) (by omega), nsum_take_succ c j]

theorem extent_len (c : List Nat) (j : Nat) (h : j < c.length) :
    (extent c j).1 ≤ (extent c j).2 ∧ (extent c j).2 - (extent c j).1 = c.getD j 0 := by
  rw [extent_eq c j h]
  exact ⟨Nat.le_add_right _ _, Nat.add_sub_cancel_left _ _⟩

/-- what `block_info` reports for a valid block id, axis by axis -/
structure LocSpec (L : Layout) (bid : List Nat) : Prop where
  length : (arrayLocation L bid).length = L.length
  shape : chunkShape L bid = (arrayLocation L bid).map (fun p => p.2 - p.1)
  ordered : ∀ p ∈ arrayLocation L bid, p.1 ≤ p.2
  extents : arrayLocation L bid = List.zipWith extent L bid

theorem arrayLocation_spec (L : Layout) (bid : List Nat) (h : validBid L bid = true) : LocSpec L bid := by
  induction L generalizing bid with
  | nil =>
    cases bid with
    | nil => exact ⟨rfl, rfl, fun _ hp => absurd hp List.not_mem_nil, rfl⟩
    | cons => nomatch h
  | cons c cs ih =>
    cases bid with
    | nil => nomatch h
    | cons j js =>
      obtain ⟨hj, hjs⟩ := Bool.and_eq_true_iff.mp h
      have ih := ih js hjs
      have ht := extent_len c j (of_decide_eq_true hj)
      exact ⟨congrArg (· + 1) ih.length, List.cons_eq_cons.mpr ⟨ht.2.symm, ih.shape⟩,
        List.forall_mem_cons.mpr ⟨ht.1, ih.ordered⟩, congrArg (extent c j :: ·) ih.extents⟩

theorem chunkShape_length : ∀ (L : Layout) (bid : List Nat), validBid L bid = true →
    (chunkShape L bid).length = L.length := by
  intro L bid h
  have hs := arrayLocation_spec L bid h
  rw [hs.shape, List.length_map, hs.length]

theorem validBid_map {α : Type} (f : α → List Nat) (g : α → Nat) (ps : List α)
    (h : ∀ p ∈ ps, g p < (f p).length) : validBid (ps.map f) (ps.map g) = true := by
  induction ps with
  | nil => rfl
  | cons p ps ih =>
    exact Bool.and_eq_true_iff.mpr
      ⟨decide_eq_true (h p List.mem_cons_self), ih fun q hq => h q (List.mem_cons_of_mem _ hq)⟩

/-- the per-input block id rule on one axis with chunks `c`: the looked-up location when the axis has
several blocks, else block 0 -/
theorem inputId_lt {c : List Nat} {loc : Option Nat} (h0 : 0 < c.length)
    (h1 : c.length > 1 → ∃ v, loc = some v ∧ v < c.length) :
    (if c.length > 1 then loc.getD 0 else 0) < c.length := by
  by_cases hl : c.length > 1
  · obtain ⟨v, hv, hlt⟩ := h1 hl
    rw [if_pos hl, hv]
    exact hlt
  · rw [if_neg hl]
    exact h0

end Dask.Lemmas.BlockInfo
