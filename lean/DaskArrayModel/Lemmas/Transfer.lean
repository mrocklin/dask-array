/-
C27: well-formedness of the transfer estimates, for all layouts (no size bound).  One invariant
(`Cover` for the inner loop, `Outer` for the outer one) over the loops of `_rechunk_stage_transfer`
bounds its per-axis counters (`stageAxis_spec`).  `moved_fraction` runs the same loops and keeps
the pointer and `best` only, so its integer numerator `movedNum` is `t - l` and its bounds and
"splits are free" are read off the same theorem.
-/
import DaskArrayModel.Model.Rechunk
import DaskArrayModel.Lemmas.Layout
namespace Dask.Lemmas.Transfer
open Dask.Py Dask.Rechunk Dask.Layout

theorem isum_map_add {α} (L : List α) (a b : α → Int) :
    isum (L.map (fun j => a j + b j)) = isum (L.map a) + isum (L.map b) := by
  induction L with
  | nil => simp [isum]
  | cons x xs ih => simp only [List.map_cons, isum, ih]; omega

theorem sum_delta (f : Nat → Int) (h n : Nat) :
    isum ((List.range n).map (fun j => f j * (if h = j then 1 else 0))) = if h < n then f h else 0 := by
  induction n with
  | zero => simp [isum]
  | succ k ih =>
    rw [List.range_succ, List.map_append, isum_append, ih]
    simp only [List.map_cons, List.map_nil, isum]
    by_cases hk : h = k
    · subst hk; simp
    · have h1 : (if h = k then (1 : Int) else 0) = 0 := by simp [hk]
      rw [h1]
      by_cases hlt : h < k
      · have : h < k + 1 := by omega
        simp [hlt, this]
      · have : ¬ h < k + 1 := by omega
        simp [hlt, this]

/-- `r_ax = sum(c * n for c, n in zip(old, n_intersections))`, `n_intersections[j]` being the count of `j` in `hits`;
the body is `stageAxis`'s `rAx`, so `(stageAxis old new).r` is `hitsLength old (stOuter old new 0 0 0 0 0 0 []).2.2.2` by unfolding -/
def hitsLength (old : List Int) (hits : List Nat) : Int :=
  isum ((List.range old.length).map (fun j => old.getD j 0 * (hits.count j : Int)))

theorem hitsLength_nil (old : List Int) : hitsLength old [] = 0 := by
  simp [hitsLength, List.map_const', isum_replicate]

theorem hitsLength_append (old : List Int) (a b : List Nat) :
    hitsLength old (a ++ b) = hitsLength old a + hitsLength old b := by
  rw [hitsLength, hitsLength, hitsLength, ← isum_map_add]
  exact congrArg isum (List.map_congr_left fun i _ => by rw [List.count_append, Int.natCast_add, Int.mul_add])

theorem hitsLength_singleton (old : List Int) {j : Nat} (hj : j < old.length) :
    hitsLength old [j] = old.getD j 0 := by
  refine Eq.trans ?_ ((sum_delta (fun i => old.getD i 0) j old.length).trans (if_pos hj))
  exact congrArg isum (List.map_congr_left fun i _ => by rw [List.count_singleton, apply_ite Nat.cast]; simp)

theorem hitsLength_if (old : List Int) (hits : List Nat) {j : Nat} (hj : j < old.length) (c : Prop) [Decidable c] :
    hitsLength old (if c then hits ++ [j] else hits) =
      if c then hitsLength old hits + old.getD j 0 else hitsLength old hits := by
  split
  · rw [hitsLength_append, hitsLength_singleton old hj]
  · rfl

/-- The counters of the inner loop of `_rechunk_stage_transfer` when the part `[nS, F)` of the new block starting at
`nS` is covered; `r` is the summed length of the old blocks hit so far.  At the head of an iteration on the old block
starting at `os` the frontier `F` is the model's own `max oldStart newStart`, so the overlap is `e - F`.

`W1` and `W2` are facts about the two layouts that the loops never test: `W1` = no old boundary lies
strictly inside a new block (the stage only splits), `W2` = no new boundary lies strictly inside an
old block (it only merges).  They are parameters of the invariant, so that the one induction over
each loop gives the unconditional bounds and, under `W1` resp. `W2`, the equalities `s = l = t`
resp. `u = t = r`; the steps ask for them only where a block is hit (`Cover.hit`).  The `W1` half
gives "splits move nothing" (`movedNum_spec`); the `W2` half (`uncut`, `Outer.merge`) is read only
by `stageAxis_same`, where both hold. -/
structure Cover (W1 W2 : Prop) (nS best : Int) (nsrc : Nat) (u r F : Int) : Prop where
  best_nonneg : 0 ≤ best
  best_le : best ≤ F - nS
  no_source : nsrc = 0 ↔ F = nS
  one_source : nsrc ≤ 1 → best = F - nS
  single : W1 → nsrc ≤ 1
  u_nonneg : 0 ≤ u
  u_le : u ≤ F
  r_ge : F ≤ r
  uncut : W2 → r ≤ u

theorem Cover.hit {W1 W2 : Prop} {nS best u r F ov oj : Int} {nsrc : Nat}
    (hP : Cover W1 W2 nS best nsrc u r F) (h : 0 < ov) (hoj : ov ≤ oj) (a1 : W1 → F = nS)
    (a2 : W2 → ov = oj) :
    Cover W1 W2 nS (max best ov) (nsrc + 1) (if ov > 0 ∧ ov = oj then u + oj else u) (r + oj)
      (F + ov) := by
  have p1 := hP.best_nonneg
  have p2 := hP.best_le
  refine ⟨Int.le_trans p1 (Int.le_max_left _ _), Int.max_le.mpr ⟨by omega, by omega⟩,
    ⟨fun e => absurd e (Nat.succ_ne_zero _), fun e => by omega⟩, fun hn => ?_, fun w => ?_, ?_, ?_,
    ?_, fun w => ?_⟩
  · have h0 := hP.no_source.mp (Nat.le_zero.mp (Nat.le_of_succ_le_succ hn))
    rw [h0, Int.sub_self] at p2
    rw [Int.le_antisymm p2 p1, Int.max_eq_right (Int.le_of_lt h), h0]
    omega
  · rw [hP.no_source.mpr (a1 w)]; exact Nat.le_refl 1
  · have := hP.u_nonneg
    split <;> omega
  · have := hP.u_le
    split <;> omega
  · have := hP.r_ge
    omega
  · have := hP.uncut w
    rw [if_pos ⟨h, a2 w⟩]; omega

/-- one iteration of the inner loop on the old block `[os, os + oj)`, ending at `e = min oldEnd newEnd`: the
frontier moves from `max os nS` to `e` if that is further, and the overlap, when positive, is exactly that move -/
theorem cover_step {W1 W2 : Prop} {nS os e oj best u r : Int} {nsrc : Nat}
    (he : e ≤ os + oj) (h1 : W1 → os ≤ nS ∨ e ≤ os)
    (h2 : W2 → (nS ≤ os ∨ os + oj ≤ nS) ∧ (e ≤ os ∨ os + oj ≤ e))
    (hP : Cover W1 W2 nS best nsrc u r (max os nS)) :
    Cover W1 W2 nS (if e - max os nS > 0 then max best (e - max os nS) else best)
      (if e - max os nS > 0 then nsrc + 1 else nsrc)
      (if e - max os nS > 0 ∧ e - max os nS = oj then u + oj else u)
      (if e - max os nS > 0 then r + oj else r) (max (max os nS) e) := by
  have hF := Int.le_max_left os nS
  have hnS := Int.le_max_right os nS
  have m1 : os ≤ nS → max os nS = nS := Int.max_eq_right
  have m2 : nS ≤ os → max os nS = os := Int.max_eq_left
  generalize max os nS = F at *
  by_cases h : e - F > 0
  · -- a hit starts at the frontier: under `W1` that is `nS`, under `W2` it is `os` and the block ends at `e`
    have := hP.hit (oj := oj) h (by omega) (fun w => (h1 w).elim m1 (fun h' => by omega))
      (fun w => by have := h2 w; omega)
    rw [show F + (e - F) = e by omega] at this
    rwa [if_pos h, if_pos h, if_pos h, Int.max_eq_right (show F ≤ e by omega)]
  · rw [if_neg h, if_neg h, if_neg (fun hh => h hh.1), if_neg h,
      Int.max_eq_left (show e ≤ F by omega)]
    exact hP

/-- past an old block that ends at `e` the frontier is the next iteration's `max oldStart newStart` -/
theorem max_frontier {os nS e : Int} (h : os ≤ e) : max (max os nS) e = max e nS := by
  rw [Int.max_comm os nS, Int.max_assoc, Int.max_eq_right h, Int.max_comm]

/-- what `stInner` returns for the new block `[nS, nE)`; its state is `(j, oldStart, best, nSources, u, hits)` -/
structure InnerPost (W1 W2 : Prop) (old : List Int) (nS nE : Int)
    (r : Nat × Int × Int × Nat × Int × List Nat) : Prop where
  inside : r.1 < old.length
  at_start : r.2.1 = start old r.1
  not_past : r.2.1 ≤ nE
  cover : Cover W1 W2 nS r.2.2.1 r.2.2.2.1 r.2.2.2.2.1 (hitsLength old r.2.2.2.2.2) nE

/-- The inner loop keeps `Cover` from any old block `j` that starts at or before `nE`.  `h1`, `h2` are
`Coarser.no_cut` in either direction, for the one new block `[nS, nE)`: `h2` speaks of both its ends. -/
theorem stInner_inv {W1 W2 : Prop} (old : List Int) (ho : ∀ x ∈ old, 0 ≤ x) (nS nE : Int)
    (hse : nS ≤ nE) (hcov : nE ≤ isum old)
    (h1 : W1 → ∀ i, start old i ≤ nS ∨ nE ≤ start old i)
    (h2 : W2 → ∀ i, (nS ≤ start old i ∨ start old (i + 1) ≤ nS) ∧
      (nE ≤ start old i ∨ start old (i + 1) ≤ nE))
    (fuel j : Nat) (os best : Int) (nsrc : Nat) (u : Int) (hits : List Nat)
    (hj : j < old.length) (hos : os = start old j) (hle : os ≤ nE) (hf : old.length - j ≤ fuel)
    (hP : Cover W1 W2 nS best nsrc u (hitsLength old hits) (max os nS)) :
    InnerPost W1 W2 old nS nE (stInner old nS nE fuel j os best nsrc u hits) := by
  induction fuel generalizing j os best nsrc u hits with
  | zero => omega
  | succ f ih =>
    have hoj := getD_nonneg _ ho j
    have hj' : os + old.getD j 0 = start old (j + 1) := by rw [start_succ old j, hos]
    have hf' : old.length - (j + 1) ≤ f := by omega
    have h1' : W1 → os ≤ nS ∨ nE ≤ os := fun w => hos ▸ h1 w j
    have h2' : W2 → (nS ≤ os ∨ os + old.getD j 0 ≤ nS) ∧ (nE ≤ os ∨ os + old.getD j 0 ≤ nE) :=
      fun w => by have := h2 w j; rw [← hos, ← hj'] at this; exact this
    show InnerPost W1 W2 old nS nE (ite _ _ _)
    by_cases h : os + old.getD j 0 ≤ nE ∧ j + 1 < old.length
    · rw [if_pos h, Int.min_eq_left h.1]
      have hP' := cover_step (Int.le_refl _) (fun w => (h1' w).imp_right (Int.le_trans h.1))
        (fun w => ⟨(h2' w).1, Or.inr (Int.le_refl _)⟩) hP
      rw [← hitsLength_if old hits hj, max_frontier (Int.le_add_of_nonneg_right hoj)] at hP'
      exact ih (j + 1) _ _ _ _ _ h.2 hj' h.1 hf' hP'
    · rw [if_neg h]
      have hE : nE ≤ os + old.getD j 0 := by
        by_cases h1 : os + old.getD j 0 ≤ nE
        · have h2 : j + 1 = old.length :=
            Nat.le_antisymm hj (Nat.le_of_not_lt fun h2 => h ⟨h1, h2⟩)
          rw [hj', h2, start_length]
          exact hcov
        · exact Int.le_of_lt (Int.lt_of_not_ge h1)
      rw [Int.min_eq_right hE]
      have hP' := cover_step hE h1' h2' hP
      rw [Int.max_eq_right (Int.max_le.mpr ⟨hle, hse⟩), ← hitsLength_if old hits hj] at hP'
      exact ⟨hj, hos, hle, hP'⟩

/-- The counters of `_rechunk_stage_transfer` on one axis when the new blocks up to position `P`
are done; `r` is the summed length of the old blocks hit (`r_ax`). -/
structure Outer (W1 W2 : Prop) (P l u s r : Int) : Prop where
  s_nonneg : 0 ≤ s
  s_le : s ≤ l
  l_le : l ≤ P
  split : W1 → P ≤ s
  u_nonneg : 0 ≤ u
  u_le : u ≤ P
  r_ge : P ≤ r
  merge : W2 → r ≤ u

theorem Outer.step {W1 W2 : Prop} {nS c l u s r best u' r' : Int} {nsrc : Nat}
    (hO : Outer W1 W2 nS l u s r) (hc : 0 ≤ c) (hC : Cover W1 W2 nS best nsrc u' r' (nS + c)) :
    Outer W1 W2 (nS + c) (l + best) u' (if nsrc ≤ 1 then s + c else s) r' := by
  have hl : l + best ≤ nS + c := by
    have := hO.l_le
    have := hC.best_le
    omega
  have o1 := hO.s_nonneg
  have o2 := hO.s_le
  have b1 := hC.best_nonneg
  refine ⟨?_, ?_, hl, fun w => ?_, hC.u_nonneg, hC.u_le, hC.r_ge, hC.uncut⟩
  · split <;> omega
  · split
    · rename_i h; rw [hC.one_source h]; omega
    · omega
  · rw [if_pos (hC.single w)]
    exact Int.add_le_add_right (hO.split w) c

/-- The outer loop keeps `Outer` when `new` is what is left of the new layout from position `nS` on;
`h1`, `h2` are `Coarser.no_cut` with the new starts shifted by `nS` (one end per `q`: block `q` ends where `q + 1` starts). -/
theorem stOuter_inv {W1 W2 : Prop} (old : List Int) (ho : ∀ x ∈ old, 0 ≤ x) (new : List Int)
    (hn : ∀ x ∈ new, 0 ≤ x) (j : Nat) (os nS l u s : Int) (hits : List Nat)
    (hj : j < old.length) (hos : os = start old j) (hle : os ≤ nS)
    (hsum : nS + isum new = isum old)
    (h1 : W1 → ∀ q i, start old i ≤ nS + start new q ∨ nS + start new (q + 1) ≤ start old i)
    (h2 : W2 → ∀ q i, nS + start new q ≤ start old i ∨ start old (i + 1) ≤ nS + start new q)
    (hO : Outer W1 W2 nS l u s (hitsLength old hits)) :
    Outer W1 W2 (isum old) (stOuter old new j os nS l u s hits).1 (stOuter old new j os nS l u s hits).2.1
      (stOuter old new j os nS l u s hits).2.2.1 (hitsLength old (stOuter old new j os nS l u s hits).2.2.2) := by
  induction new generalizing j os nS l u s hits with
  | nil =>
    simp only [isum, Int.add_zero] at hsum
    exact hsum ▸ hO
  | cons c rest ih =>
    have hc : 0 ≤ c := hn c (by simp)
    have hrest : ∀ x ∈ rest, 0 ≤ x := fun x hx => hn x (by simp [hx])
    have hr0 := isum_nonneg _ hrest
    simp only [isum] at hsum
    rw [← Int.add_assoc] at hsum
    -- nothing of the new block `[nS, nS + c)` is covered yet: `os ≤ nS`
    have hP0 : Cover W1 W2 nS 0 0 u (hitsLength old hits) (max os nS) := by
      rw [Int.max_eq_right hle]
      exact ⟨Int.le_refl _, Int.le_of_eq (Int.sub_self nS).symm, ⟨fun _ => rfl, fun _ => rfl⟩,
        fun _ => (Int.sub_self nS).symm, fun _ => Nat.zero_le _, hO.u_nonneg, hO.u_le, hO.r_ge, hO.merge⟩
    have e0 : nS + start (c :: rest) 0 = nS := Int.add_zero nS
    have e2 : nS + start (c :: rest) (0 + 1) = nS + c := by rw [start_cons_succ, start_zero, Int.add_zero]
    have q :=
      stInner_inv old ho nS (nS + c) (Int.le_add_of_nonneg_right hc)
        (hsum ▸ Int.le_add_of_nonneg_right hr0) (fun w i => by have := h1 w 0 i; rwa [e0, e2] at this)
        (fun w i => ⟨by have := h2 w 0 i; rwa [e0] at this, by have := h2 w (0 + 1) i; rwa [e2] at this⟩)
        (old.length + 1) j os 0 0 u hits
        hj hos (Int.le_trans hle (Int.le_add_of_nonneg_right hc)) (by omega) hP0
    exact ih hrest _ _ (nS + c) _ _ _ _ q.inside q.at_start q.not_past hsum
      (fun w q i => by have := h1 w (q + 1) i; rwa [start_cons_succ, start_cons_succ, ← Int.add_assoc, ← Int.add_assoc] at this)
      (fun w q i => by have := h2 w (q + 1) i; rwa [start_cons_succ, ← Int.add_assoc] at this)
      (hO.step hc q.cover)

/-- `b` is `a` with some blocks split -/
def Coarser (a b : List Int) : Prop := ∀ i, ∃ m, start a i = start b m

theorem Coarser.no_cut {a b : List Int} (hb : ∀ x ∈ b, 0 ≤ x) (h : Coarser a b) (q i : Nat) :
    start a i ≤ start b q ∨ start b (q + 1) ≤ start a i := by
  obtain ⟨m, e⟩ := h i
  rw [e]
  by_cases hm : m ≤ q
  · exact Or.inl (start_mono hb hm)
  · exact Or.inr (start_mono hb (Nat.lt_of_not_le hm))

/-- The per-axis counters `(t, l, r, u, s)` of a rechunk stage: `0 ≤ s ≤ l ≤ t` and `0 ≤ u ≤ t ≤ r`;
`s = l = t` when the stage only splits blocks, `u = t = r` when it only merges them.  (`Outer` takes
them as `t l u s r`, the order of `stOuter`'s result: read its fields by name.) -/
theorem stageAxis_spec (old new : List Int) (ho : ∀ x ∈ old, 0 ≤ x) (hn : ∀ x ∈ new, 0 ≤ x)
    (hne : old ≠ []) (hsum : isum old = isum new) :
    Outer (Coarser old new) (Coarser new old) (stageAxis old new).t (stageAxis old new).l
      (stageAxis old new).u (stageAxis old new).s (stageAxis old new).r := by
  have hlen : 0 < old.length := List.length_pos_iff.mpr hne
  -- the fields of `stageAxis old new` unfold to `isum old`, the components of `stOuter` from the zero state, and `hitsLength`
  exact stOuter_inv (W1 := Coarser old new) (W2 := Coarser new old) old ho new hn
    0 0 0 0 0 0 [] hlen (start_zero old).symm (Int.le_refl _) (by omega)
    (fun w q i => by have := w.no_cut hn q i; omega)
    (fun w q i => by have := w.no_cut ho i q; omega)
    (by rw [hitsLength_nil]; exact ⟨Int.le_refl _, Int.le_refl _, Int.le_refl _, fun _ => Int.le_refl _,
      Int.le_refl _, Int.le_refl _, Int.le_refl _, fun _ => Int.le_refl _⟩)

theorem stageAxis_same (c : List Int) (hc : ∀ x ∈ c, 0 ≤ x) :
    stageAxis c c = ⟨isum c, isum c, isum c, isum c, isum c⟩ := by
  cases c with
  | nil => rfl
  | cons x xs =>
    have q := stageAxis_spec _ _ hc hc (List.cons_ne_nil x xs) rfl
    have w : Coarser (x :: xs) (x :: xs) := fun i => ⟨i, rfl⟩
    -- `W1` and `W2` both hold: `t ≤ s ≤ l ≤ t` and `r ≤ u ≤ t ≤ r`
    have hl := Int.le_antisymm q.l_le (Int.le_trans (q.split w) q.s_le)
    have hs := Int.le_antisymm (Int.le_trans q.s_le q.l_le) (q.split w)
    have hu := Int.le_antisymm q.u_le (Int.le_trans q.r_ge (q.merge w))
    have hr := Int.le_antisymm (Int.le_trans (q.merge w) q.u_le) q.r_ge
    -- `stageAxis _ _` unfolds to `⟨isum (x :: xs), l, r, u, s⟩`: equal to the right side field by field
    exact (AxisCounters.mk.injEq ..).mpr ⟨rfl, hl, hr, hu, hs⟩

/-- `moved_fraction` keeps the larger overlap, `_rechunk_stage_transfer` the larger positive one: the
same value once `best ≥ 0`, and `best ≥ 0` is kept (second conjunct) -/
theorem best_eq {b ov : Int} (hb : 0 ≤ b) :
    (if ov > b then ov else b) = (if ov > 0 then max b ov else b) ∧
      0 ≤ (if ov > 0 then max b ov else b) := by
  by_cases h : ov > 0
  · rw [if_pos h]
    by_cases h2 : ov > b
    · rw [if_pos h2, Int.max_eq_right (Int.le_of_lt h2)]; exact ⟨rfl, Int.le_of_lt h⟩
    · rw [if_neg h2, Int.max_eq_left (Int.not_lt.mp h2)]; exact ⟨rfl, hb⟩
  · rw [if_neg h, if_neg (fun h2 => h (Int.lt_of_le_of_lt hb h2))]; exact ⟨rfl, hb⟩

/-- what `moved_fraction` keeps of the inner-loop state of `_rechunk_stage_transfer` -/
def forget (r : Nat × Int × Int × Nat × Int × List Nat) : Nat × Int × Int := (r.1, r.2.1, r.2.2.1)

theorem mfInner_eq_stInner (src : List Int) (ds de : Int) (fuel i : Nat) (ss b : Int) (ns : Nat)
    (u : Int) (hits : List Nat) (hb : 0 ≤ b) :
    mfInner src ds de fuel i ss b = forget (stInner src ds de fuel i ss b ns u hits) := by
  induction fuel generalizing i ss b ns u hits with
  | zero => rfl
  | succ f ih =>
    have e := best_eq (ov := min (ss + src.getD i 0) de - max ss ds) hb
    show ite _ _ _ = forget (ite _ _ _)
    by_cases h : ss + src.getD i 0 ≤ de ∧ i + 1 < src.length
    · rw [if_pos h, if_pos h, e.1]
      exact ih _ _ _ _ _ _ e.2
    · rw [if_neg h, if_neg h, e.1]
      rfl

theorem mfOuter_eq_stOuter (src : List Int) (dst : List Int) (i : Nat) (ss ds m l u s : Int)
    (hits : List Nat) :
    mfOuter src dst i ss ds m = m + isum dst - ((stOuter src dst i ss ds l u s hits).1 - l) := by
  induction dst generalizing i ss ds m l u s hits with
  | nil => show m = m + 0 - (l - l); omega
  | cons t rest ih =>
    show mfOuter src rest _ _ _ _ = m + (t + isum rest) - ((stOuter src rest _ _ _ _ _ _ _).1 - l)
    rw [mfInner_eq_stInner src ds (ds + t) (src.length + 1) i ss 0 0 u hits (Int.le_refl _)]
    generalize stInner src ds (ds + t) (src.length + 1) i ss 0 0 u hits = r
    dsimp only [forget]
    rw [ih r.1 r.2.1 (ds + t) _ (l + r.2.2.1) r.2.2.2.2.1 (if r.2.2.2.1 ≤ 1 then s + t else s) r.2.2.2.2.2]
    omega

/-- outside its early returns, the numerator of `moved_fraction` is the total minus the per-axis
`largest` counter of the stage estimate -/
theorem movedNum_cases (src dst : List Int) :
    movedNum src dst = 0 ∨ (src ≠ [] ∧ isum src = isum dst ∧
      movedNum src dst = isum src - (stageAxis src dst).l) := by
  unfold movedNum
  by_cases h1 : isum src = 0 ∨ src = dst
  · exact Or.inl (if_pos h1)
  · by_cases h2 : isum dst ≠ isum src
    · exact Or.inl ((if_neg h1).trans (if_pos h2))
    · refine Or.inr ⟨fun e => h1 (Or.inl (e ▸ rfl)), (Decidable.of_not_not h2).symm, ?_⟩
      rw [if_neg h1, if_neg h2, mfOuter_eq_stOuter src dst 0 0 0 0 0 0 0 []]
      have := Decidable.of_not_not h2
      show _ = isum src - (stOuter src dst 0 0 0 0 0 0 []).1
      omega

theorem coarser_flatten (gs : List (List Int)) : Coarser (gs.map isum) gs.flatten := by
  induction gs with
  | nil => exact fun i => ⟨0, by simp [start]⟩
  | cons g gs ih =>
    intro i
    cases i with
    | zero => exact ⟨0, rfl⟩
    | succ i =>
      obtain ⟨m, e⟩ := ih i
      refine ⟨g.length + m, ?_⟩
      have : start (g :: gs).flatten (g.length + m) = isum g + start gs.flatten m := by
        simp only [start, List.flatten_cons, List.take_length_add_append, isum_append]
      rw [this, ← e]
      rfl

theorem movedNum_spec (src dst : List Int) (hs : ∀ c ∈ src, 0 ≤ c) (hd : ∀ c ∈ dst, 0 ≤ c) :
    0 ≤ movedNum src dst ∧ movedNum src dst ≤ isum src ∧ (Coarser src dst → movedNum src dst = 0) := by
  rcases movedNum_cases src dst with h | ⟨hne, hsum, h⟩
  · rw [h]
    exact ⟨Int.le_refl _, isum_nonneg _ hs, fun _ => rfl⟩
  · have q := stageAxis_spec src dst hs hd hne hsum
    rw [h]
    exact ⟨Int.sub_nonneg_of_le q.l_le, Int.sub_le_self _ (Int.le_trans q.s_nonneg q.s_le),
      fun w => Int.sub_eq_zero_of_eq (Int.le_antisymm (Int.le_trans (q.split w) q.s_le) q.l_le)⟩

theorem iprod_mono (cs : List AxisCounters) (a b : AxisCounters → Int)
    (h : ∀ c ∈ cs, 0 ≤ a c ∧ a c ≤ b c) :
    0 ≤ iprod (cs.map a) ∧ iprod (cs.map a) ≤ iprod (cs.map b) :=
  prodFold_map_le rfl (fun _ _ => rfl) a b cs h

/-- one axis of a rechunk stage, old layout `o`, new layout `n` (not `Chunks.AxisOK`, which ties one layout to a length) -/
def AxisOK (o n : List Int) : Prop :=
  (∀ x ∈ o, 0 ≤ x) ∧ (∀ x ∈ n, 0 ≤ x) ∧ o ≠ [] ∧ isum o = isum n

/-- `_rechunk_stage_transfer` returns `0 ≤ min ≤ max` for every rank and all layouts -/
theorem stageTransfer_bounds (old new : List (List Int)) (it : Int) (hit : 0 ≤ it)
    (h : ∀ p ∈ old.zip new, AxisOK p.1 p.2) :
    0 ≤ (stageTransfer old new it).1 ∧
      (stageTransfer old new it).1 ≤ (stageTransfer old new it).2 := by
  unfold stageTransfer
  simp only
  have hf : ∀ c ∈ List.zipWith stageAxis old new,
      0 ≤ c.s ∧ c.s ≤ c.l ∧ c.l ≤ c.t ∧ 0 ≤ c.u ∧ c.u ≤ c.r := by
    intro c hc
    rw [← List.map_uncurry_zip_eq_zipWith, List.mem_map] at hc
    obtain ⟨p, hp, rfl⟩ := hc
    obtain ⟨h1, h2, h3, h4⟩ := h p hp
    have q := stageAxis_spec p.1 p.2 h1 h2 h3 h4
    exact ⟨q.s_nonneg, q.s_le, q.l_le, q.u_nonneg, Int.le_trans q.u_le q.r_ge⟩
  generalize List.zipWith stageAxis old new = cs at hf ⊢
  have hLT := iprod_mono cs (·.l) (·.t) (fun c hc => ⟨by have := hf c hc; omega, (hf c hc).2.2.1⟩)
  have hSL := iprod_mono cs (·.s) (·.l) (fun c hc => ⟨(hf c hc).1, (hf c hc).2.1⟩)
  have hUR := iprod_mono cs (·.u) (·.r) (fun c hc => ⟨(hf c hc).2.2.2.1, (hf c hc).2.2.2.2⟩)
  constructor
  · exact Int.mul_nonneg hit (by omega)
  · exact Int.mul_le_mul_of_nonneg_left (by omega) hit

theorem stageTransfer_same (old : List (List Int)) (it : Int) (h : ∀ c ∈ old, ∀ x ∈ c, 0 ≤ x) :
    stageTransfer old old it = (0, 0) := by
  unfold stageTransfer
  rw [List.zipWith_self, List.map_congr_left fun c hc => stageAxis_same c (h c hc)]
  simp only [List.map_map]
  -- each of the five counters of `⟨isum c, isum c, isum c, isum c, isum c⟩` is `isum c`
  show (it * (iprod (old.map isum) - iprod (old.map isum)),
    it * (iprod (old.map isum) - iprod (old.map isum) + iprod (old.map isum) - iprod (old.map isum))) = _
  rw [Int.sub_self, Int.zero_add, Int.sub_self, Int.mul_zero]

end Dask.Lemmas.Transfer
