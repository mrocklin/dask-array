/-
The pieces of the reshape planner model (`Model/Reshape.lean`) one at a time: Python's list primitives at
natural-number indices, and what a successful call of each model function returns (IF it returns `.ok v` THEN `v`
has the property).  `_smooth_chunks` is summarised by the relation `SmoothRel`: a sequence of updates, each of the
first tuple of the range that is not all ones, by a tuple with the same sum.
-/
import DaskArrayModel.Model.ReshapeSpec
namespace Dask.Reshape
open Dask.ND

theorem bind_ok {α β : Type} {x : Except Err α} {f : α → Except Err β} {v : β} :
    (x >>= f) = .ok v ↔ ∃ a, x = .ok a ∧ f a = .ok v := by
  cases x <;> simp [bind, Except.bind]

theorem pure_ok {α : Type} {a v : α} : (pure a : Except Err α) = .ok v ↔ a = v := by
  simp [pure, Except.pure]

theorem ok_bind {α β : Type} (a : α) (f : α → Except Err β) : (Except.ok a >>= f) = f a := rfl

theorem pyIdx_ofNat {n k : Nat} (h : k < n) : pyIdx n (k : Int) = some k := by
  unfold pyIdx
  have : (0:Int) ≤ (k:Int) := Int.natCast_nonneg k
  simp [this, h]

theorem pyIdx_some {n : Nat} {i : Int} {k : Nat} (h : pyIdx n i = some k) :
    k < n ∧ (0 ≤ i → i = (k : Int)) ∧ (i < 0 → i + n = (k : Int)) := by
  unfold pyIdx at h
  by_cases h0 : 0 ≤ i
  · rw [if_pos h0] at h
    by_cases h1 : i < (n : Int)
    · rw [if_pos h1] at h; cases h
      exact ⟨(Int.toNat_lt h0).mpr h1, fun _ => (Int.toNat_of_nonneg h0).symm, fun h2 => absurd h0 (Int.not_le.mpr h2)⟩
    · rw [if_neg h1] at h; cases h
  · rw [if_neg h0] at h
    by_cases h1 : -(n : Int) ≤ i
    · rw [if_pos h1] at h; cases h
      have h2 : 0 ≤ i + n := Int.sub_neg i n ▸ Int.sub_nonneg_of_le h1
      have h3 : i + n < n := by
        have := Int.add_lt_add_right (Int.not_le.mp h0) (n : Int)
        rwa [Int.zero_add] at this
      exact ⟨(Int.toNat_lt h2).mpr h3, fun h4 => absurd h4 h0, fun _ => (Int.toNat_of_nonneg h2).symm⟩
    · rw [if_neg h1] at h; cases h

theorem pyIdx_neg {n : Nat} {i : Int} {k : Nat} (hi : i < 0) (h : pyIdx n i = some k) :
    i + n = (k : Int) := (pyIdx_some h).2.2 hi

theorem pyGet_ok {α : Type} {l : List α} {i : Int} {v : α} (h : pyGet l i = .ok v) :
    ∃ k, pyIdx l.length i = some k ∧ l[k]? = some v := by
  unfold pyGet at h
  split at h
  · rename_i k hk
    split at h
    · rename_i w hw
      refine ⟨k, hk, ?_⟩
      simp only [Except.ok.injEq] at h
      rw [hw, h]
    · simp at h
  · simp at h

theorem pyGet_ofNat {α : Type} {l : List α} {k : Nat} {v : α} (h : l[k]? = some v) :
    pyGet l (k : Int) = .ok v := by
  have hk : k < l.length := by
    rcases Nat.lt_or_ge k l.length with h' | h'
    · exact h'
    · rw [List.getElem?_eq_none h'] at h; simp at h
  unfold pyGet
  rw [pyIdx_ofNat hk]
  simp [h]

theorem pyGet_nat_ok {α : Type} {l : List α} {k : Nat} {v : α} (h : pyGet l (k : Int) = .ok v) :
    l[k]? = some v := by
  obtain ⟨j, hj, hv⟩ := pyGet_ok h
  cases Int.ofNat.inj ((pyIdx_some hj).2.1 (Int.natCast_nonneg k))
  exact hv

theorem pySet_ok {α : Type} {l : List α} {i : Int} {v : α} {r : List α} (h : pySet l i v = .ok r) :
    ∃ k, pyIdx l.length i = some k ∧ r = l.set k v := by
  unfold pySet at h
  split at h
  · rename_i k hk
    simp only [Except.ok.injEq] at h
    exact ⟨k, hk, h.symm⟩
  · simp at h

theorem pySet_nat_ok {α : Type} {l : List α} {k : Nat} {v : α} {r : List α}
    (h : pySet l (k : Int) v = .ok r) : k < l.length ∧ r = l.set k v := by
  obtain ⟨j, hj, hv⟩ := pySet_ok h
  obtain ⟨h2, h1, _⟩ := pyIdx_some hj
  cases Int.ofNat.inj (h1 (Int.natCast_nonneg k))
  exact ⟨h2, hv⟩

theorem pyClamp_ofNat (n k : Nat) : pyClamp n (k : Int) = min k n := by
  unfold pyClamp
  rw [if_neg (Int.not_lt.mpr (Int.natCast_nonneg k)), Int.toNat_natCast]

theorem pySlice_nat {α : Type} (l : List α) (a b : Nat) (hb : b ≤ l.length) :
    pySlice l (a : Int) (b : Int) = (l.drop a).take (b - a) := by
  unfold pySlice
  rw [pyClamp_ofNat, pyClamp_ofNat, Nat.min_eq_left hb]
  rcases Nat.le_total a l.length with h | h
  · rw [Nat.min_eq_left h]
  · rw [Nat.min_eq_right h, Nat.sub_eq_zero_of_le hb, Nat.sub_eq_zero_of_le (Nat.le_trans hb h),
      List.take_zero, List.take_zero]

theorem pyRange_cons (a b : Nat) (h : a < b) :
    pyRange (a : Int) (b : Int) = (a : Int) :: pyRange ((a + 1 : Nat) : Int) (b : Int) := by
  unfold pyRange
  rw [Int.toNat_sub, Int.toNat_sub, ← Nat.sub_add_cancel (Nat.sub_pos_of_lt h), ← Nat.sub_add_eq,
    List.range_succ_eq_map, List.map_cons, List.map_map]
  refine congr (congrArg List.cons (Int.add_zero _)) (List.map_congr_left fun k _ => ?_)
  show (a : Int) + ((k + 1 : Nat) : Int) = ((a + 1 : Nat) : Int) + (k : Int)
  rw [Int.natCast_add, Int.natCast_add, Int.add_assoc, Int.add_comm (k : Int)]

theorem pyRange_empty (a b : Nat) (h : b ≤ a) : pyRange (a : Int) (b : Int) = [] := by
  unfold pyRange
  rw [Int.toNat_sub, Nat.sub_eq_zero_of_le h]; rfl

theorem getD_of_getElem? {α : Type} {l : List α} {k : Nat} {v d : α} (h : l[k]? = some v) : l.getD k d = v := by
  rw [List.getD_eq_getElem?_getD, h]; rfl

theorem allOnes_iff (c : Chunks) : allOnes c = true ↔ ∀ x ∈ c, x = 1 := by
  unfold allOnes
  simp [List.all_eq_true]

theorem allOnes_sum {c : Chunks} (h : allOnes c = true) : c = List.replicate c.sum 1 := by
  induction c with
  | nil => simp
  | cons x xs ih =>
    rw [allOnes_iff] at h ih
    have hx : x = 1 := h x (by simp)
    have hxs := ih (fun y hy => h y (by simp [hy]))
    subst hx
    rw [List.sum_cons, Nat.add_comm, List.replicate_succ, ← hxs]

theorem allOnes_replicate (d : Nat) : allOnes (List.replicate d 1) = true := by
  rw [allOnes_iff]; intro x hx; exact (List.mem_replicate.mp hx).2

theorem pos_sum_len {c : Chunks} (hp : ∀ x ∈ c, 0 < x) :
    c.length ≤ c.sum ∧ (c.sum = c.length → allOnes c = true) := by
  induction c with
  | nil => exact ⟨Nat.le_refl _, fun _ => rfl⟩
  | cons x xs ih =>
    have hx := hp x List.mem_cons_self
    obtain ⟨h1, h2⟩ := ih (fun y hy => hp y (List.mem_cons_of_mem _ hy))
    rw [List.sum_cons, List.length_cons]
    refine ⟨by omega, fun hs => ?_⟩
    have hx1 : x = 1 := by omega
    have := h2 (by omega)
    rw [allOnes_iff] at this ⊢
    exact List.forall_mem_cons.mpr ⟨hx1, this⟩

theorem pos_sum_one {c : Chunks} (hp : ∀ x ∈ c, 0 < x) (hs : c.sum = 1) : c = [1] := by
  obtain ⟨h1, h2⟩ := pos_sum_len hp
  have hl : c.length ≠ 0 := fun h0 => by rw [List.length_eq_zero_iff.mp h0] at hs; cases hs
  have := allOnes_sum (h2 (by omega))
  rwa [hs] at this

theorem sum_eq_headD {c : Chunks} (h : c.length = 1) : c.sum = c.headD 0 :=
  match c, h with
  | [e], _ => Nat.add_zero e

theorem normAxis_one {c : Chunks} (h : NormAxis c) (hs : c.sum = 1) : c = [1] := by
  rcases h with h | ⟨_, hp⟩
  · subst h; simp at hs
  · exact pos_sum_one hp hs

/-- `if a: out.append(a)` adds `a` to the sum either way -/
theorem sum_cons_nonzero (a : Nat) (l : List Nat) : (if a ≠ 0 then a :: l else l).sum = a + l.sum := by
  by_cases h : a ≠ 0
  · rw [if_pos h, List.sum_cons]
  · rw [if_neg h, Decidable.not_not.mp h, Nat.zero_add]

theorem pos_of_mem_ite_nonzero (x : Nat) : ∀ y ∈ (if x ≠ 0 then [x] else []), 0 < y := by
  by_cases h : x ≠ 0
  · rw [if_pos h]; intro y hy; rw [List.mem_singleton.mp hy]; exact Nat.pos_of_ne_zero h
  · rw [if_neg h]; intro y hy; cases hy

theorem expandLoop_sum_pos {ip : Nat} {cond : Nat → Bool} (hip : 0 < ip) (hc : ∀ x, cond x = true → ip ≤ x)
    (fuel : Nat) : ∀ x, (expandLoop ip cond fuel x).sum = x ∧ ∀ y ∈ expandLoop ip cond fuel x, 0 < y := by
  induction fuel with
  | zero => exact fun x => ⟨sum_cons_nonzero x [], pos_of_mem_ite_nonzero x⟩
  | succ fuel ih =>
    intro x
    by_cases hcx : cond x = true
    · obtain ⟨h1, h2⟩ := ih (x - ip)
      rw [show expandLoop ip cond (fuel + 1) x = ip :: expandLoop ip cond fuel (x - ip) from if_pos hcx,
        List.sum_cons, h1, Nat.add_sub_cancel' (hc x hcx)]
      exact ⟨rfl, List.forall_mem_cons.mpr ⟨hip, h2⟩⟩
    · rw [show expandLoop ip cond (fuel + 1) x = expandLoop ip cond 0 x from if_neg hcx]
      exact ⟨sum_cons_nonzero x [], pos_of_mem_ite_nonzero x⟩

theorem expandOne_sum_pos (c : Nat) {f : Nat} (hf : 0 < f) :
    (expandOne c f).sum = c ∧ ∀ y ∈ expandOne c f, 0 < y := by
  unfold expandOne
  by_cases h : f ≤ c
  · rw [if_pos h]
    refine expandLoop_sum_pos (Nat.div_pos h hf) (fun x hx => ?_) c c
    have hx' : 2 * c ≤ x * f := of_decide_eq_true hx
    exact Nat.le_of_mul_le_mul_right (Nat.le_trans (Nat.div_mul_le_self c f)
      (Nat.le_trans (Nat.le_mul_of_pos_left c Nat.two_pos) hx')) hf
  · rw [if_neg h]
    exact expandLoop_sum_pos Nat.one_pos (fun x hx => Nat.le_of_succ_le (of_decide_eq_true hx)) c c

theorem expandTuple_sum_pos {c : Chunks} {f : Nat} {e : Chunks} (h : expandTuple c f = .ok e) :
    e.sum = c.sum ∧ ((∀ x ∈ c, 0 < x) → ∀ y ∈ e, 0 < y) := by
  unfold expandTuple at h
  by_cases h1 : f = 1
  · rw [if_pos h1] at h; cases h; exact ⟨rfl, id⟩
  rw [if_neg h1] at h
  by_cases h0 : f = 0 ∧ c ≠ []
  · rw [if_pos h0] at h; cases h
  rw [if_neg h0] at h
  cases h
  induction c with
  | nil => exact ⟨rfl, fun _ _ hy => nomatch hy⟩
  | cons x xs ih =>
    have hf : 0 < f := Nat.pos_of_ne_zero fun hf => h0 ⟨hf, List.cons_ne_nil x xs⟩
    obtain ⟨s1, p1⟩ := expandOne_sum_pos x hf
    obtain ⟨s2, p2⟩ := ih fun h => Nat.ne_of_gt hf h.1
    rw [List.flatMap_cons, List.sum_append, s1, s2, List.sum_cons]
    exact ⟨rfl, fun hp y hy => (List.mem_append.mp hy).elim (p1 y)
      (p2 (fun z hz => hp z (List.mem_cons_of_mem x hz)) y)⟩

/-- `contract_tuple`'s loop emits `factor * q` for positive quotients `q`, and the quotients add up to
`(residual + sum(chunks)) // factor`: what is carried over is never lost -/
theorem contractLoop_spec {f : Nat} (hf : 0 < f) (c : List Nat) : ∀ (res : Nat), res < f →
    ∃ qs : List Nat, contractLoop f res c = qs.map (fun q => f * q) ∧ (∀ q ∈ qs, 0 < q) ∧
      qs.sum = (res + c.sum) / f := by
  induction c with
  | nil => exact fun res hres => ⟨[], rfl, fun _ h => absurd h List.not_mem_nil, (Nat.div_eq_of_lt hres).symm⟩
  | cons chunk rest ih =>
    intro res hres
    obtain ⟨qs, h1, h2, h3⟩ := ih ((chunk + res) % f) (Nat.mod_lt _ hf)
    have e : res + (chunk + rest.sum) = f * ((chunk + res) / f) + ((chunk + res) % f + rest.sum) := by
      rw [← Nat.add_assoc (f * _), Nat.div_add_mod, Nat.add_comm chunk res, Nat.add_assoc]
    rw [List.sum_cons, e, Nat.mul_add_div hf, ← h3]
    -- `contractLoop f res (chunk :: rest)` is `if f * q ≠ 0 then f * q :: tl else tl` for `q = (chunk + res) / f`,
    -- `tl` the loop on `rest` with residual `(chunk + res) % f` (`h1`), by definition
    by_cases hq : f * ((chunk + res) / f) ≠ 0
    · exact ⟨_ :: qs, (if_pos hq).trans (congrArg _ h1),
        List.forall_mem_cons.mpr ⟨Nat.pos_of_ne_zero fun h0 => hq (h0 ▸ Nat.mul_zero f), h2⟩, List.sum_cons⟩
    · rw [(Nat.mul_eq_zero.mp (Decidable.not_not.mp hq)).resolve_left (Nat.ne_of_gt hf), Nat.zero_add]
      exact ⟨qs, (if_neg hq).trans h1, h2, rfl⟩

theorem contractTuple_spec {c : Chunks} {f : Nat} {ct : Chunks} (h : contractTuple c f = .ok ct) :
    0 < f ∧ ∃ qs : List Nat, ct = qs.map (fun q => f * q) ∧ (∀ q ∈ qs, 0 < q) ∧ qs.sum * f = c.sum := by
  unfold contractTuple at h
  by_cases hf : f = 0
  · rw [if_pos hf] at h; cases h
  rw [if_neg hf] at h
  by_cases hm : c.sum % f ≠ 0
  · rw [if_pos hm] at h; cases h
  rw [if_neg hm] at h
  cases h
  have hf' : 0 < f := Nat.pos_of_ne_zero hf
  obtain ⟨qs, h1, h2, h3⟩ := contractLoop_spec hf' c 0 hf'
  refine ⟨hf', qs, h1, h2, ?_⟩
  rw [h3, Nat.zero_add]
  exact Nat.div_mul_cancel (Nat.dvd_of_mod_eq_zero (Decidable.not_not.mp hm))

theorem contractTuple_quot {c ct : Chunks} {f d : Nat} (h : contractTuple c f = .ok ct)
    (hs : c.sum = d * f) :
    (ct.map (fun x => x / f)).sum = d ∧ ∀ x ∈ ct.map (fun x => x / f), 0 < x := by
  obtain ⟨hf, qs, rfl, hpos, hsum⟩ := contractTuple_spec h
  have hq : (qs.map (fun q => f * q)).map (fun x => x / f) = qs := by
    rw [List.map_map]
    exact List.map_id'' (fun q => Nat.mul_div_cancel_left q hf) qs
  rw [hq]
  exact ⟨Nat.eq_of_mul_eq_mul_right hf (hsum.trans hs), hpos⟩

theorem ceilDivN_bounds (a : Nat) {b : Nat} (hb : 0 < b) :
    a ≤ ceilDivN a b * b ∧ ceilDivN a b * b < a + b := by
  unfold ceilDivN
  refine ⟨Nat.le_of_add_le_add_right (b := b) (Nat.le_of_pred_lt ?_),
    Nat.lt_of_le_of_lt (Nat.div_mul_le_self _ b) (Nat.sub_lt (Nat.add_pos_right a hb) Nat.one_pos)⟩
  have := Nat.lt_mul_div_succ (a + b - 1) hb
  rwa [Nat.mul_succ, Nat.mul_comm] at this

theorem even_split_sum {k f c : Nat} (hk : k ≤ f) (hc : k ≤ c * f) :
    k * (c - 1) + (f - k) * c = c * f - k := by
  refine (Nat.sub_eq_of_eq_add ?_).symm
  cases c with
  | zero =>
    rw [Nat.zero_mul] at hc
    rw [Nat.le_zero.mp hc, Nat.zero_mul, Nat.zero_mul, Nat.mul_zero]
  | succ c =>
    rw [Nat.add_sub_cancel, Nat.add_right_comm, ← Nat.mul_succ, ← Nat.add_mul, Nat.add_sub_cancel' hk,
      Nat.mul_comm]

theorem splitEven_sum (elem f : Nat) (hf : 0 < f) : (splitEven elem f).sum = elem := by
  obtain ⟨h1, h2⟩ := ceilDivN_bounds elem hf
  unfold splitEven
  rw [List.sum_append, List.sum_replicate_nat, List.sum_replicate_nat,
    even_split_sum (Nat.sub_le_iff_le_add.mpr (Nat.le_of_lt (Nat.add_comm elem f ▸ h2))) (Nat.sub_le _ _),
    Nat.sub_sub_self h1]

theorem splitBig_sum (other mx : Nat) (hmx : 0 < mx) (c : Chunks) : (splitBig other mx c).sum = c.sum := by
  unfold splitBig
  induction c with
  | nil => rfl
  | cons e es ih =>
    rw [List.flatMap_cons, List.sum_append, ih, List.sum_cons]
    refine congrArg (· + es.sum) ?_
    by_cases h : e * other ≤ mx
    · rw [if_pos h]; exact Nat.add_zero e
    · rw [if_neg h]
      refine splitEven_sum _ _ (Nat.pos_of_ne_zero fun h0 => h ?_)
      have := (ceilDivN_bounds (e * other) hmx).1
      rw [h0, Nat.zero_mul] at this
      exact Nat.le_trans this (Nat.zero_le mx)

theorem getC_nat_ok {r : Slots} {k : Nat} {c : Chunks} (h : getC r (k:Int) = .ok c) :
    r[k]? = some (some c) := by
  unfold getC at h
  rw [bind_ok] at h
  obtain ⟨o, ho, hm⟩ := h
  cases o with
  | none => simp at hm
  | some c' =>
    simp only [pure_ok] at hm
    rw [← hm]; exact pyGet_nat_ok ho

theorem getC_ofNat {r : Slots} {k : Nat} {c : Chunks} (h : r[k]? = some (some c)) :
    getC r (k:Int) = .ok c := by
  unfold getC
  rw [pyGet_ofNat h]
  rfl

theorem mapE_unsome {g : Option Chunks → Except Err Chunks} (hg : ∀ o c, g o = .ok c → o = some c)
    (l : Slots) : ∀ cs : List Chunks, mapE g l = .ok cs → l = cs.map some := by
  induction l with
  | nil => intro cs h; cases h; rfl
  | cons o l ih =>
    intro cs h
    obtain ⟨y, hy, h⟩ := bind_ok.mp h
    obtain ⟨ys, hys, hcs⟩ := bind_ok.mp h
    cases hcs
    rw [hg o y hy, ih ys hys]; rfl

theorem calcLower_ok {r : Slots} {a b : Nat} {low : Chunks} (h : calcLower r (a:Int) (b:Int) = .ok low)
    (hb : b < r.length) :
    ∃ cs, (r.drop a).take (b + 1 - a) = cs.map some ∧ low = crossProd cs := by
  unfold calcLower at h
  rw [bind_ok] at h
  obtain ⟨cs, hcs, h⟩ := h
  by_cases hnil : cs = []
  · rw [if_pos hnil] at h; cases h
  rw [if_neg hnil, pure_ok] at h
  refine ⟨cs, ?_, h.symm⟩
  rw [← Int.natCast_add_one, pySlice_nat r a (b + 1) hb] at hcs
  refine mapE_unsome (fun o c ho => ?_) _ _ hcs
  cases o with
  | none => cases ho
  | some c' => cases ho; rfl

theorem skipOnes_ok {r : Slots} (fuel : Nat) : ∀ (a : Nat) (x : Int), skipOnes r fuel (a:Int) = .ok x →
    ∃ q : Nat, x = (q:Int) ∧ a ≤ q ∧
      (∀ k, a ≤ k → k < q → ∃ c, r[k]? = some (some c) ∧ allOnes c = true) ∧
      ∃ c, r[q]? = some (some c) ∧ allOnes c = false := by
  induction fuel with
  | zero => exact fun _ _ h => nomatch h
  | succ fuel ih =>
    intro a x h
    obtain ⟨c, hc, h⟩ := bind_ok.mp h
    have hc' := getC_nat_ok hc
    by_cases hones : allOnes c = true
    · rw [if_pos hones, ← Int.natCast_add_one] at h
      obtain ⟨q, hq, haq, hall, hlast⟩ := ih (a+1) x h
      refine ⟨q, hq, Nat.le_of_succ_le haq, ?_, hlast⟩
      intro k hk1 hk2
      rcases Nat.eq_or_lt_of_le hk1 with rfl | h'
      · exact ⟨c, hc', hones⟩
      · exact hall k h' hk2
    · rw [if_neg hones, pure_ok] at h
      exact ⟨a, h.symm, Nat.le_refl _, fun k hk1 hk2 => absurd hk2 (Nat.not_lt_of_le hk1), c, hc',
        Bool.eq_false_iff.mpr hones⟩

/-- what one call of `_smooth_chunks(a, b, …)` may do to the slot list: a sequence of updates, each replacing
the FIRST tuple in `a..b` that is not all ones (everything before it in `a..b` is all ones) by a tuple with
the same sum -/
inductive SmoothRel (a b : Nat) : Slots → Slots → Prop
  | refl (r : Slots) : SmoothRel a b r r
  | step (r r' : Slots) (q : Nat) (c c' : Chunks) : a ≤ q → q ≤ b →
      (∀ k, a ≤ k → k < q → ∃ ck, r[k]? = some (some ck) ∧ allOnes ck = true) →
      r[q]? = some (some c) → allOnes c = false → c'.sum = c.sum →
      SmoothRel a b (r.set q (some c')) r' → SmoothRel a b r r'

theorem smooth_rel (fuel : Nat) : ∀ (a b : Nat) (mx : Nat) (r r' : Slots),
    smooth fuel (a:Int) (b:Int) mx r = .ok r' → SmoothRel a b r r' := by
  induction fuel with
  | zero => exact fun _ _ _ _ _ h => nomatch h
  | succ fuel ih =>
    intro a b mx r r' h
    obtain ⟨maxRes, _, h⟩ := bind_ok.mp h
    by_cases hmr : mx = maxRes
    · rw [if_pos hmr, pure_ok] at h
      rw [← h]; exact .refl r
    rw [if_neg hmr, bind_ok] at h
    obtain ⟨x, hx, h⟩ := h
    obtain ⟨q, hq, haq, hall, c0, hc0, hc0ones⟩ := skipOnes_ok _ a x hx
    subst hq
    by_cases hqb : (q : Int) < (b : Int) + 1
    · have hqb' : q ≤ b := Int.ofNat_le.mp (Int.lt_add_one_iff.mp hqb)
      rw [if_pos hqb] at h
      by_cases hmx : mx = 0
      · rw [if_pos hmx] at h; cases h
      rw [if_neg hmx, getC_ofNat hc0, ok_bind] at h
      -- whichever way slot `q` is rewritten, it is the first tuple in `a..b` that is not all ones
      have step : ∀ c' r1, c'.sum = c0.sum → SmoothRel a b (r.set q (some c')) r1 → SmoothRel a b r r1 :=
        fun c' r1 => SmoothRel.step r r1 q c0 c' haq hqb' hall hc0 hc0ones
      by_cases hlen : c0.length = 1
      · rw [if_pos hlen] at h
        dsimp only at h
        by_cases hfac : min (ceilDivN maxRes mx) (c0.headD 0) = 0
        · rw [if_pos hfac] at h; cases h
        rw [if_neg hfac, bind_ok] at h
        obtain ⟨r1, hr1, h⟩ := h
        obtain ⟨_, hr1⟩ := pySet_nat_ok hr1
        subst hr1
        apply step _ _ ((splitEven_sum _ _ (Nat.pos_of_ne_zero hfac)).trans (sum_eq_headD hlen).symm)
        split at h
        · exact ih a b mx _ r' h
        · rw [pure_ok] at h
          rw [← h]; exact .refl _
      · rw [if_neg hlen, bind_ok] at h
        obtain ⟨m, _, h⟩ := h
        by_cases hm : m = 0
        · rw [if_pos hm] at h; cases h
        rw [if_neg hm] at h
        obtain ⟨_, hr1⟩ := pySet_nat_ok h
        rw [hr1]
        exact step _ _ (splitBig_sum _ _ (Nat.pos_of_ne_zero hmx) c0) (.refl _)
    · rw [if_neg hqb, pure_ok] at h
      rw [← h]; exact .refl r

theorem SmoothRel.length {a b : Nat} {r r' : Slots} (h : SmoothRel a b r r') : r'.length = r.length := by
  induction h with
  | refl r => rfl
  | step r r' q c c' _ _ _ _ _ _ _ ih => rw [ih]; simp

theorem SmoothRel.frame {a b : Nat} {r r' : Slots} (h : SmoothRel a b r r') :
    ∀ k : Nat, (k < a ∨ b < k) → r'[k]? = r[k]? := by
  induction h with
  | refl r => intro k _; rfl
  | step r r' q c c' haq hqb _ _ _ _ _ ih =>
    intro k hk
    rw [ih k hk, List.getElem?_set_ne]
    exact hk.elim (fun h => Nat.ne_of_gt (Nat.lt_of_lt_of_le h haq)) fun h => Nat.ne_of_lt (Nat.lt_of_le_of_lt hqb h)

end Dask.Reshape
