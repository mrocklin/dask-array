/-
Soundness of the closed-set argument for reachability (general, no `decide`):
a set closed under the edges that contains the roots contains everything reachable by ANY finite path.
Plus: the backward version, Bool-checker soundness, and soundness of the executable `reachable`
(every listed node really is reachable: it is what gives the `reachable` runs among the examples of Props/C26 their
meaning — when the checker says "no", a real path exists; no proof applies it).
-/
import DaskArrayModel.Model.Closure
namespace Dask.Closure

theorem closed_set_sound (edges : Edges) (S : Nat → Prop) (roots : List Nat)
    (hroots : ∀ r ∈ roots, S r)
    (hclosed : ∀ a b, (a, b) ∈ edges → S a → S b) :
    ∀ r ∈ roots, ∀ n, Reach edges r n → S n := by
  intro r hr n h
  induction h with
  | refl => exact hroots r hr
  | step _ he ih => exact hclosed _ _ he ih

theorem backward_closed_sound (edges : Edges) (S : Nat → Prop)
    (hclosed : ∀ a b, (a, b) ∈ edges → S b → S a) :
    ∀ a t, Reach edges a t → S t → S a := by
  intro a t h
  induction h with
  | refl => exact id
  | step _ he ih => exact fun hc => ih (hclosed _ _ he hc)

theorem Reach.trans {edges : Edges} {a b c : Nat} (h1 : Reach edges a b) (h2 : Reach edges b c) :
    Reach edges a c := by
  induction h2 with
  | refl => exact h1
  | step _ he ih => exact Reach.step ih he

theorem Reach.edge {edges : Edges} {a b : Nat} (h : (a, b) ∈ edges) : Reach edges a b :=
  Reach.step (Reach.refl a) h

theorem all_imp_sound {edges : Edges} {p q : Nat × Nat → Bool} (h : edges.all (fun e => !p e || q e) = true)
    (e : Nat × Nat) (he : e ∈ edges) (hp : p e = true) : q e = true := by
  have := (List.all_eq_true.mp h) e he
  rw [hp] at this
  exact this

theorem closedUnder_sound {edges : Edges} {S : List Nat} (h : closedUnder edges S = true) :
    ∀ a b, (a, b) ∈ edges → a ∈ S → b ∈ S := fun a b he ha =>
  List.contains_iff_mem.mp (all_imp_sound (p := fun e => S.contains e.1) h (a, b) he (List.contains_iff_mem.mpr ha))

theorem closedUnderRev_sound {edges : Edges} {S : List Nat} (h : closedUnderRev edges S = true) :
    ∀ a b, (a, b) ∈ edges → b ∈ S → a ∈ S := fun a b he hb =>
  List.contains_iff_mem.mp (all_imp_sound (p := fun e => S.contains e.2) h (a, b) he (List.contains_iff_mem.mpr hb))

/-- list form of `closed_set_sound`, the shape `decide` discharges -/
theorem closed_list_sound (edges : Edges) (S roots : List Nat)
    (hroots : ∀ r ∈ roots, r ∈ S) (hclosed : closedUnder edges S = true) :
    ∀ r ∈ roots, ∀ n, Reach edges r n → n ∈ S :=
  closed_set_sound edges (· ∈ S) roots hroots (closedUnder_sound hclosed)

theorem importSafe_sound {n : Nat} {edges : Edges} {flagged : List Nat}
    (h : importSafe n edges flagged = true) :
    ∀ m, m < n → ∀ k, Reach edges m k → k ∉ flagged := by
  simp only [importSafe, edgesBelow, Bool.and_eq_true, List.all_eq_true, decide_eq_true_eq] at h
  obtain ⟨hE, hF⟩ := h
  intro m hm k hr
  have hk : k < n :=
    closed_set_sound edges (· < n) [m] (by simpa using hm)
      (fun a b he _ => (hE (a, b) he).2) m (by simp) k hr
  intro hf
  exact Nat.lt_irrefl _ (Nat.lt_of_lt_of_le hk (hF k hf))

theorem closedUnderRevMask_sound {edges : Edges} {mask : Nat} (h : closedUnderRevMask edges mask = true) :
    ∀ a b, (a, b) ∈ edges → inMask mask b = true → inMask mask a = true := fun a b he hb =>
  all_imp_sound (p := fun e => inMask mask e.2) h (a, b) he hb

theorem noRootReachesSeed_sound {n : Nat} {edges : Edges} {seeds : List Nat} {mask : Nat}
    (h : noRootReachesSeed n edges seeds mask = true) :
    (∀ a, ∀ s ∈ seeds, Reach edges a s → inMask mask a = true) ∧
    (∀ m, m < n → ∀ s ∈ seeds, ¬ Reach edges m s) := by
  simp only [noRootReachesSeed, Bool.and_eq_true, List.all_eq_true, List.mem_range,
    Bool.not_eq_true'] at h
  obtain ⟨⟨hB, hS⟩, hC⟩ := h
  have hall : ∀ a, ∀ s ∈ seeds, Reach edges a s → inMask mask a = true := fun a s hs hr =>
    backward_closed_sound edges (fun i => inMask mask i = true) (closedUnderRevMask_sound hC) a s hr (hS s hs)
  refine ⟨hall, fun m hm s hs hr => ?_⟩
  have hmB := hall m s hs hr
  rw [hB m hm] at hmB; cases hmB

theorem expand_sound (edges : Edges) (roots : List Nat) :
    ∀ (es : Edges), (∀ e ∈ es, e ∈ edges) → ∀ (acc : List Nat),
      (∀ n ∈ acc, ∃ r ∈ roots, Reach edges r n) →
      ∀ n ∈ es.foldl (fun acc e => if acc.contains e.1 && !acc.contains e.2 then e.2 :: acc else acc) acc,
        ∃ r ∈ roots, Reach edges r n := by
  intro es
  induction es with
  | nil => intro _ acc hacc n hn; exact hacc n (by simpa using hn)
  | cons e es ih =>
    intro hsub acc hacc
    simp only [List.foldl_cons]
    apply ih (fun x hx => hsub x (List.mem_cons_of_mem _ hx))
    intro n hn
    by_cases hc : (acc.contains e.1 && !acc.contains e.2) = true
    · rw [if_pos hc] at hn
      rcases List.mem_cons.mp hn with rfl | hn
      · have h1 : e.1 ∈ acc := by
          simp only [Bool.and_eq_true] at hc
          exact List.contains_iff_mem.mp hc.1
        obtain ⟨r, hr, hp⟩ := hacc e.1 h1
        exact ⟨r, hr, Reach.step hp (by simpa using hsub e (List.mem_cons_self))⟩
      · exact hacc n hn
    · rw [if_neg hc] at hn
      exact hacc n hn

theorem closure_sound (edges : Edges) (roots : List Nat) :
    ∀ (fuel : Nat) (S : List Nat), (∀ n ∈ S, ∃ r ∈ roots, Reach edges r n) →
      ∀ n ∈ closure edges fuel S, ∃ r ∈ roots, Reach edges r n := by
  intro fuel
  induction fuel with
  | zero => exact fun S hS n hn => hS n hn
  | succ f ih =>
    intro S hS n hn
    replace hn : n ∈ if (expand edges S).length == S.length then S else closure edges f (expand edges S) := hn
    split at hn
    · exact hS n hn
    · exact ih _ (expand_sound edges roots edges (fun _ h => h) S hS) n hn

theorem reachable_sound (edges : Edges) (roots : List Nat) :
    ∀ n ∈ reachable edges roots, ∃ r ∈ roots, Reach edges r n :=
  closure_sound edges roots _ roots (fun n hn => ⟨n, hn, Reach.refl n⟩)

end Dask.Closure
