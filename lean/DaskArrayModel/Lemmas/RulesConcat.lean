/-
Soundness of the slice pushdown through a concatenation (unit step on the concat axis; each
operand gets its own sub-slice, a missed operand is dropped).  A unit-step slice reads a window of the
concatenated axis (`Window`, SliceWindow).  The seam cuts it into `la` positions of the first operand and
`lb` of the second, and the rule's sub-slice of an operand reads exactly its part whenever that part is
not empty (`seam_windows`, about numbers only).
With this last rule the collection: every rule of `rules` is sound, hence `step` and `optimize`.  `Rewrites` is
the relation of sequences of single-rule steps over `rules ++ extraRules`; its soundness is proved in Rules2,
once, for the longer rule list that includes `rules2`.
-/
import DaskArrayModel.Lemmas.RulesSlice
namespace Dask.ND
open Dask.Py Dask.Py.PySlice Dask.Slicing Dask.Lemmas.SliceAlgebra

/-- A negative stop wraps around, so the sub-slice of an operand the window misses is in general NOT empty: a
side is a window of its sub-slice only when it is not empty, which is when the rule keeps that operand. -/
theorem seam_windows (s : PySlice) (na nb : Nat) (h : s.stp = 1) {start stop : Int}
    (hstart : s.istart ((na : Int) + nb) = start) (hstop : s.istop ((na : Int) + nb) = stop) :
    ∃ lo la lb : Nat, Window s (na + nb : Nat) lo (la + lb) ∧
      (start < min stop na ↔ 0 < la) ∧ (max start na < stop ↔ 0 < lb) ∧
      (0 < la → lo + la ≤ na ∧ Window ⟨some start, some (min stop na), none⟩ na lo la) ∧
      (0 < lb → ∃ rb, na + rb = lo + la ∧ Window ⟨some (max start na - na), some (stop - na), none⟩ nb rb lb) := by
  have hn : (0 : Int) ≤ (na : Int) + nb := by omega
  have hs : 0 < s.stp := by omega
  obtain ⟨lo, hlo⟩ := Int.eq_ofNat_of_zero_le (istart_pos_bounds s _ hn hs).1
  have h2 := istop_pos_bounds s _ hn hs
  obtain ⟨hi, hhi⟩ := Int.eq_ofNat_of_zero_le h2.1
  have W := Int.natCast_add na nb ▸ Window.of_indices hn h hlo hhi
  rw [hhi] at h2
  have hle : hi ≤ na + nb := by omega
  cases hstart.symm.trans hlo
  cases hstop.symm.trans hhi
  clear hlo hhi hstart hstop h h2 hs hn
  rcases Nat.lt_or_ge lo na with h1 | h1
  · rw [Int.max_eq_right (Int.ofNat_le.mpr (Nat.le_of_lt h1))]
    rcases Nat.lt_or_ge na hi with h2 | h2
    · -- `lo < na < hi`
      rw [Int.min_eq_right (Int.ofNat_le.mpr (Nat.le_of_lt h2))]
      obtain ⟨la, rfl⟩ := Nat.exists_eq_add_of_le (Nat.le_of_lt h1)
      obtain ⟨lb, rfl⟩ := Nat.exists_eq_add_of_le (Nat.le_of_lt h2)
      rw [show lo + la + lb - lo = la + lb by rw [Nat.add_assoc, Nat.add_sub_cancel_left]] at W
      exact ⟨lo, la, lb, W, iff_of_true (Int.ofNat_lt.mpr h1) (Nat.pos_of_lt_add_right h1),
        iff_of_true (Int.ofNat_lt.mpr h2) (Nat.pos_of_lt_add_right h2),
        fun _ => ⟨Nat.le_refl _, Window.unit rfl (Int.natCast_add lo la) (Nat.le_refl _)⟩,
        fun _ => ⟨0, rfl, Window.unit (Int.sub_self _) (by omega) (by omega)⟩⟩
    · -- `hi ≤ na`: nothing lies right of the seam
      rw [Int.min_eq_left (Int.ofNat_le.mpr h2)]
      exact ⟨lo, hi - lo, 0, W, Int.ofNat_lt.trans Nat.sub_pos_iff_lt.symm,
        iff_of_false (Int.not_lt.mpr (Int.ofNat_le.mpr h2)) (Nat.lt_irrefl 0),
        fun h => ⟨by omega, Window.unit rfl (by omega) (by omega)⟩, fun h => absurd h (Nat.lt_irrefl 0)⟩
  · -- `na ≤ lo`: nothing lies left of the seam
    rw [Int.max_eq_left (Int.ofNat_le.mpr h1)]
    obtain ⟨rb, rfl⟩ := Nat.exists_eq_add_of_le h1
    exact ⟨na + rb, 0, hi - (na + rb), by rwa [Nat.zero_add],
      iff_of_false (fun hA => absurd (Int.lt_min.mp hA).2 (by omega)) (Nat.lt_irrefl 0),
      Int.ofNat_lt.trans Nat.sub_pos_iff_lt.symm, fun h => absurd h (Nat.lt_irrefl 0),
      fun _ => ⟨rb, rfl, Window.unit (by omega) (by omega) (by omega)⟩⟩

theorem wfIx_set {sh : List Nat} {ss : List PySlice} {ax : Nat} {s' : PySlice} (hs : s'.stp ≠ 0)
    (hl : ss.length = sh.length) (hst : ∀ s ∈ ss, s.stp ≠ 0) :
    wfIx sh ((ss.set ax s').map Ix.slc) = true := by
  rw [wfIx_slc]
  refine ⟨by simpa using hl, ?_⟩
  intro s hs
  rcases List.mem_or_eq_of_mem_set hs with h | h
  · exact hst s h
  · subst h; assumption

/- An entry of the result is the entry of the concatenation at `lo + x` on the concat axis (`key`); every index
involved differs from the same slices on the first operand on that axis only (`slice_axis_window`).  The
sub-slice of the first operand gives the first `la` entries (`left`), that of the second the others (`right`);
the three products of the rule are both, the left one alone (`lb = 0`), the right one alone (`la = 0`). -/
theorem sliceThroughConcat_sound : Sound sliceThroughConcat := by
  intro env e e' hw h
  unfold sliceThroughConcat at h
  split at h
  · rename_i a b ax idx
    split at h
    · rename_i ss hss
      cases allSlc?_some idx ss hss
      extract_lets s na n start stop ia ib at h
      by_cases hc : s.stp = 1 ∧ ax < ss.length
      · rw [if_pos hc] at h
        obtain ⟨hwc, hix⟩ := WF_slice.mp hw
        obtain ⟨ha, hb, hax, hshp, hchk⟩ := WF_concat.mp hwc
        obtain ⟨hl, hst⟩ := (wfIx_slc _ _).mp hix
        simp only [shape, List.length_set] at hl
        have hsB : shape b = (shape a).set ax ((shape b).getD ax 0) := eq_set_of_set_eq 0 hshp
        have hSl : (sliceShape (shape a) (ss.map Ix.slc)).length = (shape a).length := by
          rw [sliceShape_slc_length, hl, Nat.min_self]
        have hxS : ax < (sliceShape (shape a) (ss.map Ix.slc)).length := by rw [hSl]; exact hax
        obtain ⟨lo, la, lb, W, iA, iB, hL, hR⟩ :=
          seam_windows s ((shape a).getD ax 0) ((shape b).getD ax 0) hc.1 rfl rfl
        obtain ⟨shC, ixC⟩ := slice_axis_window (sh := shape a) (ax := ax) rfl W
        rw [set_getD_same] at shC ixC
        change shape (.slice (.concat a b ax) (ss.map Ix.slc)) = _ at shC
        have key : ∀ i, InB i (shape (.slice (.concat a b ax) (ss.map Ix.slc))) →
            i.getD ax 0 < la + lb ∧
            denGet env (.slice (.concat a b ax) (ss.map Ix.slc)) i
              = if lo + i.getD ax 0 < (shape a).getD ax 0
                then denGet env a ((sliceIdx (shape a) (ss.map Ix.slc) i).set ax (lo + i.getD ax 0))
                else denGet env b ((sliceIdx (shape a) (ss.map Ix.slc) i).set ax
                  (lo + i.getD ax 0 - (shape a).getD ax 0)) := by
          intro i hi
          have hil : i.length = (shape a).length := by rw [hi.length_eq, shC, List.length_set, hSl]
          have hx : i.getD ax 0 < la + lb := by
            have := hi.getD_lt ax (by rw [shC, List.length_set]; exact hxS)
            rwa [shC, getD_set_eq _ _ _ _ hxS] at this
          have hC := ixC i _ hx
          rw [set_getD_same] at hC
          refine ⟨hx, (congrArg (denGet env (.concat a b ax)) hC).trans ?_⟩
          simp only [denGet]
          rw [getD_set_eq _ _ _ _ (by rw [sliceIdx_slc_length, hl, hil, Nat.min_self, Nat.min_self]; exact hax),
            List.set_set]
        have left : 0 < la → WF (.slice a ia) ∧
            shape (.slice a ia) = (sliceShape (shape a) (ss.map Ix.slc)).set ax la ∧
            ∀ i, InB i (shape (.slice (.concat a b ax) (ss.map Ix.slc))) → i.getD ax 0 < la →
              denGet env (.slice a ia) i = denGet env (.slice (.concat a b ax) (ss.map Ix.slc)) i := by
          intro pa
          obtain ⟨hla, WA⟩ := hL pa
          obtain ⟨shA, ixA⟩ := slice_axis_window (set_getD_same 0 (shape a) ax).symm WA
          refine ⟨WF_slice.mpr ⟨ha, wfIx_set Int.one_ne_zero hl hst⟩, shA, fun i hi hx => ?_⟩
          obtain ⟨_, hC⟩ := key i hi
          have := ixA i _ hx
          rw [set_getD_same] at this
          rw [hC, if_pos (Nat.lt_of_lt_of_le (Nat.add_lt_add_left hx lo) hla)]
          exact congrArg (denGet env a) this
        have right : 0 < lb → WF (.slice b ib) ∧
            shape (.slice b ib) = (sliceShape (shape a) (ss.map Ix.slc)).set ax lb ∧
            ∀ i, InB i (shape (.slice (.concat a b ax) (ss.map Ix.slc))) → la ≤ i.getD ax 0 →
              denGet env (.slice b ib) (i.set ax (i.getD ax 0 - la))
                = denGet env (.slice (.concat a b ax) (ss.map Ix.slc)) i := by
          intro pb
          obtain ⟨rb, hrb, WB⟩ := hR pb
          obtain ⟨shB, ixB⟩ := slice_axis_window hsB WB
          refine ⟨WF_slice.mpr ⟨hb, wfIx_set Int.one_ne_zero (hl.trans ((congrArg List.length hsB).trans (List.length_set ..)).symm) hst⟩, shB, fun i hi hx => ?_⟩
          obtain ⟨hxx, hC⟩ := key i hi
          have hpos : (shape a).getD ax 0 + (rb + (i.getD ax 0 - la)) = lo + i.getD ax 0 := by
            rw [← Nat.add_assoc, hrb, Nat.add_assoc, Nat.add_sub_of_le hx]
          rw [hC, if_neg (Nat.not_lt.mpr (hpos ▸ Nat.le_add_right _ _)), ← hpos, Nat.add_sub_cancel_left]
          exact congrArg (denGet env b) (ixB i _ (Nat.sub_lt_left_of_lt_add hx hxx))
        clear hL hR ixC W
        by_cases hA : start < min stop na
        · rw [if_pos hA] at h
          obtain ⟨wA, shA, dA⟩ := left (iA.mp hA)
          split at h
          · rename_i hB
            obtain ⟨wB, shB, dB⟩ := right (iB.mp hB)
            cases h
            refine ⟨WF_concat.mpr ⟨wA, wB, ?_, ?_, ?_⟩, ?_, fun i hi => ?_⟩
            · rw [shA, List.length_set]; exact hxS
            · rw [shA, shB, List.set_set, List.set_set]
            · exact (sliceChunks_set_axis hsB hchk ss _ _).symm
            · rw [shC]
              simp only [shape] at shA shB ⊢
              rw [shA, shB, List.set_set, getD_set_eq _ _ _ _ hxS, getD_set_eq _ _ _ _ hxS]
            · change (if i.getD ax 0 < (shape (.slice a ia)).getD ax 0 then _ else _) = _
              rw [shA, getD_set_eq _ _ _ _ hxS]
              by_cases hbr : i.getD ax 0 < la
              · rw [if_pos hbr]
                exact dA i hi hbr
              · rw [if_neg hbr]
                exact dB i hi (Nat.le_of_not_lt hbr)
          · rename_i hB
            cases h
            cases Nat.eq_zero_of_not_pos (mt iB.mpr hB)
            exact ⟨wA, shA.trans shC.symm, fun i hi => dA i hi (key i hi).1⟩
        · rw [if_neg hA] at h
          split at h
          · rename_i hB
            obtain ⟨wB, shB, dB⟩ := right (iB.mp hB)
            cases h
            cases Nat.eq_zero_of_not_pos (mt iA.mpr hA)
            refine ⟨wB, shB.trans (by rw [shC, Nat.zero_add]), fun i hi => ?_⟩
            have := dB i hi (Nat.zero_le _)
            rwa [Nat.sub_zero, set_getD_same] at this
          · exact nomatch h
      · rw [if_neg hc] at h
        exact nomatch h
    · exact nomatch h
  · exact nomatch h

theorem rules_sound : ∀ r ∈ rules, Sound r.2 := by
  simp only [rules, List.forall_mem_cons, List.not_mem_nil, false_imp_iff, implies_true, and_true]
  exact ⟨sliceIdentityDrop_sound, sliceSliceFuse_sound, sliceThroughMap_sound,
    sliceThroughZip_sound, sliceThroughTranspose_sound, sliceThroughExpandDims_sound,
    sliceThroughSqueeze_sound, sliceThroughReduce_sound, sliceThroughConcat_sound,
    rechunkNoop_sound, rechunkRechunk_sound, rechunkThroughMap_sound, rechunkThroughZip_sound,
    rechunkThroughTranspose_sound, rechunkThroughExpandDims_sound, rechunkIntoSrc_sound,
    rechunkIntoRegion_sound⟩

theorem step_refines (env : Env) (henv : EnvOK env) (e e' : Expr) (hw : WF e) (h : step e = some e') :
    Refines env e' e := by
  unfold step at h
  obtain ⟨q, hq, rfl⟩ := Option.map_eq_some_iff.mp h
  exact stepWith_sound rules rules_sound env henv e q hw hq

theorem optimize_refines (env : Env) (henv : EnvOK env) (e : Expr) : WF e → Refines env (optimize e) e := by
  fun_induction optimize e with
  | case1 e _ => exact Refines.refl
  | case2 e e' hs ih =>
    intro hw
    have h1 := step_refines env henv e e' hw hs
    exact (ih h1.isWF).trans h1

/-- a sequence of single-rule steps: each step applies ONE rule of `rules ++ extraRules` at the
first position (root first, then the children left to right) where it fires -/
inductive Rewrites : Expr → Expr → Prop
  | refl (e : Expr) : Rewrites e e
  | step {e e'' : Expr} {p : String × Expr} (r : String × (Expr → Option Expr))
      (hr : r ∈ rules ++ extraRules) (h : stepWith [r] e = some p) (t : Rewrites p.2 e'') :
      Rewrites e e''

def trivialEnv : Env := { src := fun _ => ⟨[], fun _ => 0⟩, un := fun _ x => x, bin := fun _ x _ => x }

theorem trivialEnv_ok : EnvOK trivialEnv := fun _ _ _ h => ⟨h, rfl⟩

end Dask.ND
