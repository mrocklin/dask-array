/-
Facts behind C06 and C07 over Model/Names.lean.

C06: equal tokens at a position give equal semantic views at that position (`QAll`, by induction on the node, children
through their names), hence equal names give equal denotations once the semantic positions are among the tokenized
ones (`name_determines_den`); a name-keyed insert-if-absent cache stays sound (`run_sound`); the coverage premise
over the generated table is checked row by row (`rowsCovered`) and lifted to positions (`posOf_subset`).
C07: the pickle round trip carries the token, so names are the same in every process (`reduce_roundtrip`).
C07, in place (end of the file): `CollState` (Model/Names.lean) is `Array.__dict__`, the expression plus the derived
caches.  `replaceExprWith` is the swap done by `Array._replace_expr` (reached from `__setitem__`, ufunc and reduction
`out=`, `compute_chunk_sizes`, the `_chunks` setter) with a choice of which caches are removed; `replaceExpr` removes
all of them, as the source does (Props/C07Inplace.lean).  The three lemmas after it say what a kept cache would show:
the old keys or graph after the swap, and keys that change across a pickle round trip.
-/
import DaskArrayModel.Model.Names
import DaskArrayModel.Lemmas.Assoc
namespace Dask.Lemmas.Names
open Dask.Names

section ND
variable {σ : Type} (T S : Nat → List Nat) (sem : Nat → List (Option (Val σ)) → σ)

theorem denAll_length (n : Node) : (denAll S sem n).length = (encAll T n).length := by
  induction n with
  | nil c => rfl
  | lit v r ih => exact congrArg (· + 1) ih
  | child c r _ ih => exact congrArg (· + 1) ih

theorem den_none_of_enc_none (n : Node) (i : Nat) (h : (encAll T n)[i]? = none) :
    (denAll S sem n)[i]? = none := by
  rw [List.getElem?_eq_none_iff] at h ⊢
  rw [denAll_length T S sem n]; exact h

def QAll (a : Node) : Prop :=
  ∀ (b : Node) (i : Nat), (encAll T a)[i]? = (encAll T b)[i]? → (denAll S sem a)[i]? = (denAll S sem b)[i]?

theorem getElem?_cons_imp {α β : Type} {x y : α} {xs ys : List α} {u v : β} {us vs : List β}
    (hh : x = y → u = v) (ht : ∀ j : Nat, xs[j]? = ys[j]? → us[j]? = vs[j]?) :
    ∀ i : Nat, (x :: xs)[i]? = (y :: ys)[i]? → (u :: us)[i]? = (v :: vs)[i]? := by
  intro i h
  cases i with
  | zero => exact congrArg some (hh (Option.some.inj h))
  | succ j => exact ht j h

variable (pinned : Nat → Bool)

theorem name_den_of_QAll
    (hcov : ∀ c, pinned c = false → ∀ i, i ∈ S c → i ∈ T c)
    (hpin : ∀ a b : Node, pinned a.cls = true → name T a = name T b → den S sem a = den S sem b)
    (a : Node) (hq : QAll T S sem a) (b : Node) (h : name T a = name T b) : den S sem a = den S sem b := by
  cases hp : pinned a.cls with
  | true => exact hpin a b hp h
  | false =>
    injection h with hcls hsel
    unfold den
    rw [← hcls]
    rw [← hcls] at hsel
    congr 1
    unfold sel at hsel ⊢
    rw [List.map_inj_left] at hsel ⊢
    intro i hi
    exact hq b i (hsel i (hcov _ hp i hi))

theorem QAll_all
    (hcov : ∀ c, pinned c = false → ∀ i, i ∈ S c → i ∈ T c)
    (hpin : ∀ a b : Node, pinned a.cls = true → name T a = name T b → den S sem a = den S sem b)
    (a : Node) : QAll T S sem a := by
  -- against an operand-free `b` (or from an operand-free `a`) both sides are out of range
  have hnil : ∀ (a b : Node) (i : Nat), (encAll T a)[i]? = (encAll T b)[i]? → (encAll T b)[i]? = none →
      (denAll S sem a)[i]? = (denAll S sem b)[i]? := fun a b i h hb => by
    rw [den_none_of_enc_none T S sem b i hb, den_none_of_enc_none T S sem a i (h.trans hb)]
  induction a with
  | nil c => exact fun b i h => (hnil b (.nil c) i h.symm rfl).symm
  | lit v r ih =>
    intro b i h
    cases b with
    | nil c => exact hnil _ _ i h rfl
    | lit w r' => exact getElem?_cons_imp (fun e => by rw [Token.lit.inj e]) (ih r') i h
    | child c' r' => exact getElem?_cons_imp Token.noConfusion (ih r') i h
  | child c r ihc ihr =>
    intro b i h
    cases b with
    | nil c0 => exact hnil _ _ i h rfl
    | lit w r' => exact getElem?_cons_imp Token.noConfusion (ihr r') i h
    | child c' r' =>
      rw [encAll_child, encAll_child] at h
      rw [denAll_child, denAll_child]
      exact getElem?_cons_imp (fun e => by rw [name_den_of_QAll T S sem pinned hcov hpin c ihc c' e]) (ihr r') i h

/-- with coverage for unpinned classes and the registry hypothesis for pinned ones,
    equal names denote equal arrays, for nodes of any depth. -/
theorem name_determines_den
    (hcov : ∀ c, pinned c = false → ∀ i, i ∈ S c → i ∈ T c)
    (hpin : ∀ a b : Node, pinned a.cls = true → name T a = name T b → den S sem a = den S sem b)
    (a b : Node) (h : name T a = name T b) : den S sem a = den S sem b :=
  name_den_of_QAll T S sem pinned hcov hpin a (QAll_all T S sem pinned hcov hpin a) b h

end ND

section Cache
variable {κ ν σ : Type} [DecidableEq κ] (nm : ν → κ) (dn : ν → σ) (lower : ν → ν)

def CacheSound (cache : List (κ × ν)) : Prop :=
  ∀ k v, (k, v) ∈ cache → ∀ n, nm n = k → dn v = dn n

theorem lookup_mem (cache : List (κ × ν)) (k : κ) (v : ν) (h : cacheLookup cache k = some v) : (k, v) ∈ cache :=
  Dask.Assoc.mem_of_lookup
    ((Dask.Assoc.eq_lookup cacheLookup (fun _ => rfl) (fun _ _ _ _ => rfl) cache k).symm.trans h)

theorem step_sound
    (hnd : ∀ a b, nm a = nm b → dn a = dn b) (hlow : ∀ n, dn (lower n) = dn n)
    (cache : List (κ × ν)) (hs : CacheSound nm dn cache) (n : ν) :
    CacheSound nm dn (cacheStep nm lower cache n).1 ∧ dn (cacheStep nm lower cache n).2 = dn n := by
  unfold cacheStep
  cases hl : cacheLookup cache (nm n) with
  | some v =>
    exact ⟨hs, hs _ _ (lookup_mem cache (nm n) v hl) n rfl⟩
  | none =>
    refine ⟨?_, hlow n⟩
    intro k v hm m hmk
    rcases List.mem_cons.mp hm with h | h
    · injection h with h1 h2
      subst h2
      rw [hlow n]
      exact hnd n m (by rw [hmk, h1])
    · exact hs k v h m hmk

theorem run_sound
    (hnd : ∀ a b, nm a = nm b → dn a = dn b) (hlow : ∀ n, dn (lower n) = dn n)
    (hist : List ν) : ∀ (cache : List (κ × ν)), CacheSound nm dn cache →
      CacheSound nm dn (cacheRun nm lower cache hist).1 ∧
      ∀ p, p ∈ (cacheRun nm lower cache hist).2 → dn p.2 = dn p.1 := by
  induction hist with
  | nil => intro cache hs; exact ⟨hs, fun p hp => absurd hp List.not_mem_nil⟩
  | cons n rest ih =>
    intro cache hs
    have h1 := step_sound nm dn lower hnd hlow cache hs n
    have h2 := ih (cacheStep nm lower cache n).1 h1.1
    refine ⟨h2.1, ?_⟩
    intro p hp
    rcases List.mem_cons.mp hp with h | h
    · subst h; exact h1.2
    · exact h2.2 p h

end Cache

/-- positions (in `ps ++ ["*"]`) of the operand names listed in `names` -/
def posOf (ps names : List String) : List Nat :=
  (List.range (ps.length + 1)).filter (fun j => names.contains ((ps ++ ["*"]).getD j ""))

theorem posOf_subset (ps s t : List String) (h : ∀ p, p ∈ s → p ∈ t) :
    ∀ i, i ∈ posOf ps s → i ∈ posOf ps t := by
  intro i hi
  unfold posOf at hi ⊢
  rw [List.mem_filter, List.contains_iff_mem] at hi ⊢
  exact ⟨hi.1, h _ hi.2⟩

/-- the coverage obligation checked row by row, walking the class / tokenized / semantic tables in parallel
(indexing each table by `i < classes.length` instead makes the kernel walk to row `i` once more for every row):
every semantic operand of a class is tokenized or a listed exception, or the class is opted out -/
def rowsCovered (exc : List (String × String)) (out : List String) :
    List String → List (List String) → List (List String) → Bool
  | c :: cs, t :: ts, s :: ss =>
    (s.all (fun p => t.contains p || exc.contains (c, p)) || out.contains c) && rowsCovered exc out cs ts ss
  | [], _, _ => true
  | _ :: _, _, _ => false

theorem rowsCovered_sound {exc : List (String × String)} {out : List String}
    {cls : List String} {tok sem : List (List String)} (h : rowsCovered exc out cls tok sem = true)
    (i : Nat) (hi : i < cls.length) :
    (sem.getD i []).all (fun p => (tok.getD i []).contains p || exc.contains (cls.getD i "", p)) = true ∨
      out.contains (cls.getD i "") = true := by
  induction cls generalizing tok sem i with
  | nil => exact absurd hi (Nat.not_lt_zero _)
  | cons c cs ih =>
    cases tok with
    | nil => nomatch h
    | cons t ts =>
      cases sem with
      | nil => nomatch h
      | cons s ss =>
        obtain ⟨h0, hr⟩ := Bool.and_eq_true_iff.mp h
        cases i with
        | zero => exact Bool.or_eq_true_iff.mp h0
        | succ i => exact ih hr i (Nat.lt_of_succ_lt_succ hi)

theorem roundtripWith_shape (e : Nat) (t : Option PTok) (n : PNode) :
    (roundtripWith e t n).cls = n.cls ∧ (roundtripWith e t n).arity = n.arity ∧
    (roundtripWith e t n).carried = t := by
  induction n with
  | nil c t0 => exact ⟨rfl, rfl, rfl⟩
  | lit s v r ih => exact ⟨ih.1, congrArg (· + 1) ih.2.1, ih.2.2⟩
  | child c r _ ih => exact ⟨ih.1, congrArg (· + 1) ih.2.1, ih.2.2⟩

theorem detToken_roundtrip (e₁ e₂ : Nat) (n : PNode) : detToken e₂ (roundtrip e₁ n) = detToken e₁ n := by
  obtain ⟨_, _, hcarried⟩ := roundtripWith_shape e₁ (some (detToken e₁ n)) n
  rw [detToken, roundtrip, hcarried]
  rfl

/-- the pickled-and-rebuilt node has, in ANY process, the name it had where it was pickled -/
theorem reduce_roundtrip (e₁ e₂ : Nat) (n : PNode) : nameEnv e₂ (roundtrip e₁ n) = nameEnv e₁ n := by
  unfold nameEnv
  rw [detToken_roundtrip]
  obtain ⟨hcls, _, _⟩ := roundtripWith_shape e₁ (some (detToken e₁ n)) n
  unfold roundtrip
  rw [hcls]

theorem allNames_roundtripWith (e₁ e₂ : Nat) (n : PNode) :
    ∀ t, allNames e₂ (roundtripWith e₁ t n) = allNames e₁ n := by
  induction n with
  | nil c t0 => intro t; rfl
  | lit s v r ih => exact ih
  | child c r ihc ihr =>
    intro t
    show (nameEnv e₂ (roundtrip e₁ c) :: allNames e₂ (roundtripWith e₁ _ c)) ++ allNames e₂ (roundtripWith e₁ t r) =
      (nameEnv e₁ c :: allNames e₁ c) ++ allNames e₁ r
    rw [reduce_roundtrip, ihc, ihr]

/-- the operand tokens of a stable node (no unstable operand that a carried token does not shield) are the same in every
process; for the name itself see `C07_name_env_indep` -/
theorem ptokAll_env_indep (e₁ e₂ : Nat) (n : PNode) (h : stable n = true) : ptokAll e₁ n = ptokAll e₂ n := by
  induction n with
  | nil c t => rfl
  | lit s v r ih =>
    cases s with
    | true => exact congrArg (PTok.lit v :: ·) (ih h)
    | false => exact absurd h Bool.false_ne_true
  | child c r ihc ihr =>
    obtain ⟨hc, hr⟩ := Bool.and_eq_true_iff.mp h
    rw [ptokAll_child, ptokAll_child, ihr hr]
    unfold nameEnv detToken
    cases hcar : c.carried with
    | some t => rfl
    | none => rw [ihc ((Bool.or_eq_true_iff.mp hc).resolve_left (by simp [hcar]))]

end Dask.Lemmas.Names

namespace Dask.Names

/-- `Array(e)`: a collection nobody has looked at -/
def freshColl {ε γ κ : Type} (e : ε) : CollState ε γ κ :=
  { expr := e, lowered := none, keys := none, optimizeFlag := none }

/-- in-place swap that removes the selected caches (`dropL`: `_lowered_expr`, `dropK`: `_cached_dask_keys`,
    `dropF`: `_lowered_expr_optimize_graph`) -/
def replaceExprWith {ε γ κ : Type} (dropL dropK dropF : Bool) (s : CollState ε γ κ) (e' : ε) : CollState ε γ κ :=
  { expr := e',
    lowered := if dropL then none else s.lowered,
    keys := if dropK then none else s.keys,
    optimizeFlag := if dropF then none else s.optimizeFlag }

/-- `Array._replace_expr(e')` -/
def replaceExpr {ε γ κ : Type} (s : CollState ε γ κ) (e' : ε) : CollState ε γ κ :=
  replaceExprWith true true true s e'

end Dask.Names

namespace Dask.Lemmas.Names
open Dask.Names

theorem replaceExprWith_keepKeys_stale {ε γ κ : Type} (materialize : ε → Bool → γ) (keysOf : ε → κ) (dflt : Bool)
    (dropL dropF : Bool) (s : CollState ε γ κ) (e' : ε) (k : κ) (hk : s.keys = some k) :
    (observe materialize keysOf dflt (replaceExprWith dropL false dropF s e')).2.2 = k := by
  simp [observe, replaceExprWith, hk]

theorem replaceExprWith_keepKeys_pickle {ε γ κ : Type} (materialize : ε → Bool → γ) (keysOf : ε → κ) (dflt : Bool)
    (dropL dropF : Bool) (s : CollState ε γ κ) (e' : ε) :
    (observe materialize keysOf dflt (setstate (getstate (replaceExprWith dropL false dropF s e')))).2.2 = keysOf e' := by
  simp [observe, replaceExprWith, setstate, getstate]

theorem replaceExprWith_keepLowered_stale {ε γ κ : Type} (materialize : ε → Bool → γ) (keysOf : ε → κ) (dflt : Bool)
    (dropK dropF : Bool) (s : CollState ε γ κ) (e' : ε) (g : γ) (hg : s.lowered = some g) :
    (observe materialize keysOf dflt (replaceExprWith false dropK dropF s e')).2.1 = g := by
  simp [observe, replaceExprWith, hg]

end Dask.Lemmas.Names
