/-
`kernel_decide`: close a closed decidable goal `p` with `of_decide_eq_true (Eq.refl true)`, checked by the KERNEL
only — exactly the proof `decide +kernel` produces on success.  The difference is the failure path: `decide +kernel`
re-evaluates the `Decidable` instance with the elaborator's `whnf` to explain the failure — lazily, while rendering
the error message, outside every heartbeat limit — which does not terminate in practice on the large tables (the
import / call graph of Generated/ImportGraph.lean, Generated/NameTables.lean): the obligations over those use
`kernel_decide`.  The tables are regenerated from /repo on every check run, and a table that breaks an obligation is
the case the check exists for: it must fail fast, so a failure is simply reported.  The obligations over the short
tables (`configReads` in Props/C09, `sites` in Props/C29, `entryPointGroups` in Props/C26: some tens of rows) are
plain `decide +kernel`: falsified, each of them is reported at once.
Nothing is trusted: the proof is an auxiliary lemma type-checked by the kernel (`#print axioms` shows none).
-/
import Lean.Elab.Tactic.ElabTerm
import Lean.Meta.Tactic.AuxLemma
namespace Dask.KernelDecide
open Lean Elab Tactic Meta

elab "kernel_decide" : tactic =>
  closeMainGoalUsing `kernel_decide fun expectedType _ => do
    let expectedType ← instantiateMVars expectedType
    if expectedType.hasFVar || expectedType.hasMVar then
      throwError "kernel_decide: the goal must be closed (no local variables / metavariables){indentExpr expectedType}"
    let pf ← mkDecideProof expectedType
    try
      let lemmaName ← withOptions (Elab.async.set · false) do mkAuxLemma [] expectedType pf
      return mkConst lemmaName
    catch _ =>
      throwError "kernel_decide: the kernel did not evaluate the Decidable instance of the goal to `isTrue` (the proposition is false, or does not reduce){indentExpr expectedType}"

end Dask.KernelDecide
