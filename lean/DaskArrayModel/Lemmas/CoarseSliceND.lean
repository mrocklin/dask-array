/-
n-d lift of the coarse slice pushdown: every object of Model/CoarseSlice.lean is a `zipWith` over axes, so the lift is a
list induction over `acceptAxis_sound` (positions) and over the operand axes (blocks the tasks receive).  The loops
that may bail out (`axisPlans`, `opAxesSlices`, `mapOpt`) are read, where they succeed, as relations between their
lists (`ZipSome`, `MapSome`), and every lift is an induction on such a relation.  What one operand axis can do, without
and with the running `label_chunks`, is listed once (`AxisStep`).
-/
import DaskArrayModel.Lemmas.CoarseSliceAxis
namespace Dask.Lemmas.Coarse
open Dask.Py Dask.Py.PySlice Dask.Slicing Dask.Coarse
open Dask.Lemmas.Slice1dPos

def dfltPlan : AxisPlan := ⟨none, .colon⟩

inductive ZipSome {α β γ : Type} (f : α → β → Option γ) : List α → List β → List γ → Prop
  | left (ys : List β) : ZipSome f [] ys []
  | right (xs : List α) : ZipSome f xs [] []
  | cons {x xs y ys z zs} : f x y = some z → ZipSome f xs ys zs → ZipSome f (x :: xs) (y :: ys) (z :: zs)

theorem axisPlans_zip {oc : List (List Int)} {idx : List Idx} {plans : List AxisPlan}
    (h : axisPlans oc idx = some plans) : ZipSome acceptAxis oc idx plans := by
  induction oc generalizing idx plans with
  | nil => exact Option.some.inj h ▸ .left _
  | cons c cs ih =>
    cases idx with
    | nil => exact Option.some.inj h ▸ .right _
    | cons i is =>
      change (match acceptAxis c i with | none => none | some p => (axisPlans cs is).map (p :: ·)) = _ at h
      split at h
      · exact nomatch h
      · next p hp =>
        obtain ⟨ps, hps, rfl⟩ := Option.map_eq_some_iff.mp h
        exact .cons hp (ih hps)

inductive MapSome {α β : Type} (f : α → Option β) : List α → List β → Prop
  | nil : MapSome f [] []
  | cons {x xs y ys} : f x = some y → MapSome f xs ys → MapSome f (x :: xs) (y :: ys)

theorem mapOpt_cons {α β : Type} (f : α → Option β) (x : α) (xs : List α) :
    mapOpt f (x :: xs) = match f x with | none => none | some y => (mapOpt f xs).map (y :: ·) := rfl

theorem mapOpt_map_some {α' α β : Type} {f : α → Option β} {g : α' → α} {xs : List α'} {ys : List β}
    (h : mapOpt f (xs.map g) = some ys) : MapSome (fun x => f (g x)) xs ys := by
  induction xs generalizing ys with
  | nil => exact Option.some.inj h ▸ .nil
  | cons x xs ih =>
    rw [List.map_cons, mapOpt_cons] at h
    split at h
    · exact nomatch h
    · next y hy =>
      obtain ⟨ys, hys, rfl⟩ := Option.map_eq_some_iff.mp h
      exact .cons hy (ih hys)

theorem mapOpt_some {α β : Type} {f : α → Option β} {xs : List α} {ys : List β} (h : mapOpt f xs = some ys) :
    MapSome f xs ys :=
  mapOpt_map_some (g := id) ((List.map_id xs).symm ▸ h)

theorem ZipSome.mem {α β γ : Type} {f : α → β → Option γ} {xs : List α} {ys : List β} {zs : List γ}
    (w : ZipSome f xs ys zs) {q : α × β} (hq : q ∈ xs.zip ys) : ∃ z, f q.1 q.2 = some z := by
  induction w with
  | left _ => exact nomatch hq
  | right _ => simp at hq
  | cons hz _ ih =>
    rcases List.mem_cons.mp hq with rfl | hq
    · exact ⟨_, hz⟩
    · exact ih hq

/-- the plan of the output axis that carries label `lab`; nothing is cut along a contracted label -/
def labelPlan (outInd : List Nat) (plans : List AxisPlan) (lab : Nat) : AxisPlan :=
  if outInd.contains lab then plans.getD (outInd.idxOf lab) ⟨none, .colon⟩ else ⟨none, .colon⟩

theorem labelPlan_cons (l0 : Nat) (ls : List Nat) (p : AxisPlan) (ps : List AxisPlan) (l : Nat) :
    labelPlan (l0 :: ls) (p :: ps) l = if l0 = l then p else labelPlan ls ps l := by
  unfold labelPlan
  rw [List.contains_cons, List.idxOf_cons]
  by_cases h : l0 = l
  · subst h
    rw [beq_self_eq_true, Bool.true_or, if_pos rfl, if_pos rfl, cond_true, List.getD_cons_zero]
  · rw [beq_false_of_ne h, beq_false_of_ne (Ne.symm h), Bool.false_or, if_neg h, cond_false, List.getD_cons_succ]

theorem opAxisSlice_eq (outInd : List Nat) (plans : List AxisPlan) (nb : List Nat) (lab : Nat) (ic : List Int) :
    opAxisSlice outInd plans nb lab ic =
      match (labelPlan outInd plans lab).br with
      | none => some none
      | some (f, l) =>
        if ic.length ≠ nb.getD (outInd.idxOf lab) 0 then none
        else if ic.contains 0 then none
        else some (some ((cum0 ic).getD f 0, (cum0 ic).getD (l + 1) 0)) := by
  unfold opAxisSlice labelPlan
  cases outInd.contains lab
  · rfl
  · rfl

theorem keepsAxis_eq (outInd : List Nat) (plans : List AxisPlan) (lab : Nat) (ic : List Int) :
    keepsAxis outInd plans lab ic =
      match (labelPlan outInd plans lab).br with
      | none => true
      | some (f, l) => sliceKeeps ic f l := by
  unfold keepsAxis labelPlan
  cases outInd.contains lab
  · rfl
  · rfl

/-- what `opAxisSlice` (first index) and `opAxisSliceS` with the running `label_chunks` `lc` (second index: slice and
the new `lc`, `none` = decline) return on one operand axis `lab` with chunks `ic` -/
inductive AxisStep (outInd : List Nat) (plans : List AxisPlan) (nb : List Nat) (lc : LabelChunks) (lab : Nat)
    (ic : List Int) : Option (Option (Int × Int)) → Option (Option (Int × Int) × LabelChunks) → Prop
  | uncut : (labelPlan outInd plans lab).br = none → AxisStep outInd plans nb lc lab ic (some none) (some (none, lc))
  | broadcast (f l : Nat) : (labelPlan outInd plans lab).br = some (f, l) →
      ic.length ≠ nb.getD (outInd.idxOf lab) 0 → AxisStep outInd plans nb lc lab ic none none
  | zero (f l : Nat) : (labelPlan outInd plans lab).br = some (f, l) → ic.length = nb.getD (outInd.idxOf lab) 0 →
      ic.contains 0 = true → AxisStep outInd plans nb lc lab ic none none
  | cut (f l : Nat) (b : Option (Option (Int × Int) × LabelChunks)) :
      (labelPlan outInd plans lab).br = some (f, l) → ic.length = nb.getD (outInd.idxOf lab) 0 →
      ic.contains 0 = false →
      ((∃ ref, lc.lookup lab = some ref ∧ ref ≠ ic ∧ b = none) ∨
       (lc.lookup lab = some ic ∧ b = some (some ((cum0 ic).getD f 0, (cum0 ic).getD (l + 1) 0), lc)) ∨
       (lc.lookup lab = none ∧ b = some (some ((cum0 ic).getD f 0, (cum0 ic).getD (l + 1) 0), (lab, ic) :: lc))) →
      AxisStep outInd plans nb lc lab ic (some (some ((cum0 ic).getD f 0, (cum0 ic).getD (l + 1) 0))) b

theorem axisStep (outInd : List Nat) (plans : List AxisPlan) (nb : List Nat) (lc : LabelChunks) (lab : Nat)
    (ic : List Int) :
    AxisStep outInd plans nb lc lab ic (opAxisSlice outInd plans nb lab ic) (opAxisSliceS outInd plans nb lc lab ic) := by
  unfold opAxisSliceS
  rw [opAxisSlice_eq]
  cases hbr : (labelPlan outInd plans lab).br with
  | none => exact .uncut hbr
  | some fl =>
    obtain ⟨f, l⟩ := fl
    simp only
    by_cases hg : ic.length ≠ nb.getD (outInd.idxOf lab) 0
    · rw [if_pos hg]
      exact .broadcast f l hbr hg
    · rw [if_neg hg]
      by_cases hz : ic.contains 0 = true
      · rw [if_pos hz]
        exact .zero f l hbr (Decidable.of_not_not hg) hz
      · rw [if_neg hz]
        refine .cut f l _ hbr (Decidable.of_not_not hg) (Bool.eq_false_iff.mpr hz) ?_
        cases hl : lc.lookup lab with
        | none => exact Or.inr (Or.inr ⟨rfl, rfl⟩)
        | some ref =>
          simp only
          by_cases hr : ref ≠ ic
          · rw [if_pos hr]
            exact Or.inl ⟨ref, rfl, hr, rfl⟩
          · rw [if_neg hr, Decidable.of_not_not hr]
            exact Or.inr (Or.inl ⟨rfl, rfl⟩)

theorem opAxisSlice_some {outInd : List Nat} {plans : List AxisPlan} {nb : List Nat} {lab : Nat} {ic : List Int}
    {s : Option (Int × Int)} (h : opAxisSlice outInd plans nb lab ic = some s) :
    ((labelPlan outInd plans lab).br = none ∧ s = none) ∨
    ∃ f l, (labelPlan outInd plans lab).br = some (f, l) ∧ ic.length = nb.getD (outInd.idxOf lab) 0 ∧
      ic.contains 0 = false ∧ s = some ((cum0 ic).getD f 0, (cum0 ic).getD (l + 1) 0) := by
  have st := axisStep outInd plans nb [] lab ic
  rw [h] at st
  generalize opAxisSliceS outInd plans nb [] lab ic = b at st
  cases st with
  | uncut hbr => exact Or.inl ⟨hbr, rfl⟩
  | cut f l _ hbr hg hz _ => exact Or.inr ⟨f, l, hbr, hg, hz, rfl⟩

theorem opAxesSlices_zip {outInd : List Nat} {plans : List AxisPlan} {nb : List Nat}
    {ind : List Nat} {chunks : List (List Int)} {sl : List (Option (Int × Int))}
    (h : opAxesSlices outInd plans nb ind chunks = some sl) : ZipSome (opAxisSlice outInd plans nb) ind chunks sl := by
  induction ind generalizing chunks sl with
  | nil => exact Option.some.inj h ▸ .left _
  | cons l ls ih =>
    cases chunks with
    | nil => exact Option.some.inj h ▸ .right _
    | cons ic ics =>
      change (match opAxisSlice outInd plans nb l ic with
        | none => none
        | some s => (opAxesSlices outInd plans nb ls ics).map (s :: ·)) = _ at h
      split at h
      · exact nomatch h
      · next s hs =>
        obtain ⟨ss, hss, rfl⟩ := Option.map_eq_some_iff.mp h
        exact .cons hs (ih hss)

theorem opSlice_cases (outInd : List Nat) (plans : List AxisPlan) (nb : List Nat) (o : Opd)
    (r : Option (List (Option (Int × Int)))) (h : opSlice outInd plans nb o = some r) :
    (o.ind = none ∧ r = none) ∨
    (∃ ind sl, o.ind = some ind ∧ r = some sl ∧ opAxesSlices outInd plans nb ind o.chunks = some sl) := by
  unfold opSlice at h
  split at h
  · rename_i hi
    exact Or.inl ⟨hi, (Option.some.inj h).symm⟩
  · rename_i ind hi
    split at h
    · exact nomatch h
    · obtain ⟨sl, hsl, rfl⟩ := Option.map_eq_some_iff.mp h
      exact Or.inr ⟨ind, sl, hi, rfl, hsl⟩

theorem acceptCoarse0_some {n : Node} {oc : List (List Int)} {idx : List Idx} {r : Result}
    (h : acceptCoarse0 n oc idx = some r) :
    axisPlans oc (fullIndex idx n.outInd.length) = some r.plans ∧
    mapOpt (opSlice n.outInd r.plans (oc.map List.length)) n.ops = some r.opSlices ∧
    r.adjust = sliceAdjust n.outInd r.plans n.adjust := by
  unfold acceptCoarse0 at h
  split at h
  · exact nomatch h
  · rename_i plans hp
    split at h
    · exact nomatch h
    · rename_i sl hs
      have hr := Option.some.inj h
      subst hr
      exact ⟨hp, hs, rfl⟩

theorem chunkPairs_cons (o : Opd) (os : List Opd) :
    chunkPairs (o :: os) = (match o.ind with | none => [] | some ind => ind.zip o.chunks) ++ chunkPairs os := by
  rfl

def firsts (plans : List AxisPlan) : List Nat := plans.map first1

theorem idxsOK_cons {c : List Int} {cs : List (List Int)} {i : Idx} {is : List Idx}
    (h : idxsOK (c :: cs) (i :: is) = true) : idxOK (isum c) i = true ∧ idxsOK cs is = true :=
  Bool.and_eq_true_iff.mp h

theorem inSels_cons {c : List Int} {cs : List (List Int)} {i : Idx} {is : List Idx} {q : Nat} {qs : List Nat}
    (h : inSels (c :: cs) (i :: is) (q :: qs) = true) : inSel (isum c) i q = true ∧ inSels cs is qs = true :=
  Bool.and_eq_true_iff.mp h

theorem keepsAll_cons {outInd : List Nat} {plans : List AxisPlan} {o : Opd} {os : List Opd} :
    keepsAll outInd plans (o :: os) = true ↔
      (match o.ind with
        | none => true
        | some ind => (ind.zip o.chunks).all (fun p => keepsAxis outInd plans p.1 p.2)) = true ∧
      keepsAll outInd plans os = true :=
  Bool.and_eq_true_iff

theorem keptOut_cons (c : List Int) (cs : List (List Int)) (p : AxisPlan) (ps : List AxisPlan) :
    keptOut (c :: cs) (p :: ps) = keptOut1 c p :: keptOut cs ps := rfl

theorem locate_cons (c : List Int) (cs : List (List Int)) (i : Idx) (is : List Idx) (q : Nat) (qs : List Nat) :
    locate (c :: cs) (srcPos ((c :: cs).map isum) (i :: is) (q :: qs))
      = slice1dInt c (srcPos1 (isum c) i q) :: locate cs (srcPos (cs.map isum) is qs) := rfl

/-- weaker than `PlanOK`, which also places the selection inside the kept range -/
def PlansOK (plans : List AxisPlan) (nb : List Nat) : Prop :=
  ∀ pos f l, (plans.getD pos dfltPlan).br = some (f, l) → f ≤ l ∧ l < nb.getD pos 0

theorem plans_ok (oc : List (List Int)) (idx : List Idx) (plans : List AxisPlan)
    (hnn : ∀ cs ∈ oc, ∀ c ∈ cs, 0 ≤ c) (w : ZipSome acceptAxis oc idx plans) (hok : idxsOK oc idx = true) :
    PlansOK plans (oc.map List.length) ∧ plans.length = min oc.length idx.length := by
  induction w with
  | left _ => exact ⟨fun pos f l hbr => (nomatch hbr), (Nat.zero_min _).symm⟩
  | right _ => exact ⟨fun pos f l hbr => (nomatch hbr), (Nat.min_zero _).symm⟩
  | @cons c cs i is p ps hp _ ih =>
    have hok := idxsOK_cons hok
    obtain ⟨ih1, ih2⟩ := ih (fun cs' h' => hnn cs' (List.mem_cons_of_mem _ h')) hok.2
    have hb := (acceptAxis_planOK c (hnn c List.mem_cons_self) i hok.1 p hp).ok
    refine ⟨?_, by rw [List.length_cons, List.length_cons, List.length_cons, ih2, Nat.succ_min_succ]⟩
    intro pos f l hbr
    cases pos with
    | zero => exact hb f l hbr
    | succ pos => exact ih1 pos f l hbr

/-- `bid'` is a block id in the grid of KEPT blocks: along a cut axis it counts from the first kept block and stays
within the kept range -/
def Bounded (plans : List AxisPlan) (nb : List Nat) (bid' : List Nat) : Prop :=
  PlansOK plans nb ∧ ∀ pos f l, (plans.getD pos ⟨none, .colon⟩).br = some (f, l) → bid'.getD pos 0 ≤ l - f

/-- `L` (block, offset per axis, found in the kept blocks under the top adjustment) against locating the same result
coordinate `q` in all blocks under the index: same offsets, block numbers shifted by the first kept block -/
structure Located (oc : List (List Int)) (idx : List Idx) (plans : List AxisPlan) (q : List Nat)
    (L : List (Nat × Int)) : Prop where
  length : (L.map (·.1)).length = plans.length
  offsets : (locate oc (srcPos (oc.map isum) idx q)).map (·.2) = L.map (·.2)
  blocks : (locate oc (srcPos (oc.map isum) idx q)).map (·.1) = List.zipWith (· + ·) (L.map (·.1)) (firsts plans)
  within : ∀ pos f l, (plans.getD pos ⟨none, .colon⟩).br = some (f, l) → (L.map (·.1)).getD pos 0 ≤ l - f

theorem locate_nd (oc : List (List Int)) (idx : List Idx) (plans : List AxisPlan) (q : List Nat)
    (hnn : ∀ cs ∈ oc, ∀ c ∈ cs, 0 ≤ c) (w : ZipSome acceptAxis oc idx plans)
    (hok : idxsOK oc idx = true) (hin : inSels oc idx q = true) (hi : idx.length = oc.length)
    (hq : q.length = oc.length) :
    Located oc idx plans q
      (locate (keptOut oc plans) (srcPos ((keptOut oc plans).map isum) (plans.map (·.adj.toIdx)) q)) := by
  induction w generalizing q with
  | left _ => exact ⟨rfl, rfl, rfl, fun pos f l hbr => nomatch hbr⟩
  | right oc =>
    obtain rfl := List.eq_nil_of_length_eq_zero hi.symm
    exact ⟨rfl, rfl, rfl, fun pos f l hbr => nomatch hbr⟩
  | @cons c cs i is p ps hp _ ih =>
    cases q with
    | nil => exact nomatch hq
    | cons q0 qs =>
      have hok := idxsOK_cons hok
      have hin := inSels_cons hin
      have ih := ih qs (fun cs' h' => hnn cs' (List.mem_cons_of_mem _ h')) hok.2 hin.2
        (Nat.succ.inj hi) (Nat.succ.inj hq)
      obtain ⟨_, a2, a3, a4⟩ := acceptAxis_sound c (hnn c List.mem_cons_self) i hok.1 p hp q0 hin.1
      rw [keptOut_cons, List.map_cons (l := ps), locate_cons]
      refine ⟨?_, ?_, ?_, fun pos f l hbr => ?_⟩
      · rw [List.map_cons, List.length_cons, List.length_cons, ih.length]
      · rw [locate_cons, List.map_cons, List.map_cons, a3, ih.offsets]
      · rw [locate_cons, List.map_cons, List.map_cons, a2, ih.blocks]
        rfl
      · cases pos with
        | zero => exact a4 f l hbr
        | succ pos => exact ih.within pos f l hbr

theorem getD_add_firsts : ∀ (bid' : List Nat) (plans : List AxisPlan) (pos : Nat), bid'.length = plans.length →
    (List.zipWith (· + ·) bid' (firsts plans)).getD pos 0 = bid'.getD pos 0 + first1 (plans.getD pos ⟨none, .colon⟩)
  | [], [], _, _ => rfl
  | _ :: _, _ :: _, 0, _ => rfl
  | _ :: bs, _ :: ps, pos + 1, h => getD_add_firsts bs ps pos (Nat.succ.inj h)
  | [], _ :: _, _, h => nomatch h
  | _ :: _, [], _, h => nomatch h

theorem labelPlan_ok {outInd : List Nat} {plans : List AxisPlan} {nb : List Nat} (hpok : PlansOK plans nb) (lab : Nat) :
    brOK (nb.getD (outInd.idxOf lab) 0) (labelPlan outInd plans lab) := by
  unfold labelPlan
  split
  · exact hpok _
  · exact fun _ _ e => nomatch e

theorem opAxis_kept {outInd : List Nat} {plans : List AxisPlan} {nb : List Nat} (hpok : PlansOK plans nb) {lab : Nat}
    {ic : List Int} {s : Option (Int × Int)} (hs : opAxisSlice outInd plans nb lab ic = some s)
    (hk : keepsAxis outInd plans lab ic = true) :
    brOK ic.length (labelPlan outInd plans lab) ∧
    opChunksAfter ic s = keptOut1 ic (labelPlan outInd plans lab) ∧
    (s.map (·.1)).getD 0 = blockStart ic (first1 (labelPlan outInd plans lab)) := by
  have hb := labelPlan_ok (outInd := outInd) hpok lab
  rw [keepsAxis_eq] at hk
  unfold keptOut1 first1
  rcases opAxisSlice_some hs with ⟨hbr, rfl⟩ | ⟨f, l, hbr, hg, _, rfl⟩
  · rw [hbr]
    exact ⟨fun _ _ e => by rw [hbr] at e; exact (nomatch e), rfl, rfl⟩
  · rw [hbr] at hk ⊢
    rw [← hg] at hb
    exact ⟨hb, of_decide_eq_true hk, cum0_getD ic f (by have := hb f l hbr; omega)⟩

/-- one operand axis with label `l`, task coordinate `bid'` in the grid of kept blocks (`c` along a contracted label):
the block the task receives from the sliced operand has the extent of block `bid' + first kept` of the unsliced one,
and its start plus the slice offset is that block's start -/
theorem slicedBlock_axis (outInd : List Nat) (plans : List AxisPlan) (nb : List Nat) (bid' : List Nat)
    (hlen : bid'.length = plans.length) (hB : Bounded plans nb bid')
    (l : Nat) (ic : List Int) (s : Option (Int × Int))
    (hs : opAxisSlice outInd plans nb l ic = some s) (hk : keepsAxis outInd plans l ic = true) (c : Nat) :
    (opChunksAfter ic s).getD (if outInd.contains l then bid'.getD (outInd.idxOf l) 0 else c) 0
      = ic.getD (if outInd.contains l then (List.zipWith (· + ·) bid' (firsts plans)).getD (outInd.idxOf l) 0 else c) 0 ∧
    blockStart (opChunksAfter ic s) (if outInd.contains l then bid'.getD (outInd.idxOf l) 0 else c)
        + (s.map (·.1)).getD 0
      = blockStart ic (if outInd.contains l then (List.zipWith (· + ·) bid' (firsts plans)).getD (outInd.idxOf l) 0
          else c) := by
  obtain ⟨hb, e1, e2⟩ := opAxis_kept hB.1 hs hk
  -- the task's coordinate along the label moves by the number of the first kept block
  have hc : (if outInd.contains l then (List.zipWith (· + ·) bid' (firsts plans)).getD (outInd.idxOf l) 0 else c)
      = (if outInd.contains l then bid'.getD (outInd.idxOf l) 0 else c) + first1 (labelPlan outInd plans l) := by
    rw [getD_add_firsts bid' plans _ hlen]
    unfold labelPlan
    split
    · rfl
    · rfl
  rw [hc, e1, e2]
  refine keptOut1_block ic _ hb _ (fun f l2 e => ?_)
  unfold labelPlan at e
  split at e
  · rename_i h; rw [if_pos h]; exact hB.2 _ f l2 e
  · exact nomatch e

theorem opCoords_cons (outInd bid : List Nat) (l : Nat) (ls cc : List Nat) : opCoords outInd bid (l :: ls) cc =
    (if outInd.contains l then bid.getD (outInd.idxOf l) 0 else cc.headD 0) :: opCoords outInd bid ls cc.tail := rfl

/-- `slicedBlock_axis` along all axes of an operand: the shape of the received block, and the global start of each of
its local positions `loc` -/
theorem slicedBlock_axes (outInd : List Nat) (plans : List AxisPlan) (nb : List Nat) (bid' : List Nat)
    (hlen : bid'.length = plans.length) (hB : Bounded plans nb bid')
    (ind : List Nat) (chunks : List (List Int)) (sl : List (Option (Int × Int))) (cc : List Nat)
    (w : ZipSome (opAxisSlice outInd plans nb) ind chunks sl)
    (hk : (ind.zip chunks).all (fun p => keepsAxis outInd plans p.1 p.2) = true) :
    List.zipWith (fun cs k => cs.getD k 0) (List.zipWith opChunksAfter chunks sl) (opCoords outInd bid' ind cc)
      = List.zipWith (fun cs k => cs.getD k 0) chunks
          (opCoords outInd (List.zipWith (· + ·) bid' (firsts plans)) ind cc) ∧
    ∀ loc : List Int,
      List.zipWith (fun (t : Option (Int × Int)) v => v + (t.map (·.1)).getD 0) sl
        (List.zipWith (· + ·)
          (List.zipWith blockStart (List.zipWith opChunksAfter chunks sl) (opCoords outInd bid' ind cc)) loc)
      = List.zipWith (· + ·)
          (List.zipWith blockStart chunks (opCoords outInd (List.zipWith (· + ·) bid' (firsts plans)) ind cc)) loc := by
  induction w generalizing cc with
  | left _ => simp [show ∀ b, opCoords outInd b [] cc = [] from fun _ => rfl]
  | right _ => simp
  | @cons l ls ic ics s ss hs _ ih =>
    simp only [List.zip_cons_cons, List.all_cons, Bool.and_eq_true] at hk
    obtain ⟨ih1, ih2⟩ := ih cc.tail hk.2
    obtain ⟨r1, r2⟩ := slicedBlock_axis outInd plans nb bid' hlen hB l ic s hs hk.1 (cc.headD 0)
    simp only [opCoords_cons, List.zipWith_cons_cons]
    refine ⟨by rw [r1, ih1], ?_⟩
    intro loc
    cases loc with
    | nil => rfl
    | cons v vs =>
      simp only [List.zipWith_cons_cons]
      rw [ih2 vs, ← r2, Int.add_right_comm]

theorem opView_sliced {α : Type} (outInd : List Nat) (plans : List AxisPlan) (nb : List Nat) (bid' : List Nat)
    (hlen : bid'.length = plans.length) (hB : Bounded plans nb bid') (o : Operand α)
    (r : Option (List (Option (Int × Int)))) (h : opSlice outInd plans nb o.toOpd = some r)
    (hk : (match o.ind with
            | none => true
            | some ind => (ind.zip o.chunks).all (fun p => keepsAxis outInd plans p.1 p.2)) = true) :
    opView outInd (sliceOperand o r) bid' = opView outInd o (List.zipWith (· + ·) bid' (firsts plans)) := by
  rcases opSlice_cases outInd plans nb o.toOpd r h with ⟨hn, rfl⟩ | ⟨ind, sl, hi, rfl, hsl⟩
  · have hn' : o.ind = none := hn
    simp only [sliceOperand, opView, hn']
  · have hi' : o.ind = some ind := hi
    have hsl' : opAxesSlices outInd plans nb ind o.chunks = some sl := hsl
    rw [hi'] at hk
    simp only at hk
    funext cc
    obtain ⟨e1, e2⟩ := slicedBlock_axes outInd plans nb bid' hlen hB ind o.chunks sl cc (opAxesSlices_zip hsl') hk
    simp only [opView, sliceOperand, hi', blockAt]
    rw [e1]
    congr 1
    funext loc
    rw [e2 loc]

theorem views_sliced {α : Type} (outInd : List Nat) (plans : List AxisPlan) (nb : List Nat) (bid' : List Nat)
    (hlen : bid'.length = plans.length) (hB : Bounded plans nb bid')
    (ops : List (Operand α)) (sls : List (Option (List (Option (Int × Int)))))
    (w : MapSome (fun o => opSlice outInd plans nb o.toOpd) ops sls)
    (hk : keepsAll outInd plans (ops.map Operand.toOpd) = true) :
    (List.zipWith sliceOperand ops sls).map (fun o => opView outInd o bid')
      = ops.map (fun o => opView outInd o (List.zipWith (· + ·) bid' (firsts plans))) := by
  induction w with
  | nil => rfl
  | @cons o os r rs hr _ ih =>
    have hk := keepsAll_cons.mp hk
    simp only [List.zipWith_cons_cons, List.map_cons]
    rw [ih hk.2, opView_sliced outInd plans nb bid' hlen hB o r hr hk.1]

theorem fullIndex_length (idx : List Idx) (n : Nat) (h : idx.length ≤ n) : (fullIndex idx n).length = n := by
  simp [fullIndex]; omega

theorem accept_sound {α β : Type} (F : List (List Nat → Blk α) → List Int → β) (outInd : List Nat)
    (ops : List (Operand α)) (adjust : List (Nat × AdjKind)) (newAxes : List (Nat × List Int))
    (oc : List (List Int)) (idx : List Idx) (r : Result)
    (h : acceptCoarse0 ⟨outInd, ops.map Operand.toOpd, adjust, newAxes⟩ oc idx = some r)
    (hoc : ∀ cs ∈ oc, ∀ c ∈ cs, 0 ≤ c) (hlen : oc.length = outInd.length) (hil : idx.length ≤ outInd.length)
    (hok : idxsOK oc (fullIndex idx outInd.length) = true)
    (hkeep : keepsAll outInd r.plans (ops.map Operand.toOpd) = true)
    (q : List Nat) (hql : q.length = outInd.length) (hq : inSels oc (fullIndex idx outInd.length) q = true) :
    indexDen (bwDen F outInd ops oc) (oc.map isum) (fullIndex idx outInd.length) q
      = rewrittenDen F outInd ops (keptOut oc r.plans) r q := by
  obtain ⟨hp, hs, _⟩ := acceptCoarse0_some h
  have hp := axisPlans_zip hp
  have w := locate_nd oc (fullIndex idx outInd.length) r.plans q hoc hp hok hq
    (by rw [fullIndex_length idx _ hil, hlen]) (by rw [hql, hlen])
  unfold rewrittenDen indexDen bwDen
  rw [w.offsets, w.blocks, views_sliced outInd r.plans (oc.map List.length) _ w.length
    ⟨(plans_ok oc _ r.plans hoc hp hok).1, w.within⟩ ops r.opSlices (mapOpt_map_some hs) hkeep]

end Dask.Lemmas.Coarse
