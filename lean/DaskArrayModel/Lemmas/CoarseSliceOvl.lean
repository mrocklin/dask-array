/-
Closed form of `new_blockdim` for a unit-step, non-empty slice of POSITIVE chunks: the positive overlaps of the blocks
with `[start, stop)` (`ovl`).  From it: slicing to whole blocks keeps those blocks (`sliceKeeps_of_pos`), and the chunks
after the top adjustment are those of the sliced original (`top_chunks`).
-/
import DaskArrayModel.Lemmas.CoarseSliceAxis
namespace Dask.Lemmas.Coarse
open Dask.Py Dask.Py.PySlice Dask.Slicing Dask.Coarse
open Dask.Lemmas.Slice1dPos
open Dask.Lemmas.SliceAlgebra (sel_length_unit istart_some_nonneg istop_some_nonneg)

/-- the positive overlaps of the blocks with `[a, b)`; `pos` is the running start of the next block -/
def ovl (a b : Int) : List Int → Int → List Int
  | [], _ => []
  | c :: rest, pos =>
    if min b (pos + c) - max a pos > 0 then (min b (pos + c) - max a pos) :: ovl a b rest (pos + c)
    else ovl a b rest (pos + c)

theorem ovl_append (a b : Int) : ∀ (xs ys : List Int) (pos : Int),
    ovl a b (xs ++ ys) pos = ovl a b xs pos ++ ovl a b ys (pos + isum xs)
  | [], ys, pos => by simp [ovl, isum]
  | x :: xs, ys, pos => by
    simp only [List.cons_append, ovl, isum]
    rw [ovl_append a b xs ys (pos + x)]
    split
    · simp [Int.add_assoc]
    · simp [Int.add_assoc]

theorem ovl_cons_of_le {a b c pos : Int} {rest : List Int} (h : min b (pos + c) ≤ max a pos) :
    ovl a b (c :: rest) pos = ovl a b rest (pos + c) := by
  rw [ovl]
  exact if_neg (Int.not_lt.mpr (Int.sub_nonpos_of_le h))

theorem ovl_nil_right (a b : Int) : ∀ (xs : List Int) (pos : Int), (∀ x ∈ xs, 0 ≤ x) → b ≤ pos → ovl a b xs pos = []
  | [], _, _, _ => rfl
  | x :: xs, pos, h, hb => by
    have hx : 0 ≤ x := h x List.mem_cons_self
    rw [ovl_cons_of_le (Int.le_trans (Int.min_le_left _ _) (Int.le_trans hb (Int.le_max_right _ _)))]
    exact ovl_nil_right a b xs (pos + x) (fun y hy => h y (List.mem_cons_of_mem _ hy)) (by omega)

theorem ovl_nil_left (a b : Int) : ∀ (xs : List Int) (pos : Int), (∀ x ∈ xs, 0 ≤ x) → pos + isum xs ≤ a →
    ovl a b xs pos = []
  | [], _, _, _ => rfl
  | x :: xs, pos, h, ha => by
    have hs : 0 ≤ isum xs := isum_nonneg xs (fun y hy => h y (List.mem_cons_of_mem _ hy))
    simp only [isum] at ha
    rw [ovl_cons_of_le (Int.le_trans (Int.min_le_right _ _) (Int.le_trans (by omega) (Int.le_max_left _ _)))]
    exact ovl_nil_left a b xs (pos + x) (fun y hy => h y (List.mem_cons_of_mem _ hy)) (by omega)

theorem ovl_shift (a b d : Int) : ∀ (xs : List Int) (pos : Int),
    ovl (a - d) (b - d) xs (pos - d) = ovl a b xs pos
  | [], _ => rfl
  | x :: xs, pos => by
    unfold ovl
    have e : pos - d + x = pos + x - d := by omega
    rw [e, ovl_shift a b d xs (pos + x)]
    rw [Int.sub_min_sub_right, Int.sub_max_sub_right,
      show ∀ u v : Int, u - d - (v - d) = u - v from fun u v => by omega]

theorem ovl_rel (a b pos : Int) (xs : List Int) : ovl (a - pos) (b - pos) xs 0 = ovl a b xs pos := by
  rw [← ovl_shift a b pos xs pos, Int.sub_self]

theorem ovl_start (a a' b : Int) : ∀ (xs : List Int) (pos : Int), (∀ x ∈ xs, 0 ≤ x) → a ≤ pos → a' ≤ pos →
    ovl a b xs pos = ovl a' b xs pos
  | [], _, _, _, _ => rfl
  | x :: xs, pos, h, h1, h2 => by
    have hx : 0 ≤ x := h x List.mem_cons_self
    unfold ovl
    rw [Int.max_eq_right h1, Int.max_eq_right h2,
      ovl_start a a' b xs (pos + x) (fun y hy => h y (List.mem_cons_of_mem _ hy)) (by omega) (by omega)]

theorem ovl_inside (a b : Int) : ∀ (xs : List Int) (pos : Int), (∀ x ∈ xs, 0 < x) → a ≤ pos → pos + isum xs ≤ b →
    ovl a b xs pos = xs
  | [], _, _, _, _ => rfl
  | x :: xs, pos, h, h1, h2 => by
    have hx : 0 < x := h x List.mem_cons_self
    have hs : 0 ≤ isum xs := isum_nonneg xs (fun y hy => Int.le_of_lt (h y (List.mem_cons_of_mem _ hy)))
    simp only [isum] at h2
    rw [ovl, Int.max_eq_right h1, Int.min_eq_right (by omega), show pos + x - pos = x by omega, if_pos hx,
      ovl_inside a b xs (pos + x) (fun y hy => h y (List.mem_cons_of_mem _ hy)) (by omega) (by omega)]

theorem ovl_window (cs : List Int) (h : ∀ c ∈ cs, 0 ≤ c) (i k : Nat) (a b : Int) (ha : blockStart cs i ≤ a)
    (hb : b ≤ blockStart cs (i + k) ∨ cs.length ≤ i + k) :
    ovl a b cs 0 = ovl a b ((cs.drop i).take k) (blockStart cs i) := by
  have hsplit : cs = cs.take i ++ ((cs.drop i).take k ++ (cs.drop i).drop k) := by
    rw [List.take_append_drop, List.take_append_drop]
  have e1 : (0 : Int) + isum (cs.take i) = blockStart cs i := Int.zero_add _
  have e2 : blockStart cs i + isum ((cs.drop i).take k) = blockStart cs (i + k) := by
    rw [isum_take_drop]; omega
  conv => lhs; rw [hsplit]
  rw [ovl_append, ovl_append, e1, e2,
    ovl_nil_left _ _ _ _ (fun x hx => h x (List.mem_of_mem_take hx)) (by omega)]
  have hpost : ovl a b ((cs.drop i).drop k) (blockStart cs (i + k)) = [] := by
    rcases hb with hb | hb
    · exact ovl_nil_right _ _ _ _ (fun x hx => h x (List.mem_of_mem_drop (List.mem_of_mem_drop hx))) hb
    · rw [List.drop_drop, List.drop_eq_nil_of_le hb]; rfl
  rw [hpost, List.nil_append, List.append_nil]

theorem ovl_kept (cs : List Int) (h : ∀ c ∈ cs, 0 ≤ c) (f l : Nat) (hfl : f ≤ l) (a b : Int)
    (ha : blockStart cs f ≤ a) (hb : b ≤ blockStart cs (l + 1)) :
    ovl a b cs 0 = ovl (a - blockStart cs f) (b - blockStart cs f) (keptChunks cs f l) 0 := by
  rw [ovl_rel, ovl_window cs h f (l + 1 - f) a b ha (Or.inl (by rw [show f + (l + 1 - f) = l + 1 by omega]; exact hb))]
  rfl

theorem planLengths_loopPos_one (L : List Int) : ∀ (lens : List Int) (i : Nat) (tail : List Int) (start stop : Int),
    L.drop i = lens ++ tail → (∀ x ∈ lens, 0 ≤ x) → (stop ≤ 0 ∨ (0 ≤ start ∧ start < stop)) →
    planLengths L (loopPos 1 lens i start stop) = ovl start stop lens 0
  | [], _, _, _, _, _, _, _ => rfl
  | len :: rest, i, tail, start, stop, hd, hnn, hinv => by
    obtain ⟨hg, hd', _⟩ := drop_cons_facts (rest := rest ++ tail) hd
    have hlen : 0 ≤ len := hnn len List.mem_cons_self
    have hrest : ∀ x ∈ rest, 0 ≤ x := fun x hx => hnn x (List.mem_cons_of_mem _ hx)
    unfold loopPos
    by_cases hc : start < len ∧ stop > 0
    · -- the block meets the selection: it contributes `min stop len - start`, the rest is read from position 0
      obtain ⟨hs0, hss⟩ := hinv.resolve_left (Int.not_le.mpr hc.2)
      have hmod : pyMod (start - len) 1 = 0 := by rw [pyMod_pos _ _ Int.one_pos, Int.emod_one]
      have ih := planLengths_loopPos_one L rest (i + 1) tail 0 (stop - len) hd' hrest
        ((Int.lt_or_le 0 (stop - len)).symm.imp_right (fun h => ⟨Int.le_refl 0, h⟩))
      have hm : start ≤ min stop len := Int.le_min.mpr ⟨Int.le_of_lt hss, Int.le_of_lt hc.1⟩
      rw [if_pos hc, hmod, ovl, Int.zero_add, Int.max_eq_left hs0,
        if_pos (Int.sub_pos.mpr (Int.lt_min.mpr ⟨hss, hc.1⟩)),
        ovl_start start len stop rest len hrest (Int.le_of_lt hc.1) (Int.le_refl _), ← ovl_rel len stop len, Int.sub_self]
      unfold planLengths at ih ⊢
      rw [List.map_cons, ih]
      refine congrArg (· :: ovl 0 (stop - len) rest 0) ?_
      simp only [hg]
      rw [sel_length_unit _ _ rfl, istart_some_nonneg (some 1) Int.one_pos hs0, Int.min_eq_left (Int.le_of_lt hc.1),
        istop_some_nonneg (some 1) Int.one_pos _ (Int.le_trans hs0 hm), Int.min_eq_left (Int.min_le_right _ _),
        Int.toNat_of_nonneg (Int.sub_nonneg_of_le hm)]
    · -- the block lies before the selection, or the selection has ended
      have hle : min stop (0 + len) ≤ max start 0 := by
        rcases hinv with h | ⟨h1, h2⟩
        · exact Int.le_trans (Int.min_le_left _ _) (Int.le_trans h (Int.le_max_right _ _))
        · exact Int.le_trans (Int.min_le_right _ _) (Int.le_trans (by omega) (Int.le_max_left _ _))
      rw [if_neg hc, ovl_cons_of_le hle, Int.zero_add, ← ovl_rel start stop len]
      exact planLengths_loopPos_one L rest (i + 1) tail (start - len) (stop - len) hd' hrest (by omega)

theorem newBlockdim_unit (cs : List Int) (hpos : ∀ c ∈ cs, 0 < c) (s : PySlice) (hs : s.stp = 1)
    (hse : s.istart (isum cs) < s.istop (isum cs)) :
    newBlockdim (isum cs) cs (normalizeSlice s (isum cs)) = ovl (s.istart (isum cs)) (s.istop (isum cs)) cs 0 := by
  have hl : ∀ c ∈ cs, 0 ≤ c := fun c hc => Int.le_of_lt (hpos c hc)
  have hd : 0 ≤ isum cs := isum_nonneg cs hl
  have hs0 : 0 < s.stp := by omega
  obtain ⟨a0, _⟩ := Dask.Lemmas.SliceAlgebra.istart_pos_bounds s _ hd hs0
  by_cases hcol : normalizeSlice s (isum cs) = colon
  · obtain ⟨c1, c2, _⟩ := colon_facts s _ hd hs0 hcol
    unfold newBlockdim
    rw [if_pos hcol, c1, c2, ovl_inside 0 (isum cs) cs 0 hpos (Int.le_refl 0) (Int.le_of_eq (Int.zero_add _))]
  · -- `new_blockdim` is the list of lengths of the plan `_slice_1d` makes, and the plan is `finish` of the loop
    have h := (plan_pos cs s hl hs0 hcol).1
    have hnb := h.lengths hl hcol
    have total : isum (newBlockdim (isum cs) cs (normalizeSlice s (isum cs))) = ((sel s (isum cs)).length : Int) :=
      (newBlockdim_pos cs s hl hs0).1
    rw [sel_length_unit s _ hs] at total
    rw [h.plan, posPlan, Int.max_eq_right (Int.le_of_lt hse), hs] at hnb
    generalize hst : s.istart (isum cs) = start at hnb total a0 hse ⊢
    generalize hsp : s.istop (isum cs) = stop at hnb total hse ⊢
    have reach := (visited_reach cs start stop _ rfl).imp_right (Or.resolve_left · (Int.not_le.mpr hse))
    have hb0 : blockStart cs (bisectRight (cumsum cs) start) ≤ start := blockStart_istart_le cs start a0
    generalize bisectRight (cumsum cs) start = i0 at hnb reach hb0
    generalize min (bisectLeft (cumsum cs) stop + 1) cs.length - i0 = k at hnb reach
    generalize hdd : loopPos 1 ((cs.drop i0).take k) i0 (start - blockStart cs i0) (stop - blockStart cs i0) = d
      at hnb
    have lengths : planLengths cs d
        = ovl (start - blockStart cs i0) (stop - blockStart cs i0) ((cs.drop i0).take k) 0 := by
      rw [← hdd]
      exact planLengths_loopPos_one cs _ i0 ((cs.drop i0).drop k) _ _ (List.take_append_drop _ _).symm
        (fun x hx => hl x (List.mem_of_mem_drop (List.mem_of_mem_take hx)))
        (Or.inr ⟨Int.sub_nonneg_of_le hb0, Int.sub_lt_sub_right hse _⟩)
    -- the loop emits something (so `finish` adds nothing): otherwise the total length would be 0, not `stop - start`
    have nonempty : d ≠ [] := by
      intro hd0
      rw [hd0, finish_nil] at hnb
      rw [hnb] at total
      simp only [planLengths, List.map_cons, List.map_nil, isum] at total
      have := sel_empty (getD_nonneg _ hl 0)
      rw [this] at total
      simp at total
      omega
    -- blocks before and after the visited ones do not meet `[start, stop)`
    rw [hnb, planLengths_finish hl d nonempty, lengths, ovl_rel]
    exact (ovl_window cs hl i0 k start stop hb0 reach).symm

theorem sliceKeeps_of_pos (ic : List Int) (hpos : ∀ c ∈ ic, 0 < c) (f l : Nat) (hfl : f ≤ l) (hl : l < ic.length) :
    sliceKeeps ic f l = true := by
  have hnn : ∀ c ∈ ic, 0 ≤ c := fun c hc => Int.le_of_lt (hpos c hc)
  have hbf : 0 ≤ blockStart ic f := Layout.start_nonneg hnn f
  have hbl : blockStart ic (l + 1) ≤ isum ic := Layout.start_le_sum hnn (l + 1)
  have hf : f < ic.length := Nat.lt_of_le_of_lt hfl hl
  -- block `f` is not empty, so the kept range is not
  have hlt : blockStart ic f < blockStart ic (l + 1) := by
    have h3 : 0 < ic.getD f 0 := by
      rw [List.getD_eq_getElem?_getD, List.getElem?_eq_getElem hf]
      exact hpos _ (List.getElem_mem _)
    refine Int.lt_of_lt_of_le (b := blockStart ic (f + 1)) ?_ (Layout.start_mono hnn (Nat.succ_le_succ hfl))
    rw [blockStart_succ]
    exact Int.lt_add_of_pos_right _ h3
  have i1 : istart ⟨some (blockStart ic f), some (blockStart ic (l + 1)), none⟩ (isum ic) = blockStart ic f := by
    rw [istart_some_nonneg none Int.one_pos hbf, Int.min_eq_left (Int.le_trans (Int.le_of_lt hlt) hbl)]
  have i2 : istop ⟨some (blockStart ic f), some (blockStart ic (l + 1)), none⟩ (isum ic) = blockStart ic (l + 1) := by
    rw [istop_some_nonneg none Int.one_pos _ (Int.le_trans hbf (Int.le_of_lt hlt)), Int.min_eq_left hbl]
  unfold sliceKeeps
  apply decide_eq_true
  rw [cum0_getD ic f (Nat.le_of_lt hf), cum0_getD ic (l + 1) hl]
  simp only [opChunksAfter]
  rw [newBlockdim_unit ic hpos _ rfl (by rw [i1, i2]; exact hlt), i1, i2,
    ovl_kept ic hnn f l hfl _ _ (Int.le_refl _) (Int.le_refl _), Int.sub_self]
  exact ovl_inside _ _ _ 0 (fun x hx => hpos x (List.mem_of_mem_drop (List.mem_of_mem_take hx))) (Int.le_refl 0)
    (by rw [Int.zero_add, isum_kept ic f l hfl]; exact Int.le_refl _)

theorem top_chunks (oc : List Int) (hpos : ∀ c ∈ oc, 0 < c) (s : PySlice) (hc : s ≠ colon) (pl : AxisPlan)
    (h : acceptAxis oc (.slc s) = some pl) :
    indexedChunks1 (keptOut1 oc pl) pl.adj.toIdx = indexedChunks1 oc (.slc s) := by
  have hoc : ∀ c ∈ oc, 0 ≤ c := fun c hc => Int.le_of_lt (hpos c hc)
  obtain ⟨f, l, w⟩ := acceptAxis_slc oc hoc s hc pl h
  obtain ⟨t, t1, t2, t3, t4⟩ := w.top
  have hkpos : ∀ c ∈ keptChunks oc f l, 0 < c := fun c hc => hpos c (List.mem_of_mem_drop (List.mem_of_mem_take hc))
  have hne := w.nonempty
  simp only [keptOut1, w.br, t1, indexedChunks1]
  -- both sides are the overlaps of the kept blocks with the selection
  rw [newBlockdim_unit oc hpos s w.unit hne,
    newBlockdim_unit _ hkpos t t2 (by rw [t3, t4]; omega), t3, t4,
    ovl_kept oc hoc f l w.range.le _ _ w.range.first.start_le w.stop_le]

end Dask.Lemmas.Coarse
