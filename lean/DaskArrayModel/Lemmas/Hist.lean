/-
Facts behind C23 and C11 over Model/Hist.lean.  C23: the flat-index loop of `Random`, read from any state of its two
running variables, adds the row-major rank weighted by the stride, so it computes that rank, a bijection between the
block grid and `range(nblocks)`; a step of a history keeps the node and observes only seeds of that node.  C11: a
parsed assignment slice is a concrete increasing progression `A:B:m` inside the axis selecting what the original
slice selects, reversed when it was recast (`Parsed`); how it meets a block `[l0, l1)` is Lemmas/Progression.lean
(`block_index` is the local progression from `relStart A l0 m`, `n_preceding` is `rangeLen A l0 m`, local and
global ranks differ by it), so the block task writes what NumPy writes.  For the collection store an operation
does nothing or writes one entry at its target with a cache the invariant allows; frame property and cache
invariant are read off that.
-/
import DaskArrayModel.Model.Hist
import DaskArrayModel.Lemmas.SliceAlgebra
import DaskArrayModel.Lemmas.RowMajor
import DaskArrayModel.Lemmas.SliceWindow
import DaskArrayModel.Lemmas.Progression
namespace Dask.Lemmas.Hist
open Dask.Py Dask.Py.PySlice Dask.Slicing Dask.Hist Dask.Lemmas.SliceAlgebra Dask.Lemmas.Rank Dask.Lemmas.Progression

/-- the loop over the reversed `(block_id[i], numblocks[i])` pairs adds the row-major rank, weighted by the stride it
starts with, and multiplies the stride by the number of blocks; `rest` is what the loop has still to read. -/
theorem flatLoop_zip (ns bs : List Nat) (h : bs.length = ns.length) (rest : List (Nat × Nat)) (f s : Nat) :
    flatLoop ((bs.zip ns).reverse ++ rest) f s = flatLoop rest (f + s * rowMajor ns bs) (s * nblocks ns) := by
  induction ns generalizing bs rest with
  | nil =>
    cases bs with
    | nil => exact (Nat.mul_one s).symm ▸ rfl
    | cons b bs => cases h
  | cons n ns ih =>
    cases bs with
    | nil => cases h
    | cons b bs =>
      rw [List.zip_cons_cons, List.reverse_cons, List.append_assoc, List.singleton_append, ih bs (Nat.succ.inj h)]
      show flatLoop rest (f + s * rowMajor ns bs + b * (s * nblocks ns)) (s * nblocks ns * n) =
        flatLoop rest (f + s * (b * nblocks ns + rowMajor ns bs)) (s * (n * nblocks ns))
      rw [Nat.add_assoc, ← Nat.mul_assoc s n, Nat.mul_right_comm s n, Nat.mul_add s, Nat.add_comm (s * rowMajor ns bs),
        Nat.mul_left_comm s b]

theorem nblocks_eq_prodL (ns : List Nat) : nblocks ns = Dask.Reshape.prodL ns := by
  induction ns with
  | nil => rfl
  | cons n ns ih => exact congrArg (n * ·) ih

theorem rowMajor_eq_ndFlatIndex : ∀ (ns bs : List Nat), rowMajor ns bs = Dask.ND.flatIndex ns bs
  | [], _ => rfl
  | _ :: _, [] => rfl
  | _ :: ns, _ :: bs => by
    rw [Dask.Reshape.flatIndex_cons, ← rowMajor_eq_ndFlatIndex ns bs, ← nblocks_eq_prodL]
    rfl

theorem unflatIndex_eq_unflat (ns : List Nat) (k : Nat) : unflatIndex ns k = Dask.Reshape.unflat ns k := by
  induction ns generalizing k with
  | nil => rfl
  | cons n ns ih =>
    show (k / nblocks ns) :: unflatIndex ns (k % nblocks ns) = _ :: Dask.Reshape.unflat ns (k % Dask.Reshape.prodL ns)
    rw [ih, nblocks_eq_prodL]

theorem inGrid_iff_InB : ∀ (ns bs : List Nat), InGrid ns bs ↔ Dask.ND.InB bs ns
  | [], [] => Iff.rfl
  | _ :: ns, _ :: bs => and_congr_right' (inGrid_iff_InB ns bs)
  | [], _ :: _ => Iff.rfl
  | _ :: _, [] => Iff.rfl

theorem inGrid_length (ns bs : List Nat) (h : InGrid ns bs) : bs.length = ns.length :=
  Dask.ND.InB.length_eq ((inGrid_iff_InB ns bs).mp h)

theorem flatIndex_eq_rowMajor (ns bs : List Nat) (h : bs.length = ns.length) :
    flatIndex ns bs = rowMajor ns bs := by
  unfold flatIndex
  rw [← h, List.take_length, ← List.append_nil (List.reverse _), flatLoop_zip ns bs h, Nat.zero_add, Nat.one_mul]
  rfl

/-- the `extra_chunks` coordinates are ignored. -/
theorem flatIndex_extra (ns bs extra : List Nat) (h : bs.length = ns.length) :
    flatIndex ns (bs ++ extra) = flatIndex ns bs := by
  unfold flatIndex
  rw [← h, List.take_left', List.take_length]
  rfl

theorem nblocks_pos_of_inGrid : ∀ (ns bs : List Nat), InGrid ns bs → 0 < nblocks ns
  | ns, bs, h => nblocks_eq_prodL ns ▸ Dask.Reshape.prodL_pos_of_InB ((inGrid_iff_InB ns bs).mp h)

theorem rowMajor_lt (ns bs : List Nat) (h : InGrid ns bs) : rowMajor ns bs < nblocks ns := by
  rw [rowMajor_eq_ndFlatIndex, nblocks_eq_prodL]
  exact Dask.Reshape.flatIndex_lt ((inGrid_iff_InB ns bs).mp h)

theorem unflat_spec (ns : List Nat) (k : Nat) (h : k < nblocks ns) :
    InGrid ns (unflatIndex ns k) ∧ rowMajor ns (unflatIndex ns k) = k := by
  rw [inGrid_iff_InB, rowMajor_eq_ndFlatIndex, unflatIndex_eq_unflat]
  exact Dask.Reshape.flatIndex_unflat ns k (nblocks_eq_prodL ns ▸ h)

theorem unflat_rowMajor : ∀ (ns bs : List Nat), InGrid ns bs → unflatIndex ns (rowMajor ns bs) = bs
  | ns, bs, h => by
    rw [rowMajor_eq_ndFlatIndex, unflatIndex_eq_unflat]
    exact Dask.Reshape.unflat_flatIndex ns bs ((inGrid_iff_InB ns bs).mp h)

theorem rowMajor_inj (ns bs bs' : List Nat) (h : InGrid ns bs) (h' : InGrid ns bs')
    (e : rowMajor ns bs = rowMajor ns bs') : bs = bs' := by
  rw [← unflat_rowMajor ns bs h, e, unflat_rowMajor ns bs' h']

theorem grid_eq_allIdx : ∀ ns : List Nat, grid ns = Dask.ND.allIdx ns
  | [] => rfl
  | n :: ns => congrArg (fun g : List (List Nat) => (List.range n).flatMap fun b => g.map (b :: ·)) (grid_eq_allIdx ns)

/-- `itertools.product` order IS flat-index order: the k-th block of the grid has flat index k. -/
theorem grid_rowMajor (ns : List Nat) : (grid ns).map (rowMajor ns) = List.range (nblocks ns) := by
  rw [grid_eq_allIdx, nblocks_eq_prodL, ← Dask.Reshape.allIdx_map_flatIndex]
  exact List.map_congr_left (fun bs _ => rowMajor_eq_ndFlatIndex ns bs)

theorem construct_params (spawn : Nat → Nat → Nat) (k : Kind) (g : Gen) (p : Params) :
    (construct spawn k g p).1.params = p := rfl

/-- pickling carries the seed vector: `_reconstruct` draws fresh seeds and then overwrites them. -/
theorem reconstruct_reduce (spawn : Nat → Nat → Nat) (k : Kind) (g : Gen) (r : Node) :
    reconstruct spawn k (reduce g r) = r := by
  simp [reconstruct, reduce, construct]

theorem rebuild_scalar (spawn : Nat → Nat → Nat) (k : Kind) (g : Gen) (r : Node) (f : Nat → Nat)
    (hd : r.params.deps = []) : rebuild spawn k g r f = (r, g) := by
  simp [rebuild, hd]

theorem step_fixed (spawn : Nat → Nat → Nat) (k : Kind) (w : World) (op : Op) :
    (step spawn k w op).node = w.node ∧ (step spawn k w op).born = w.born := by
  cases op <;> simp [Hist.step, reconstruct_reduce]

theorem step_obs (spawn : Nat → Nat → Nat) (k : Kind) (w : World) (hwf : WF spawn k w)
    (hd : w.node.params.deps = []) (op : Op) :
    ∀ o ∈ (step spawn k w op).obs, o ∈ w.obs ∨ ∃ bid, o = observe w.node bid := by
  intro o ho
  -- every step that observes appends `observe nd` of some blocks, with `nd` the node held
  have key : ∀ (nd : Node) (bl : List (List Nat)), o ∈ w.obs ++ bl.map (observe nd) →
      o ∈ w.obs ∨ ∃ bid, o = observe nd bid := fun nd bl h =>
    (List.mem_append.mp h).imp_right fun h => let ⟨bid, _, e⟩ := List.mem_map.mp h; ⟨bid, e.symm⟩
  cases op with
  | compute => exact key _ _ ho
  | derive f blocks =>
    simp only [Hist.step, rebuild_scalar spawn k w.gen w.node f hd] at ho
    exact key _ _ ho
  | pickle => exact Or.inl ho
  | other p => exact Or.inl ho
  | rebuildSameSeed =>
    have := key _ _ ho
    rwa [← show w.node = _ from hwf] at this

theorem draw_length (spawn : Nat → Nat → Nat) (k : Kind) (g : Gen) (n : Nat) :
    (draw spawn k g n).1.length = n := by
  cases k <;> simp [draw]

theorem draw_nodup (spawn : Nat → Nat → Nat) (hinj : ∀ s a b, spawn s a = spawn s b → a = b)
    (k : Kind) (g : Gen) (n : Nat) : (draw spawn k g n).1.Nodup := by
  cases k with
  | generator =>
    exact List.Pairwise.map _ (fun a b hab e => hab (Nat.add_left_cancel (hinj _ _ _ e))) List.nodup_range
  | randomState => exact List.Pairwise.map _ (fun a b hab e => hab (hinj _ _ _ e)) List.nodup_range

/-- Python's `q, r = divmod(D, c); if r: q += 1`. -/
def ceilq (D c : Int) : Int := if D % c ≠ 0 then D / c + 1 else D / c

theorem ceilq_eq_ceilDiv (D c : Int) (hc : 0 < c) : ceilq D c = ceilDiv D c := by
  unfold ceilq ceilDiv
  rw [pyDiv_pos _ _ hc, Int.neg_ediv, Int.sign_eq_one_of_pos hc]
  simp only [Int.dvd_iff_emod_eq_zero]
  omega

theorem ceilq_zero (m : Int) : ceilq 0 m = 0 := by simp [ceilq]

/-- start and stop already on the axis, `b = -1` written `None` -/
theorem sel_down (a b V : Int) (ha0 : 0 ≤ a) (ha : a ≤ V - 1) (hb0 : -1 ≤ b) (hb : b ≤ V - 1) :
    sel ⟨some a, if b < 0 then none else some b, some (-1)⟩ V = rangeList a b (-1) := by
  have hst : InAxis V (if b < 0 then none else some b) ∧ (if b < 0 then none else some b).getD (-1) = b := by
    split
    · exact ⟨inAxis_none V, show (-1 : Int) = b by omega⟩
    · exact ⟨inAxis_some (by omega) hb, rfl⟩
  rw [sel_neg_of_inAxis _ _ V (-1) (by decide) (inAxis_some ha0 ha) hst.1, hst.2]
  rfl

/-- `parse_assignment_indices` turns `s` on an axis of length `n` into the increasing progression `A:B:m` inside the
axis: `selP` is what the parsed slice selects, `selS` what `s` itself selects (the same, reversed when flagged);
`impl` is `implied_shape` as an integer (only for a non-empty selection), `implNat` its clamp at `0` (always). -/
structure Parsed (s : PySlice) (n A B m : Int) : Prop where
  idx : parseAssign s n = ⟨some A, some B, some m⟩
  hm : 0 < m
  hA : 0 ≤ A
  hB : B ≤ n
  selP : sel (parseAssign s n) n = rangeList A B m
  selS : sel s n = if parseAssignReversed s n then (rangeList A B m).reverse else rangeList A B m
  impl : A < B → parseAssignImplied s n = (rangeLen A B m : Int)
  implNat : (parseAssignImplied s n).toNat = rangeLen A B m

theorem parseImplied_eq (t : PySlice) (n : Int) (h : 0 < (parseIndex2 t n).stp) :
    parseImplied t n = ceilq ((parseIndex2 t n).istop n - (parseIndex2 t n).istart n) (parseIndex2 t n).stp := by
  unfold parseImplied parseDiv parseMod ceilq
  simp only [pyDiv_pos _ _ h, pyMod_pos _ _ h]
  generalize (parseIndex2 t n).istop n - (parseIndex2 t n).istart n = D
  generalize (parseIndex2 t n).stp = m
  split
  · rename_i h0; simp [h0.1, h0.2]
  · rfl

/-- (no `A ≤ n`: `A > n` only happens with `B ≤ n`, where everything is empty.) -/
theorem Parsed.of_idx {s : PySlice} {n A B m : Int} (hidx : parseAssign s n = ⟨some A, some B, some m⟩)
    (hm : 0 < m) (hA : 0 ≤ A) (hB0 : 0 ≤ B) (hB : B ≤ n)
    (hsel : sel s n = if parseAssignReversed s n then (rangeList A B m).reverse else rangeList A B m) :
    Parsed s n A B m := by
  have hnm : ¬ m < 0 := Int.lt_asymm hm
  have hidx' : parseIndex2 (normalizeSlice s n) n = ⟨some A, some B, some m⟩ := hidx
  have himp : parseAssignImplied s n = ceilDiv (B - adjust A n false) m := by
    show parseImplied (normalizeSlice s n) n = _
    rw [parseImplied_eq _ n (by rw [hidx']; exact hm), hidx']
    simp only [istart, istop, stp, Option.getD_some, hnm, decide_false, adjust_false_id B n hB0 hB]
    exact ceilq_eq_ceilDiv _ _ hm
  refine ⟨hidx, hm, hA, hB, by rw [hidx, sel_inside hm hA hB0 hB], hsel, fun h => ?_, ?_⟩
  · rw [himp, adjust_false_id A n hA (by omega), ceilDiv_rangeLen hm (by omega)]
  · rw [himp, ceilDiv_toNat _ _ _ hm, rangeLen_clamp_start hm hA hB]

/-- the recast of a decreasing slice as `normalize_slice` leaves it (`normalizeSlice_neg`), in terms of its `indices`
`a'`, `b'`: `parseIndex1` writes the start out and leaves the stop as it is (`b' = -1` is written `None`), and they are
its own `indices` again (`a' = -1` only occurs on an empty axis, where the clamp is still the identity). -/
theorem parseIndex2_neg (a b : Option Int) (n c : Int) (hn : 0 ≤ n) (hc : c < 0) (ha : InAxis n a) (hb : InAxis n b) :
    parseIndex2 ⟨a, b, some c⟩ n =
      ⟨some (a.getD (n - 1) - (a.getD (n - 1) - b.getD (-1) - 1) / (-c) * (-c)), some (a.getD (n - 1) + 1),
       some (-c)⟩ := by
  obtain ⟨hia, hib⟩ := indices_neg_of_inAxis a b n c hc ha hb
  have ha' : adjust (a.getD (n - 1)) n true = a.getD (n - 1) := by
    cases a with
    | none => exact adjust_true_last n hn
    | some v => exact adjust_true_id v n (ha v rfl).1 (ha v rfl).2
  have hstop : (if c < 0 ∧ b.getD (-1) = -1 then none else some (b.getD (-1))) = b := by
    cases b with
    | none => exact if_pos ⟨hc, rfl⟩
    | some w => exact if_neg fun h => absurd (hb w rfl).1 (by rw [show w = -1 from h.2]; decide)
  have hp1 : parseIndex1 ⟨a, b, some c⟩ n = ⟨some (a.getD (n - 1)), b, some c⟩ := by
    unfold parseIndex1; rw [hia, hib]; exact congrArg (fun o => (⟨_, o, _⟩ : PySlice)) hstop
  have hi1 := indices_neg (some (a.getD (n - 1))) b (some c) n hc
  rw [hb.getD_adjust, ← hp1] at hi1
  unfold parseIndex2
  simp only [show stp ⟨a, b, some c⟩ = c from rfl, hc, if_true, hi1.1.trans ha', hi1.2,
    show (parseIndex1 ⟨a, b, some c⟩ n).stp = c from rfl, pyDiv_pos _ _ (Int.neg_pos_of_neg hc)]
  rw [Int.sub_add_cancel]

theorem parseAssign_parsed (s : PySlice) (n : Int) (hn : 0 ≤ n) (hs : s.stp ≠ 0) : ∃ A B m, Parsed s n A B m := by
  have hstp := normalizeSlice_stp s n
  have hrev : parseAssignReversed s n = decide (s.stp < 0) := congrArg (fun c => decide (c < 0)) hstp
  rcases Int.lt_trichotomy s.stp 0 with hc | hc | hc
  · obtain ⟨a, b, hnorm, ha, hb, hr⟩ := normalizeSlice_neg s n hn hc
    have hm := Int.neg_pos_of_neg hc
    have hidx : parseAssign s n = _ := hnorm ▸ parseIndex2_neg a b n s.stp hn hc ha hb
    obtain ⟨hia, hib⟩ := indices_neg_of_inAxis a b n s.stp hc ha hb
    have hab := hia ▸ istart_neg_bounds ⟨a, b, some s.stp⟩ n hn hc
    have hbb := hib ▸ istop_neg_bounds ⟨a, b, some s.stp⟩ n hn hc
    refine ⟨_, _, _, Parsed.of_idx hidx hm ?_ (by omega) (by omega) ?_⟩
    · -- the recast start is an entry, so it lies above the stop `b' ≥ -1`
      have := Int.ediv_mul_le (a.getD (n - 1) - b.getD (-1) - 1) (Int.ne_of_gt hm)
      omega
    · rw [hrev, decide_eq_true hc, if_pos rfl, ← hr]
      exact rangeList_neg_reverse _ _ s.stp hc
  · exact absurd hc hs
  · have hc' : 0 < (normalizeSlice s n).stp := hstp.symm ▸ hc
    have ha := istart_pos_bounds _ n hn hc'
    have hb := istop_pos_bounds _ n hn hc'
    have hidx : parseAssign s n = ⟨some ((normalizeSlice s n).istart n), some ((normalizeSlice s n).istop n),
        some (normalizeSlice s n).stp⟩ := by
      simp [parseAssign, parseIndex2, parseIndex1, Int.not_lt.mpr (Int.le_of_lt hc')]
    refine ⟨_, _, _, Parsed.of_idx hidx hc' ha.1 hb.1 hb.2 ?_⟩
    rw [hrev, decide_eq_false (Int.not_lt.mpr (Int.le_of_lt hc)), if_neg Bool.false_ne_true,
      ← sel_normalizeSlice s n hn hs]
    rfl

theorem blk_eqs (A B m l0 l1 : Int) (hm : 0 < m) :
    blkStart ⟨some A, some B, some m⟩ l0 = relStart A l0 m ∧
    blkStop ⟨some A, some B, some m⟩ l0 l1 = min (B - l0) (l1 - l0) ∧
    blkSize ⟨some A, some B, some m⟩ l0 l1 = ceilq (min (B - l0) (l1 - l0) - relStart A l0 m) m := by
  have e1 : blkStart ⟨some A, some B, some m⟩ l0 = relStart A l0 m := by
    show (if A - l0 < 0 then pyMod (A - l0) m else A - l0) = if l0 ≤ A then A - l0 else (A - l0) % m
    by_cases h : l0 ≤ A
    · rw [if_pos h, if_neg (Int.not_lt.mpr (Int.sub_nonneg_of_le h))]
    · rw [if_neg h, if_pos (Int.sub_neg_of_lt (Int.not_le.mp h)), pyMod_pos _ _ hm]
  have e2 : blkStop ⟨some A, some B, some m⟩ l0 l1 = min (B - l0) (l1 - l0) := by
    show (if B < l1 then l1 - l0 - (l1 - B) else l1 - l0) = min (B - l0) (l1 - l0)
    by_cases h : B < l1
    · rw [if_pos h, Int.min_eq_left (Int.sub_le_sub_right (Int.le_of_lt h) l0)]; omega
    · rw [if_neg h, Int.min_eq_right (Int.sub_le_sub_right (Int.not_lt.mp h) l0)]
  refine ⟨e1, e2, ?_⟩
  simp only [blkSize, e1, e2, ceilq, Option.getD_some, pyMod_pos _ _ hm, pyDiv_pos _ _ hm]

/-- `n_preceding` is the number of entries before the block. -/
theorem blkPreceding_eq (A B m l0 : Int) (hm : 0 < m) (hA : 0 ≤ A) (hl0 : 0 ≤ l0) (hB : l0 < B) :
    blkPreceding ⟨some A, some B, some m⟩ l0 = (rangeLen A l0 m : Int) := by
  have hnm : ¬ m < 0 := Int.lt_asymm hm
  have e : blkPreceding ⟨some A, some B, some m⟩ l0 = ceilq (adjust B l0 false - adjust A l0 false) m := by
    simp only [blkPreceding, ceilq, istart, istop, stp, Option.getD_some, hnm, decide_false,
      pyMod_pos _ _ hm, pyDiv_pos _ _ hm]
  have hle := (adjust_false_bounds A l0 hl0).2
  rw [e, adjust_false_eq_min B l0 (by omega), Int.min_eq_right (Int.le_of_lt hB), ceilq_eq_ceilDiv _ _ hm,
    ceilDiv_rangeLen hm (by omega), rangeLen_clamp_start hm hA (Int.le_refl l0)]

theorem npSource_some (s : PySlice) (n A B m : Int) (pf : Parsed s n A B m) (p : Int) (r : Nat)
    (hr : p = A + (r : Int) * m) (hlt : p < B) :
    npSource s n p = some (if parseAssignReversed s n then rangeLen A B m - 1 - r else r) := by
  have hrl : r < rangeLen A B m := (lt_rangeLen_pos A B m pf.hm r).mpr (by omega)
  unfold npSource
  rw [pf.selS]
  split
  · exact rank_reverse_rangeList A B m p (by have := pf.hm; omega) r hrl hr
  · exact rank_rangeList A B m p (by have := pf.hm; omega) r hrl hr

theorem npSource_none (s : PySlice) (n A B m : Int) (pf : Parsed s n A B m) (p : Int)
    (h : ∀ r : Nat, p = A + (r : Int) * m → ¬ p < B) : npSource s n p = none := by
  unfold npSource
  rw [rank_none]
  intro hp
  have hp' : p ∈ rangeList A B m := by
    rw [pf.selS] at hp
    split at hp
    · exact List.mem_reverse.mp hp
    · exact hp
  obtain ⟨k, hk, e⟩ := (mem_rangeList A B m p).mp hp'
  have := (lt_rangeLen_pos A B m pf.hm k).mp hk
  exact h k e (by omega)

/-- "read the value backwards": the reversed slice reads the mirror image of what a unit-step slice reads (the slice
must not start at the end of the axis: there `size - start` is `-1`, the last position) -/
theorem reverseValueSlice_sel (vs : PySlice) (V : Int) (hV : 0 ≤ V) (h1 : vs.stp = 1) (hlt : vs.istart V < V) :
    sel (reverseValueSlice vs V) V = (sel vs V).map (fun p => V - 1 - p) := by
  have ha := istart_pos_bounds vs V hV (h1 ▸ Int.one_pos)
  have hb := istop_pos_bounds vs V hV (h1 ▸ Int.one_pos)
  rw [sel_stp_one vs V h1, ← rangeList_mirror (V - 1) _ _ 1 Int.one_pos]
  exact sel_down _ _ V (Int.sub_nonneg_of_le (Int.le_sub_one_of_lt hlt)) (Int.sub_le_self _ ha.1)
    (by omega) (Int.sub_le_self _ hb.1)

theorem blockValueSlice_getElem (rev : Bool) (V k0 size j : Nat) (hj : j < size) (hV : k0 + j < V) :
    ((sel (blockValueSlice false rev V k0 size) V)[j]?).map Int.toNat =
      some (if rev then V - 1 - (k0 + j) else k0 + j) := by
  have hmir : ((V : Int) - 1 - (k0 + j)).toNat = V - 1 - (k0 + j) := by
    rw [← Int.natCast_add, ← Int.natCast_one, ← Int.natCast_sub (Nat.one_le_of_lt hV),
      ← Int.natCast_sub (Nat.le_sub_one_of_lt hV), Int.toNat_natCast]
  have hjV : (k0 : Int) + j < V := Int.natCast_add k0 j ▸ Int.ofNat_lt.mpr hV
  have hkV : (k0 : Int) < V := Int.lt_of_le_of_lt (Int.le_add_of_nonneg_right (Int.natCast_nonneg j)) hjV
  have hlo : istart (valueSlice false k0 size) V = k0 :=
    (istart_some_nonneg none Int.one_pos (Int.natCast_nonneg k0) _ V).trans (Int.min_eq_left (Int.le_of_lt hkV))
  have hhi : istop (valueSlice false k0 size) V = min ((k0 : Int) + size) V :=
    istop_some_nonneg none Int.one_pos _ (Int.natCast_add k0 size ▸ Int.natCast_nonneg _) V
  -- forwards the slice reads `k0 + j` at `j`
  have hfw : (sel (valueSlice false k0 size) V)[j]? = some ((k0 : Int) + j) := by
    rw [sel_stp_one _ V rfl, hlo, hhi, getElem?_rangeList, Int.mul_one, if_pos]
    rw [lt_rangeLen_pos _ _ _ Int.one_pos, Int.mul_one]
    exact Int.lt_min.mpr ⟨Int.add_lt_add_left (Int.ofNat_lt.mpr hj) _, hjV⟩
  cases rev with
  | false =>
    rw [show blockValueSlice false false V k0 size = valueSlice false k0 size from rfl, hfw]
    exact congrArg some (Int.toNat_natCast (k0 + j))
  | true =>
    rw [show blockValueSlice false true V k0 size = reverseValueSlice (valueSlice false k0 size) V from rfl,
      reverseValueSlice_sel _ V (Int.natCast_nonneg V) rfl (Int.lt_of_le_of_lt (Int.le_of_eq hlo) hkV),
      List.getElem?_map, hfw]
    exact congrArg some hmir

/-- offset `q` of the block `[l0, l1)` is written by the assignment when it is the `j`-th selected position of the
block (`hj`) inside the range and the block (`hlt`): it then receives value entry `rangeLen A l0 m + j` (counted from
the other end for a reversed index; entry 0 under broadcasting) -/
theorem blockSource_some (s : PySlice) (n A B m : Int) (pf : Parsed s n A B m) (bcast : Bool)
    (l0 l1 q : Int) (hl0 : 0 ≤ l0) (hq0 : 0 ≤ q) (hq1 : q < l1 - l0)
    (j : Nat) (hj : q = relStart A l0 m + (j : Int) * m) (hlt : q < min (B - l0) (l1 - l0)) :
    blockSource s n bcast l0 l1 q =
      (some (if parseAssignReversed s n then rangeLen A B m - 1 - (rangeLen A l0 m + j)
        else rangeLen A l0 m + j)).map (fun k => if bcast then 0 else k) := by
  have hm := pf.hm
  have hsb0 := relStart_nonneg (S := A) (base := l0) hm
  obtain ⟨hr, hpB⟩ := (block_rank hm hq0 hq1 _).mpr ⟨j, rfl, hj, hlt⟩
  -- `q` has rank `j` among the block's entries, `l0 + q` rank `rangeLen A l0 m + j` among all
  have hjl : j < rangeLen (relStart A l0 m) (min (B - l0) (l1 - l0)) m :=
    (lt_rangeLen_pos _ _ _ hm j).mpr (hj ▸ hlt)
  have hrl : rangeLen A l0 m + j < rangeLen A B m := (lt_rangeLen_pos A B m hm _).mpr (hr ▸ hpB)
  have hov := lt_of_lt_rangeLen hm hjl
  have hAB := lt_of_lt_rangeLen hm hrl
  obtain ⟨e1, e2, e3⟩ := blk_eqs A B m l0 l1 hm
  rw [ceilq_eq_ceilDiv _ _ hm,
    ceilDiv_rangeLen hm (Int.lt_trans (Int.neg_neg_of_pos hm) (Int.sub_pos_of_lt hov))] at e3
  have e4 := blkPreceding_eq A B m l0 hm pf.hA hl0 (Int.lt_of_le_of_lt (Int.le_add_of_nonneg_right hq0) hpB)
  unfold blockSource
  simp only [pf.idx, e1, e2, e3, e4, blkOverlaps, decide_eq_false (Int.not_le.mpr hov), Bool.not_false, if_true,
    sel_inside hm hsb0 (Int.le_of_lt (Int.lt_of_le_of_lt hsb0 hov)) (Int.min_le_right _ _),
    rank_rangeList _ _ m q (Int.ne_of_gt hm) j hjl hj, pf.impl hAB,
    blockValueSlice_getElem _ _ _ _ j hjl hrl, Option.map_some]
  cases bcast <;> rfl

theorem blockSource_none (s : PySlice) (n A B m : Int) (pf : Parsed s n A B m) (bcast : Bool) (l0 l1 q : Int)
    (h : ∀ j : Nat, q = relStart A l0 m + (j : Int) * m → ¬ q < min (B - l0) (l1 - l0)) :
    blockSource s n bcast l0 l1 q = none := by
  have hm := pf.hm
  have hsb0 := relStart_nonneg (S := A) (base := l0) hm
  obtain ⟨e1, e2, _⟩ := blk_eqs A B m l0 l1 hm
  unfold blockSource
  simp only [pf.idx, e1, e2, blkOverlaps]
  by_cases hov : relStart A l0 m < min (B - l0) (l1 - l0)
  · simp only [decide_eq_false (Int.not_le.mpr hov), Bool.not_false, if_true,
      sel_inside hm hsb0 (Int.le_of_lt (Int.lt_of_le_of_lt hsb0 hov)) (Int.min_le_right _ _)]
    rw [rank_rangeList_none _ _ _ _ fun k hk e => h k e (e ▸ (lt_rangeLen_pos _ _ _ hm k).mp hk)]
  · simp [Int.not_lt.mp hov]

theorem blockSource_eq_npSource (s : PySlice) (n : Int) (hn : 0 ≤ n) (hs : s.stp ≠ 0) (bcast : Bool)
    (l0 l1 q : Int) (hl0 : 0 ≤ l0) (hq0 : 0 ≤ q) (hq1 : q < l1 - l0) :
    blockSource s n bcast l0 l1 q = npSourceB s n bcast (l0 + q) := by
  obtain ⟨A, B, m, pf⟩ := parseAssign_parsed s n hn hs
  have hrank := block_rank (S := A) (E := B) (base := l0) pf.hm hq0 hq1
  by_cases hex : ∃ r : Nat, l0 + q = A + (r : Int) * m ∧ l0 + q < B
  · obtain ⟨r, hr⟩ := hex
    obtain ⟨j, rfl, hj, hlt⟩ := (hrank r).mp hr
    rw [blockSource_some s n A B m pf bcast l0 l1 q hl0 hq0 hq1 j hj hlt, npSourceB,
      npSource_some s n A B m pf (l0 + q) _ hr.1 hr.2]
  · have hnone : npSource s n (l0 + q) = none :=
      npSource_none s n A B m pf (l0 + q) (fun r hr hlt => hex ⟨r, hr, hlt⟩)
    unfold npSourceB
    rw [hnone]
    exact blockSource_none s n A B m pf bcast l0 l1 q fun j hj hlt => hex ⟨_, (hrank _).mpr ⟨j, rfl, hj, hlt⟩⟩

theorem blocks_assemble {β} (N : Int) (F : Int → Int → Int → β) (G : Int → β)
    (hFG : ∀ l0 l1 q, 0 ≤ l0 → l1 ≤ N → 0 ≤ q → q < l1 - l0 → F l0 l1 q = G (l0 + q))
    (cs : List Int) (hc : ∀ c ∈ cs, 0 ≤ c) :
    ∀ off : Int, 0 ≤ off → off + isum cs ≤ N →
    (blockBounds off cs).flatMap (fun b => (List.range (b.2 - b.1).toNat).map (fun (q : Nat) => F b.1 b.2 q))
      = (List.range (isum cs).toNat).map (fun (p : Nat) => G (off + p)) := by
  induction cs with
  | nil => intro off _ _; rfl
  | cons c cs ih =>
    intro off hoff hN
    have h1 := hc c List.mem_cons_self
    have hcs : ∀ c' ∈ cs, 0 ≤ c' := fun c' h => hc c' (List.mem_cons_of_mem _ h)
    have h2 := isum_nonneg cs hcs
    have hN' : off + c + isum cs ≤ N := Int.add_assoc off c _ ▸ hN
    have hle : off + c ≤ N := Int.le_trans (Int.le_add_of_nonneg_right h2) hN'
    have e0 : off + c - off = c := by rw [Int.add_comm, Int.add_sub_cancel]
    show ((off, off + c) :: blockBounds (off + c) cs).flatMap _ = _
    rw [List.flatMap_cons, ih hcs (off + c) (Int.add_nonneg hoff h1) hN', isum,
      Int.toNat_add h1 h2, List.range_add, List.map_append, List.map_map, e0]
    congr 1
    · exact List.map_congr_left fun q hq =>
        hFG off (off + c) q hoff hle (Int.natCast_nonneg q)
          (by rw [e0]; have := List.mem_range.mp hq; omega)
    · exact List.map_congr_left fun p _ => by
        rw [Function.comp, Int.natCast_add, Int.toNat_of_nonneg h1, Int.add_assoc]

theorem sel_len_zero (t : PySlice) : sel t 0 = [] := by
  apply List.eq_nil_iff_forall_not_mem.mpr
  intro p hp
  have := sel_bounds t 0 (Int.le_refl 0) p hp
  omega

theorem blockSourceAxis_eq (k : Key) (n l0 l1 q : Int)
    (hk : match k with | .slice s => s.stp ≠ 0 | .int i => -n ≤ i ∧ i < n)
    (hl0 : 0 ≤ l0) (hl1 : l1 ≤ n) (hq0 : 0 ≤ q) (hq1 : q < l1 - l0) :
    blockSourceAxis k n l0 l1 q = npSourceAxis k n (l0 + q) := by
  cases k with
  | slice s =>
    show (blockSource s n false l0 l1 q).map some = (npSource s n (l0 + q)).map some
    rw [blockSource_eq_npSource s n (by omega) hk false l0 l1 q hl0 hq0 hq1]
    simp [npSourceB]
  | int i =>
    show (match blkInt (posifyInt n i) l0 l1 with
      | some b => if q = b then some none else none
      | none => none) = if l0 + q = posifyInt n i then some none else none
    generalize posifyInt n i = i'
    by_cases h : l0 ≤ i' ∧ i' < l1
    · have hiff : (q = i' - l0) ↔ (l0 + q = i') := eq_comm.trans (Int.sub_eq_iff_eq_add'.trans eq_comm)
      simp only [blkInt, h, and_self, if_true, hiff]
    · simp only [blkInt, h, if_false]
      have : ¬ l0 + q = i' := fun e => h (e ▸ ⟨Int.le_add_of_nonneg_right hq0, Int.add_lt_of_lt_sub_left hq1⟩)
      simp [this]

theorem set_ne {K L} (s : Store K L) (x y : Nat) (e : Entry K L) (h : y ≠ x) : s.set x e y = s y := by
  simp [Store.set, h]

theorem replaceExpr_eq {K L} (s : Store K L) (x : Nat) (e : Expr K) :
    replaceExpr s x e = s ∨ replaceExpr s x e = s.set x ⟨e, none⟩ := by
  unfold replaceExpr
  split
  · exact Or.inr rfl
  · exact Or.inl rfl

theorem replaceExpr_ne {K L} (s : Store K L) (x y : Nat) (e : Expr K) (h : y ≠ x) :
    replaceExpr s x e y = s y := by
  rcases replaceExpr_eq s x e with h' | h'
  · rw [h']
  · rw [h', set_ne s x y _ h]

theorem inv_set {K L} (mat : Expr K → L) (s : Store K L) (x : Nat) (e : Entry K L) (h : Inv mat s)
    (he : ∀ l, e.cache = some l → l = mat e.expr) : Inv mat (s.set x e) := by
  intro y e' l hy hc
  by_cases hyx : y = x
  · rw [hyx, Store.set, if_pos rfl] at hy
    cases hy
    exact he l hc
  · rw [set_ne s x y _ hyx] at hy; exact h y e' l hy hc

theorem cstep_spec {K L} (mat : Expr K → L) (s : Store K L) (op : COp K) :
    cstep mat s op = s ∨ ∃ e, cstep mat s op = s.set op.target e ∧
      (Inv mat s → ∀ l, e.cache = some l → l = mat e.expr) := by
  cases op with
  | derive1 | derive2 =>
    rw [cstep]; split
    · exact Or.inr ⟨_, rfl, fun _ _ hc => nomatch hc⟩
    · exact Or.inl rfl
  | setitem | outUfunc | computeChunkSizes =>
    rw [cstep]; split
    · exact (replaceExpr_eq s _ _).imp_right fun e => ⟨⟨_, none⟩, e, fun _ _ hc => nomatch hc⟩
    · exact Or.inl rfl
  | compute x =>
    rw [cstep]; split
    · next ex hx =>
      refine Or.inr ⟨_, rfl, fun h l hc => ?_⟩
      cases hc
      cases hcache : ex.cache with
      | none => rfl
      | some l' => exact h x ex l' hx hcache
    · exact Or.inl rfl

theorem cstep_inv {K L} (mat : Expr K → L) (s : Store K L) (op : COp K) (h : Inv mat s) :
    Inv mat (cstep mat s op) := by
  rcases cstep_spec mat s op with e | ⟨e, he, hc⟩
  · rw [e]; exact h
  · rw [he]; exact inv_set mat s _ e h (hc h)

theorem computed_eq_den {K L A} (I : Interp K A) (mat : Expr K → L) (eval : L → A)
    (sound : ∀ e, eval (mat e) = den I e) (s : Store K L) (h : Inv mat s) (x : Nat) :
    computed mat eval s x = (s x).map (fun e => den I e.expr) := by
  unfold computed
  cases hx : s x with
  | none => rfl
  | some e =>
    simp only [Option.map_some]
    cases hc : e.cache with
    | none => simp [sound]
    | some l => simp only []; rw [h x e l hx hc, sound]

end Dask.Lemmas.Hist
