/-
What `WF` says constructor by constructor, and the metadata invariant of well-formed expressions (`meta_ok`):
`.chunks` sums to the NumPy shape on every axis and every axis has at least one block.
-/
import DaskArrayModel.Lemmas.ExprShapeOps
namespace Dask.ND
open Dask.Py Dask.Py.PySlice Dask.Slicing

theorem wfLayout_iff {sh : List Nat} {l : Layout} :
    wfLayout sh l = true ↔ l.map List.sum = sh ∧ NonEmptyAxes l := by
  simp [wfLayout, NonEmptyAxes, List.all_eq_true]

theorem WF_zip {f : Nat} {a b : Expr} :
    WF (.zip f a b) ↔ WF a ∧ WF b ∧ shape a = shape b ∧ chunks a = chunks b := by
  simp only [WF, wf, Bool.and_eq_true, decide_eq_true_eq, and_assoc]

theorem WF_slice {e : Expr} {idx : List Ix} : WF (.slice e idx) ↔ WF e ∧ wfIx (shape e) idx = true := by
  simp only [WF, wf, Bool.and_eq_true]

theorem WF_transpose {e : Expr} {perm : List Nat} :
    WF (.transpose e perm) ↔ WF e ∧ isPerm perm (shape e).length = true := by
  simp only [WF, wf, Bool.and_eq_true]

theorem WF_rechunk {e : Expr} {l : Layout} : WF (.rechunk e l) ↔ WF e ∧ wfLayout (shape e) l = true := by
  simp only [WF, wf, Bool.and_eq_true]

theorem WF_concat {a b : Expr} {ax : Nat} :
    WF (.concat a b ax) ↔ WF a ∧ WF b ∧ ax < (shape a).length ∧
      (shape a).set ax 0 = (shape b).set ax 0 ∧ (chunks a).set ax [] = (chunks b).set ax [] := by
  simp only [WF, wf, Bool.and_eq_true, decide_eq_true_eq, and_assoc]

theorem WF_expandDims {e : Expr} {ax : Nat} : WF (.expandDims e ax) ↔ WF e ∧ ax ≤ (shape e).length := by
  simp only [WF, wf, Bool.and_eq_true, decide_eq_true_eq]

theorem WF_squeeze {e : Expr} {ax : Nat} :
    WF (.squeeze e ax) ↔ WF e ∧ ax < (shape e).length ∧ (chunks e).getD ax [] = [1] := by
  simp only [WF, wf, Bool.and_eq_true, decide_eq_true_eq, and_assoc]

theorem WF_broadcastTo {e : Expr} {sh : List Nat} {l : Layout} :
    WF (.broadcastTo e sh l) ↔ WF e ∧ wfLayout sh l = true ∧ (shape e).length ≤ sh.length ∧
      bcOK (chunks e) (l.drop (sh.length - (shape e).length)) = true := by
  simp only [WF, wf, Bool.and_eq_true, decide_eq_true_eq, and_assoc]

theorem WF_reduce {r : Red} {e : Expr} {ax k : Nat} :
    WF (.reduce r e ax k) ↔ WF e ∧ ax < (shape e).length ∧ 2 ≤ k ∧
      (r = .sum ∨ ∀ cs ∈ chunks e, ∀ c ∈ cs, 0 < c) := by
  simp only [WF, wf, Bool.and_eq_true, decide_eq_true_eq, Bool.or_eq_true, List.all_eq_true, and_assoc]

theorem WF_cumsum {e : Expr} {ax : Nat} : WF (.cumsum e ax) ↔ WF e ∧ ax < (shape e).length := by
  simp only [WF, wf, Bool.and_eq_true, decide_eq_true_eq]

structure PermOK (perm : List Nat) (n : Nat) : Prop where
  len : perm.length = n
  lt : ∀ a ∈ perm, a < n
  mem : ∀ a, a < n → a ∈ perm
  nodup : perm.Nodup

theorem isPerm_ok {perm : List Nat} {n : Nat} (h : isPerm perm n = true) : PermOK perm n := by
  simp only [isPerm, Bool.and_eq_true, decide_eq_true_eq, List.all_eq_true, List.mem_range,
    List.contains_iff_mem] at h
  obtain ⟨⟨⟨hlen, hlt⟩, hmem⟩, hnodup⟩ := h
  exact ⟨hlen, hlt, hmem, hnodup⟩

theorem PermOK.idxOf_lt {perm : List Nat} {n : Nat} (h : PermOK perm n) {a : Nat} (ha : a < n) :
    perm.idxOf a < n := by
  have := List.idxOf_lt_length_iff.2 (h.mem a ha)
  rwa [h.len] at this

theorem PermOK.getD_idxOf {perm : List Nat} {n : Nat} (h : PermOK perm n) {a : Nat} (ha : a < n) :
    perm.getD (perm.idxOf a) 0 = a :=
  Dask.Py.getD_idxOf perm a (h.mem a ha)

theorem PermOK.idxOf_getD {perm : List Nat} {n : Nat} (h : PermOK perm n) {k : Nat} (hk : k < n) :
    perm.idxOf (perm.getD k 0) = k :=
  idxOf_getD_of_nodup perm h.nodup k (h.len ▸ hk)

theorem PermOK.getD_lt {perm : List Nat} {n : Nat} (h : PermOK perm n) {k : Nat} (hk : k < n) :
    perm.getD k 0 < n := by
  have hk' : k < perm.length := by rw [h.len]; exact hk
  rw [getD_eq_getElem _ _ _ hk']
  exact h.lt _ (List.getElem_mem hk')

theorem sliceChunks_facts (sh : List Nat) (cl : Layout) (idx : List Ix)
    (hsum : cl.map List.sum = sh) (hne : NonEmptyAxes cl) (hwf : wfIx sh idx = true) :
    (sliceChunks sh cl idx).map List.sum = sliceShape sh idx ∧ NonEmptyAxes (sliceChunks sh cl idx) :=
  (slice_spec sh cl idx hsum hne hwf).2

theorem sum_getD_of_map_sum {l : Layout} {sh : List Nat} (h : l.map List.sum = sh) (k : Nat) :
    (l.getD k []).sum = sh.getD k 0 := by
  subst h
  by_cases hk : k < l.length
  · rw [getD_map List.sum l k [] 0 hk]
  · rw [getD_of_ge _ _ _ (by omega), getD_of_ge _ _ _ (by simp; omega)]; rfl

theorem length_of_map_sum {l : Layout} {sh : List Nat} (h : l.map List.sum = sh) :
    l.length = sh.length := by
  subst h; simp

theorem map_insertIdx {α β} (f : α → β) : ∀ (l : List α) (ax : Nat) (x : α),
    (l.insertIdx ax x).map f = (l.map f).insertIdx ax (f x)
  | l, 0, x => by simp
  | [], ax + 1, x => by simp
  | a :: l, ax + 1, x => by
    simp only [List.insertIdx_succ_cons, List.map_cons, map_insertIdx f l ax x]

theorem map_eraseIdx' {α β} (f : α → β) : ∀ (l : List α) (ax : Nat),
    (l.eraseIdx ax).map f = (l.map f).eraseIdx ax
  | [], _ => by simp
  | a :: l, 0 => by simp
  | a :: l, ax + 1 => by
    simp only [List.eraseIdx_cons_succ, List.map_cons, map_eraseIdx' f l ax]

theorem meta_ok (e : Expr) : WF e → (chunks e).map List.sum = shape e ∧ NonEmptyAxes (chunks e) := by
  induction e with
  | src _ sh ch => exact wfLayout_iff.mp
  | map _ e ih => exact ih
  | zip _ a b iha _ => exact fun h => iha (WF_zip.1 h).1
  | slice e idx ih =>
    intro h
    obtain ⟨he, hidx⟩ := WF_slice.1 h
    obtain ⟨i1, i2⟩ := ih he
    exact sliceChunks_facts (shape e) (chunks e) idx i1 i2 hidx
  | transpose e perm ih =>
    intro h
    obtain ⟨he, hperm⟩ := WF_transpose.1 h
    obtain ⟨i1, i2⟩ := ih he
    have hp := isPerm_ok hperm
    have hlen := length_of_map_sum i1
    simp only [chunks, shape]
    refine ⟨?_, ?_⟩
    · rw [← gather_map List.sum (d' := 0) rfl perm (chunks e), i1]
    · intro c hc
      simp only [List.mem_map] at hc
      obtain ⟨a, ha, rfl⟩ := hc
      exact i2.getD a (by rw [hlen]; exact hp.lt a ha)
  | rechunk e l _ => exact fun h => wfLayout_iff.mp (WF_rechunk.1 h).2
  | concat a b ax iha ihb =>
    intro h
    obtain ⟨ha, hb, hax, _, _⟩ := WF_concat.1 h
    obtain ⟨a1, a2⟩ := iha ha
    obtain ⟨b1, _⟩ := ihb hb
    have hlen := length_of_map_sum a1
    simp only [chunks, shape]
    refine ⟨?_, ?_⟩
    · rw [List.map_set, a1, List.sum_append, sum_getD_of_map_sum a1, sum_getD_of_map_sum b1]
    · exact a2.set fun e => a2.getD ax (by rw [hlen]; exact hax) (List.append_eq_nil_iff.mp e).1
  | expandDims e ax ih =>
    intro h
    obtain ⟨he, hax⟩ := WF_expandDims.1 h
    obtain ⟨i1, i2⟩ := ih he
    have hlen := length_of_map_sum i1
    simp only [chunks, shape]
    refine ⟨by rw [map_insertIdx, i1]; rfl, ?_⟩
    intro c hc
    rcases (List.mem_insertIdx (by rw [hlen]; exact hax)).mp hc with rfl | hc
    · simp
    · exact i2 c hc
  | squeeze e ax ih =>
    intro h
    obtain ⟨i1, i2⟩ := ih (WF_squeeze.1 h).1
    simp only [chunks, shape]
    refine ⟨by rw [map_eraseIdx', i1], ?_⟩
    intro c hc
    exact i2 c (List.mem_of_mem_eraseIdx hc)
  | broadcastTo e sh l _ => exact fun h => wfLayout_iff.mp (WF_broadcastTo.1 h).2.1
  | reduce r e ax k ih =>
    intro h
    obtain ⟨i1, i2⟩ := ih (WF_reduce.1 h).1
    simp only [chunks, shape]
    exact ⟨by rw [List.map_set, i1]; rfl, i2.set (List.cons_ne_nil _ _)⟩
  | cumsum e ax ih => exact fun h => ih (WF_cumsum.1 h).1
  | mapBlocks _ e ih => exact ih

end Dask.ND
