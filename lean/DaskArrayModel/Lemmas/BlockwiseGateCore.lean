/-
The core of the generic blockwise pushdown, independent of the kind of index.  For a well-formed node whose block
function is `LabelLocal`, the block function on operands re-indexed by `R` (any in-range re-indexing of point labels,
`ReixOK`) is the re-indexing of its value on the whole operands (`f_reindexed`).  Cutting into blocks is such a
re-indexing (`blockR`), so `compute()` is `f` applied to the whole operand values; and a node whose operands are
replaced by their re-indexings is well-formed and denotes the re-indexing of the old result.  `Indexable` is what
both gates establish for a label they let an index act on.
-/
import DaskArrayModel.Lemmas.BlockwiseGateBase
namespace Dask.BWG
open Dask.Py Dask.ND Dask.Contract

/-- default operand of the `getD`s below -/
def dO : Opd := { arr := dA, chunks := [], ind := none }

def lowOpd (U : Nat → List Nat) (bw : BW) (o : Opd) : Opd := if bw.align then alignOpd U o else o

theorem lowered_ops (U : Nat → List Nat) (bw : BW) : (lowered U bw).ops = bw.ops.map (lowOpd U bw) := by
  unfold lowered lowOpd
  by_cases h : bw.align = true
  · simp [h]
  · simp [h]

theorem lowered_outInd (U : Nat → List Nat) (bw : BW) : (lowered U bw).outInd = bw.outInd := by
  unfold lowered; split <;> rfl

theorem lowered_newAxes (U : Nat → List Nat) (bw : BW) : (lowered U bw).newAxes = bw.newAxes := by
  unfold lowered; split <;> rfl

/-- `_lower` changes nothing but an operand's chunks -/
theorem alignOpd_eq (U : Nat → List Nat) (o : Opd) : ∃ cs, alignOpd U o = { o with chunks := cs } := by
  unfold alignOpd; split
  · exact ⟨_, rfl⟩
  · split <;> exact ⟨_, rfl⟩

theorem lowOpd_eq (U : Nat → List Nat) (bw : BW) (o : Opd) : ∃ cs, lowOpd U bw o = { o with chunks := cs } := by
  unfold lowOpd; split
  · exact alignOpd_eq U o
  · exact ⟨_, rfl⟩

theorem lowOpd_arr (U : Nat → List Nat) (bw : BW) (o : Opd) : (lowOpd U bw o).arr = o.arr := by
  obtain ⟨_, e⟩ := lowOpd_eq U bw o; rw [e]

theorem lowOpd_ind (U : Nat → List Nat) (bw : BW) (o : Opd) : (lowOpd U bw o).ind = o.ind := by
  obtain ⟨_, e⟩ := lowOpd_eq U bw o; rw [e]

theorem lowOpd_labels (U : Nat → List Nat) (bw : BW) (o : Opd) : (lowOpd U bw o).labels = o.labels := by
  unfold Opd.labels; rw [lowOpd_ind]

theorem lowOpd_isArr (U : Nat → List Nat) (bw : BW) (o : Opd) : (lowOpd U bw o).isArr = o.isArr := by
  obtain ⟨_, e⟩ := lowOpd_eq U bw o; rw [e]

theorem blockCoord_lowered (U : Nat → List Nat) (bw : BW) (bid : List Nat) (l : Nat) :
    blockCoord (lowered U bw) bid l = blockCoord bw bid l := by
  unfold blockCoord; rw [lowered_outInd, lowered_newAxes]

/-- `layoutOK` read as propositions (`layoutOK_iff`): the chunk layout in force after `_lower` is consistent. -/
structure LOK (U : Nat → List Nat) (bw : BW) : Prop where
  lab : ∀ l ∈ bw.outInd, (bw.newAxes.lookup l).isSome = true ∨
    (((chunkss U bw l).getD []).sum = labLen bw l ∧ (chunkss U bw l).getD [] ≠ [])
  ops : ∀ o ∈ bw.ops, (lowOpd U bw o).chunks.length = o.arr.shape.length ∧
    ∀ k, k < o.labels.length →
      ((lowOpd U bw o).chunks.getD k []).sum = o.arr.shape.getD k 0 ∧
      (o.labels.getD k 0 ∈ bw.outInd →
        (lowOpd U bw o).chunks.getD k [] = (chunkss U bw (o.labels.getD k 0)).getD [] ∨
        (o.arr.shape.getD k 0 = 1 ∧ labLen bw (o.labels.getD k 0) ≠ 1 ∧ (lowOpd U bw o).chunks.getD k [] = [1]))

theorem layoutOK_iff (U : Nat → List Nat) (bw : BW) : layoutOK U bw = true ↔ LOK U bw := by
  unfold layoutOK
  rw [lowered_ops]
  simp only [Bool.and_eq_true, List.all_eq_true, Bool.or_eq_true, decide_eq_true_eq, Bool.not_eq_true',
    List.isEmpty_eq_false_iff, List.mem_map, forall_exists_index, and_imp, forall_apply_eq_imp_iff₂,
    lowOpd_labels, lowOpd_arr, List.mem_range, List.contains_eq_mem, beq_iff_eq, bne_iff_ne, ne_eq,
    decide_eq_false_iff_not]
  constructor
  · rintro ⟨h1, h2⟩
    refine ⟨h1, ?_⟩
    intro o ho
    obtain ⟨a, b⟩ := h2 o ho
    refine ⟨a, fun k hk => ?_⟩
    obtain ⟨c, d⟩ := b k hk
    refine ⟨c, fun hin => ?_⟩
    rcases d with (d | d) | d
    · exact absurd hin d
    · exact Or.inl d
    · exact Or.inr ⟨d.1.1, d.1.2, d.2⟩
  · rintro ⟨h1, h2⟩
    refine ⟨h1, ?_⟩
    intro o ho
    obtain ⟨a, b⟩ := h2 o ho
    refine ⟨a, fun k hk => ?_⟩
    obtain ⟨c, d⟩ := b k hk
    refine ⟨c, ?_⟩
    by_cases hin : o.labels.getD k 0 ∈ bw.outInd
    · rcases d hin with d | d
      · exact Or.inl (Or.inr d)
      · exact Or.inr ⟨⟨d.1, d.2.1⟩, d.2.2⟩
    · exact Or.inl (Or.inl hin)

theorem LOK.sum {U : Nat → List Nat} {bw : BW} (hL : LOK U bw) {l : Nat} (hl : l ∈ bw.outInd)
    (hnew : bw.newAxes.lookup l = none) : ((chunkss U bw l).getD []).sum = labLen bw l := by
  rcases hL.lab l hl with c | c
  · rw [hnew] at c; cases c
  · exact c.1

theorem sig_inds_getD (bw : BW) (t : Nat) (ht : t < bw.ops.length) :
    bw.sig.inds.getD t [] = (bw.ops.getD t dO).labels := by
  simp only [BW.sig]; exact getD_map Opd.labels bw.ops t dO [] ht

theorem wholes_getD (bw : BW) (t : Nat) (ht : t < bw.ops.length) :
    bw.wholes.getD t dA = (bw.ops.getD t dO).arr := by
  simp only [BW.wholes]; exact getD_map (·.arr) bw.ops t dO dA ht

theorem point_iff (bw : BW) (h : SOK bw) (l : Nat) :
    bw.sig.point l = true ↔ l ∈ bw.outInd ∧ bw.newAxes.lookup l = none := by
  simp only [Sig.point, BW.sig, h.noAdj, Dask.Assoc.lookup_map_snd]
  simp

theorem sig_outShape (bw : BW) (N : Nat → Nat) :
    bw.sig.outShape N = bw.outInd.map (fun l => ((bw.newAxes.lookup l).map List.sum).getD (N l)) := by
  simp only [Sig.outShape, BW.sig, Dask.Assoc.lookup_map_snd]

theorem mem_lenPairs_getD (bw : BW) (hS : SOK bw) (p : Nat × Nat) :
    p ∈ lenPairs bw.ops ↔ ∃ t, t < bw.ops.length ∧ ∃ k, k < (bw.ops.getD t dO).labels.length ∧
      p = ((bw.ops.getD t dO).labels.getD k 0, (bw.ops.getD t dO).arr.shape.getD k 0) := by
  rw [mem_lenPairs]
  constructor
  · rintro ⟨o, ho, k, hk1, _, e⟩
    obtain ⟨t, ht, et⟩ := exists_getD_of_mem bw.ops o dO ho
    subst et
    exact ⟨t, ht, k, hk1, e⟩
  · rintro ⟨t, ht, k, hk, e⟩
    have ho := getD_mem bw.ops t dO ht
    exact ⟨_, ho, k, hk, hS.labels_length ho ▸ hk, e⟩

theorem covered_of_not_new {bw : BW} (hS : SOK bw) (l : Nat) (hl : l ∈ bw.outInd)
    (hnew : bw.newAxes.lookup l = none) : (l, labLen bw l) ∈ lenPairs bw.ops := by
  rcases hS.covered l hl with c | c
  · rw [hnew] at c; cases c
  · exact c

theorem isLen_wholes (bw : BW) (h : SOK bw) : IsLen bw.sig bw.wholes (labLen bw) := by
  have hlen : bw.sig.inds.length = bw.ops.length := by simp [BW.sig]
  refine ⟨by simp [BW.sig, BW.wholes], ?_, ?_, ?_⟩
  · intro t ht
    rw [hlen] at ht
    rw [sig_inds_getD bw t ht, wholes_getD bw t ht]
    exact h.labels_length (getD_mem _ _ _ ht)
  · intro t k ht hk hp
    rw [hlen] at ht
    rw [sig_inds_getD bw t ht] at hk hp ⊢
    rw [wholes_getD bw t ht]
    exact h.lens _ ((mem_lenPairs_getD bw h _).mpr ⟨t, ht, k, hk, rfl⟩) ((point_iff bw h _).mp hp).1
  · intro l hp
    obtain ⟨hin, hnew⟩ := (point_iff bw h l).mp hp
    obtain ⟨t, ht, k, hk, e⟩ := (mem_lenPairs_getD bw h _).mp (covered_of_not_new h l hin hnew)
    rw [← sig_inds_getD bw t ht] at hk e
    rw [← wholes_getD bw t ht] at e
    exact ⟨t, k, hlen ▸ ht, hk, (Prod.mk.inj e).1.symm, (Prod.mk.inj e).2.symm⟩

/-- the re-indexing that cuts block `bid` out of the point labels -/
def blockR (U : Nat → List Nat) (bw : BW) (bid : List Nat) : Reix :=
  { act := bw.sig.point
    len := fun l => ((chunkss U bw l).getD []).getD (bid.getD (bw.outInd.idxOf l) 0) 0
    map := fun l x => (((chunkss U bw l).getD []).take (bid.getD (bw.outInd.idxOf l) 0)).sum + x }

theorem outChunks_getD (U : Nat → List Nat) (bw : BW) (h : SOK bw) (k : Nat) (hk : k < bw.outInd.length) :
    (outChunks U bw).getD k [] = (chunkss U bw (bw.outInd.getD k 0)).getD [] := by
  unfold outChunks
  rw [getD_map _ bw.outInd k 0 [] hk, h.noAdj]
  rfl

theorem outChunks_length (U : Nat → List Nat) (bw : BW) : (outChunks U bw).length = bw.outInd.length := by
  simp [outChunks]

theorem bid_lt (U : Nat → List Nat) (bw : BW) (h : SOK bw) (bid : List Nat)
    (hb : validBid (outChunks U bw) bid) (l : Nat) (hl : l ∈ bw.outInd) :
    bid.getD (bw.outInd.idxOf l) 0 < ((chunkss U bw l).getD []).length := by
  have hk : bw.outInd.idxOf l < bw.outInd.length := List.idxOf_lt_length_of_mem hl
  have := hb.getD_lt (bw.outInd.idxOf l) (by rw [outChunks_length]; exact hk)
  rwa [outChunks_getD U bw h _ hk, getD_idxOf _ _ hl] at this

theorem lookup_new_of_pair (bw : BW) (h : SOK bw) (p : Nat × Nat) (hp : p ∈ lenPairs bw.ops) :
    bw.newAxes.lookup p.1 = none :=
  Dask.Assoc.lookup_eq_none fun _ hq e => h.new_fresh hq p hp e.symm

theorem lookup_new_of_label (bw : BW) (h : SOK bw) (o : Opd) (ho : o ∈ bw.ops) (k : Nat)
    (hk : k < o.labels.length) : bw.newAxes.lookup (o.labels.getD k 0) = none :=
  lookup_new_of_pair bw h _ ((mem_lenPairs _ _).mpr ⟨o, ho, k, hk, h.labels_length ho ▸ hk, rfl⟩)

theorem lookup_new_of_not_out (bw : BW) (h : SOK bw) (l : Nat) (hl : l ∉ bw.outInd) :
    bw.newAxes.lookup l = none := by
  apply Dask.Assoc.lookup_eq_none
  intro q hq e
  exact hl (e ▸ h.new_mem hq)

theorem blockCoord_of_mem (bw : BW) (bid : List Nat) {l : Nat} (hnew : bw.newAxes.lookup l = none)
    (hl : l ∈ bw.outInd) : blockCoord bw bid l = some (bid.getD (bw.outInd.idxOf l) 0) := by
  unfold blockCoord
  rw [hnew, if_pos (List.contains_iff_mem.mpr hl)]
  rfl

theorem blockCoord_of_not_mem (bw : BW) (bid : List Nat) {l : Nat} (hnew : bw.newAxes.lookup l = none)
    (hl : l ∉ bw.outInd) : blockCoord bw bid l = none := by
  unfold blockCoord
  rw [hnew, if_neg (fun h => hl (List.contains_iff_mem.mp h))]
  rfl

theorem opExtent_getD (bw : BW) (bid : List Nat) (o : Opd) (k : Nat) (hk : k < o.labels.length) :
    (opExtent bw bid o).shape.getD k 0 = axisLen bw bid (o.labels.getD k 0) (o.chunks.getD k []) ∧
    (opExtent bw bid o).start.getD k 0 = axisStart bw bid (o.labels.getD k 0) (o.chunks.getD k []) :=
  ⟨getD_map_range _ _ _ _ hk, getD_map_range _ _ _ _ hk⟩

theorem opBlock_eq_reix (U : Nat → List Nat) (bw : BW) (h : SOK bw) (hL : LOK U bw) (bid : List Nat)
    (hb : validBid (outChunks U bw) bid) (o : Opd) (ho : o ∈ bw.ops) :
    Arr.Equiv (opBlock (lowered U bw) bid (lowOpd U bw o)) (reix (blockR U bw bid) (labLen bw) o.labels o.arr) := by
  obtain ⟨_, hc2⟩ := hL.ops o ho
  have hkind : ((lowOpd U bw o).isArr || (lowOpd U bw o).ind.isNone) = true := by
    rw [lowOpd_isArr, lowOpd_ind]
    rcases h.array_or_literal ho with ⟨e, _⟩ | e <;> simp [e]
  have hlab := lowOpd_labels U bw o
  unfold opBlock
  rw [hkind, if_pos rfl, ← lowOpd_arr U bw o]
  refine restrict_equiv_reix _ _ _ _ _ ?_ ?_ fun k hk => ?_
  · exact ((List.length_map _).trans List.length_range).trans (congrArg List.length hlab)
  · exact ((List.length_map _).trans List.length_range).trans (congrArg List.length hlab)
  obtain ⟨hsum, hcase⟩ := hc2 k hk
  have hnew := lookup_new_of_label bw h o ho k hk
  obtain ⟨e1, e2⟩ := opExtent_getD (lowered U bw) bid (lowOpd U bw o) k (hlab.symm ▸ hk)
  rw [e1, e2, hlab, lowOpd_arr]
  unfold axisLen axisStart
  rw [blockCoord_lowered]
  by_cases hin : o.labels.getD k 0 ∈ bw.outInd
  · rw [blockCoord_of_mem bw bid hnew hin]
    dsimp only
    have hlt := bid_lt U bw h bid hb _ hin
    rcases hcase hin with hc | ⟨hn1, hN, hc⟩
    · have hon : (blockR U bw bid).on (labLen bw) (o.labels.getD k 0) (o.arr.shape.getD k 0) = true :=
        Reix.on_iff.mpr ⟨(point_iff bw h _).mpr ⟨hin, hnew⟩, by rw [← hsum, hc, hL.sum hin hnew]⟩
      rw [if_pos hon, hc, Nat.mod_eq_of_lt hlt]
      exact ⟨rfl, fun x => (if_pos hon).symm⟩
    · have hon : (blockR U bw bid).on (labLen bw) (o.labels.getD k 0) (o.arr.shape.getD k 0) = false :=
        Reix.on_of_ne (hn1 ▸ fun e => hN e.symm)
      rw [hon, hc, hn1]
      simp [Nat.mod_one]
  · rw [blockCoord_of_not_mem bw bid hnew hin]
    dsimp only
    have hon : (blockR U bw bid).on (labLen bw) (o.labels.getD k 0) (o.arr.shape.getD k 0) = false :=
      Reix.on_of_not_act (Bool.eq_false_iff.mpr fun hp => hin ((point_iff bw h _).mp hp).1)
    rw [hon]
    exact ⟨hsum, fun x => Nat.zero_add x⟩

theorem chunkss_of_new (U : Nat → List Nat) (bw : BW) (l : Nat) (v : List Nat)
    (h : bw.newAxes.lookup l = some v) : chunkss U bw l = some v := by
  unfold chunkss; rw [h]

theorem reix_out_eq_restrict (U : Nat → List Nat) (bw : BW) (h : SOK bw) (bid : List Nat)
    (hb : validBid (outChunks U bw) bid) (y : Arr Int) (hy : y.shape = bw.sig.outShape (labLen bw)) :
    Arr.Equiv (reix (blockR U bw bid) (labLen bw) bw.outInd y) (restrict y (extent (outChunks U bw) bid)) := by
  have hbl : bid.length = (outChunks U bw).length := hb.length_eq
  have hol := outChunks_length U bw
  refine (restrict_equiv_reix _ _ _ _ _ ((origin_length hbl).trans hol) ((blockShape_length hbl).trans hol)
    fun k hk => ?_).symm
  have hko : k < (outChunks U bw).length := hol.symm ▸ hk
  show (blockShape (outChunks U bw) bid).getD k 0 = _ ∧ ∀ x, (origin (outChunks U bw) bid).getD k 0 + x = _
  have hin : bw.outInd.getD k 0 ∈ bw.outInd := getD_mem _ _ _ hk
  have hidx := idxOf_getD_of_nodup (d := 0) _ h.nodup k hk
  have hys : y.shape.getD k 0 =
      ((bw.newAxes.lookup (bw.outInd.getD k 0)).map List.sum).getD (labLen bw (bw.outInd.getD k 0)) := by
    rw [hy, sig_outShape, getD_map _ bw.outInd k 0 0 hk]
  have hlt := hb.getD_lt k hko
  rw [blockShape_getD hbl k hko, origin_getD hbl k hko]
  rw [outChunks_getD U bw h k hk] at hlt ⊢
  cases hnew : bw.newAxes.lookup (bw.outInd.getD k 0) with
  | some v =>
    have hon : (blockR U bw bid).on (labLen bw) (bw.outInd.getD k 0) (y.shape.getD k 0) = false :=
      Reix.on_of_not_act (Bool.eq_false_iff.mpr fun hp =>
        Option.some_ne_none v (hnew.symm.trans ((point_iff bw h _).mp hp).2))
    rw [chunkss_of_new U bw _ v hnew] at hlt ⊢
    have hv1 : v.length = 1 := h.new_single (Dask.Assoc.mem_of_lookup hnew)
    have hb0 : bid.getD k 0 = 0 := Nat.lt_one_iff.mp (hv1 ▸ hlt)
    rw [hon, hb0, hys, hnew]
    match v, hv1 with
    | [m], _ => exact ⟨rfl, fun x => Nat.zero_add x⟩
  | none =>
    have hon : (blockR U bw bid).on (labLen bw) (bw.outInd.getD k 0) (y.shape.getD k 0) = true :=
      Reix.on_iff.mpr ⟨(point_iff bw h _).mpr ⟨hin, hnew⟩, by rw [hys, hnew]; rfl⟩
    rw [if_pos hon]
    refine ⟨?_, fun x => ?_⟩
    · simp only [blockR]; rw [hidx]
    · rw [if_pos hon]; simp only [blockR]; rw [hidx]

theorem outShape_eq (U : Nat → List Nat) (bw : BW) (h : SOK bw) (hL : LOK U bw) :
    outShape U bw = bw.sig.outShape (labLen bw) := by
  rw [sig_outShape]
  unfold outShape outChunks
  rw [List.map_map]
  apply List.map_congr_left
  intro l hl
  simp only [Function.comp, h.noAdj, List.lookup_nil, Option.getD_none]
  cases hnew : bw.newAxes.lookup l with
  | some v => rw [chunkss_of_new U bw l v hnew]; rfl
  | none => rw [hL.sum hl hnew]; rfl

structure ReixOK (R : Reix) (bw : BW) : Prop where
  point : ∀ l, R.act l = true → bw.sig.point l = true
  range : ∀ l, R.act l = true → ∀ x, x < R.len l → R.map l x < labLen bw l

/-- For every tuple `as` whose entries are the operands re-indexed by `R`: the blocks one task reads (`blockR`) and
the operands of a rewritten node alike. -/
theorem f_reindexed {R : Reix} {bw : BW} (hS : SOK bw) (hf : LabelLocal bw.sig bw.f) (hR : ReixOK R bw)
    (as : List (Arr Int)) (hlen : as.length = bw.ops.length)
    (has : ∀ t, t < bw.ops.length → Arr.Equiv (as.getD t dA)
      (reix R (labLen bw) (bw.ops.getD t dO).labels (bw.ops.getD t dO).arr)) :
    Arr.Equiv (bw.f as) (reix R (labLen bw) bw.outInd (bw.f bw.wholes)) := by
  have hl : bw.sig.inds.length = bw.ops.length := by simp [BW.sig]
  refine (hf.congr _ (reTuple R (labLen bw) bw.sig.inds bw.wholes) ?_ fun t ht => ?_).trans
    (hf.natural R bw.wholes (labLen bw) (isLen_wholes bw hS) hR.point hR.range)
  · rw [hlen, reTuple, List.length_map, List.length_range, hl]
  · have ht' : t < bw.ops.length := hlen ▸ ht
    rw [reTuple_getD _ _ _ _ _ (hl.symm ▸ ht'), sig_inds_getD bw t ht', wholes_getD bw t ht']
    exact has t ht'

theorem blockR_ok (U : Nat → List Nat) (bw : BW) (h : SOK bw) (hL : LOK U bw) (bid : List Nat) :
    ReixOK (blockR U bw bid) bw := by
  refine ⟨fun l hl => hl, fun l hl x hx => ?_⟩
  obtain ⟨hin, hnew⟩ := (point_iff bw h l).mp hl
  exact hL.sum hin hnew ▸ Nat.lt_of_lt_of_le (Nat.add_lt_add_left hx _)
    (Layout.nstart_end_le _ _)

theorem den_eq_whole (U : Nat → List Nat) (bw : BW) (h : SOK bw) (hL : LOK U bw)
    (hf : LabelLocal bw.sig bw.f) : Arr.Equiv (den U bw) (bw.f bw.wholes) := by
  have hshape := hf.shape _ _ (isLen_wholes bw h)
  unfold den
  apply assemble_of_blocks
  · exact (outShape_eq U bw h hL).trans hshape.symm
  · intro bid hb
    unfold blockOf
    rw [lowered_ops, List.map_map]
    refine (f_reindexed h hf (blockR_ok U bw h hL bid) _ (List.length_map _) fun t ht => ?_).trans
      (reix_out_eq_restrict U bw h bid hb (bw.f bw.wholes) hshape)
    rw [getD_map _ bw.ops t dO dA ht]
    exact opBlock_eq_reix U bw h hL bid hb _ (getD_mem _ _ _ ht)

/-- `bw'` is `bw` with operands re-indexed by `R` (values up to `Arr.Equiv`) -/
structure Reindexed (R : Reix) (bw bw' : BW) : Prop where
  f : bw'.f = bw.f
  outInd : bw'.outInd = bw.outInd
  newAxes : bw'.newAxes = bw.newAxes
  adjust : bw'.adjust = bw.adjust
  len : bw'.ops.length = bw.ops.length
  ind : ∀ t, t < bw.ops.length → (bw'.ops.getD t dO).ind = (bw.ops.getD t dO).ind
  isArr : ∀ t, t < bw.ops.length → (bw'.ops.getD t dO).isArr = (bw.ops.getD t dO).isArr
  piece : ∀ t, t < bw.ops.length → (bw'.ops.getD t dO).pieceRank = (bw.ops.getD t dO).pieceRank
  chunks : ∀ t, t < bw.ops.length → (bw'.ops.getD t dO).chunks.length = (bw.ops.getD t dO).arr.shape.length
  arr : ∀ t, t < bw.ops.length → Arr.Equiv (bw'.ops.getD t dO).arr
    (reix R (labLen bw) (bw.ops.getD t dO).labels (bw.ops.getD t dO).arr)

theorem Reindexed.of_map {R : Reix} {bw : BW} (g : Opd → Opd)
    (hind : ∀ o, (g o).ind = o.ind) (hisArr : ∀ o, (g o).isArr = o.isArr)
    (hpiece : ∀ o, (g o).pieceRank = o.pieceRank)
    (hchunks : ∀ o ∈ bw.ops, (g o).chunks.length = o.arr.shape.length)
    (harr : ∀ o ∈ bw.ops, Arr.Equiv (g o).arr (reix R (labLen bw) o.labels o.arr)) :
    Reindexed R bw { bw with ops := bw.ops.map g } := by
  have hget : ∀ t, t < bw.ops.length → (bw.ops.map g).getD t dO = g (bw.ops.getD t dO) :=
    fun t ht => getD_map _ bw.ops t dO dO ht
  refine ⟨rfl, rfl, rfl, rfl, List.length_map _, ?_, ?_, ?_, ?_, ?_⟩
  · intro t ht; exact (congrArg Opd.ind (hget t ht)).trans (hind _)
  · intro t ht; exact (congrArg Opd.isArr (hget t ht)).trans (hisArr _)
  · intro t ht; exact (congrArg Opd.pieceRank (hget t ht)).trans (hpiece _)
  · intro t ht
    show ((bw.ops.map g).getD t dO).chunks.length = _
    rw [hget t ht]; exact hchunks _ (getD_mem bw.ops t dO ht)
  · intro t ht
    show Arr.Equiv ((bw.ops.map g).getD t dO).arr _
    rw [hget t ht]; exact harr _ (getD_mem bw.ops t dO ht)

theorem Reindexed.labels {R : Reix} {bw bw' : BW} (h : Reindexed R bw bw') (t : Nat) (ht : t < bw.ops.length) :
    (bw'.ops.getD t dO).labels = (bw.ops.getD t dO).labels := by
  unfold Opd.labels; rw [h.ind t ht]

theorem Reindexed.sig {R : Reix} {bw bw' : BW} (h : Reindexed R bw bw') : bw'.sig = bw.sig := by
  have hinds : bw'.ops.map Opd.labels = bw.ops.map Opd.labels := by
    apply List.ext_getElem (by simp [h.len])
    intro t h1 h2
    have ht : t < bw.ops.length := by simpa using h2
    have ht' : t < bw'.ops.length := by simpa using h1
    simp only [List.getElem_map]
    have := h.labels t ht
    rwa [getD_eq_getElem _ _ _ ht, getD_eq_getElem _ _ _ ht'] at this
  simp only [BW.sig, h.outInd, h.newAxes, h.adjust, hinds]

theorem Reindexed.shape_getD {R : Reix} {bw bw' : BW} (h : Reindexed R bw bw') (t : Nat) (ht : t < bw.ops.length)
    (k : Nat) (hk : k < (bw.ops.getD t dO).labels.length) :
    (bw'.ops.getD t dO).arr.shape.getD k 0 =
      if R.on (labLen bw) ((bw.ops.getD t dO).labels.getD k 0) ((bw.ops.getD t dO).arr.shape.getD k 0)
      then R.len ((bw.ops.getD t dO).labels.getD k 0) else (bw.ops.getD t dO).arr.shape.getD k 0 := by
  rw [(h.arr t ht).1, reix_shape_getD _ _ _ _ _ hk]

theorem Reindexed.shape_length {R : Reix} {bw bw' : BW} (h : Reindexed R bw bw') (t : Nat) (ht : t < bw.ops.length) :
    (bw'.ops.getD t dO).arr.shape.length = (bw.ops.getD t dO).labels.length := by
  rw [(h.arr t ht).1, reix_shape_length]

theorem mem_lenPairs_reindexed {R : Reix} {bw bw' : BW} (hS : SOK bw) (h : Reindexed R bw bw') (q : Nat × Nat) :
    q ∈ lenPairs bw'.ops ↔ ∃ p ∈ lenPairs bw.ops,
      q = (p.1, if R.on (labLen bw) p.1 p.2 then R.len p.1 else p.2) := by
  constructor
  · intro hq
    obtain ⟨o', ho', k, hk1, hk2, e⟩ := (mem_lenPairs _ _).mp hq
    obtain ⟨t, ht, et⟩ := exists_getD_of_mem bw'.ops o' dO ho'
    have ht' : t < bw.ops.length := h.len ▸ ht
    subst et
    rw [h.labels t ht'] at hk1 e
    refine ⟨_, (mem_lenPairs_getD bw hS _).mpr ⟨t, ht', k, hk1, rfl⟩, ?_⟩
    rw [e, h.shape_getD t ht' k hk1]
  · rintro ⟨p, hp, rfl⟩
    obtain ⟨t, ht, k, hk, rfl⟩ := (mem_lenPairs_getD bw hS p).mp hp
    have ht' : t < bw'.ops.length := h.len.symm ▸ ht
    refine (mem_lenPairs _ _).mpr ⟨bw'.ops.getD t dO, getD_mem _ _ _ ht', k, ?_, ?_, ?_⟩
    · rw [h.labels t ht]; exact hk
    · rw [h.shape_length t ht]; exact hk
    · rw [h.labels t ht, h.shape_getD t ht k hk]

theorem labLen_eq_of_pairs (bw : BW) (l L : Nat)
    (h1 : ∀ p ∈ lenPairs bw.ops, p.1 = l → p.2 = L ∨ p.2 = 1)
    (h2 : (l, L) ∈ lenPairs bw.ops) : labLen bw l = L := by
  unfold labLen
  apply bdim_eq
  · intro n hn
    obtain ⟨p, hp, e⟩ := List.mem_map.mp hn
    obtain ⟨hp1, hp2⟩ := List.mem_filter.mp hp
    rw [← e]
    exact h1 p hp1 (by simpa using hp2)
  · apply List.mem_map.mpr
    exact ⟨(l, L), List.mem_filter.mpr ⟨h2, by simp⟩, rfl⟩

theorem newPair_cov {R : Reix} {bw bw' : BW} (hS : SOK bw) (h : Reindexed R bw bw') (l : Nat)
    (hcov : (l, labLen bw l) ∈ lenPairs bw.ops) : (l, reLen R (labLen bw) l) ∈ lenPairs bw'.ops :=
  (mem_lenPairs_reindexed hS h _).mpr ⟨_, hcov, by rw [Reix.on_self]; rfl⟩

theorem labLen_reindexed {R : Reix} {bw bw' : BW} (hS : SOK bw) (h : Reindexed R bw bw')
    (l : Nat) (hl : l ∈ bw.outInd) (hnew : bw.newAxes.lookup l = none) :
    labLen bw' l = reLen R (labLen bw) l := by
  apply labLen_eq_of_pairs
  · intro q hq e
    obtain ⟨p, hp, rfl⟩ := (mem_lenPairs_reindexed hS h q).mp hq
    have e' : p.1 = l := e
    subst e'
    exact reLen_cases _ _ _ _ (hS.lens p hp hl)
  · exact newPair_cov hS h l (covered_of_not_new hS l hl hnew)

theorem sok_reindexed {R : Reix} {bw bw' : BW} (hS : SOK bw) (h : Reindexed R bw bw') :
    SOK bw' := by
  refine ⟨h.outInd ▸ hS.nodup, ?_, ?_, h.newAxes ▸ hS.newNodup, ?_, ?_, h.adjust ▸ hS.noAdj⟩
  · intro o' ho'
    obtain ⟨t, ht, et⟩ := exists_getD_of_mem bw'.ops o' dO ho'
    have ht' : t < bw.ops.length := h.len ▸ ht
    subst et
    have ho := getD_mem bw.ops t dO ht'
    refine ⟨?_, ?_, ?_⟩
    · rw [h.labels t ht', h.shape_length t ht']
    · rw [h.chunks t ht', h.shape_length t ht']; exact (hS.labels_length ho).symm
    · rw [h.isArr t ht', h.ind t ht', h.piece t ht']; exact hS.array_or_literal ho
  · intro q hq
    rw [h.newAxes] at hq
    refine ⟨h.outInd ▸ hS.new_mem hq, hS.new_single hq, ?_⟩
    intro p' hp' e
    obtain ⟨p, hp, rfl⟩ := (mem_lenPairs_reindexed hS h p').mp hp'
    exact hS.new_fresh hq p hp e
  · intro l hl
    rw [h.outInd] at hl
    rw [h.newAxes]
    cases hnew : bw.newAxes.lookup l with
    | some v => exact Or.inl rfl
    | none =>
      rw [labLen_reindexed hS h l hl hnew]
      exact Or.inr (newPair_cov hS h l (covered_of_not_new hS l hl hnew))
  · intro p' hp' hin
    rw [h.outInd] at hin
    obtain ⟨p, hp, rfl⟩ := (mem_lenPairs_reindexed hS h p').mp hp'
    show _ = labLen bw' p.1 ∨ _
    rw [labLen_reindexed hS h p.1 hin (lookup_new_of_pair bw hS p hp)]
    exact reLen_cases _ _ _ _ (hS.lens p hp hin)

theorem den_reindexed {R : Reix} {bw bw' : BW} (U U' : Nat → List Nat) (hS : SOK bw) (hL : LOK U bw)
    (hf : LabelLocal bw.sig bw.f) (hR : ReixOK R bw) (h : Reindexed R bw bw') (hL' : LOK U' bw') :
    Arr.Equiv (den U' bw') (reix R (labLen bw) bw.outInd (den U bw)) := by
  have hf' : LabelLocal bw'.sig bw'.f := by rw [h.sig, h.f]; exact hf
  have A' := den_eq_whole U' bw' (sok_reindexed hS h) hL' hf'
  rw [h.f] at A'
  have B := f_reindexed hS hf hR bw'.wholes (by simp [BW.wholes, h.len]) fun t ht => by
    rw [wholes_getD bw' t (h.len.symm ▸ ht)]; exact h.arr t ht
  have hsh := hf.shape _ _ (isLen_wholes bw hS)
  have D : Arr.Equiv (reix R (labLen bw) bw.outInd (bw.f bw.wholes))
      (reix R (labLen bw) bw.outInd (den U bw)) := by
    apply reix_congr _ _ _ _ _ (by rw [hsh]; simp [Sig.outShape, BW.sig]) (den_eq_whole U bw hS hL hf).symm
    intro k hk hon x hx
    obtain ⟨hact, hn⟩ := Reix.on_iff.mp hon
    rw [hn]
    exact hR.range _ hact x hx
  exact (A'.trans B).trans D

theorem Opd.ind_of_lt {o : Opd} {k : Nat} (hk : k < o.labels.length) : o.ind = some o.labels := by
  unfold Opd.labels at hk ⊢
  cases h : o.ind with
  | none => rw [h] at hk; exact absurd hk (Nat.not_lt_zero _)
  | some ind => rfl

theorem den_shape (U : Nat → List Nat) (bw : BW) : (den U bw).shape = outShape U bw := rfl

theorem outShape_length (U : Nat → List Nat) (bw : BW) : (outShape U bw).length = bw.outInd.length := by
  simp [outShape, outChunks]

/-- **What either gate establishes for a label it lets an index act on**: `l` is an output label and no new axis,
and every operand axis that carries `l` has the node's length along `l` (gate `Gates.broadcast`) and, on an unaligned
node, the node's chunks (`Gates.unaligned`). -/
structure Indexable (U : Nat → List Nat) (bw : BW) (l : Nat) : Prop where
  mem : l ∈ bw.outInd
  newFree : bw.newAxes.lookup l = none
  axes : ∀ o ∈ bw.ops, ∀ k, k < o.labels.length → o.labels.getD k 0 = l →
    o.arr.shape.getD k 0 = (outShape U bw).getD (bw.outInd.idxOf l) 0 ∧
    (bw.align = false → o.chunks.getD k [] = (outChunks U bw).getD (bw.outInd.idxOf l) [])

theorem Indexable.point {U : Nat → List Nat} {bw : BW} {l : Nat} (h : Indexable U bw l) (hS : SOK bw) :
    bw.sig.point l = true := (point_iff bw hS l).mpr ⟨h.mem, h.newFree⟩

theorem Indexable.outLen {U : Nat → List Nat} {bw : BW} {l : Nat} (h : Indexable U bw l) (hS : SOK bw)
    (hL : LOK U bw) : (outShape U bw).getD (bw.outInd.idxOf l) 0 = labLen bw l := by
  rw [outShape_eq U bw hS hL, sig_outShape, getD_map _ bw.outInd _ 0 0 (List.idxOf_lt_length_of_mem h.mem),
    getD_idxOf _ _ h.mem, h.newFree]
  rfl

theorem Indexable.len {U : Nat → List Nat} {bw : BW} {l : Nat} (h : Indexable U bw l) (hS : SOK bw)
    (hL : LOK U bw) {o : Opd} (ho : o ∈ bw.ops) {k : Nat} (hk : k < o.labels.length)
    (hl : o.labels.getD k 0 = l) : o.arr.shape.getD k 0 = labLen bw l :=
  (h.axes o ho k hk hl).1.trans (h.outLen hS hL)

theorem Indexable.out {U : Nat → List Nat} {bw : BW} {k : Nat} (h : Indexable U bw (bw.outInd.getD k 0))
    (hS : SOK bw) (hL : LOK U bw) (hk : k < bw.outInd.length) :
    (outShape U bw).getD k 0 = labLen bw (bw.outInd.getD k 0) := by
  have := h.outLen hS hL
  rwa [idxOf_getD_of_nodup _ hS.nodup k hk] at this

theorem newFree_of_gate {bw : BW} {l : Nat} {c : Bool}
    (h : ¬ (!bw.newAxes.isEmpty && c) = true) (hc : (bw.newAxes.lookup l).isSome = true → c = true) :
    bw.newAxes.lookup l = none := by
  cases hlk : bw.newAxes.lookup l with
  | none => rfl
  | some v =>
    refine absurd ?_ h
    have hne : bw.newAxes.isEmpty = false := by
      cases hb : bw.newAxes with
      | nil => rw [hb] at hlk; cases hlk
      | cons _ _ => rfl
    rw [hne, hc (by rw [hlk]; rfl)]; rfl

end Dask.BWG
