/-
A Python dict as an association list `List (κ × α)` read with `List.lookup` (the first binding of a
key is the binding).  The model spells this lookup out three times (`Dask.Entry.get?`,
`Dask.Graph.getTask`, `Dask.Names.cacheLookup`; each is `List.lookup` by `eq_lookup`) and uses `List.lookup`
itself for `Dask.Memo.Cache.get?`, `new_axes`, `adjust_chunks`, the `location` dict of `block_info` and the
npy-stack table; the facts about it are stated here once.
-/
namespace Dask.Assoc
universe u v w
variable {κ : Type u} {α : Type v} [BEq κ] [LawfulBEq κ] [DecidableEq κ]

theorem lookup_cons (k k' : κ) (v : α) (l : List (κ × α)) :
    ((k', v) :: l).lookup k = if k = k' then some v else l.lookup k := by
  rw [List.lookup_cons]
  by_cases h : k = k'
  · rw [if_pos h, beq_iff_eq.mpr h]
  · rw [if_neg h, beq_eq_false_iff_ne.mpr h]

theorem eq_lookup (f : List (κ × α) → κ → Option α) (hnil : ∀ k, f [] k = none)
    (hcons : ∀ k' v r k, f ((k', v) :: r) k = if k' = k then some v else f r k) :
    ∀ (l : List (κ × α)) (k : κ), f l k = l.lookup k
  | [], k => hnil k
  | (k', v) :: r, k => by
    rw [hcons, lookup_cons, eq_lookup f hnil hcons r k]
    by_cases h : k' = k
    · rw [if_pos h, if_pos h.symm]
    · rw [if_neg h, if_neg (Ne.symm h)]

omit [DecidableEq κ] in
theorem mem_of_lookup {l : List (κ × α)} {k : κ} {v : α} (h : l.lookup k = some v) : (k, v) ∈ l := by
  obtain ⟨l₁, l₂, rfl, _⟩ := List.lookup_eq_some_iff.mp h
  exact List.mem_append_right _ List.mem_cons_self

omit [DecidableEq κ] in
theorem lookup_eq_none {l : List (κ × α)} {k : κ} (h : ∀ p ∈ l, p.1 ≠ k) : l.lookup k = none :=
  List.lookup_eq_none_iff.mpr fun p hp => bne_iff_ne.mpr (Ne.symm (h p hp))

theorem lookup_of_mem_nodup : ∀ {l : List (κ × α)} {k : κ} {v : α}, (l.map Prod.fst).Nodup →
    (k, v) ∈ l → l.lookup k = some v
  | (k', v') :: r, k, v, hn, h => by
    have hn' := List.nodup_cons.mp hn
    rw [lookup_cons]
    rcases List.mem_cons.mp h with e | hin
    · cases e; rw [if_pos rfl]
    · have : k ≠ k' := fun e => hn'.1 (e ▸ List.mem_map.mpr ⟨(k, v), hin, rfl⟩)
      rw [if_neg this]; exact lookup_of_mem_nodup hn'.2 hin

/-- `del d[k0]` -/
theorem lookup_erase (l : List (κ × α)) (k0 k : κ) :
    (l.filter (fun p => !decide (p.1 = k0))).lookup k = if k = k0 then none else l.lookup k := by
  induction l with
  | nil => simp
  | cons p r ih =>
    obtain ⟨k', v⟩ := p
    by_cases h0 : k' = k0
    · rw [List.filter_cons_of_neg (by simp [h0]), ih, lookup_cons]
      by_cases hk : k = k0
      · rw [if_pos hk, if_pos hk]
      · rw [if_neg hk, if_neg hk, if_neg (h0 ▸ hk)]
    · rw [List.filter_cons_of_pos (by simp [h0]), lookup_cons, lookup_cons, ih]
      by_cases hk : k = k'
      · rw [if_pos hk, if_pos hk, if_neg (hk ▸ h0)]
      · rw [if_neg hk, if_neg hk]

theorem lookup_map_of_mem {β : Type w} (key : β → κ) (val : β → α) (hinj : ∀ a b, key a = key b → a = b) :
    ∀ {l : List β} {a : β}, a ∈ l → (l.map (fun x => (key x, val x))).lookup (key a) = some (val a)
  | a0 :: l, a, h => by
    rw [List.map_cons, lookup_cons]
    by_cases ha : a = a0
    · rw [if_pos (ha ▸ rfl), ha]
    · rw [if_neg (fun e => ha (hinj _ _ e))]
      exact lookup_map_of_mem key val hinj ((List.mem_cons.mp h).resolve_left ha)

theorem lookup_map_key {β : Type w} (key : β → κ) (f : κ → α) (k : κ) :
    ∀ (l : List β), k ∈ l.map key → (l.map (fun x => (key x, f (key x)))).lookup k = some (f k)
  | a :: l, h => by
    rw [List.map_cons, lookup_cons]
    by_cases e : k = key a
    · rw [if_pos e, e]
    · rw [if_neg e]
      exact lookup_map_key key f k l ((List.mem_cons.mp h).resolve_left e)

theorem lookup_map_snd {β : Type w} (g : α → β) : ∀ (l : List (κ × α)) (k : κ),
    (l.map (fun q => (q.1, g q.2))).lookup k = (l.lookup k).map g
  | [], _ => rfl
  | (k', v) :: r, k => by
    rw [List.map_cons, lookup_cons, lookup_cons, lookup_map_snd g r k]
    by_cases h : k = k'
    · rw [if_pos h, if_pos h]; rfl
    · rw [if_neg h, if_neg h]

/-- `dict(zip(ks, vs))` -/
theorem lookup_zip_getElem? : ∀ (ks : List κ) (vs : List α) (i : Nat) (k : κ), ks.Nodup →
    ks[i]? = some k → (ks.zip vs).lookup k = vs[i]?
  | _ :: _, [], _, _, _, _ => rfl
  | a :: ks, v :: vs, 0, k, _, hk => by
    rw [List.getElem?_cons_zero, Option.some.injEq] at hk
    rw [List.zip_cons_cons, lookup_cons, if_pos hk.symm]; rfl
  | a :: ks, v :: vs, i + 1, k, hn, hk => by
    rw [List.getElem?_cons_succ] at hk
    have hn' := List.nodup_cons.mp hn
    have hne : k ≠ a := fun e => hn'.1 (e ▸ List.mem_of_getElem? hk)
    rw [List.zip_cons_cons, lookup_cons, if_neg hne, List.getElem?_cons_succ]
    exact lookup_zip_getElem? ks vs i k hn'.2 hk

theorem lookup_zip_of_mem {ks : List κ} {vs : List α} (hn : ks.Nodup) {p : κ × α} (hp : p ∈ ks.zip vs) :
    (ks.zip vs).lookup p.1 = some p.2 := by
  obtain ⟨i, hi⟩ := List.mem_iff_getElem?.mp hp
  obtain ⟨h1, h2⟩ := List.getElem?_zip_eq_some.mp hi
  rw [lookup_zip_getElem? ks vs i p.1 hn h1, h2]

end Dask.Assoc
