/-
Negative-step half of the `_slice_1d` partition theorem: the `loopNeg` loop over the
blocks in descending order reads exactly the descending range `rangeList rstart stop step`.
-/
import DaskArrayModel.Lemmas.Slice1dNegRange
import DaskArrayModel.Lemmas.Slice1dPos
import DaskArrayModel.Lemmas.SliceAlgebra
namespace Dask.Lemmas.Slice1dNeg
open Dask.Py Dask.Py.PySlice Dask.Slicing
open Dask.Lemmas.Slice1dPos (planPositions_cons planPositions_nil)
open Dask.Lemmas.SliceAlgebra (rangeList_eq_nil_neg)
open Dask.Lemmas.Progression (rangeList_shift)

/-- `(i, chunk_start, chunk_stop)` of block `k` -/
def triple (L : List Int) (k : Nat) : Nat × Int × Int := (k, blockStart L k, blockStart L (k + 1))

theorem blockTriplesFrom_eq (L : List Int) : ∀ (rest : List Int) (i : Nat), L.drop i = rest →
    blockTriplesFrom i (blockStart L i) rest = (List.range' i rest.length).map (triple L)
  | [], _, _ => rfl
  | len :: rest, i, hd => by
    obtain ⟨_, hd', hb⟩ := Slice1dPos.drop_cons_facts hd
    rw [blockTriplesFrom, ← hb, blockTriplesFrom_eq L rest (i + 1) hd', List.length_cons, List.range'_succ,
      List.map_cons]
    rfl

theorem blockTriples_eq (L : List Int) : blockTriples L = (List.range L.length).map (triple L) := by
  rw [List.range_eq_range']
  exact blockTriplesFrom_eq L L 0 rfl

/-- the triples of blocks `m - 1, …, 0`: what the `step < 0` loop walks once it is below block `m` -/
def descT (L : List Int) (m : Nat) : List (Nat × Int × Int) := ((List.range m).map (triple L)).reverse

theorem descT_zero (L : List Int) : descT L 0 = [] := rfl

theorem descT_succ (L : List Int) (m : Nat) : descT L (m + 1) = triple L m :: descT L m := by
  rw [descT, List.range_succ, List.map_append, List.reverse_append]
  rfl

theorem descT_length (L : List Int) : descT L L.length = (blockTriples L).reverse := by
  rw [blockTriples_eq]
  rfl

theorem mem_descT {L : List Int} {m : Nat} {t : Nat × Int × Int} (ht : t ∈ descT L m) :
    ∃ k, k < m ∧ t = triple L k := by
  obtain ⟨k, hk, rfl⟩ := List.mem_map.mp (List.mem_reverse.mp ht)
  exact ⟨k, List.mem_range.mp hk, rfl⟩

theorem descT_keys (L : List Int) (m : Nat) : ((descT L m).map (·.1)).Pairwise (· > ·) := by
  have hid : ((fun (t : Nat × Int × Int) => t.1) ∘ triple L) = id := rfl
  rw [descT, List.map_reverse, List.map_map, hid, List.map_id, List.pairwise_reverse]
  exact List.pairwise_lt_range

theorem lt_bisectRight_iff {L : List Int} (hl : ∀ c ∈ L, 0 ≤ c) {k : Nat} (hk : k < L.length) (x : Int) :
    k < bisectRight (cumsum L) x ↔ blockStart L (k + 1) ≤ x := by
  constructor
  · intro h
    have := bisectRight_spec (cumsum L) x k h
    rwa [Layout.cumsum_getD L hk] at this
  · intro h
    apply Classical.byContradiction
    intro hge
    have hlt : bisectRight (cumsum L) x < L.length := by omega
    have hgt := bisectRight_gt (cumsum L) x (by rw [cumsum_length]; exact hlt)
    rw [Layout.cumsum_getD L hlt] at hgt
    exact Int.lt_irrefl _ (Int.lt_of_lt_of_le hgt (Int.le_trans (Layout.start_mono hl (by omega)) h))

/-- the local slice emitted for a contributing block `[a, b)`: what it reads in global coordinates, and that
`new_blockdim` measures it -/
theorem block_entry (a b r E c n : Int) (hc : c < 0) (har : a ≤ r) (hrb : r < b) (hE : E < r)
    (hn : n = b - a) :
    (sel ⟨some (r - b), some (max (a - b - 1) (E - b)), some c⟩ n).map (· + a) = rangeList r (max (a - 1) E) c ∧
    ceilDiv (max (a - b - 1) (E - b) - (r - b)) c
      = ((sel ⟨some (r - b), some (max (a - b - 1) (E - b)), some c⟩ n).length : Int) := by
  -- the length is read off the range the entry reads
  refine (and_iff_left_of_imp fun hsel => ?_).2 ?_
  · rw [← List.length_map (f := (· + a)), hsel, length_rangeList, rangeLen_neg_eq_ceilDiv _ _ _ hc (by omega)]
    congr 1
    omega
  · rw [SliceAlgebra.sel_mk_neg _ _ _ _ c rfl hc]
    simp only [Option.map_some, Option.getD_some]
    rw [SliceAlgebra.adjust_true_of_neg _ _ (by omega), SliceAlgebra.adjust_true_of_neg _ _ (by omega),
      rangeList_shift]
    congr 1 <;> omega

theorem loopNeg_emit {c E a b r : Int} (i : Nat) (T : List (Nat × Int × Int))
    (h : (a ≤ r ∧ r < b) ∧ r > E) :
    loopNeg c E ((i, a, b) :: T) r =
      (i, ⟨some (r - b), some (max (a - b - 1) (E - b)), some c⟩) ::
        loopNeg c E T (a + pyMod (r - (a - 1)) c - 1) := by
  rw [loopNeg, if_pos h]

theorem loopNeg_skip {c E a b r : Int} (i : Nat) (T : List (Nat × Int × Int))
    (h : ¬ ((a ≤ r ∧ r < b) ∧ r > E)) : loopNeg c E ((i, a, b) :: T) r = loopNeg c E T r := by
  rw [loopNeg, if_neg h]

theorem loopNeg_nil_of_le (c E : Int) (T : List (Nat × Int × Int)) (r : Int) (h : r ≤ E) :
    loopNeg c E T r = [] := by
  induction T with
  | nil => simp [loopNeg]
  | cons t ts ih =>
    obtain ⟨i, a, b⟩ := t
    rw [loopNeg_skip i ts (by omega), ih]

/-- From block `m` downwards and from any running start `r` below the end of that block, the loop reads
`range(r, E, c)`, and `new_blockdim` measures each entry rightly. -/
theorem loopNeg_spec (L : List Int) (c E : Int) (hc : c < 0) (hE : -1 ≤ E) :
    ∀ m, m ≤ L.length → ∀ r, r < blockStart L m →
      planPositions L (loopNeg c E (descT L m) r) = rangeList r E c ∧
        ∀ p ∈ loopNeg c E (descT L m) r,
          p.2 ≠ colon ∧ Slice1dPos.entryLen p = ((sel p.2 (L.getD p.1 0)).length : Int) := by
  intro m
  induction m with
  | zero =>
    intro _ r hr
    simp only [blockStart, List.take_zero, isum] at hr
    rw [descT_zero, rangeList_eq_nil_neg hc (by omega)]
    simp [loopNeg, planPositions]
  | succ m ih =>
    intro hm r hr
    have hm' : m < L.length := by omega
    have hbs : blockStart L (m + 1) = blockStart L m + L[m] := by
      rw [Slice1dPos.blockStart_succ, List.getD_eq_getElem?_getD, List.getElem?_eq_getElem hm', Option.getD_some]
    rw [hbs] at hr
    rw [descT_succ L m, triple, hbs]
    by_cases hcond : (blockStart L m ≤ r ∧ r < blockStart L m + L[m]) ∧ r > E
    · have hb := pyMod_neg_bounds (r - (blockStart L m - 1)) c hc
      obtain ⟨ih1, ih2⟩ := ih (by omega) (blockStart L m + pyMod (r - (blockStart L m - 1)) c - 1) (by omega)
      have hget : L.getD m 0 = blockStart L m + L[m] - blockStart L m := by
        rw [List.getD_eq_getElem?_getD, List.getElem?_eq_getElem hm', Option.getD_some]; omega
      rw [loopNeg_emit m _ hcond]
      refine ⟨?_, fun p hp => ?_⟩
      · rw [planPositions_cons, ih1, (block_entry _ _ _ _ _ _ hc hcond.1.1 hcond.1.2 hcond.2 hget).1,
          ← rangeList_neg_split (blockStart L m) E c r hc (by omega)]
      · rw [List.mem_cons] at hp
        rcases hp with rfl | hp
        · exact ⟨by simp [colon], (block_entry _ _ r E c _ hc hcond.1.1 hcond.1.2 hcond.2 hget).2⟩
        · exact ih2 p hp
    · rw [loopNeg_skip m _ hcond]
      by_cases hrE : r ≤ E
      · rw [loopNeg_nil_of_le c E _ r hrE, rangeList_eq_nil_neg hc hrE]
        exact ⟨planPositions_nil L, fun p hp => absurd hp List.not_mem_nil⟩
      · exact ih (by omega) r (by omega)

theorem loopNeg_keys (c E : Int) (T : List (Nat × Int × Int)) :
    ∀ r, ((loopNeg c E T r).map (·.1)).Sublist (T.map (·.1)) := by
  induction T with
  | nil => intro r; simp [loopNeg]
  | cons t ts ih =>
    obtain ⟨i, a, b⟩ := t
    intro r
    by_cases hcond : (a ≤ r ∧ r < b) ∧ r > E
    · rw [loopNeg_emit i ts hcond, List.map_cons, List.map_cons]
      exact (ih _).cons_cons _
    · rw [loopNeg_skip i ts hcond, List.map_cons]
      exact (ih _).cons _

/-- Blocks may be filtered out of the walk if each dropped block lies wholly above the running start (`S < t.2.1`,
and the running start only falls) or wholly at or below the stop (`t.2.2 ≤ E + 1`): such a block never emits. -/
theorem loopNeg_filter (c E S : Int) (hc : c < 0) (P : Nat × Int × Int → Bool)
    (T : List (Nat × Int × Int))
    (hT : ∀ t ∈ T, P t = false → S < t.2.1 ∨ t.2.2 ≤ E + 1) :
    ∀ r, r ≤ S → loopNeg c E (T.filter P) r = loopNeg c E T r := by
  induction T with
  | nil => intro r _; simp
  | cons t ts ih =>
    obtain ⟨i, a, b⟩ := t
    intro r hr
    have ih' := ih (fun t ht => hT t (List.mem_cons_of_mem _ ht))
    cases hP : P (i, a, b) with
    | true =>
      rw [List.filter_cons_of_pos (by simpa using hP)]
      by_cases hcond : (a ≤ r ∧ r < b) ∧ r > E
      · have hb := pyMod_neg_bounds (r - (a - 1)) c hc
        rw [loopNeg_emit i _ hcond, loopNeg_emit i _ hcond, ih' _ (by omega)]
      · rw [loopNeg_skip i _ hcond, loopNeg_skip i _ hcond]
        exact ih' r hr
    | false =>
      rw [List.filter_cons_of_neg (by simp [hP])]
      have := hT (i, a, b) (by simp) hP
      have hcond : ¬ ((a ≤ r ∧ r < b) ∧ r > E) := by
        simp only at this; omega
      rw [loopNeg_skip i _ hcond]
      exact ih' r hr

end Dask.Lemmas.Slice1dNeg
