/-
Descending ranges, without any slice, for the negative-step half of `_slice_1d` (Slice1dNegLoop, Slice1dNeg, whose
namespace this file declares into): a descending range loses its head (`rangeList_neg_cons`), its length is the ceiling
division `new_blockdim` computes (`rangeLen_neg_eq_ceilDiv`), and it splits at the lower edge of a block
(`rangeList_neg_split`), which is how the `step < 0` loop hands the range from block to block.
-/
import DaskArrayModel.Lemmas.Progression
namespace Dask.Lemmas.Slice1dNeg
open Dask.Py
open Dask.Lemmas.SliceAlgebra (rangeList_eq_nil_neg)

theorem rangeLen_neg_succ (r E c : Int) (hc : c < 0) (h : E < r) :
    rangeLen r E c = rangeLen (r + c) E c + 1 := by
  apply nat_eq_of_lt_iff
  intro i
  rw [SliceAlgebra.lt_rangeLen_neg _ _ _ hc]
  cases i with
  | zero => simp only [Int.natCast_zero, Int.zero_mul, Int.add_zero]; omega
  | succ j =>
    rw [Nat.succ_lt_succ_iff, SliceAlgebra.lt_rangeLen_neg _ _ _ hc, Int.natCast_succ, Int.add_mul,
      Int.one_mul]
    omega

theorem rangeList_neg_cons (r E c : Int) (hc : c < 0) (h : E < r) :
    rangeList r E c = r :: rangeList (r + c) E c := by
  unfold rangeList
  rw [rangeLen_neg_succ r E c hc h, List.range_succ_eq_map]
  simp only [List.map_cons, List.map_map]
  congr 1
  · simp
  · apply List.map_congr_left
    intro i _
    simp only [Function.comp, Nat.succ_eq_add_one, Int.natCast_add, Int.add_mul]
    omega

theorem rangeLen_neg_eq_ceilDiv (r m c : Int) (hc : c < 0) (h : m < r) :
    (rangeLen r m c : Int) = ceilDiv (m - r) c := by
  have e : -(m - r) = -m - -r := by omega
  rw [ceilDiv_neg_neg _ c hc, e, Progression.ceilDiv_rangeLen (by omega) (by omega),
    SliceAlgebra.rangeLen_neg_eq r m c hc]

/-- Splitting a descending range at the lower edge `a` of a block: the part above `a - 1`
(and above `E`), then the rest, restarting from the Python "next running start".  By recursion
on `r`, one step of the range at a time, down to `r ≤ a - 1` where the first part is empty. -/
theorem rangeList_neg_split (a E c r : Int) (hc : c < 0) (h : a + c ≤ r) :
    rangeList r E c = rangeList r (max (a - 1) E) c
      ++ rangeList (a + pyMod (r - (a - 1)) c - 1) E c := by
  by_cases h3 : r ≤ a - 1
  · have e : a + (r - (a - 1)) - 1 = r := by omega
    rw [rangeList_eq_nil_neg (b := max (a - 1) E) hc (by omega),
      pyMod_neg_small _ c hc (by omega) (by omega), e, List.nil_append]
  · have hb := pyMod_neg_bounds (r - (a - 1)) c hc
    by_cases h4 : r ≤ E
    · rw [rangeList_eq_nil_neg hc h4, rangeList_eq_nil_neg (b := max (a - 1) E) hc (by omega),
        rangeList_eq_nil_neg (b := E) hc (by omega)]
      rfl
    · have e : r + c - (a - 1) = r - (a - 1) + c := by omega
      rw [rangeList_neg_cons r E c hc (by omega),
        rangeList_neg_cons r (max (a - 1) E) c hc (by omega),
        rangeList_neg_split a E c (r + c) hc (by omega), e, pyMod_neg_add_self _ c hc]
      rfl
termination_by (r - (a - 1)).toNat
decreasing_by omega

end Dask.Lemmas.Slice1dNeg
