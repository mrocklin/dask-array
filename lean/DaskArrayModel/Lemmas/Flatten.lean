/-
`_Flattener.resolve` (Model/Graph.lean) lifts every nested task out of a node into a record of its own, keyed
by the parent key and a running counter.  `Inv` is the bookkeeping that keeps this sound: the new records are
keyed by the numbers the counter passed, and every string the rewritten argument refers to was collected.
Under it, running the new records and then evaluating the rewritten argument gives the value of the nested
node (C21).  Lemmas/RecordKeysResolve.lean instantiates the abstract keys at the strings a worker looks up.
At the end: the shared-`seen` stack walk `_walk_records` (`walk`, `walkAll`), with its loop invariant `Pending` and
what a walk adds to its accumulators (`Extends`).
The declarations are in `Dask.Lemmas.Graph`, the namespace of Lemmas/Graph.lean (neither file imports the other).
-/
import DaskArrayModel.Model.Graph

namespace Dask.Lemmas.Graph
open Dask.Graph

section flat
variable {κ φ lit σ ν : Type}

theorem evalArgL_cons (I : Interp φ lit ν) (e : σ → Option ν) (a : Arg σ lit) (as : List (Arg σ lit)) :
    evalArgL I e (a :: as) =
      match evalArg I e a, evalArgL I e as with
      | some v, some vs => some (v :: vs)
      | _, _ => none := rfl

theorem evalArgs_cons (I : Interp φ lit ν) (e : κ → Option ν) (x : Node κ φ lit) (xs : Args κ φ lit) :
    evalArgs I e (.cons x xs) =
      match evalNode I e x, evalArgs I e xs with
      | some v, some vs => some (v :: vs)
      | _, _ => none := rfl

mutual
theorem evalArg_congr (I : Interp φ lit ν) {e1 e2 : σ → Option ν} :
    ∀ (a : Arg σ lit), (∀ s ∈ argRefs a, e1 s = e2 s) → evalArg I e1 a = evalArg I e2 a
  | .ref s, h => h s (List.mem_singleton_self s)
  | .lit _, _ => rfl
  | .list xs, h | .tuple xs, h => congrArg (Option.map _) (evalArgL_congr I xs h)
theorem evalArgL_congr (I : Interp φ lit ν) {e1 e2 : σ → Option ν} :
    ∀ (as : List (Arg σ lit)), (∀ s ∈ argRefsL as, e1 s = e2 s) → evalArgL I e1 as = evalArgL I e2 as
  | [], _ => rfl
  | a :: as, h => by
    rw [evalArgL_cons, evalArgL_cons, evalArg_congr I a (fun s hs => h s (List.mem_append_left _ hs)),
      evalArgL_congr I as (fun s hs => h s (List.mem_append_right _ hs))]
end

mutual
theorem evalNode_congr (I : Interp φ lit ν) {e1 e2 : κ → Option ν} :
    ∀ (x : Node κ φ lit), (∀ k ∈ nodeRefs x, e1 k = e2 k) → evalNode I e1 x = evalNode I e2 x
  | .taskRef k, h | .alias k, h => h k (List.mem_singleton_self k)
  | .data _, _ | .lit _, _ => rfl
  | .list xs, h | .tuple xs, h | .plist xs, h | .ptuple xs, h | .task _ _ xs, h =>
    congrArg (Option.map _) (evalArgs_congr I xs h)
theorem evalArgs_congr (I : Interp φ lit ν) {e1 e2 : κ → Option ν} :
    ∀ (xs : Args κ φ lit), (∀ k ∈ argsRefs xs, e1 k = e2 k) → evalArgs I e1 xs = evalArgs I e2 xs
  | .nil, _ => rfl
  | .cons x xs, h => by
    rw [evalArgs_cons, evalArgs_cons, evalNode_congr I x (fun k hk => h k (List.mem_append_left _ hk)),
      evalArgs_congr I xs (fun k hk => h k (List.mem_append_right _ hk))]
end

/-- What `resolve` / `resolveArgs` (and their string-level versions in Model/RecordKeys.lean) return,
by name: the rewritten argument(s), the counter afterwards, the records appended to `extra`, the
strings added to `deps`. -/
abbrev Res.arg {α β γ δ : Type} (r : α × β × γ × δ) : α := r.1
abbrev Res.counter {α β γ δ : Type} (r : α × β × γ × δ) : β := r.2.1
abbrev Res.recs {α β γ δ : Type} (r : α × β × γ × δ) : γ := r.2.2.1
abbrev Res.deps {α β γ δ : Type} (r : α × β × γ × δ) : δ := r.2.2.2

section
variable (cfg : FlatCfg κ σ) (parent : σ)

/-- `s` is one of the sub-keys `parent-sub(lo+1)` … `parent-sub(hi)` -/
def InSub (lo hi : Nat) (s : σ) : Prop := ∃ i, lo < i ∧ i ≤ hi ∧ s = cfg.subKey parent i

/-- Bookkeeping of one `resolve` call on a node with outer references `refs`: the counter went from `n` to `n'`,
`recs` are the new records, `ds` the collected strings, `aR` the strings the rewritten argument refers to. -/
structure Inv (refs : List κ) (n n' : Nat) (recs : List (Rec σ φ lit)) (ds aR : List σ) : Prop where
  le : n ≤ n'
  keys : ∀ r ∈ recs, InSub cfg parent n n' r.key
  arefs : ∀ s ∈ aR, s ∈ ds
  dsrc : ∀ s ∈ ds, (∃ k ∈ refs, s = cfg.render k) ∨ ∃ r ∈ recs, r.key = s
  rdeps : ∀ r ∈ recs, ∀ s ∈ r.deps, (∃ k ∈ refs, s = cfg.render k) ∨ ∃ r' ∈ recs, r'.key = s
  nodup : (recs.map (·.key)).Nodup

/-- no outer key renders as a sub-key the counter has yet to hand out -/
def Sep (refs : List κ) (n : Nat) : Prop :=
  ∀ k ∈ refs, ∀ i, n < i → cfg.render k ≠ cfg.subKey parent i

variable {cfg parent}

namespace InSub

theorem mono {lo hi lo' hi' : Nat} {s : σ} (h : InSub cfg parent lo hi s) (h1 : lo' ≤ lo)
    (h2 : hi ≤ hi') : InSub cfg parent lo' hi' s := by
  obtain ⟨i, a, b, c⟩ := h
  exact ⟨i, by omega, by omega, c⟩

theorem disjoint (hinj : ∀ a b : Nat, cfg.subKey parent a = cfg.subKey parent b → a = b)
    {a b c : Nat} {s : σ} (h1 : InSub cfg parent a b s) (h2 : InSub cfg parent b c s) : False := by
  obtain ⟨i, _, hi, e1⟩ := h1
  obtain ⟨j, hj, _, e2⟩ := h2
  have := hinj i j (e1.symm.trans e2)
  omega

end InSub

theorem Sep.mono {refs refs' : List κ} {n n' : Nat} (h : Sep cfg parent refs n) (h1 : n ≤ n')
    (h2 : ∀ k ∈ refs', k ∈ refs) : Sep cfg parent refs' n' :=
  fun k hk i hi => h k (h2 k hk) i (by omega)

theorem map_opt_eq {α β : Type} (o : Option α) (g : α → β) :
    (match o with | none => none | some v => some (g v)) = o.map g := by
  cases o <;> rfl

theorem src_mono {refs refs' : List κ} {recs recs' : List (Rec σ φ lit)} {s : σ}
    (hr : ∀ k ∈ refs, k ∈ refs') (hc : ∀ r ∈ recs, r ∈ recs')
    (h : (∃ k ∈ refs, s = cfg.render k) ∨ ∃ r ∈ recs, r.key = s) :
    (∃ k ∈ refs', s = cfg.render k) ∨ ∃ r ∈ recs', r.key = s :=
  h.imp (fun ⟨k, hk, e⟩ => ⟨k, hr k hk, e⟩) (fun ⟨r, hr', e⟩ => ⟨r, hc r hr', e⟩)

namespace Inv

theorem leaf (refs : List κ) (n : Nat) :
    Inv (φ := φ) (lit := lit) cfg parent refs n n [] (refs.map cfg.render) (refs.map cfg.render) where
  le := Nat.le_refl n
  keys := fun _ h => nomatch h
  arefs := fun _ h => h
  dsrc := fun s hs => by
    obtain ⟨k, hk, e⟩ := List.mem_map.mp hs
    exact Or.inl ⟨k, hk, e.symm⟩
  rdeps := fun _ h => nomatch h
  nodup := List.nodup_nil

theorem append (hinj : ∀ a b : Nat, cfg.subKey parent a = cfg.subKey parent b → a = b)
    {refs1 refs2 : List κ} {n n1 n2 : Nat} {recs1 recs2 : List (Rec σ φ lit)} {ds1 ds2 aR1 aR2 : List σ}
    (h1 : Inv cfg parent refs1 n n1 recs1 ds1 aR1) (h2 : Inv cfg parent refs2 n1 n2 recs2 ds2 aR2) :
    Inv cfg parent (refs1 ++ refs2) n n2 (recs1 ++ recs2) (ds1 ++ ds2) (aR1 ++ aR2) where
  le := Nat.le_trans h1.le h2.le
  keys := fun r hr => (List.mem_append.mp hr).elim
    (fun h => (h1.keys r h).mono (Nat.le_refl _) h2.le)
    (fun h => (h2.keys r h).mono h1.le (Nat.le_refl _))
  arefs := fun s hs => (List.mem_append.mp hs).elim
    (fun h => List.mem_append_left _ (h1.arefs s h))
    (fun h => List.mem_append_right _ (h2.arefs s h))
  dsrc := fun s hs => (List.mem_append.mp hs).elim
    (fun h => src_mono (fun _ => List.mem_append_left _) (fun _ => List.mem_append_left _) (h1.dsrc s h))
    (fun h => src_mono (fun _ => List.mem_append_right _) (fun _ => List.mem_append_right _) (h2.dsrc s h))
  rdeps := fun r hr s hs => (List.mem_append.mp hr).elim
    (fun h => src_mono (fun _ => List.mem_append_left _) (fun _ => List.mem_append_left _) (h1.rdeps r h s hs))
    (fun h => src_mono (fun _ => List.mem_append_right _) (fun _ => List.mem_append_right _) (h2.rdeps r h s hs))
  nodup := by
    rw [List.map_append, List.nodup_append]
    refine ⟨h1.nodup, h2.nodup, ?_⟩
    intro a ha b hb e
    obtain ⟨r1, hr1, rfl⟩ := List.mem_map.mp ha
    obtain ⟨r2, hr2, rfl⟩ := List.mem_map.mp hb
    exact (h1.keys r1 hr1).disjoint hinj (e ▸ h2.keys r2 hr2)

theorem task (hsd : ∀ (l : List σ) (x : σ), x ∈ cfg.sortDedup l ↔ x ∈ l)
    (hinj : ∀ a b : Nat, cfg.subKey parent a = cfg.subKey parent b → a = b)
    {refs : List κ} {n n' : Nat} {recs : List (Rec σ φ lit)} {ds aR : List σ}
    (hi : Inv cfg parent refs (n + 1) n' recs ds aR) (func : Fn φ) (kw : List String)
    (as : List (Arg σ lit)) :
    Inv cfg parent refs n n' (recs ++ [⟨cfg.subKey parent (n + 1), func, kw, as, cfg.sortDedup ds⟩])
      [cfg.subKey parent (n + 1)] [cfg.subKey parent (n + 1)] where
  le := Nat.le_of_succ_le hi.le
  keys := fun r hr => (List.mem_append.mp hr).elim
    (fun h => (hi.keys r h).mono (Nat.le_succ n) (Nat.le_refl _))
    (fun h => ⟨n + 1, Nat.lt_succ_self n, hi.le, List.mem_singleton.mp h ▸ rfl⟩)
  arefs := fun _ h => h
  dsrc := fun s hs =>
    Or.inr ⟨_, List.mem_append_right _ List.mem_cons_self, (List.mem_singleton.mp hs).symm⟩
  rdeps := fun r hr s hs => (List.mem_append.mp hr).elim
    (fun h => src_mono (fun _ hk => hk) (fun _ => List.mem_append_left _) (hi.rdeps r h s hs))
    (fun h => by
      rw [List.mem_singleton.mp h] at hs
      exact src_mono (fun _ hk => hk) (fun _ => List.mem_append_left _) (hi.dsrc s ((hsd ds s).mp hs)))
  nodup := by
    rw [List.map_append, List.nodup_append]
    refine ⟨hi.nodup, by simp, ?_⟩
    intro a ha b hb e
    obtain ⟨r, hr, rfl⟩ := List.mem_map.mp ha
    have hself : InSub cfg parent n (n + 1) r.key :=
      ⟨n + 1, Nat.lt_succ_self n, Nat.le_refl _, e.trans (List.mem_singleton.mp hb)⟩
    exact hself.disjoint hinj (hi.keys r hr)

end Inv

end

variable [DecidableEq σ] {cfg : FlatCfg κ σ} {parent : σ}

theorem runRecs_append (I : Interp φ lit ν) (a b : List (Rec σ φ lit)) (env : σ → Option ν) :
    runRecs I (a ++ b) env = runRecs I b (runRecs I a env) := by
  induction a generalizing env with
  | nil => rfl
  | cons r rs ih => exact ih _

theorem runRecs_frame (I : Interp φ lit ν) (rs : List (Rec σ φ lit)) (env : σ → Option ν) (s : σ)
    (h : ∀ r ∈ rs, r.key ≠ s) : runRecs I rs env s = env s := by
  induction rs generalizing env with
  | nil => rfl
  | cons r rs ih =>
    have : s ≠ r.key := fun e => h r List.mem_cons_self e.symm
    exact (ih _ (fun r' hr' => h r' (List.mem_cons_of_mem _ hr'))).trans (if_neg this)

theorem evalArgL_restrict (I : Interp φ lit ν) (env : σ → Option ν) (deps : List σ)
    (as : List (Arg σ lit)) (h : ∀ s ∈ argRefsL as, s ∈ deps) :
    evalArgL I (restrict env deps) as = evalArgL I env as :=
  evalArgL_congr I as (fun s hs => by simp [restrict, h s hs])

theorem evalRec_ident (I : Interp φ lit ν) (env : σ → Option ν) (k : σ) (kw : List String)
    (a : Arg σ lit) (deps : List σ) :
    evalRec I env ⟨k, .ident, kw, [a], deps⟩ = evalArg I (restrict env deps) a := by
  simp only [evalRec, evalArgL_cons]
  cases evalArg I (restrict env deps) a <;> rfl

theorem evalRec_fn (I : Interp φ lit ν) (env : σ → Option ν) (k : σ) (f : φ) (kw : List String)
    (as : List (Arg σ lit)) (deps : List σ) :
    evalRec I env ⟨k, .fn f, kw, as, deps⟩ = (evalArgL I (restrict env deps) as).map (I.apply f kw) := by
  simp only [evalRec]
  cases evalArgL I (restrict env deps) as <;> rfl

theorem run_main (I : Interp φ lit ν) (extra : List (Rec σ φ lit)) (main : Rec σ φ lit)
    (env : σ → Option ν) :
    runRecs I (extra ++ [main]) env main.key = evalRec I (runRecs I extra env) main := by
  rw [runRecs_append]; exact if_pos rfl

/-- Evaluating `a1 :: as` after the records of both: the tail's records leave the strings the head
refers to alone (outer keys by `Sep`, the head's own sub-keys by their numbers), and the head's
records leave alone the outer keys the tail's value depends on. -/
theorem evalArgL_cons_run (I : Interp φ lit ν)
    (hinj : ∀ a b : Nat, cfg.subKey parent a = cfg.subKey parent b → a = b)
    {x : Node κ φ lit} {xs : Args κ φ lit} {n n1 n2 : Nat} {a1 : Arg σ lit} {as : List (Arg σ lit)}
    {recs1 recs2 : List (Rec σ φ lit)} {ds1 : List σ}
    (h1 : Inv cfg parent (nodeRefs x) n n1 recs1 ds1 (argRefs a1))
    (h2 : ∀ r ∈ recs2, InSub cfg parent n1 n2 r.key)
    (e1 : ∀ env : σ → Option ν, Sep cfg parent (nodeRefs x) n →
      evalArg I (runRecs I recs1 env) a1 = evalNode I (fun k => env (cfg.render k)) x)
    (e2 : ∀ env : σ → Option ν, Sep cfg parent (argsRefs xs) n1 →
      evalArgL I (runRecs I recs2 env) as = evalArgs I (fun k => env (cfg.render k)) xs)
    (env : σ → Option ν) (hsep : Sep cfg parent (nodeRefs x ++ argsRefs xs) n) :
    evalArgL I (runRecs I (recs1 ++ recs2) env) (a1 :: as)
      = evalArgs I (fun k => env (cfg.render k)) (.cons x xs) := by
  have hsepx : Sep cfg parent (nodeRefs x) n := hsep.mono (Nat.le_refl _) (fun _ => List.mem_append_left _)
  have hsepxs : Sep cfg parent (argsRefs xs) n := hsep.mono (Nat.le_refl _) (fun _ => List.mem_append_right _)
  have ht : evalArgL I (runRecs I recs2 (runRecs I recs1 env)) as
      = evalArgs I (fun k => env (cfg.render k)) xs := by
    rw [e2 (runRecs I recs1 env) (hsepxs.mono h1.le (fun _ hk => hk))]
    refine evalArgs_congr I xs fun k hk => runRecs_frame I _ _ _ fun r hr e => ?_
    obtain ⟨i, hi, _, hs⟩ := h1.keys r hr
    exact hsepxs k hk i hi (e.symm.trans hs)
  have hh : evalArg I (runRecs I recs2 (runRecs I recs1 env)) a1
      = evalNode I (fun k => env (cfg.render k)) x := by
    rw [← e1 env hsepx]
    apply evalArg_congr
    intro s hs
    apply runRecs_frame
    intro r2 hr2 e
    have hs2 : InSub cfg parent n1 n2 s := e ▸ h2 r2 hr2
    rcases h1.dsrc s (h1.arefs s hs) with ⟨k, hk, rfl⟩ | ⟨r1, hr1, rfl⟩
    · obtain ⟨j, hj, _, hj3⟩ := hs2
      exact hsepx k hk j (Nat.lt_of_le_of_lt h1.le hj) hj3
    · exact (h1.keys r1 hr1).disjoint hinj hs2
  rw [runRecs_append, evalArgL_cons, evalArgs_cons, ht, hh]

theorem run_task (I : Interp φ lit ν) {xs : Args κ φ lit} {as : List (Arg σ lit)}
    {recs : List (Rec σ φ lit)} {deps : List σ} (hdecl : ∀ s ∈ argRefsL as, s ∈ deps)
    (key : σ) (f : φ) (kw : List String) {env : σ → Option ν}
    (he : evalArgL I (runRecs I recs env) as = evalArgs I (fun k => env (cfg.render k)) xs) :
    runRecs I (recs ++ [⟨key, .fn f, kw, as, deps⟩]) env key
      = evalNode I (fun k => env (cfg.render k)) (.task f kw xs) := by
  rw [run_main I recs ⟨key, .fn f, kw, as, deps⟩, evalRec_fn, evalArgL_restrict I _ _ as hdecl, he]
  rfl

theorem records_cases {node : Node κ φ lit} {main : Rec σ φ lit} {extra : List (Rec σ φ lit)}
    (h : records cfg parent node = main :: extra) :
    (∃ deps, (deps = Res.deps (resolve cfg parent node 0) ∨
        deps = cfg.sortDedup (Res.deps (resolve cfg parent node 0))) ∧
      main = ⟨parent, .ident, [], [Res.arg (resolve cfg parent node 0)], deps⟩ ∧
      extra = Res.recs (resolve cfg parent node 0)) ∨
    ∃ f kw xs, node = .task f kw xs ∧
      main = ⟨parent, .fn f, kw, Res.arg (resolveArgs cfg parent xs 0),
        cfg.sortDedup (Res.deps (resolveArgs cfg parent xs 0))⟩ ∧
      extra = Res.recs (resolveArgs cfg parent xs 0) := by
  cases node with
  | alias k =>
    simp only [records] at h
    by_cases hk : cfg.render k = parent
    · rw [if_pos hk] at h; cases h
    · rw [if_neg hk] at h
      simp only [List.cons.injEq] at h
      exact Or.inl ⟨_, Or.inl rfl, h.1.symm, h.2.symm⟩
  | taskRef k | data v | lit v =>
    exact Or.inl ⟨_, Or.inl rfl, (List.cons.inj h).1.symm, (List.cons.inj h).2.symm⟩
  | list xs | tuple xs | plist xs | ptuple xs =>
    exact Or.inl ⟨_, Or.inr rfl, (List.cons.inj h).1.symm, (List.cons.inj h).2.symm⟩
  | task f kw xs =>
    exact Or.inr ⟨f, kw, xs, rfl, (List.cons.inj h).1.symm, (List.cons.inj h).2.symm⟩

theorem records_main_key {node : Node κ φ lit} {main : Rec σ φ lit} {extra : List (Rec σ φ lit)}
    (h : records cfg parent node = main :: extra) : main.key = parent := by
  rcases records_cases h with ⟨_, _, rfl, _⟩ | ⟨_, _, _, _, rfl, _⟩ <;> rfl

section main
variable (I : Interp φ lit ν)
variable (hsd : ∀ (l : List σ) (x : σ), x ∈ cfg.sortDedup l ↔ x ∈ l)
variable (hinj : ∀ a b : Nat, cfg.subKey parent a = cfg.subKey parent b → a = b)
include hsd hinj

mutual
/-- The invariant of `_Flattener.resolve` (`resolveArgs_inv`: the same for argument lists, and in
between: a record over the rewritten arguments may declare `sorted(set(·))` of what was collected):
`Inv` holds of the result, and after running the new records the rewritten argument evaluates to what
the nested node evaluates to, provided `Sep`. -/
theorem resolve_inv : ∀ (x : Node κ φ lit) (n : Nat),
    Inv cfg parent (nodeRefs x) n (resolve cfg parent x n).2.1 (resolve cfg parent x n).2.2.1
      (resolve cfg parent x n).2.2.2 (argRefs (resolve cfg parent x n).1) ∧
    ∀ env : σ → Option ν, Sep cfg parent (nodeRefs x) n →
      evalArg I (runRecs I (resolve cfg parent x n).2.2.1 env) (resolve cfg parent x n).1
        = evalNode I (fun k => env (cfg.render k)) x
  | .taskRef k, n | .alias k, n => ⟨Inv.leaf [k] n, fun _ _ => rfl⟩
  | .data v, n | .lit v, n => ⟨Inv.leaf [] n, fun _ _ => rfl⟩
  | .list xs, n | .tuple xs, n | .plist xs, n | .ptuple xs, n => by
    obtain ⟨hi, _, he⟩ := resolveArgs_inv xs n
    exact ⟨hi, fun env hsep => congrArg (Option.map _) (he env hsep)⟩
  | .task f kw xs, n => by
    obtain ⟨hi, hdecl, he⟩ := resolveArgs_inv xs (n + 1)
    exact ⟨hi.task hsd hinj (.fn f) kw _, fun env hsep =>
      run_task I hdecl _ f kw (he env (hsep.mono (Nat.le_succ n) (fun _ hk => hk)))⟩
theorem resolveArgs_inv : ∀ (xs : Args κ φ lit) (n : Nat),
    Inv cfg parent (argsRefs xs) n (Res.counter (resolveArgs cfg parent xs n))
      (Res.recs (resolveArgs cfg parent xs n)) (Res.deps (resolveArgs cfg parent xs n))
      (argRefsL (Res.arg (resolveArgs cfg parent xs n))) ∧
    (∀ s ∈ argRefsL (Res.arg (resolveArgs cfg parent xs n)),
      s ∈ cfg.sortDedup (Res.deps (resolveArgs cfg parent xs n))) ∧
    ∀ env : σ → Option ν, Sep cfg parent (argsRefs xs) n →
      evalArgL I (runRecs I (Res.recs (resolveArgs cfg parent xs n)) env)
          (Res.arg (resolveArgs cfg parent xs n))
        = evalArgs I (fun k => env (cfg.render k)) xs
  | .nil, n => ⟨Inv.leaf [] n, fun _ h => absurd h List.not_mem_nil, fun _ _ => rfl⟩
  | .cons x xs, n => by
    obtain ⟨h1, e1⟩ := resolve_inv x n
    obtain ⟨h2, _, e2⟩ := resolveArgs_inv xs (resolve cfg parent x n).2.1
    -- a record over these arguments may declare `sorted(set(·))` of what was collected
    have hi := h1.append hinj h2
    exact ⟨hi, fun s hs => (hsd _ s).mpr (hi.arefs s hs), evalArgL_cons_run I hinj h1 h2.keys e1 e2⟩
end

end main

theorem records_complete (hsd : ∀ (l : List σ) (x : σ), x ∈ cfg.sortDedup l ↔ x ∈ l)
    (hinj : ∀ a b : Nat, cfg.subKey parent a = cfg.subKey parent b → a = b) (node : Node κ φ lit) :
    ∀ main extra, records cfg parent node = main :: extra →
      (extra.map (·.key)).Nodup ∧
      (∀ r ∈ extra, ∃ i, 1 ≤ i ∧ r.key = cfg.subKey parent i) ∧
      (∀ r ∈ main :: extra, ∀ s ∈ r.deps,
        (∃ k ∈ nodeRefs node, s = cfg.render k) ∨ ∃ r' ∈ extra, r'.key = s) := by
  intro main extra h
  -- the bookkeeping half of `resolve_inv` does not look at values: any interpretation will do
  have I0 : Interp φ lit Unit := ⟨fun _ => (), fun _ => (), fun _ => (), fun _ _ _ => ()⟩
  have key : ∃ n' ds aR, Inv cfg parent (nodeRefs node) 0 n' extra ds aR ∧ ∀ s ∈ main.deps, s ∈ ds := by
    rcases records_cases h with ⟨deps, hd | hd, rfl, rfl⟩ | ⟨f, kw, xs, rfl, rfl, rfl⟩
    · exact ⟨_, _, _, (resolve_inv I0 hsd hinj node 0).1, fun s hs => by rw [hd] at hs; exact hs⟩
    · exact ⟨_, _, _, (resolve_inv I0 hsd hinj node 0).1,
        fun s hs => (hsd _ s).mp (by rw [hd] at hs; exact hs)⟩
    · exact ⟨_, _, _, (resolveArgs_inv I0 hsd hinj xs 0).1, fun s => (hsd _ s).mp⟩
  obtain ⟨n', ds, aR, hi, hm⟩ := key
  refine ⟨hi.nodup, fun r hr => ?_, fun r hr s hs => ?_⟩
  · obtain ⟨i, h1, _, h3⟩ := hi.keys r hr
    exact ⟨i, h1, h3⟩
  · rcases List.mem_cons.mp hr with rfl | hin
    · exact hi.dsrc s (hm s hs)
    · exact hi.rdeps r hin s hs

end flat

section sorting
variable {σ : Type} [DecidableEq σ]

theorem mem_insertSorted (lt : σ → σ → Bool) (x y : σ) (l : List σ) :
    y ∈ insertSorted lt x l ↔ y = x ∨ y ∈ l := by
  fun_induction insertSorted lt x l with
  | case1 => exact List.mem_cons
  | case2 z zs _ => exact List.mem_cons
  | case3 zs _ => exact ⟨Or.inr, fun h => h.elim (fun e => e ▸ List.mem_cons_self) id⟩
  | case4 z zs _ _ ih => rw [List.mem_cons, ih, List.mem_cons]; exact or_left_comm

theorem mem_sortDedupBy (lt : σ → σ → Bool) (l : List σ) (x : σ) : x ∈ sortDedupBy lt l ↔ x ∈ l := by
  induction l with
  | nil => simp [sortDedupBy]
  | cons y ys ih =>
    have : sortDedupBy lt (y :: ys) = insertSorted lt y (sortDedupBy lt ys) := rfl
    rw [this, mem_insertSorted, ih]; simp

end sorting

section walk
variable {α β : Type}

def Extends (nm : α → β) (seen : List β) (out : List α) (seen' : List β) (out' : List α) : Prop :=
  ∃ new, out' = out ++ new ∧ (new.map nm).Nodup ∧ (∀ e ∈ new, nm e ∉ seen) ∧
    (∀ b, b ∈ seen' ↔ b ∈ seen ∨ b ∈ new.map nm)

namespace Extends
variable {nm : α → β} {seen seen1 seen2 : List β} {out out1 out2 : List α}

theorem refl : Extends nm seen out seen out :=
  ⟨[], (List.append_nil _).symm, List.nodup_nil, fun _ h => absurd h List.not_mem_nil,
    fun _ => ⟨Or.inl, fun h => h.resolve_right List.not_mem_nil⟩⟩

theorem mono (h : Extends nm seen out seen1 out1) {b : β} (hb : b ∈ seen) : b ∈ seen1 := by
  obtain ⟨_, _, _, _, h4⟩ := h
  exact (h4 b).mpr (Or.inl hb)

theorem single {e : α} (he : nm e ∉ seen) : Extends nm seen out (nm e :: seen) (out ++ [e]) :=
  ⟨[e], rfl, List.nodup_cons.mpr ⟨List.not_mem_nil, List.nodup_nil⟩,
    fun _ hx => List.mem_singleton.mp hx ▸ he,
    fun _ => ⟨fun h => (List.mem_cons.mp h).elim (fun e => Or.inr (e ▸ List.mem_cons_self)) Or.inl,
      fun h => h.elim (List.mem_cons_of_mem _) (fun h => List.mem_singleton.mp h ▸ List.mem_cons_self)⟩⟩

theorem trans (h1 : Extends nm seen out seen1 out1) (h2 : Extends nm seen1 out1 seen2 out2) :
    Extends nm seen out seen2 out2 := by
  obtain ⟨new1, a1, a2, a3, a4⟩ := h1
  obtain ⟨new2, b1, b2, b3, b4⟩ := h2
  refine ⟨new1 ++ new2, by rw [b1, a1, List.append_assoc], ?_, ?_, ?_⟩
  · rw [List.map_append, List.nodup_append]
    refine ⟨a2, b2, ?_⟩
    intro x hx y hy e
    obtain ⟨y', hy', rfl⟩ := List.mem_map.mp hy
    exact b3 y' hy' ((a4 _).mpr (Or.inr (e ▸ hx)))
  · intro x hx
    rcases List.mem_append.mp hx with e1 | e1
    · exact a3 x e1
    · exact fun hs => b3 x e1 ((a4 _).mpr (Or.inl hs))
  · intro b
    rw [b4 b, a4 b, List.map_append, List.mem_append, or_assoc]

end Extends

variable [DecidableEq β]

def Pending (nm : α → β) (deps : α → List α) (stack : List α) (seen : List β) (out : List α) : Prop :=
  ∀ e ∈ out, ∀ d ∈ deps e, nm d ∈ seen ∨ d ∈ stack

theorem walk_spec (nm : α → β) (deps : α → List α) (fuel : Nat) (stack : List α) (seen : List β)
    (out : List α) (seen' : List β) (out' : List α)
    (h : walk nm deps fuel stack seen out = some (seen', out')) (hinv : Pending nm deps stack seen out) :
    NameClosed nm deps out' seen' ∧ (∀ e ∈ stack, nm e ∈ seen') ∧ Extends nm seen out seen' out' := by
  -- the cases of `walk`: stack empty; fuel spent; the popped node's name seen (skipped); new (emitted, its
  -- dependencies pushed)
  fun_induction walk nm deps fuel stack seen out with
  | case1 _ seen out =>
    obtain ⟨rfl, rfl⟩ := Prod.mk.inj (Option.some.inj h)
    exact ⟨fun e he d hd => (hinv e he d hd).resolve_right List.not_mem_nil,
      fun _ he => absurd he List.not_mem_nil, .refl⟩
  | case2 => cases h
  | case3 f e stack seen out hes ih =>
    obtain ⟨hc, hst, hext⟩ := ih h (fun x hx d hd =>
      (hinv x hx d hd).elim Or.inl (fun h1 =>
        (List.mem_cons.mp h1).elim (fun e1 => Or.inl (e1 ▸ hes)) Or.inr))
    exact ⟨hc, fun x hx => (List.mem_cons.mp hx).elim (fun e1 => e1 ▸ hext.mono hes) (hst x), hext⟩
  | case4 f e stack seen out hes ih =>
    obtain ⟨hc, hst, hext⟩ := ih h (by
      intro x hx d hd
      rcases List.mem_append.mp hx with e1 | e1
      · rcases hinv x e1 d hd with h1 | h1
        · exact Or.inl (List.mem_cons_of_mem _ h1)
        · rcases List.mem_cons.mp h1 with e2 | e2
          · exact Or.inl (e2 ▸ List.mem_cons_self)
          · exact Or.inr (List.mem_append_right _ e2)
      · rw [List.mem_singleton.mp e1] at hd
        exact Or.inr (List.mem_append_left _ (List.mem_reverse.mpr hd)))
    exact ⟨hc, fun x hx => (List.mem_cons.mp hx).elim (fun e1 => e1 ▸ hext.mono List.mem_cons_self)
      (fun e1 => hst x (List.mem_append_right _ e1)), (Extends.single hes).trans hext⟩

theorem walkAll_spec (nm : α → β) (deps : α → List α) (fuel : Nat) (roots : List α) (seen : List β)
    (out : List α) (seen' : List β) (out' : List α)
    (h : walkAll nm deps fuel roots seen out = some (seen', out')) (hc : NameClosed nm deps out seen) :
    NameClosed nm deps out' seen' ∧ (∀ r ∈ roots, nm r ∈ seen') ∧ Extends nm seen out seen' out' := by
  fun_induction walkAll nm deps fuel roots seen out with
  | case1 seen out =>
    obtain ⟨rfl, rfl⟩ := Prod.mk.inj (Option.some.inj h)
    exact ⟨hc, fun _ hr => absurd hr List.not_mem_nil, .refl⟩
  | case2 => cases h
  | case3 r roots seen out seen1 out1 hw ih =>
    obtain ⟨hc1, hst1, hext1⟩ := walk_spec nm deps fuel [r] seen out seen1 out1 hw
      (fun e he d hd => Or.inl (hc e he d hd))
    obtain ⟨hc2, hr2, hext2⟩ := ih h hc1
    exact ⟨hc2, fun x hx => (List.mem_cons.mp hx).elim
      (fun e1 => e1 ▸ hext2.mono (hst1 r List.mem_cons_self)) (hr2 x), hext1.trans hext2⟩

end walk

end Dask.Lemmas.Graph
