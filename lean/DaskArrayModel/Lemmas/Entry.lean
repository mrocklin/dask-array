/-
C05 (namespace `Dask.Lemmas.Entry`): the loop of `FromGraph._layer` rewrites the dict it reads, but each
iteration reads and writes only keys of its own block; so it behaves as the three-way lookup `_find_layer_key`
against the ORIGINAL layer says, and the dict a scheduler hands back (`dataLayer`) rebuilds to the same block
values under our name or under a foreign one.
C09 (namespace `Dask.Lemmas.Memo`): the cache invariant `Inv` is kept by insertion, eviction,
`lowerOnce`, `materialize` and every step of a history.
-/
import DaskArrayModel.Model.Entry
import DaskArrayModel.Lemmas.PyBasic
import DaskArrayModel.Lemmas.Assoc
import DaskArrayModel.Lemmas.ExprArr
namespace Dask.Lemmas.Entry
open Dask.Entry

variable {V : Type}

theorem get?_eq_lookup (l : Layer V) (k : Key) : get? l k = l.lookup k :=
  Dask.Assoc.eq_lookup get? (fun _ => rfl) (fun _ _ _ _ => rfl) l k

theorem get?_erase_self (l : Layer V) (k : Key) : get? (erase l k) k = none := by
  rw [get?_eq_lookup, erase, Dask.Assoc.lookup_erase, if_pos rfl]

theorem get?_erase_ne (l : Layer V) {k k' : Key} (h : k ≠ k') : get? (erase l k) k' = get? l k' := by
  rw [get?_eq_lookup, erase, Dask.Assoc.lookup_erase, if_neg (Ne.symm h), get?_eq_lookup]

theorem get?_assign_self (l : Layer V) (k : Key) (v : Node V) : get? (assign l k v) k = some v :=
  if_pos rfl

theorem get?_assign_ne (l : Layer V) {k k' : Key} (v : Node V) (h : k ≠ k') : get? (assign l k v) k' = get? l k' :=
  (if_neg h).trans (get?_erase_ne l h)

theorem get?_isSome_of_mem {l : Layer V} {k : Key} {v : Node V} (h : (k, v) ∈ l) : (get? l k).isSome = true := by
  rw [get?_eq_lookup]; exact List.lookup_isSome_iff.mpr ⟨_, h, beq_self_eq_true _⟩

theorem mem_of_get? {l : Layer V} {k : Key} {v : Node V} (h : get? l k = some v) : (k, v) ∈ l :=
  Dask.Assoc.mem_of_lookup ((get?_eq_lookup l k).symm.trans h)

theorem get?_append (l r : Layer V) (k : Key) :
    get? (l ++ r) k = match get? l k with | some v => some v | none => get? r k := by
  rw [get?_eq_lookup, get?_eq_lookup, get?_eq_lookup, List.lookup_append]
  cases l.lookup k <;> rfl

theorem get?_map {α : Type} (key : α → Key) (val : α → Node V) (hinj : ∀ a b, key a = key b → a = b)
    {l : List α} {a : α} (h : a ∈ l) : get? (l.map (fun x => (key x, val x))) (key a) = some (val a) := by
  rw [get?_eq_lookup]; exact Dask.Assoc.lookup_map_of_mem key val hinj h

/-- every entry of the dict `by_block_id` is keyed by its key's own block id -/
def KbOK (kb : List (BlockId × Key)) : Prop := ∀ b k, (b, k) ∈ kb → k.bid = b

theorem keysByBlockId_nil (acc : List (BlockId × Key)) : keysByBlockId [] acc = .ok acc := rfl

theorem keysByBlockId_cons (k : Key) (ks : List Key) (acc : List (BlockId × Key)) :
    keysByBlockId (k :: ks) acc = match acc.lookup k.bid with
      | none => keysByBlockId ks (acc ++ [(k.bid, k)])
      | some other => if other = k then keysByBlockId ks acc else .error .valueError := rfl

theorem keysByBlockId_ok {ks : List Key} {acc kb : List (BlockId × Key)}
    (h : keysByBlockId ks acc = .ok kb) (ha : KbOK acc) : KbOK kb := by
  induction ks generalizing acc with
  | nil => exact Except.ok.inj h ▸ ha
  | cons k ks ih =>
    rw [keysByBlockId_cons] at h
    split at h
    · apply ih h
      intro b k' hm
      rcases List.mem_append.mp hm with hm | hm
      · exact ha _ _ hm
      · simp at hm; obtain ⟨rfl, rfl⟩ := hm; rfl
    · split at h
      · exact ih h ha
      · cases h

theorem KbOK_nil : KbOK [] := by intro b k h; cases h

/-- the last two candidates of `_find_layer_key` (the local `rest` of `findLayerKey`): our own key
when it is in `dsk`, else the key under the inferred name, else ValueError -/
def restKey (name : String) (inf : Option String) (dsk : Layer V) (b : BlockId) : Except Err Key :=
  if has dsk ⟨name, b⟩ then .ok ⟨name, b⟩
  else match inf with
    | some n => .ok ⟨n, b⟩
    | none => .error .valueError

theorem findLayerKey_eq (name : String) (kb : List (BlockId × Key)) (inf : Option String)
    (dsk : Layer V) (b : BlockId) :
    findLayerKey name kb inf dsk b =
      match kb.lookup b with
      | some e => if has dsk e then .ok e else restKey name inf dsk b
      | none => restKey name inf dsk b := rfl

theorem restKey_ok {name : String} {inf : Option String} {dsk : Layer V} {b : BlockId} {k : Key}
    (h : restKey name inf dsk b = .ok k) :
    (k = ⟨name, b⟩ ∧ has dsk k = true) ∨ ∃ n, inf = some n ∧ k = ⟨n, b⟩ := by
  unfold restKey at h
  split at h
  · next hh => cases h; exact Or.inl ⟨rfl, hh⟩
  · split at h
    · cases h; exact Or.inr ⟨_, rfl, rfl⟩
    · cases h

theorem restKey_error_iff {name : String} {inf : Option String} {dsk : Layer V} {b : BlockId}
    {e : Err} : restKey name inf dsk b = .error e ↔
      e = .valueError ∧ has dsk ⟨name, b⟩ = false ∧ inf = none := by
  unfold restKey
  cases has dsk ⟨name, b⟩ <;> cases inf <;> simp [@eq_comm _ Err.valueError]

theorem findLayerKey_ok {name : String} {kb : List (BlockId × Key)} {inf : Option String}
    {dsk : Layer V} {b : BlockId} {k : Key} (h : findLayerKey name kb inf dsk b = .ok k) :
    (kb.lookup b = some k ∧ has dsk k = true) ∨ (k = ⟨name, b⟩ ∧ has dsk k = true) ∨
      ∃ n, inf = some n ∧ k = ⟨n, b⟩ := by
  rw [findLayerKey_eq] at h
  split at h
  · next e hl =>
    split at h
    · next hh => cases h; exact Or.inl ⟨hl, hh⟩
    · exact Or.inr (restKey_ok h)
  · exact Or.inr (restKey_ok h)

theorem findLayerKey_congr {name : String} {kb : List (BlockId × Key)} {inf : Option String}
    {d d' : Layer V} {b : BlockId} (hk : KbOK kb) (hd : ∀ k : Key, k.bid = b → get? d k = get? d' k) :
    findLayerKey name kb inf d b = findLayerKey name kb inf d' b := by
  unfold findLayerKey
  have h1 : has d ⟨name, b⟩ = has d' ⟨name, b⟩ := by simp [has, hd ⟨name, b⟩ rfl]
  cases hl : kb.lookup b with
  | none => simp only [h1]
  | some e =>
    have h2 : has d e = has d' e := by simp [has, hd e (hk _ _ (Dask.Assoc.mem_of_lookup hl))]
    simp only [h1, h2]

theorem grid_eq_allIdx (nb : List Nat) : grid nb = Dask.ND.allIdx nb := by
  induction nb with
  | nil => rfl
  | cons n ns ih => exact congrArg (fun g => (List.range n).flatMap fun b => g.map (b :: ·)) ih

theorem grid_length {nb : List Nat} {b : BlockId} (h : b ∈ grid nb) : b.length = nb.length :=
  Dask.ND.length_of_mem_allIdx (grid_eq_allIdx nb ▸ h)

theorem grid_nodup (nb : List Nat) : (grid nb).Nodup := grid_eq_allIdx nb ▸ Dask.ND.nodup_allIdx nb

theorem inferred_has {fg : FromGraph V} {n : String} (h : inferredLayerName fg = some n)
    {b : BlockId} (hb : b ∈ grid fg.numblocks) : has fg.layer ⟨n, b⟩ = true := by
  unfold inferredLayerName at h
  simp only at h
  split at h
  · cases h
  · rename_i n' rest heq
    split at h
    · cases h
      have hmem := List.mem_cons_self (a := n) (l := rest)
      rw [← heq] at hmem
      have hs := (List.mem_filter.mp hmem).2
      simp only [sameSet, Bool.and_eq_true, List.all_eq_true] at hs
      have hb' : b ∈ bidsOf fg.layer fg.numblocks.length n := by simpa using hs.2 b hb
      simp only [bidsOf, List.mem_map, List.mem_filter] at hb'
      obtain ⟨⟨⟨kn, kb⟩, v⟩, ⟨hp, hcond⟩, rfl⟩ := hb'
      simp only [Bool.and_eq_true, beq_iff_eq] at hcond
      exact hcond.2 ▸ get?_isSome_of_mem hp
    · cases h

theorem findLayerKey_error_iff {name : String} {kb : List (BlockId × Key)} {inf : Option String}
    {dsk : Layer V} {b : BlockId} {e : Err} :
    findLayerKey name kb inf dsk b = .error e ↔
      e = .valueError ∧ (∀ e', kb.lookup b = some e' → has dsk e' = false) ∧
        has dsk ⟨name, b⟩ = false ∧ inf = none := by
  rw [findLayerKey_eq]
  cases hl : kb.lookup b with
  | none => exact restKey_error_iff.trans (by simp)
  | some e1 =>
    simp only []
    cases h1 : has dsk e1 with
    | true => simp [h1]
    | false => rw [if_neg (by simp)]; exact restKey_error_iff.trans (by simp [h1])

/-- what the iteration for block `b` with lookup result `k` leaves, `nd` being what the ORIGINAL layer
holds under `k`, `own` what the dict now holds under our key `(name, *b)` and `atK` under `k`: the found
node itself sits under our key (the lookup found our own key, or plain data, which is rekeyed), or our
key aliases `k`, which keeps its node.  A statement about the two looked-up values: it passes along any
dict that agrees on the keys of block `b`. -/
inductive BlockDone (k : Key) (nd own atK : Option (Node V)) : Prop where
  | direct (h : own = nd)
  | aliased (dst : own = some (.alias k)) (kept : atK = nd)

theorem find0_eq {fg : FromGraph V} {dsk : Layer V} {b : BlockId} {kb : List (BlockId × Key)}
    (hkb : keysByBlockId fg.keys [] = .ok kb)
    (hag : ∀ k : Key, k.bid = b → get? dsk k = get? fg.layer k) :
    findLayerKey fg.name kb (inferredLayerName fg) dsk b = find0 fg b := by
  unfold find0
  simp only [hkb]
  exact findLayerKey_congr (keysByBlockId_ok hkb KbOK_nil) hag

/-- `dsk[layer_key]` never raises KeyError: the key found for a block of the grid is in the layer -/
theorem find0_ok {fg : FromGraph V} {b : BlockId} {k : Key} (h : find0 fg b = .ok k) :
    k.bid = b ∧ (b ∈ grid fg.numblocks → has fg.layer k = true) := by
  unfold find0 at h
  split at h
  · cases h
  · next kb hkb =>
    rcases findLayerKey_ok h with ⟨hl, hh⟩ | ⟨rfl, hh⟩ | ⟨n, hn, rfl⟩
    · exact ⟨keysByBlockId_ok hkb KbOK_nil _ _ (Dask.Assoc.mem_of_lookup hl), fun _ => hh⟩
    · exact ⟨rfl, fun _ => hh⟩
    · exact ⟨rfl, inferred_has hn⟩

theorem step_ok {fg : FromGraph V} {dsk : Layer V} {b : BlockId} (hb : b ∈ grid fg.numblocks)
    (hag : ∀ k : Key, k.bid = b → get? dsk k = get? fg.layer k) {k : Key} (hf : find0 fg b = .ok k) :
    ∃ d, step fg dsk b = .ok d ∧ (∀ k' : Key, k'.bid ≠ b → get? d k' = get? dsk k') ∧
      BlockDone k (get? fg.layer k) (get? d ⟨fg.name, b⟩) (get? d k) := by
  cases hkb : keysByBlockId fg.keys [] with
  | error e => simp [find0, hkb] at hf
  | ok kb =>
    have hfind := find0_eq (dsk := dsk) hkb hag
    rw [hf] at hfind
    have hbid : k.bid = b := (find0_ok hf).1
    have hpres := (find0_ok hf).2 hb
    have hsame : get? dsk k = get? fg.layer k := hag k hbid
    unfold step
    simp only [hkb, hfind]
    by_cases hk : (⟨fg.name, b⟩ : Key) = k
    · simp only [hk, if_true]
      exact ⟨dsk, rfl, fun _ _ => rfl, .direct hsame⟩
    · simp only [hk, if_false]
      cases hg : get? dsk k with
      | none => simp [has, ← hsame, hg] at hpres
      | some nd =>
        cases nd with
        | data v =>
          refine ⟨_, rfl, fun k' hk'b => ?_, .direct ?_⟩
          · have h1 : k ≠ k' := fun h => hk'b (h ▸ hbid)
            have h2 : (⟨fg.name, b⟩ : Key) ≠ k' := fun h => hk'b (h ▸ rfl)
            rw [get?_erase_ne _ h1, get?_assign_ne _ _ h2]
          · rw [get?_erase_ne _ (Ne.symm hk), get?_assign_self, ← hsame, hg]
        | task v | alias t =>
          -- anything that is not plain data keeps its key and gains an alias
          refine ⟨_, rfl, fun k' hk'b => ?_, .aliased (get?_assign_self _ _ _) ?_⟩
          · exact get?_assign_ne _ _ (fun h => hk'b (h ▸ rfl))
          · rw [get?_assign_ne _ _ hk, hsame]

theorem keysByBlockId_error {ks : List Key} {acc : List (BlockId × Key)} {e : Err}
    (h : keysByBlockId ks acc = .error e) : e = .valueError := by
  induction ks generalizing acc with
  | nil => cases h
  | cons k ks ih =>
    rw [keysByBlockId_cons] at h
    split at h
    · exact ih h
    · split at h
      · exact ih h
      · cases h; rfl

theorem find0_error {fg : FromGraph V} {b : BlockId} {e : Err} (h : find0 fg b = .error e) : e = .valueError := by
  unfold find0 at h
  cases hkb : keysByBlockId fg.keys [] with
  | error e' => simp only [hkb] at h; cases h; exact keysByBlockId_error hkb
  | ok kb => simp only [hkb] at h; exact (findLayerKey_error_iff.mp h).1

theorem find0_error_iff {fg : FromGraph V} {kb : List (BlockId × Key)} (hkb : keysByBlockId fg.keys [] = .ok kb)
    (b : BlockId) :
    find0 fg b = .error .valueError ↔
      (∀ e, kb.lookup b = some e → has fg.layer e = false) ∧ has fg.layer ⟨fg.name, b⟩ = false ∧
        inferredLayerName fg = none := by
  unfold find0
  simp only [hkb]
  exact findLayerKey_error_iff.trans (and_iff_right rfl)

theorem step_of_find0_error {fg : FromGraph V} {dsk : Layer V} {b : BlockId} {e : Err}
    (hag : ∀ k : Key, k.bid = b → get? dsk k = get? fg.layer k) (hf : find0 fg b = .error e) :
    step fg dsk b = .error .valueError := by
  obtain rfl := find0_error hf
  unfold step
  cases hkb : keysByBlockId fg.keys [] with
  | error e' => rw [keysByBlockId_error hkb]
  | ok kb => simp only []; rw [find0_eq hkb hag, hf]

theorem step_error_value {fg : FromGraph V} {dsk : Layer V} {b : BlockId} {e : Err} (hb : b ∈ grid fg.numblocks)
    (hag : ∀ k : Key, k.bid = b → get? dsk k = get? fg.layer k) (h : step fg dsk b = .error e) :
    ∃ e', find0 fg b = .error e' := by
  cases hf : find0 fg b with
  | error e' => exact ⟨e', rfl⟩
  | ok k =>
    obtain ⟨d, hd, _⟩ := step_ok hb hag hf
    rw [hd] at h; cases h

theorem run_cons (fg : FromGraph V) (b : BlockId) (bs : List BlockId) (dsk : Layer V) :
    run fg (b :: bs) dsk = match step fg dsk b with | .error e => .error e | .ok d => run fg bs d := rfl

theorem run_spec {fg : FromGraph V} {bs : List BlockId} {dsk : Layer V} (hnd : bs.Nodup)
    (hgrid : ∀ b ∈ bs, b ∈ grid fg.numblocks)
    (hag : ∀ k : Key, k.bid ∈ bs → get? dsk k = get? fg.layer k) :
    (∃ l, run fg bs dsk = .ok l ∧ (∀ k : Key, k.bid ∉ bs → get? l k = get? dsk k) ∧
      ∀ b ∈ bs, ∃ k, find0 fg b = .ok k ∧
        BlockDone k (get? fg.layer k) (get? l ⟨fg.name, b⟩) (get? l k)) ∨
    (run fg bs dsk = .error .valueError ∧ ∃ b ∈ bs, find0 fg b = .error .valueError) := by
  induction bs generalizing dsk with
  | nil => exact Or.inl ⟨dsk, rfl, fun _ _ => rfl, fun _ h => nomatch h⟩
  | cons b bs ih =>
    have hnd' := List.nodup_cons.mp hnd
    have hagb : ∀ k' : Key, k'.bid = b → get? dsk k' = get? fg.layer k' :=
      fun k' hk' => hag k' (hk' ▸ List.mem_cons_self)
    rw [run_cons]
    cases hf : find0 fg b with
    | error e =>
      rw [step_of_find0_error hagb hf]
      exact Or.inr ⟨rfl, b, List.mem_cons_self, find0_error hf ▸ hf⟩
    | ok k =>
      obtain ⟨d, hd, hother, hdone⟩ := step_ok (dsk := dsk) (hgrid b List.mem_cons_self) hagb hf
      rw [hd]
      have hag' : ∀ k' : Key, k'.bid ∈ bs → get? d k' = get? fg.layer k' := by
        intro k' hk'
        have hne : k'.bid ≠ b := fun h => hnd'.1 (h ▸ hk')
        rw [hother k' hne]; exact hag k' (List.mem_cons_of_mem _ hk')
      rcases ih hnd'.2 (fun b' hb' => hgrid b' (List.mem_cons_of_mem _ hb')) hag' with
        ⟨l, hl, hrest, hdone'⟩ | ⟨he, b', hb', hfb'⟩
      · refine Or.inl ⟨l, hl, fun k' hk' => ?_, fun b' hb' => ?_⟩
        · have h1 : k'.bid ∉ bs := fun h => hk' (List.mem_cons_of_mem _ h)
          have h2 : k'.bid ≠ b := fun h => hk' (h ▸ List.mem_cons_self)
          rw [hrest k' h1, hother k' h2]
        · rcases List.mem_cons.mp hb' with rfl | hb''
          · -- the block just processed: later iterations do not touch keys of block b'
            refine ⟨k, hf, ?_⟩
            rw [hrest k (by rw [(find0_ok hf).1]; exact hnd'.1), hrest ⟨fg.name, b'⟩ hnd'.1]
            exact hdone
          · exact hdone' b' hb''
      · exact Or.inr ⟨he, b', List.mem_cons_of_mem _ hb', hfb'⟩

theorem layerOf_spec (fg : FromGraph V) :
    (∃ l, layerOf fg = .ok l ∧ ∀ b ∈ grid fg.numblocks, ∃ k, find0 fg b = .ok k ∧
      BlockDone k (get? fg.layer k) (get? l ⟨fg.name, b⟩) (get? l k)) ∨
    (layerOf fg = .error .valueError ∧ ∃ b ∈ grid fg.numblocks, find0 fg b = .error .valueError) :=
  (run_spec (grid_nodup _) (fun _ h => h) (fun _ _ => rfl)).imp_left
    (fun ⟨l, hl, _, hd⟩ => ⟨l, hl, hd⟩)

theorem layerOf_ok_iff (fg : FromGraph V) :
    (∃ l, layerOf fg = .ok l) ↔ ∀ b ∈ grid fg.numblocks, ∃ k, find0 fg b = .ok k := by
  rcases layerOf_spec fg with ⟨l, hl, hd⟩ | ⟨he, b, hb, hf⟩
  · exact ⟨fun _ b hb => (hd b hb).imp (fun _ h => h.1), fun _ => ⟨l, hl⟩⟩
  · refine ⟨fun ⟨l, hl⟩ => ?_, fun h => ?_⟩
    · rw [he] at hl; cases hl
    · obtain ⟨k, hk⟩ := h b hb
      rw [hf] at hk; cases hk

/-- `_layer()` raises, and then always the ValueError "from_graph cannot find output
block", exactly when the three-way lookup fails for some block of the grid -/
theorem layerOf_error_iff (fg : FromGraph V) :
    layerOf fg = .error .valueError ↔ ∃ b ∈ grid fg.numblocks, find0 fg b = .error .valueError := by
  rcases layerOf_spec fg with ⟨l, hl, hd⟩ | ⟨he, hb⟩
  · refine ⟨fun h => ?_, fun ⟨b, hb, hf⟩ => ?_⟩
    · rw [hl] at h; cases h
    · obtain ⟨k, hk, _⟩ := hd b hb
      rw [hf] at hk; cases hk
  · exact ⟨fun _ => hb, fun _ => he⟩

theorem layerOf_done {fg : FromGraph V} {l : Layer V} (h : layerOf fg = .ok l) {b : BlockId}
    (hb : b ∈ grid fg.numblocks) {k : Key} (hk : find0 fg b = .ok k) :
    BlockDone k (get? fg.layer k) (get? l ⟨fg.name, b⟩) (get? l k) := by
  rcases layerOf_spec fg with ⟨l', hl, hd⟩ | ⟨he, _⟩
  · obtain ⟨k', hk', hdone⟩ := hd b hb
    rw [hl] at h; cases h
    rw [hk] at hk'; cases hk'
    exact hdone
  · rw [he] at h; cases h

theorem evalKey_succ (f : Nat) (l : Layer V) (k : Key) :
    evalKey (f + 1) l k = match get? l k with
      | none => none
      | some (.data v) => some v
      | some (.task v) => some v
      | some (.alias t) => evalKey f l t := rfl

theorem evalKey_direct {l : Layer V} {k : Key} {v : V} {f : Nat}
    (h : get? l k = some (.data v) ∨ get? l k = some (.task v)) : evalKey (f + 1) l k = some v := by
  rcases h with h | h <;> rw [evalKey_succ, h]

theorem layerOf_value {fg : FromGraph V} {l : Layer V} (h : layerOf fg = .ok l) {b : BlockId}
    (hb : b ∈ grid fg.numblocks) {k : Key} (hk : find0 fg b = .ok k) {v : V}
    (hv : get? fg.layer k = some (.data v) ∨ get? fg.layer k = some (.task v)) :
    eval l ⟨fg.name, b⟩ = some v := by
  unfold eval
  cases layerOf_done h hb hk with
  | direct hown => exact evalKey_direct (by rw [hown]; exact hv)
  | aliased dst kept =>
    -- two hops, the alias and then its target, and `eval` has the fuel for them: `l.length + 1` with the alias entry in `l`
    obtain ⟨n, hn⟩ : ∃ n, l.length = n + 1 :=
      ⟨l.length - 1, by have := List.length_pos_of_mem (mem_of_get? dst); omega⟩
    rw [hn, evalKey_succ, dst]
    exact evalKey_direct (by rw [kept]; exact hv)

theorem run_passthrough {fg : FromGraph V} (hkeys : fg.keys = []) {bs : List BlockId} {dsk : Layer V}
    (h : ∀ b ∈ bs, has dsk ⟨fg.name, b⟩ = true) : run fg bs dsk = .ok dsk := by
  induction bs with
  | nil => rfl
  | cons b bs ih =>
    have hb := h b List.mem_cons_self
    have hs : step fg dsk b = .ok dsk := by
      simp [step, hkeys, keysByBlockId_nil, findLayerKey, hb]
    rw [run_cons, hs]
    exact ih (fun b' hb' => h b' (List.mem_cons_of_mem _ hb'))

/-- the graph defines `name × grid(nb)` with block values `vals`: every root key is there (C04's root-key theorem says
that much of a materialized graph) and evaluates to `vals b` -/
def RootKeys (g : Layer V) (name : String) (nb : List Nat) (vals : BlockId → V) : Prop :=
  ∀ b ∈ grid nb, eval g ⟨name, b⟩ = some (vals b)

theorem computeKeys_eq {g : Layer V} {name : String} {nb : List Nat} {vals : BlockId → V}
    (h : RootKeys g name nb vals) : computeKeys g name nb = some ((grid nb).map vals) :=
  Dask.Py.mapM_some _ _ _ h

theorem has_of_eval {g : Layer V} {k : Key} {v : V} (h : eval g k = some v) : has g k = true := by
  cases hg : get? g k with
  | none => rw [eval, evalKey_succ, hg] at h; cases h
  | some nd => exact congrArg Option.isSome hg

/-- the `{k: value}` dict a scheduler hands back for the keys `(n, *b)`, `b ∈ bs` -/
def dataLayer (n : String) (bs : List BlockId) (vals : BlockId → V) : Layer V :=
  bs.map (fun b => ((⟨n, b⟩ : Key), Node.data (vals b)))

theorem get?_dataLayer {n : String} {vals : BlockId → V} {bs : List BlockId} {b : BlockId} (h : b ∈ bs) :
    get? (dataLayer n bs vals) ⟨n, b⟩ = some (.data (vals b)) :=
  get?_map (fun b => (⟨n, b⟩ : Key)) (fun b => Node.data (vals b)) (fun _ _ e => (Key.mk.inj e).2) h

theorem get?_dataLayer_other {n m : String} {vals : BlockId → V} (hnm : n ≠ m)
    (bs : List BlockId) (b : BlockId) : get? (dataLayer n bs vals) ⟨m, b⟩ = none := by
  rw [get?_eq_lookup]
  refine Dask.Assoc.lookup_eq_none fun p hp e => ?_
  obtain ⟨b0, _, rfl⟩ := List.mem_map.mp hp
  exact hnm (congrArg Key.name e)

theorem schedule_eq {g : Layer V} {name : String} {nb : List Nat} {vals : BlockId → V}
    (h : RootKeys g name nb vals) :
    schedule g ((grid nb).map (fun b => (⟨name, b⟩ : Key))) = some (dataLayer name (grid nb) vals) := by
  unfold schedule dataLayer
  rw [Dask.Py.mapM_some _ (fun k : Key => (k, Node.data (vals k.bid)))]
  · simp [List.map_map, Function.comp_def]
  · intro k hk
    obtain ⟨b, hb, rfl⟩ := List.mem_map.mp hk
    simp [h b hb]

theorem rootKeys_dataLayer (n : String) (nb : List Nat) (vals : BlockId → V) :
    RootKeys (dataLayer n (grid nb) vals) n nb vals := by
  intro b hb
  unfold eval
  exact evalKey_direct (Or.inl (get?_dataLayer hb))

theorem computeFG_of_layer {p : Coll (FromGraph V)} {l : Layer V} {vals : BlockId → V} (hl : layerOf p.expr = .ok l)
    (h : RootKeys l p.rawName p.numblocks vals) : computeFG p = .ok (some ((grid p.numblocks).map vals)) := by
  unfold computeFG
  rw [hl]
  exact congrArg _ (computeKeys_eq h)

theorem computeFG_passthrough {E : Type} (c : Coll E) {g : Layer V} {vals : BlockId → V}
    (h : RootKeys g c.rawName c.numblocks vals) :
    computeFG (rebuild c g) = .ok (some ((grid c.numblocks).map vals)) :=
  computeFG_of_layer (run_passthrough (fg := (rebuild c g).expr) rfl fun b hb => has_of_eval (h b hb)) h

theorem dataLayer_key {ℓ : String} {nbLow : List Nat} {vals : BlockId → V}
    {p : Key × Node V} (hp : p ∈ dataLayer ℓ (grid nbLow) vals) :
    p.1.bid.length = nbLow.length ∧ p.1.name = ℓ := by
  obtain ⟨b, hb, rfl⟩ := List.mem_map.mp hp
  exact ⟨grid_length hb, rfl⟩

theorem dataLayer_filter_rank {ℓ : String} {nbLow : List Nat} {vals : BlockId → V} {ndim : Nat}
    (hr : nbLow.length = ndim) :
    (dataLayer ℓ (grid nbLow) vals).filter (fun p => p.1.bid.length == ndim) = dataLayer ℓ (grid nbLow) vals :=
  List.filter_eq_self.mpr fun p hp => by simp [(dataLayer_key hp).1, hr]

theorem bidsOf_dataLayer {ℓ : String} {nbLow : List Nat} {vals : BlockId → V} {ndim : Nat}
    (hr : nbLow.length = ndim) : bidsOf (dataLayer ℓ (grid nbLow) vals) ndim ℓ = grid nbLow := by
  unfold bidsOf
  rw [List.filter_eq_self.mpr fun p hp => by simp [(dataLayer_key hp).1, (dataLayer_key hp).2, hr]]
  simp [dataLayer, List.map_map, Function.comp_def]

theorem names_dataLayer (ℓ : String) (bs : List BlockId) (vals : BlockId → V) :
    (dataLayer ℓ bs vals).map (fun p => p.1.name) = bs.map (fun _ => ℓ) := by
  simp [dataLayer, List.map_map, Function.comp_def]

theorem inferred_dataLayer {ℓ nm : String} {nb : List Nat} {vals : BlockId → V} {ks : List Key}
    (hne : grid nb ≠ []) :
    inferredLayerName (⟨dataLayer ℓ (grid nb) vals, nb, ks, nm⟩ : FromGraph V) = some ℓ := by
  unfold inferredLayerName
  simp only
  rw [dataLayer_filter_rank rfl, names_dataLayer]
  have hP : ∀ n ∈ (grid nb).map (fun _ => ℓ),
      sameSet (bidsOf (dataLayer ℓ (grid nb) vals) nb.length n) (grid nb) = true := by
    intro n hn
    obtain ⟨_, _, rfl⟩ := List.mem_map.mp hn
    rw [bidsOf_dataLayer rfl]; simp [sameSet, List.all_eq_true]
  rw [List.filter_eq_self.mpr hP]
  cases hg : grid nb with
  | nil => exact absurd hg hne
  | cons b0 rest => simp [List.all_eq_true]

/-- known finding `from_graph:missing-output-block`: the scheduler result is keyed by one
foreign name over a grid that is not ours: nothing is inferred -/
theorem inferred_dataLayer_drift {ℓ nm : String} {nb nbLow : List Nat} {vals : BlockId → V} {ks : List Key}
    (hr : nbLow.length = nb.length) (hd : sameSet (grid nbLow) (grid nb) = false) :
    inferredLayerName (⟨dataLayer ℓ (grid nbLow) vals, nb, ks, nm⟩ : FromGraph V) = none := by
  unfold inferredLayerName
  simp only
  rw [dataLayer_filter_rank hr, names_dataLayer]
  have hP : ∀ n ∈ (grid nbLow).map (fun _ => ℓ),
      ¬ sameSet (bidsOf (dataLayer ℓ (grid nbLow) vals) nb.length n) (grid nb) = true := by
    intro n hn
    obtain ⟨_, _, rfl⟩ := List.mem_map.mp hn
    rw [bidsOf_dataLayer hr, hd]; simp
  rw [List.filter_eq_nil_iff.mpr hP]

theorem find0_byBlockId {E : Type} (c : Coll E) {ℓ : String} {vals : BlockId → V} (hne : ℓ ≠ c.rawName)
    {b : BlockId} (hb : b ∈ grid c.numblocks) :
    find0 (rebuild c (dataLayer ℓ (grid c.numblocks) vals)).expr b = .ok ⟨ℓ, b⟩ := by
  have hg : grid c.numblocks ≠ [] := fun h => by rw [h] at hb; cases hb
  have hinf := inferred_dataLayer (ℓ := ℓ) (nm := c.rawName) (vals := vals) (ks := []) hg
  have hno : has (dataLayer ℓ (grid c.numblocks) vals) ⟨c.rawName, b⟩ = false := by
    simp [has, get?_dataLayer_other hne]
  simp only [find0, rebuild, keysByBlockId_nil, findLayerKey, List.lookup_nil, hno, hinf]
  rfl

/-- `dask.persist(x)`: blocks handed back under the lowered root name over OUR grid are found by block id -/
theorem computeFG_byBlockId {E : Type} (c : Coll E) {ℓ : String} {vals : BlockId → V} (hne : ℓ ≠ c.rawName) :
    computeFG (rebuild c (dataLayer ℓ (grid c.numblocks) vals)) = .ok (some ((grid c.numblocks).map vals)) := by
  obtain ⟨l, hl⟩ := (layerOf_ok_iff (rebuild c (dataLayer ℓ (grid c.numblocks) vals)).expr).mpr
    fun b hb => ⟨_, find0_byBlockId c hne hb⟩
  exact computeFG_of_layer hl fun b hb =>
    layerOf_value (fg := (rebuild c (dataLayer ℓ (grid c.numblocks) vals)).expr) hl hb
      (find0_byBlockId c hne hb) (Or.inl (get?_dataLayer hb))

theorem computeFG_dataLayer {E : Type} (c : Coll E) (ℓ : String) (vals : BlockId → V) :
    computeFG (rebuild c (dataLayer ℓ (grid c.numblocks) vals)) = .ok (some ((grid c.numblocks).map vals)) := by
  by_cases hn : ℓ = c.rawName
  · rw [hn]; exact computeFG_passthrough c (rootKeys_dataLayer _ _ _)
  · exact computeFG_byBlockId c hn

/-- `dask.persist` of any optimized form whose root serves `vals` over the advertised grid;
`x.persist()` is the case `lo = ⟨x.rawName, pinned graph⟩` -/
theorem epDaskPersist_computes {E : Type} (c : Coll E) (lo : Lowered V) {vals : BlockId → V}
    (hlo : RootKeys lo.graph lo.name c.numblocks vals) :
    ∃ p, epDaskPersist c lo c.numblocks = some p ∧
      computeFG p = .ok (some ((grid c.numblocks).map vals)) :=
  ⟨_, congrArg (Option.map (rebuild c)) (schedule_eq hlo), computeFG_dataLayer c lo.name vals⟩

theorem get?_none_of_noName {g : Layer V} {raw : String}
    (h : g.any (fun p => p.1.name == raw) = false) (b : BlockId) : get? g ⟨raw, b⟩ = none := by
  rw [get?_eq_lookup]
  refine Dask.Assoc.lookup_eq_none fun p hp e => List.any_eq_false.mp h p hp ?_
  rw [e]; exact beq_self_eq_true _

theorem get?_aliasLayer {raw ℓ : String} {bs : List BlockId} {b : BlockId} (h : b ∈ bs) :
    get? (bs.map (fun b => ((⟨raw, b⟩ : Key), (Node.alias ⟨ℓ, b⟩ : Node V)))) ⟨raw, b⟩ = some (.alias ⟨ℓ, b⟩) :=
  get?_map (fun b => (⟨raw, b⟩ : Key)) (fun b => (Node.alias ⟨ℓ, b⟩ : Node V)) (fun _ _ e => (Key.mk.inj e).2) h

theorem evalKey_weaken {l r : Layer V} {v : V} {f f' : Nat} {k : Key}
    (h : evalKey f l k = some v) (hle : f ≤ f') : evalKey f' (l ++ r) k = some v := by
  induction f generalizing f' k with
  | zero => cases h
  | succ f ih =>
    obtain ⟨f', rfl⟩ : ∃ n, f' = n + 1 := ⟨f' - 1, by omega⟩
    rw [evalKey_succ] at h ⊢
    rw [get?_append]
    cases hg : get? l k with
    | none => simp [hg] at h
    | some nd =>
      rw [hg] at h
      cases nd with
      | data v' | task v' => exact h
      | alias t => exact ih h (by omega)

end Dask.Lemmas.Entry

namespace Dask.Lemmas.Memo
open Dask.Memo
variable {E N D Cfg : Type} [DecidableEq N]

theorem get?_cons (n m : N) (e : E) (c : Cache E N) :
    Cache.get? ((n, e) :: c) m = if m = n then some e else Cache.get? c m :=
  Dask.Assoc.lookup_cons m n e c

theorem get?_filter (n0 m : N) (c : Cache E N) :
    Cache.get? (c.filter (fun p => !decide (p.1 = n0))) m = if m = n0 then none else Cache.get? c m :=
  Dask.Assoc.lookup_erase c n0 m

theorem Inv_nil (S : Sys E N D Cfg) : Inv S [] :=
  fun _ _ h => nomatch h

/-- storing a same-meaning result under the name of a node that does not opt out keeps the invariant
(this is all `lowered.setdefault(self._name, out)` needs — also for `ChunksFreeze.lower_once`) -/
theorem Inv_insert {S : Sys E N D Cfg} {c : Cache E N} {e out : E} (hc : Inv S c)
    (ho : S.optsOut e = false) (hd : S.den out = S.den e) : Inv S ((S.name e, out) :: c) := by
  intro n e' h
  rw [get?_cons] at h
  split at h
  · next hn => cases h; exact ⟨e, ho, hn.symm, hd⟩
  · exact hc n e' h

theorem Inv_evict {S : Sys E N D Cfg} {c : Cache E N} (hc : Inv S c) (n0 : N) :
    Inv S (c.filter (fun p => !decide (p.1 = n0))) := by
  intro n e' h
  rw [get?_filter] at h
  split at h
  · cases h
  · exact hc n e' h

theorem hit_sound {S : Sys E N D Cfg} {c : Cache E N} (hinj : NameInj S) (hc : Inv S c) {e hit : E}
    (ho : S.optsOut e = false) (h : c.get? (S.name e) = some hit) : S.den hit = S.den e := by
  obtain ⟨w, hw, hn, hd⟩ := hc _ _ h
  rw [hd]
  exact hinj w e hw ho hn

theorem everyEntrySound_of_inv {S : Sys E N D Cfg} (hinj : NameInj S) {c : Cache E N} (hc : Inv S c) :
    EveryEntrySound S c := by
  intro n e' h e ho hn
  subst hn
  exact hit_sound hinj hc ho h

omit [DecidableEq N] in
theorem den_ite (S : Sys E N D Cfg) {p : Prop} [Decidable p] {a b : E} {d : D}
    (ha : S.den a = d) (hb : S.den b = d) : S.den (if p then a else b) = d := by
  split
  · exact ha
  · exact hb

theorem mapAccum_sound {S : Sys E N D Cfg} (f : Cache E N → E → E × Cache E N)
    (hf : ∀ c e, Inv S c → Inv S (f c e).2 ∧ S.den (f c e).1 = S.den e)
    (ks : List E) (c : Cache E N) (hc : Inv S c) :
    Inv S (mapAccum f c ks).2 ∧ SameDen S (mapAccum f c ks).1 ks := by
  induction ks generalizing c with
  | nil => exact ⟨hc, SameDen.nil⟩
  | cons k ks ih =>
    obtain ⟨h1, h2⟩ := hf c k hc
    obtain ⟨h3, h4⟩ := ih (f c k).2 h1
    exact ⟨h3, SameDen.cons h2 h4⟩

theorem lowerOnce_sound {S : Sys E N D Cfg} (hs : RuleSound S) (hinj : NameInj S) (cfg : Cfg)
    (fuel : Nat) (c : Cache E N) (e : E) (hc : Inv S c) :
    Inv S (lowerOnce S cfg fuel c e).2 ∧ S.den (lowerOnce S cfg fuel c e).1 = S.den e := by
  induction fuel generalizing c e with
  | zero => exact ⟨hc, rfl⟩
  | succ fuel ih =>
    unfold lowerOnce
    split
    · exact ⟨hc, rfl⟩
    · next hopt =>
      have ho : S.optsOut e = false := (Bool.not_eq_true _).mp hopt
      split
      · next hit hget => exact ⟨hc, hit_sound hinj hc ho hget⟩
      · have hout : S.den ((S.rule cfg e).getD e) = S.den e := by
          cases hr : S.rule cfg e with
          | none => rfl
          | some e' => exact hs.rule cfg e e' hr
        obtain ⟨hc2, hkids⟩ := mapAccum_sound _ ih (S.children ((S.rule cfg e).getD e)) c hc
        have hnew := (hs.congr _ _ hkids).trans hout
        simp only
        split
        · next old hget2 => exact ⟨hc2, hit_sound hinj hc2 ho hget2⟩
        · exact ⟨Inv_insert hc2 ho (den_ite S hnew hout), den_ite S hnew hout⟩

theorem lowerLoop_succ (S : Sys E N D Cfg) (cfg : Cfg) (depth rounds : Nat) (c : Cache E N) (e : E) :
    lowerLoop S cfg depth (rounds + 1) c e =
      if S.name (lowerOnce S cfg depth c e).1 = S.name e then (e, (lowerOnce S cfg depth c e).2)
      else lowerLoop S cfg depth rounds (lowerOnce S cfg depth c e).2 (lowerOnce S cfg depth c e).1 := rfl

theorem lowerLoop_sound {S : Sys E N D Cfg} (hs : RuleSound S) (hinj : NameInj S) (cfg : Cfg) (depth : Nat)
    (rounds : Nat) (c : Cache E N) (e : E) (hc : Inv S c) :
    Inv S (lowerLoop S cfg depth rounds c e).2 ∧ S.den (lowerLoop S cfg depth rounds c e).1 = S.den e := by
  induction rounds generalizing c e with
  | zero => exact ⟨hc, rfl⟩
  | succ rounds ih =>
    rw [lowerLoop_succ]
    obtain ⟨h1, h2⟩ := lowerOnce_sound hs hinj cfg depth c e hc
    split
    · exact ⟨h1, rfl⟩
    · obtain ⟨h3, h4⟩ := ih _ _ h1
      exact ⟨h3, h4.trans h2⟩

theorem materialize_sound {S : Sys E N D Cfg} (hs : RuleSound S) (hinj : NameInj S) (cfg : Cfg)
    (depth rounds : Nat) (c : Cache E N) (e : E) (hc : Inv S c) :
    Inv S (materialize S cfg depth rounds c e).2 ∧ S.den (materialize S cfg depth rounds c e).1 = S.den e := by
  unfold materialize
  split
  · exact ⟨hc, rfl⟩
  · obtain ⟨h1, h2⟩ := lowerLoop_sound hs hinj cfg depth rounds c
      (if S.optimizeOn cfg = true then S.simplify cfg e else e) hc
    have h3 := h2.trans (den_ite S (hs.simplify cfg e) rfl)
    have h4 := den_ite S (p := S.optimizeOn cfg = true) ((hs.fuse cfg _).trans h3) h3
    exact ⟨h1, den_ite S h4 ((hs.pinned _ _).trans h4)⟩

theorem exec_sound {S : Sys E N D Cfg} (hs : RuleSound S) (hinj : NameInj S) (depth rounds : Nat)
    (st : State E N Cfg) (step : Step E N Cfg) (hc : Inv S st.cache) : Inv S (exec S depth rounds st step).cache := by
  cases step with
  | setCfg cfg => exact hc
  | build e => exact hc
  | lower e => exact (materialize_sound hs hinj st.cfg depth rounds st.cache e hc).1
  | compute e => exact (materialize_sound hs hinj st.cfg depth rounds st.cache e hc).1
  | evict n => exact Inv_evict hc n

theorem runHist_sound {S : Sys E N D Cfg} (hs : RuleSound S) (hinj : NameInj S) (depth rounds : Nat)
    (h : List (Step E N Cfg)) (st : State E N Cfg) (hc : Inv S st.cache) :
    Inv S (runHist S depth rounds st h).cache := by
  induction h generalizing st with
  | nil => exact hc
  | cons s h ih => exact ih _ (exec_sound hs hinj depth rounds st s hc)

theorem lowerOnce_optsOut {S : Sys E N D Cfg} (cfg : Cfg) (fuel : Nat) (c : Cache E N) (e : E)
    (ho : S.optsOut e = true) : lowerOnce S cfg fuel c e = (e, c) := by
  cases fuel with
  | zero => rfl
  | succ f => exact if_pos ho

theorem materialize_optsOut {S : Sys E N D Cfg} (cfg : Cfg) (depth rounds : Nat) (c : Cache E N) (e : E)
    (ho : S.optsOut e = true) : materialize S cfg depth rounds c e = (e, c) := by
  simp [materialize, ho]

end Dask.Lemmas.Memo
