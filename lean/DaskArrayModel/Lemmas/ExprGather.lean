/-
`axisLift`: per-axis block-map facts lift to the n-d block grid.  Proved once for the
`gatherBlock` construction; used (through `gather_ok`) by slicing, rechunk, expand_dims, squeeze,
broadcast_to and take.  What each of these ops owes is one statement, `Gathers specs ol cl f`: its specs meet the
per-axis obligations and read the child along the index map `f` of the op's NumPy meaning.
-/
import DaskArrayModel.Model.Expr
import DaskArrayModel.Lemmas.ExprArr
namespace Dask.ND

/-- `m` maps an output axis with chunks `oc` into a child axis with chunks `cc` (here and in `SpecsOK`, `Gathers` the
OUTPUT layout comes before the CHILD layout, and index maps go from output to child): local position `i` of output
block `j` reads block `m.blk j i` of `cc` at position `m.pos j i`, which is where `m.gmap` sends the global position. -/
def AxisOK (m : AxisMap) (oc cc : List Nat) : Prop :=
  ∀ j, j < oc.length → m.len j = oc.getD j 0 ∧ ∀ i, i < oc.getD j 0 →
    m.blk j i < cc.length ∧ m.pos j i < cc.getD (m.blk j i) 0 ∧
    (cc.take (m.blk j i)).sum + m.pos j i = m.gmap ((oc.take j).sum + i)

/-- the specs walk the output layout `ol` and the child layout `cl` together: a `keep` is an axis of both, a `fix` of
the child only, a `new` of the output only -/
inductive SpecsOK : List AxSpec → Layout → Layout → Prop
  | nil : SpecsOK [] [] []
  | keep {m oc cc r ol cl} : AxisOK m oc cc → SpecsOK r ol cl →
      SpecsOK (.keep m :: r) (oc :: ol) (cc :: cl)
  | fix {b p g cc r ol cl} : b < cc.length → p < cc.getD b 0 → (cc.take b).sum + p = g →
      SpecsOK r ol cl → SpecsOK (.fix b p g :: r) ol (cc :: cl)
  | new {len oc r ol cl} : (∀ j, j < oc.length → len j = oc.getD j 0) → SpecsOK r ol cl →
      SpecsOK (.new len :: r) (oc :: ol) cl

theorem axisLift {specs : List AxSpec} {ol cl : Layout} (h : SpecsOK specs ol cl) :
    ∀ bid, validBid ol bid →
      gShape specs bid = blockShape ol bid ∧
      ∀ i, InB i (blockShape ol bid) →
        validBid cl (gBid specs bid i) ∧
        InB (gPos specs bid i) (blockShape cl (gBid specs bid i)) ∧
        vadd (origin cl (gBid specs bid i)) (gPos specs bid i)
          = gGlob specs (vadd (origin ol bid) i) := by
  induction h with
  | nil =>
    intro bid hb
    cases bid with
    | nil =>
      exact ⟨rfl, fun i _ => ⟨trivial, trivial, rfl⟩⟩
    | cons b bid => exact False.elim hb
  | @keep m oc cc r ol cl hax _ ih =>
    intro bid hb
    cases bid with
    | nil => exact False.elim hb
    | cons j bid =>
      rw [validBid_cons] at hb
      obtain ⟨hlen, hpos⟩ := hax j hb.1
      obtain ⟨ihs, ihi⟩ := ih bid hb.2
      refine ⟨List.cons_eq_cons.mpr ⟨hlen, ihs⟩, ?_⟩
      intro i hi
      cases i with
      | nil => exact False.elim hi
      | cons x i =>
        obtain ⟨hx, hi⟩ : x < oc.getD j 0 ∧ InB i (blockShape ol bid) := hi
        obtain ⟨p1, p2, p3⟩ := hpos x hx
        obtain ⟨q1, q2, q3⟩ := ihi i hi
        exact ⟨validBid_cons.2 ⟨p1, q1⟩, And.intro p2 q2, List.cons_eq_cons.mpr ⟨p3, q3⟩⟩
  | @fix b p g cc r ol cl hb1 hp hg _ ih =>
    intro bid hb
    obtain ⟨ihs, ihi⟩ := ih bid hb
    refine ⟨ihs, ?_⟩
    intro i hi
    obtain ⟨q1, q2, q3⟩ := ihi i hi
    exact ⟨validBid_cons.2 ⟨hb1, q1⟩, And.intro hp q2, List.cons_eq_cons.mpr ⟨hg, q3⟩⟩
  | @new len oc r ol cl hlen _ ih =>
    intro bid hb
    cases bid with
    | nil => exact False.elim hb
    | cons j bid =>
      rw [validBid_cons] at hb
      obtain ⟨ihs, ihi⟩ := ih bid hb.2
      refine ⟨List.cons_eq_cons.mpr ⟨hlen j hb.1, ihs⟩, ?_⟩
      intro i hi
      cases i with
      | nil => exact False.elim hi
      | cons x i => exact ihi i (And.right hi)

structure Gathers (specs : List AxSpec) (ol cl : Layout) (f : List Nat → List Nat) : Prop where
  ok : SpecsOK specs ol cl
  glob : ∀ g, InB g (ol.map List.sum) → gGlob specs g = f g

theorem Gathers.nil {f : List Nat → List Nat} (hf : f [] = []) : Gathers [] [] [] f := by
  refine ⟨SpecsOK.nil, fun g hg => ?_⟩
  cases hg.eq_nil
  exact hf.symm

theorem Gathers.keep {m : AxisMap} {oc cc : List Nat} {r : List AxSpec} {ol cl : Layout} {f f' : List Nat → List Nat}
    (hm : AxisOK m oc cc) (h : Gathers r ol cl f) (hf : ∀ x g, x < oc.sum → f' (x :: g) = m.gmap x :: f g) :
    Gathers (.keep m :: r) (oc :: ol) (cc :: cl) f' := by
  refine ⟨SpecsOK.keep hm h.ok, fun g hg => ?_⟩
  cases g with
  | nil => exact hg.elim
  | cons x g => exact (congrArg (m.gmap x :: ·) (h.glob g hg.2)).trans (hf x g hg.1).symm

theorem Gathers.fix {b p g0 : Nat} {cc : List Nat} {r : List AxSpec} {ol cl : Layout} {f f' : List Nat → List Nat}
    (hb : b < cc.length) (hp : p < cc.getD b 0) (hg0 : (cc.take b).sum + p = g0) (h : Gathers r ol cl f)
    (hf : ∀ g, f' g = g0 :: f g) : Gathers (.fix b p g0 :: r) ol (cc :: cl) f' :=
  ⟨SpecsOK.fix hb hp hg0 h.ok, fun g hg => (congrArg (g0 :: ·) (h.glob g hg)).trans (hf g).symm⟩

theorem Gathers.new {len : Nat → Nat} {oc : List Nat} {r : List AxSpec} {ol cl : Layout} {f f' : List Nat → List Nat}
    (hl : ∀ j, j < oc.length → len j = oc.getD j 0) (h : Gathers r ol cl f) (hf : ∀ x g, f' (x :: g) = f g) :
    Gathers (.new len :: r) (oc :: ol) cl f' := by
  refine ⟨SpecsOK.new hl h.ok, fun g hg => ?_⟩
  cases g with
  | nil => exact hg.elim
  | cons x g => exact (h.glob g hg.2).trans (hf x g).symm

theorem gather_ok {specs : List AxSpec} {ol cl : Layout} {f : List Nat → List Nat} (h : Gathers specs ol cl f)
    {a : Arr Int} {child : List Nat → Arr Int}
    (hchild : IsGrid cl a child) (o : Arr Int) (hsum : ol.map List.sum = o.shape)
    (hget : ∀ g, InB g o.shape → o.get g = a.get (f g)) : IsGrid ol o (gatherBlock specs child) := by
  intro bid hb
  obtain ⟨hs, hi⟩ := axisLift h.ok bid hb
  refine ⟨hs, ?_⟩
  intro i hin
  simp only [gatherBlock] at hin
  rw [hs] at hin
  obtain ⟨q1, q2, q3⟩ := hi i hin
  have hG := InB_vadd_origin hb hin
  simp only [gatherBlock, restrict, extent]
  rw [block_get hchild q1 q2, q3, h.glob _ hG, hget _ (hsum ▸ hG)]

end Dask.ND
