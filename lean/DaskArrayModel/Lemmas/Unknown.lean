/-
Unknown chunk sizes (model: Model/Unknown.lean): `ChunksOverride` as an alias of the blocks, `compute_chunk_sizes` on
mask selections, and the guards.  That an accepted slicing or rechunk does not depend on the unknown sizes is proved
axis by axis and then along the layout.
-/
import DaskArrayModel.Model.Unknown
import DaskArrayModel.Lemmas.ExprArr
import DaskArrayModel.Lemmas.Assoc
namespace Dask.Lemmas.Unknown
open Dask.Py Dask.Unknown

theorem osum_none_iff : ∀ d : Dim?, osum d = none ↔ hasNone d = true
  | [] => ⟨fun h => absurd h (Option.some_ne_none 0), fun h => absurd h Bool.false_ne_true⟩
  | none :: _ => ⟨fun _ => rfl, fun _ => rfl⟩
  | some _ :: xs => Option.map_eq_none_iff.trans (osum_none_iff xs)

theorem isKnown_iff_not_hasNone : ∀ d : Dim?, isKnown d = true ↔ hasNone d = false
  | [] => by simp [isKnown, hasNone]
  | none :: xs => by simp [isKnown, hasNone]
  | some x :: xs => by
    have ih := isKnown_iff_not_hasNone xs
    simp only [isKnown, hasNone, List.all_cons, List.any_cons, Option.isSome_some, Option.isNone_some,
      Bool.true_and, Bool.false_or] at ih ⊢
    exact ih

theorem osum_isSome_of_known (d : Dim?) (h : isKnown d = true) : (osum d).isSome = true := by
  cases ho : osum d with
  | some v => rfl
  | none =>
    have := (osum_none_iff d).mp ho
    have h2 := (isKnown_iff_not_hasNone d).mp h
    rw [this] at h2; cases h2

theorem isKnown_of_osum_some (d : Dim?) (a : Nat) (h : osum d = some a) : isKnown d = true := by
  rw [isKnown_iff_not_hasNone]
  cases hh : hasNone d with
  | false => rfl
  | true => rw [(osum_none_iff d).mpr hh] at h; cases h

theorem isKnown_of_osum_ne_none (d : Dim?) (h : osum d ≠ none) : isKnown d = true := by
  cases ho : osum d with
  | none => exact absurd ho h
  | some a => exact isKnown_of_osum_some d a ho

theorem agreesDim_refl : ∀ d : Dim?, agreesDim d d = true
  | [] => rfl
  | none :: xs => agreesDim_refl xs
  | some _ :: xs => Bool.and_eq_true_iff.mpr ⟨decide_eq_true rfl, agreesDim_refl xs⟩

theorem agreesDim_length : ∀ (k d : Dim?), agreesDim k d = true → k.length = d.length
  | [], [], _ => rfl
  | [], _ :: _, h => absurd h Bool.false_ne_true
  | _ :: _, [], h => absurd h Bool.false_ne_true
  | _ :: ks, _ :: os, h => congrArg Nat.succ (agreesDim_length ks os (Bool.and_eq_true_iff.mp h).2)

theorem agreesDim_known : ∀ (k d : Dim?), agreesDim k d = true → isKnown d = true → k = d
  | [], [], _, _ => rfl
  | [], _ :: _, h, _ => absurd h Bool.false_ne_true
  | _ :: _, [], h, _ => absurd h Bool.false_ne_true
  | k :: ks, none :: os, _, hk => by simp [isKnown] at hk
  | k :: ks, some v :: os, h, hk => by
    obtain ⟨h1, h2⟩ := Bool.and_eq_true_iff.mp h
    rw [of_decide_eq_true h1, agreesDim_known ks os h2 hk]

theorem override_chunks {β} (e : Arr β) (c : Layout?) : (override e c).chunks = c := rfl

theorem override_block {β} (e : Arr β) (c : Layout?) (idx : List Nat)
    (h : idx ∈ grid (numblocks c)) : (override e c).block idx = e.block idx := by
  simp only [override, overrideLayer]
  rw [Dask.Assoc.lookup_map_of_mem (fun i => i) (fun i => i) (fun _ _ e => e) h]

theorem override_block_outside {β} (e : Arr β) (c : Layout?) (idx : List Nat)
    (h : idx ∉ grid (numblocks c)) : (override e c).block idx = none := by
  simp only [override, overrideLayer]
  rw [Dask.Assoc.lookup_eq_none]
  intro p hp hk
  obtain ⟨i, hi, rfl⟩ := List.mem_map.mp hp
  exact h (hk ▸ hi)

theorem grid_eq_allIdx : ∀ ns : List Nat, grid ns = Dask.ND.allIdx ns
  | [] => rfl
  | n :: ns => congrArg (fun g : List (List Nat) => (List.range n).flatMap fun i => g.map (i :: ·)) (grid_eq_allIdx ns)

theorem mem_grid (ns idx : List Nat) :
    idx ∈ grid ns ↔ idx.length = ns.length ∧ ∀ p ∈ idx.zip ns, p.1 < p.2 := by
  rw [grid_eq_allIdx, Dask.ND.mem_allIdx, Dask.ND.InB_iff_zip]

theorem nsum_append (a b : List Nat) : nsum (a ++ b) = nsum a + nsum b := by
  induction a with
  | nil => simp [nsum]
  | cons x xs ih => simp [nsum, ih]; omega

theorem nsum_map_length_flatten {α} (bs : List (List α)) : nsum (bs.map List.length) = bs.flatten.length := by
  induction bs with
  | nil => rfl
  | cons b bs ih => simp [nsum, ih]

theorem splitBy_cons {α} (c : Nat) (cs : List Nat) (l : List α) :
    splitBy (c :: cs) l = l.take c :: splitBy cs (l.drop c) := rfl

theorem splitBy_length {α} : ∀ (cs : List Nat) (l : List α), (splitBy cs l).length = cs.length
  | [], _ => rfl
  | _ :: cs, _ => congrArg Nat.succ (splitBy_length cs _)

theorem splitBy_flatten {α} : ∀ (cs : List Nat) (l : List α), (splitBy cs l).flatten = l.take (nsum cs)
  | [], l => rfl
  | c :: cs, l => by
    simp only [splitBy_cons, List.flatten_cons, splitBy_flatten cs, nsum]
    rw [List.take_add]

theorem splitBy_lengths {α} : ∀ (cs : List Nat) (l : List α), nsum cs ≤ l.length →
    (splitBy cs l).map List.length = cs
  | [], _, _ => rfl
  | c :: cs, l, h => by
    simp only [nsum] at h
    simp only [splitBy_cons, List.map_cons, List.length_take]
    rw [splitBy_lengths cs (l.drop c) (by simp [List.length_drop]; omega)]
    congr 1
    omega

theorem maskBlock_append {α} (a b : List α) (ma mb : List Bool) (h : a.length = ma.length) :
    maskBlock (a ++ b) (ma ++ mb) = maskBlock a ma ++ maskBlock b mb := by
  simp only [maskBlock]
  rw [List.zip_append h, List.filter_append, List.map_append]

theorem maskSelect_length {α} (cs : List Nat) (x : List α) (m : List Bool) :
    (maskSelect cs x m).length = cs.length := by
  simp [maskSelect, splitBy_length]

theorem maskSelect_flatten {α} : ∀ (cs : List Nat) (x : List α) (m : List Bool), x.length = m.length →
    (maskSelect cs x m).flatten = maskBlock (x.take (nsum cs)) (m.take (nsum cs))
  | [], x, m, _ => rfl
  | c :: cs, x, m, h => by
    have ih := maskSelect_flatten cs (x.drop c) (m.drop c) (by simp [List.length_drop, h])
    simp only [maskSelect] at ih ⊢
    simp only [splitBy_cons, List.zipWith_cons_cons, List.flatten_cons, ih, nsum]
    rw [List.take_add, List.take_add (l := m)]
    rw [maskBlock_append]
    simp [List.length_take, h]

theorem maskSelect_flatten_full {α} (cs : List Nat) (x : List α) (m : List Bool)
    (hx : nsum cs = x.length) (hm : x.length = m.length) :
    (maskSelect cs x m).flatten = maskBlock x m := by
  rw [maskSelect_flatten cs x m hm, hx, List.take_length, hm, List.take_length]

/-- a mask given by a predicate on the values (`x[p(x)]`) selects `filter p` -/
theorem maskBlock_pred {α} (p : α → Bool) : ∀ x : List α, maskBlock x (x.map p) = x.filter p
  | [] => rfl
  | a :: as => by
    have ih := maskBlock_pred p as
    simp only [maskBlock] at ih ⊢
    simp only [List.map_cons, List.zip_cons_cons, List.filter_cons]
    by_cases h : p a = true
    · simp [h, ih]
    · have h' : p a = false := by simpa using h
      simp [h', ih]

theorem nonzeroFrom_eq : ∀ (off : Nat) (m : List Bool), nonzeroFrom off m = maskBlock (List.range' off m.length) m
  | _, [] => rfl
  | off, b :: bs => by
    have ih := nonzeroFrom_eq (off + 1) bs
    simp only [maskBlock] at ih ⊢
    cases b <;> simp [nonzeroFrom, List.range'_succ, ih]

theorem maskPositionsFrom_eq : ∀ (off : Nat) (cs : List Nat) (m : List Bool), nsum cs ≤ m.length →
    maskPositionsFrom off cs m = maskSelect cs (List.range' off m.length) m
  | _, [], _, _ => rfl
  | off, c :: cs, m, h => by
    simp only [nsum] at h
    have ih := maskPositionsFrom_eq (off + c) cs (m.drop c) (by simp [List.length_drop]; omega)
    simp only [maskSelect] at ih ⊢
    show nonzeroFrom off (m.take c) :: maskPositionsFrom (off + c) cs (m.drop c) = _
    simp only [splitBy_cons, List.zipWith_cons_cons, ih, nonzeroFrom_eq, List.length_take,
      List.length_drop, List.drop_range', Nat.mul_one]
    rw [List.take_range'_of_length_ge (by omega), Nat.min_eq_left (by omega)]

theorem maskPositionsFrom_length : ∀ (off : Nat) (cs : List Nat) (m : List Bool),
    (maskPositionsFrom off cs m).length = cs.length
  | _, [], _ => rfl
  | _, _ :: cs, _ => congrArg Nat.succ (maskPositionsFrom_length _ cs _)

/-- how many entries a mask keeps does not depend on the values -/
theorem maskBlock_length {α} (x : List α) (m : List Bool) (h : x.length = m.length) :
    (maskBlock x m).length = m.countP id := by
  rw [maskBlock, List.length_map, ← List.countP_eq_length_filter]
  conv => rhs; rw [← List.map_snd_zip (l₁ := x) (l₂ := m) (by omega), List.countP_map]
  rfl

theorem sliceGuard_cons (dim : Option Nat) (dims : List (Option Nat)) (ind : Idx) (inds : List Idx) :
    sliceGuard (dim :: dims) (ind :: inds) =
      if dim.isNone && !ind.isColon then .error .valueError else sliceGuard dims inds := rfl

theorem sliceGuard_known : ∀ (K : Layout?) (idx : List Idx), isKnownL K = true →
    sliceGuard (shape? K) idx = .ok ()
  | [], idx, _ => by cases idx <;> rfl
  | k :: ks, [], _ => rfl
  | k :: ks, i :: is, h => by
    simp only [isKnownL, List.all_cons, Bool.and_eq_true] at h
    simp only [shape?, List.map_cons, sliceGuard_cons]
    have := osum_isSome_of_known k h.1
    have hn : (osum k).isNone = false := by
      cases ho : osum k <;> simp_all
    rw [hn]
    simpa [shape?] using sliceGuard_known ks is (by simpa [isKnownL] using h.2)

theorem isKnown_ofInts (l : List Int) : isKnown (ofInts l) = true := by
  simp [isKnown, ofInts]

theorem newBlockdim?_known (k : Dim?) (s : PySlice) (h : isKnown k = true) :
    isKnown (newBlockdim? k s) = true := by
  unfold newBlockdim?
  split
  · exact h
  · exact isKnown_ofInts _

theorem sliceGuard_cons_iff (dim : Option Nat) (dims : List (Option Nat)) (ind : Idx) (inds : List Idx) :
    sliceGuard (dim :: dims) (ind :: inds) = .ok () ↔
      ¬ (dim = none ∧ ind.isColon = false) ∧ sliceGuard dims inds = .ok () := by
  rw [sliceGuard_cons]
  cases dim <;> cases h : ind.isColon <;> simp

/-- one sliced axis the guard let through: a completion's new chunks agree with the result's (a proper slice
is only accepted on a known axis, where the completion is the axis itself) -/
theorem newBlockdim?_agrees (k db : Dim?) (s : PySlice) (hag : agreesDim k db = true)
    (hg : ¬ (osum db = none ∧ (Idx.slice s).isColon = false)) :
    agreesDim (newBlockdim? k s) (newBlockdim? db s) = true := by
  by_cases hs : s = Dask.Slicing.colon
  · simp [newBlockdim?, hs, hag]
  · have hkn : isKnown db = true :=
      isKnown_of_osum_ne_none db (fun ho => hg ⟨ho, by simp [Idx.isColon, hs]⟩)
    rw [agreesDim_known k db hag hkn]
    exact agreesDim_refl _

theorem slicedChunks_parametric : ∀ (L K : Layout?) (idx : List Idx), isKnownL K = true → agrees K L = true →
    sliceGuard (shape? L) idx = .ok () →
    isKnownL (slicedChunks K idx) = true ∧ agrees (slicedChunks K idx) (slicedChunks L idx) = true
  | [], [], idx, _, _, _ => by cases idx <;> exact ⟨rfl, rfl⟩
  | [], _ :: _, _, _, hag, _ => absurd hag Bool.false_ne_true
  | _ :: _, [], _, _, hag, _ => absurd hag Bool.false_ne_true
  | _ :: _, _ :: _, [], _, _, _ => ⟨rfl, rfl⟩
  | db :: dbs, k :: ks, ind :: inds, hK, hag, hg => by
    have hag := Bool.and_eq_true_iff.mp hag
    simp only [isKnownL, List.all_cons, Bool.and_eq_true] at hK
    simp only [shape?, List.map_cons, sliceGuard_cons_iff] at hg
    have ih := slicedChunks_parametric dbs ks inds hK.2 hag.2 hg.2
    cases ind with
    | int i => exact ih
    | slice s =>
      exact ⟨Bool.and_eq_true_iff.mpr ⟨newBlockdim?_known k s hK.1, ih.1⟩,
        Bool.and_eq_true_iff.mpr ⟨newBlockdim?_agrees k db s hag.1 hg.1, ih.2⟩⟩

/-- what `_validate_rechunk` accepts on one axis with possibly unknown sizes: both lengths known and equal, or both
unknown and the chunk tuple unchanged -/
def AxisOK (o n : Dim?) : Prop :=
  (∃ a, osum o = some a ∧ osum n = some a) ∨ (osum o = none ∧ osum n = none ∧ o = n)

theorem validateAxis_iff (o n : Dim?) : validateAxis o n = .ok () ↔ AxisOK o n := by
  unfold validateAxis AxisOK
  cases ho : osum o with
  | none =>
    cases hn : osum n with
    | none =>
      by_cases he : o = n
      · simp [he]
      · simp [he]
    | some b => simp
  | some a =>
    cases hn : osum n with
    | none => simp
    | some b =>
      by_cases hab : a = b
      · simp [hab]
      · have hba : ¬ b = a := fun e => hab e.symm
        simp [hab, hba]

theorem validateLoop_cons (o n : Dim?) (os ns : Layout?) :
    validateLoop (o :: os) (n :: ns) = .ok () ↔ AxisOK o n ∧ validateLoop os ns = .ok () := by
  rw [← validateAxis_iff]
  show (match validateAxis o n with | .error e => Except.error e | .ok () => validateLoop os ns) = .ok () ↔ _
  cases validateAxis o n with
  | error e => simp
  | ok u => simp

theorem validateLoop_iff : ∀ (old new : Layout?),
    validateLoop old new = .ok () ↔ ∀ p ∈ old.zip new, AxisOK p.1 p.2
  | [], new => ⟨fun _ _ h => absurd h List.not_mem_nil, fun _ => rfl⟩
  | o :: os, [] => ⟨fun _ _ h => absurd h List.not_mem_nil, fun _ => rfl⟩
  | o :: os, n :: ns => by
    rw [validateLoop_cons, validateLoop_iff os ns]
    simp only [List.zip_cons_cons, List.mem_cons, forall_eq_or_imp]

theorem validateRechunk_iff (old new : Layout?) :
    validateRechunk old new = .ok () ↔
      old.length = new.length ∧ ∀ p ∈ old.zip new, AxisOK p.1 p.2 := by
  unfold validateRechunk
  by_cases h : old.length = new.length
  · simp [h, validateLoop_iff]
  · simp [h]

/-- the completion of the rechunk target induced by a completion `K` of the source:
unknown axes keep the source's blocks, known axes take the requested chunks -/
def completeNew : Layout? → Layout? → Layout? → Layout?
  | k :: ks, o :: os, n :: ns => (if hasNone o then k else n) :: completeNew ks os ns
  | _, _, _ => []

theorem completeAxis_spec (k o n : Dim?) (hax : AxisOK o n) (hk : isKnown k = true) (hag : agreesDim k o = true) :
    isKnown (if hasNone o then k else n) = true ∧ agreesDim (if hasNone o then k else n) n = true ∧
    osum (if hasNone o then k else n) = osum k ∧ AxisOK k (if hasNone o then k else n) := by
  rcases hax with ⟨a, hoa, hna⟩ | ⟨hon, _, hEq⟩
  · -- both known with the same length: `k = o`, target axis is `n`
    have hko : isKnown o = true := isKnown_of_osum_some o a hoa
    rw [agreesDim_known k o hag hko, (isKnown_iff_not_hasNone o).mp hko, if_neg Bool.false_ne_true]
    exact ⟨isKnown_of_osum_some n a hna, agreesDim_refl n, by rw [hna, hoa], Or.inl ⟨a, hoa, hna⟩⟩
  · -- unknown axis, unchanged: target axis is `k`
    subst hEq
    rw [(osum_none_iff o).mp hon, if_pos rfl]
    refine ⟨hk, hag, rfl, ?_⟩
    cases hs : osum k with
    | none => have := osum_isSome_of_known k hk; rw [hs] at this; cases this
    | some a => exact Or.inl ⟨a, hs, hs⟩

/-- parametricity of `_validate_rechunk`: whenever it accepts, every completion `K` of the
source layout induces a completion of the target with the same shape (so the rechunk is a
rechunk between layouts of one array), identical to `K` on the unknown axes. -/
theorem validate_parametric : ∀ (old new K : Layout?),
    validateLoop old new = .ok () → old.length = new.length → isKnownL K = true → agrees K old = true →
    isKnownL (completeNew K old new) = true ∧ agrees (completeNew K old new) new = true ∧
    shape? (completeNew K old new) = shape? K ∧ validateLoop K (completeNew K old new) = .ok ()
  | [], [], K, _, _, hK, hag => by
    cases K with
    | nil => exact ⟨rfl, rfl, rfl, rfl⟩
    | cons k ks => exact absurd hag Bool.false_ne_true
  | [], _ :: _, _, _, hl, _, _ => by simp at hl
  | _ :: _, [], _, _, hl, _, _ => by simp at hl
  | _ :: _, _ :: _, [], _, _, _, hag => absurd hag Bool.false_ne_true
  | o :: os, n :: ns, k :: ks, hv, hl, hK, hag => by
    have hag := Bool.and_eq_true_iff.mp hag
    simp only [isKnownL, List.all_cons, Bool.and_eq_true] at hK
    rw [validateLoop_cons] at hv
    obtain ⟨a1, a2, a3, a4⟩ := completeAxis_spec k o n hv.1 hK.1 hag.1
    obtain ⟨ih1, ih2, ih3, ih4⟩ := validate_parametric os ns ks hv.2 (by simpa using hl) hK.2 hag.2
    -- third part: `shape?` is `osum` axis by axis, so both sides are a cons; `a3` is the heads, `ih3` the tails
    exact ⟨Bool.and_eq_true_iff.mpr ⟨a1, ih1⟩, Bool.and_eq_true_iff.mpr ⟨a2, ih2⟩,
      (congrArg (· :: _) a3).trans (congrArg (osum k :: ·) ih3), (validateLoop_cons ..).mpr ⟨a4, ih4⟩⟩

end Dask.Lemmas.Unknown
