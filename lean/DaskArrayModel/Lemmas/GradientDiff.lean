/-
Lemmas for `diff` (Model/Diff.lean): the two slices `r[1:]`, `r[:-1]` as `drop`/`take`, the loop step as the first
difference, lengths and entries.  Core Lean only.
-/
import DaskArrayModel.Model.Diff
import DaskArrayModel.Lemmas.OverlapSlice
namespace Dask.Lemmas.Diff
open Dask.Py Dask.Py.PySlice Dask.OverlapSlice Dask.Diff Dask.Lemmas.OverlapSlice

variable {α : Type}

theorem getSl_from1 (x : List α) : getSl ⟨some 1, none, none⟩ x = x.drop 1 := by
  rw [getSl_window (SliceAlgebra.Window.from1 x.length),
    List.take_of_length_le (by rw [List.length_drop]; exact Nat.le_refl _)]

theorem getSl_upto_m1 (x : List α) : getSl ⟨none, some (-1), none⟩ x = x.take (x.length - 1) :=
  getSl_window (SliceAlgebra.Window.upto_m1 x.length)

theorem zip_firstDiff [Sub α] : ∀ (r : List α),
    List.zipWith (· - ·) (r.drop 1) (r.take (r.length - 1)) = firstDiff r
  | [] => rfl
  | [_] => rfl
  | a :: b :: r => by
    have ih := zip_firstDiff (b :: r)
    simp only [List.drop_succ_cons, List.drop_zero, List.length_cons, Nat.add_sub_cancel] at ih ⊢
    rw [List.take_succ_cons, List.zipWith_cons_cons, ih]
    rfl

theorem diffStep_eq [Sub α] (r : List α) : diffStep r = firstDiff r := by
  unfold diffStep
  rw [getSl_from1, getSl_upto_m1, zip_firstDiff]

theorem diffLoop_eq [Sub α] : ∀ (n : Nat) (r : List α), diffLoop n r = nthDiff n r
  | 0, _ => rfl
  | n + 1, r => by simp only [diffLoop, nthDiff, diffStep_eq, diffLoop_eq n]

theorem firstDiff_length [Sub α] : ∀ (x : List α), (firstDiff x).length = x.length - 1
  | [] => rfl
  | [_] => rfl
  | _ :: b :: r => congrArg (· + 1) (firstDiff_length (b :: r))

theorem firstDiff_getElem? [Sub α] : ∀ (x : List α) (i : Nat),
    (firstDiff x)[i]? = match x[i + 1]?, x[i]? with
      | some b, some a => some (b - a)
      | _, _ => none
  | [], _ => rfl
  | [_], 0 => rfl
  | [_], _ + 1 => rfl
  | _ :: _ :: _, 0 => rfl
  | _ :: b :: r, i + 1 => firstDiff_getElem? (b :: r) i

theorem nthDiff_length [Sub α] : ∀ (n : Nat) (x : List α), (nthDiff n x).length = x.length - n
  | 0, _ => rfl
  | n + 1, x => by
    simp only [nthDiff, nthDiff_length n, firstDiff_length]
    omega

theorem diff_eq [Sub α] (n : Int) (a : List α) (pre app : Option (List α)) :
    diff n a pre app =
      if n = 0 then some a else if n < 0 then none
      else some (nthDiff n.toNat ((pre.getD []) ++ a ++ (app.getD []))) := by
  unfold diff combine
  simp only [diffLoop_eq]

end Dask.Lemmas.Diff

