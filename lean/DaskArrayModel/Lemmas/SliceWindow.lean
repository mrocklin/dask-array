/-
The interface through which the topic files use slices without unfolding `slice.indices`.  `istart` / `istop` of a
slice that is written out with a positive step come as `if` / `max` / `min` expressions, so that every fact about a
bound is linear arithmetic.  `Window s n lo len`: on an axis of length `n` the unit-step slice `s` reads the positions
`lo, …, lo + len - 1`.  One constructor looks at `slice.indices` (`Window.of_unit`); the shapes the code builds
(`slice(None)`, `slice(a, b)`, `x[k:]`, `x[:k]`, `x[1:]`, `x[:-1]`) are instances.  What a user wants of a window (length, entry, what it
picks out of a list) is a lemma of `Window` and does not mention `adjust`; only the constructor `of_fields`, for the
instances, does.  `Window.unit` is the instance `slice(a, b)`, `Window.of_unit` the constructor for any unit step.
-/
import DaskArrayModel.Lemmas.SliceRange
namespace Dask.Lemmas.SliceAlgebra
open Dask.Py Dask.Py.PySlice Dask.Slicing

/-- the step `z` and its sign come first, so that `istart_some none Int.one_pos` elaborates -/
theorem istart_none (z : Option Int) (hz : 0 < z.getD 1) (y : Option Int) (n : Int) : istart ⟨none, y, z⟩ n = 0 :=
  (indices_pos none y z n hz).1

theorem istop_none (z : Option Int) (hz : 0 < z.getD 1) (x : Option Int) (n : Int) : istop ⟨x, none, z⟩ n = n :=
  (indices_pos x none z n hz).2

theorem istart_some (z : Option Int) (hz : 0 < z.getD 1) (v : Int) (y : Option Int) (n : Int) :
    istart ⟨some v, y, z⟩ n = if v < 0 then max 0 (v + n) else min v n :=
  (indices_pos (some v) y z n hz).1.trans (adjust_false_eq v n)

theorem istop_some (z : Option Int) (hz : 0 < z.getD 1) (x : Option Int) (v : Int) (n : Int) :
    istop ⟨x, some v, z⟩ n = if v < 0 then max 0 (v + n) else min v n :=
  (indices_pos x (some v) z n hz).2.trans (adjust_false_eq v n)

theorem istart_some_nonneg (z : Option Int) (hz : 0 < z.getD 1) {v : Int} (h0 : 0 ≤ v) (y : Option Int) (n : Int) :
    istart ⟨some v, y, z⟩ n = min v n := by
  rw [istart_some z hz, if_neg (Int.not_lt.mpr h0)]

theorem istop_some_nonneg (z : Option Int) (hz : 0 < z.getD 1) (x : Option Int) {v : Int} (h0 : 0 ≤ v) (n : Int) :
    istop ⟨x, some v, z⟩ n = min v n := by
  rw [istop_some z hz, if_neg (Int.not_lt.mpr h0)]

def span (lo len : Nat) : List Int := (List.range len).map (fun i : Nat => (lo : Int) + i)

theorem rangeList_one_eq_span (a b : Int) (h : 0 ≤ a) : rangeList a b 1 = span a.toNat (b - a).toNat := by
  rw [rangeList_one]
  apply List.map_congr_left
  intro i _
  omega

theorem span_pick {α} (x : List α) (lo len : Nat) :
    (span lo len).filterMap (fun i => x[i.toNat]?) = (x.drop lo).take len := by
  unfold span
  rw [List.filterMap_map, ← filterMap_range_getElem?]
  congr 1
  funext i
  simp only [Function.comp, List.getElem?_drop]
  congr 1

structure Window (s : PySlice) (n : Int) (lo len : Nat) : Prop where
  sel_eq : sel s n = span lo len

namespace Window
variable {s : PySlice} {n : Int} {lo len : Nat}

theorem length (W : Window s n lo len) : (sel s n).length = len := by
  rw [W.sel_eq, span, List.length_map, List.length_range]

theorem getD (W : Window s n lo len) (x : Nat) (hx : x < len) : (sel s n).getD x 0 = (lo : Int) + x := by
  rw [W.sel_eq, span, getD_map_range _ _ _ _ hx]

theorem getD_toNat (W : Window s n lo len) (x : Nat) (hx : x < len) : ((sel s n).getD x 0).toNat = lo + x := by
  rw [W.getD x hx]; omega

/-- NumPy's `x[s]` for a window is `x[lo : lo + len]` -/
theorem pick {α} (W : Window s n lo len) (x : List α) :
    (sel s n).filterMap (fun i => x[i.toNat]?) = (x.drop lo).take len := by
  rw [W.sel_eq, span_pick]

theorem of_unit (s : PySlice) (n : Int) (hn : 0 ≤ n) (h : s.stp = 1) :
    Window s n (s.istart n).toNat (s.istop n - s.istart n).toNat :=
  ⟨by rw [sel_stp_one s n h, rangeList_one_eq_span _ _ (istart_pos_bounds s n hn (by omega)).1]⟩

theorem of_indices {lo hi : Nat} (hn : 0 ≤ n) (h : s.stp = 1) (hlo : s.istart n = lo) (hhi : s.istop n = hi) :
    Window s n lo (hi - lo) := by
  have W := of_unit s n hn h
  rwa [hlo, hhi, Int.toNat_natCast, show ((hi : Int) - lo).toNat = hi - lo by omega] at W

theorem of_fields (x y : Option Int) {lo hi : Nat} (hn : 0 ≤ n)
    (hlo : (x.map (adjust · n false)).getD 0 = lo) (hhi : (y.map (adjust · n false)).getD n = hi) :
    Window ⟨x, y, none⟩ n lo (hi - lo) :=
  have hi := indices_pos x y none n Int.one_pos
  of_indices hn rfl (hi.1.trans hlo) (hi.2.trans hhi)

/-- `slice(None)`, written out (the model has more than one constant for it) -/
theorem full (n : Nat) : Window ⟨none, none, none⟩ n 0 n :=
  of_fields none none (Int.natCast_nonneg n) rfl rfl

theorem unit {a b : Int} {n lo len : Nat} (ha : a = lo) (hb : b = lo + len) (h : lo + len ≤ n) :
    Window ⟨some a, some b, none⟩ n lo len := by
  have W := of_fields (n := n) (some a) (some b) (lo := lo) (hi := lo + len) (Int.natCast_nonneg n)
    (by simp only [Option.map_some, Option.getD_some, adjust_false_eq]; omega)
    (by simp only [Option.map_some, Option.getD_some, adjust_false_eq]; omega)
  rwa [Nat.add_sub_cancel_left] at W

theorem «from» (k n : Nat) (hkn : k ≤ n) : Window ⟨some (k : Int), none, none⟩ n k (n - k) :=
  of_fields (some (k : Int)) none (Int.natCast_nonneg n)
    (by simp only [Option.map_some, Option.getD_some, adjust_false_eq]; omega) rfl

theorem upto (k n : Nat) (hkn : k ≤ n) : Window ⟨none, some (k : Int), none⟩ n 0 k :=
  of_fields none (some (k : Int)) (Int.natCast_nonneg n) rfl
    (by simp only [Option.map_some, Option.getD_some, adjust_false_eq]; omega)

theorem from1 (n : Nat) : Window ⟨some 1, none, none⟩ n 1 (n - 1) := by
  rcases n with _ | n
  · exact ⟨rfl⟩
  · exact Window.from 1 (n + 1) (by omega)

theorem upto_m1 (n : Nat) : Window ⟨none, some (-1), none⟩ n 0 (n - 1) :=
  of_fields none (some (-1)) (lo := 0) (hi := n - 1) (Int.natCast_nonneg n) rfl
    (by simp only [Option.map_some, Option.getD_some, adjust_false_eq]; omega)

end Window

end Dask.Lemmas.SliceAlgebra
