/-
The slice-through-map_overlap rule over all axes (Model/OverlapSliceND.lean) and for the whole node.

A completed loop of `_accept_slice` is a completed first axis and a completed rest, so every statement about it goes
by the loop's own induction principle, with the per-axis facts of Lemmas/OverlapSlice.lean at the head.  The boundary extension
is applied axis by axis, so the box read by a requested output is the same in the pushed sub-array and in the
whole array once every axis satisfies `AxRec.Shift`: induction on the axes, the reader of the remaining axes
shifted along.  Core Lean only.
-/
import DaskArrayModel.Lemmas.OverlapSlice
namespace Dask.Lemmas.OverlapSlice
open Dask.Py Dask.Py.PySlice Dask.OverlapSlice Dask.Lemmas.SliceAlgebra

variable {α β γ : Type}

/-- the call of `acceptAxis` that `acceptLoop` writes inline for `axis` -/
def axisCall (nd : Node) (axis : Nat) (idx : PySlice) : AxisRes :=
  acceptAxis (nd.shape.getD axis 0) (nd.depth.getD axis (0, 0)).1 (nd.depth.getD axis (0, 0)).2
    (nd.bkind.getD axis .none) nd.allowRechunk idx

/-- `full_index` as the loop reads it: the `let` that `accept` writes inline (`accept_eq`) -/
def fullIndex (nd : Node) (index : List Ix) : List PySlice :=
  (index.map Ix.toSlice ++ List.replicate (nd.shape.length - index.length) colon).take nd.shape.length

theorem acceptLoop_none_iff (nd : Node) (l : List PySlice) (axis : Nat) :
    acceptLoop nd axis l = none ↔ ∃ i, ∃ h : i < l.length, axisCall nd (axis + i) l[i] = .decline := by
  fun_induction acceptLoop nd axis l with
  | case1 => exact ⟨nofun, fun ⟨_, h, _⟩ => nomatch h⟩
  | case2 axis idx rest hc => exact ⟨fun _ => ⟨0, Nat.zero_lt_succ _, hc⟩, fun _ => rfl⟩
  | case3 axis idx rest inp trim t hc hl ih =>
    obtain ⟨i, hi, hd⟩ := ih.mp hl
    exact ⟨fun _ => ⟨i + 1, Nat.succ_lt_succ hi, by rwa [Nat.add_right_comm] at hd⟩, fun _ => rfl⟩
  | case4 axis idx rest inp trim t hc is ts b hl ih =>
    refine ⟨nofun, fun ⟨i, hi, hd⟩ => ?_⟩
    cases i with
    | zero => exact nomatch hc.symm.trans hd
    | succ i =>
      exact nomatch hl.symm.trans (ih.mpr ⟨i, Nat.lt_of_succ_lt_succ hi, by rwa [Nat.add_right_comm]⟩)

theorem ite_or_same {α} {p q : Prop} [Decidable p] [Decidable q] (x y : α) :
    (if p then x else if q then x else y) = if p ∨ q then x else y := by
  by_cases hp : p
  · rw [if_pos hp, if_pos (.inl hp)]
  · rw [if_neg hp]
    by_cases hq : q
    · rw [if_pos hq, if_pos (.inr hq)]
    · rw [if_neg hq, if_neg (fun h => h.elim hp hq)]

/-- the four guards of `_accept_slice` decline alike, so they are one guard -/
theorem accept_eq (nd : Node) (index : List Ix) : accept nd index =
    if index.any Ix.isNewaxis = true ∨ index.any Ix.isInt = true ∨ nd.nArrays ≠ 1 ∨ nd.posAware = true
    then .decline
    else match acceptLoop nd 0 (fullIndex nd index) with
      | none => .decline
      | some (is, ts, needsTrim) => .ok is (if needsTrim then some ts else none) := by
  unfold accept
  simp only [ite_or_same]
  rfl

/-- the axes of the original node (lengths `n`) and of the pushed node (lengths `m`): same depths and boundaries -/
def specsOrig (recs : List (AxRec α)) : List (AxSpec α) := recs.map (fun r => ⟨r.n, r.dl, r.dr, r.b⟩)
def specsSub (recs : List (AxRec α)) : List (AxSpec α) := recs.map (fun r => ⟨r.m, r.dl, r.dr, r.b⟩)

/-- `J` is a position of the requested output: one index below `r.L` per axis -/
def InRange : List (AxRec α) → List Nat → Prop
  | [], [] => True
  | r :: rs, j :: js => j < r.L ∧ InRange rs js
  | _, _ => False

/-- resolving a source commutes with the shift (`srcRel_iff`: `c = a.shift es`): the reader of the remaining axes
behind `a` in the pushed array is the one behind `c` in the whole array, moved by `ess` -/
theorem srcRel_resolve {es : Nat} {a c : Src α} (h : srcRel es a c) {G G' : List Nat → Option α}
    {ess : List Nat} (hG : ∀ js, G' js = G (addv (es :: ess) js)) (js : List Nat) :
    (match (generalizing := false) a with
      | .idx q => G' (q :: js)
      | .absent => none
      | .fill v => some v
      | .out => none) =
      match (generalizing := false) c with
      | .idx j => G (j :: addv ess js)
      | .absent => none
      | .fill v => some v
      | .out => none := by
  cases srcRel_iff.mp h
  cases a
  · exact hG _
  · rfl
  · rfl
  · rfl

theorem boxWin_shift (recs : List (AxRec α)) (hrec : ∀ r ∈ recs, r.Shift)
    (G G' : List Nat → Option α) (hG : ∀ js, G' js = G (addv (recs.map (·.es)) js))
    (J : List Nat) (hJ : InRange recs J) :
    boxWin (widths (specsSub recs)) (padND (specsSub recs) G') (addv (recs.map (·.ts)) J) =
      boxWin (widths (specsOrig recs)) (padND (specsOrig recs) G) (addv (recs.map (·.s)) J) := by
  induction recs generalizing G G' J with
  | nil =>
    cases J with
    -- no axes: the boxes are the single cells `[G' []]` and `[G []]`
    | nil => exact congrArg (fun x => [x]) (hG [])
    | cons _ _ => exact hJ.elim
  | cons r rs ih =>
    cases J with
    | nil => exact hJ.elim
    | cons j js =>
      have hrec := List.forall_mem_cons.mp hrec
      -- both boxes are `r.dl + r.dr + 1` wide on this axis; at offset `o` the left reads the remaining axes through
      -- `padSrc` of `r.ts + j + o` over `G'`, the right through that of `r.s + j + o` over `G`: `r.Shift` relates the two
      -- sources, `srcRel_resolve` the readers
      show (List.range (r.dl + r.dr + 1)).flatMap _ = (List.range (r.dl + r.dr + 1)).flatMap _
      apply flatMap_congr
      intro o ho
      exact ih hrec.2 _ _ (srcRel_resolve (hrec.1 j o hJ.1 (Nat.le_of_lt_succ (List.mem_range.mp ho))) hG) _ hJ.2

/-- the per-axis records of a node on which the loop of `_accept_slice` completed with input slices `is` and
trim slices `ts`; `bs` = the boundary (kind and fill) of each axis -/
def nodeRecs (nd : Node) (bs : List (Boundary α)) : Nat → List PySlice → List PySlice → List PySlice → List (AxRec α)
  | _, [], _, _ => []
  | axis, idx :: rest, is, ts =>
    axRec (bs.getD axis .none) (nd.depth.getD axis (0, 0)).1.toNat (nd.depth.getD axis (0, 0)).2.toNat
      (nd.shape.getD axis 0).toNat idx (is.headD colon) (ts.headD colon) ::
      nodeRecs nd bs (axis + 1) rest is.tail ts.tail

/-- a node as `map_overlap` builds it: non-negative extents and depths, `bs` carries the kinds the node records -/
def NodeWf (nd : Node) (bs : List (Boundary α)) : Prop :=
  (∀ axis, 0 ≤ nd.shape.getD axis 0) ∧
  (∀ axis, 0 ≤ (nd.depth.getD axis (0, 0)).1 ∧ 0 ≤ (nd.depth.getD axis (0, 0)).2) ∧
  (∀ axis, (bs.getD axis .none).kind = nd.bkind.getD axis .none)

theorem nodeRecs_shift (nd : Node) (bs : List (Boundary α)) (hwf : NodeWf nd bs)
    (l : List PySlice) (axis : Nat) (is ts : List PySlice) (b : Bool)
    (h : acceptLoop nd axis l = some (is, ts, b)) : ∀ r ∈ nodeRecs nd bs axis l is ts, r.Shift := by
  fun_induction acceptLoop nd axis l generalizing is ts b with
  | case1 => exact fun _ h => nomatch h
  | case2 => cases h
  | case3 => cases h
  | case4 axis idx rest inp trim t hc is' ts' b' hl ih =>
    cases h
    refine List.forall_mem_cons.mpr ⟨?_, ih is' ts' b' hl⟩
    obtain ⟨h1, h2, h3⟩ := hwf
    rw [← Int.toNat_of_nonneg (h1 axis), ← Int.toNat_of_nonneg (h2 axis).1,
      ← Int.toNat_of_nonneg (h2 axis).2, ← h3 axis] at hc
    exact (acceptAxis_shift _ _ _ _ _ _ _ _ _ hc).1

end Dask.Lemmas.OverlapSlice
