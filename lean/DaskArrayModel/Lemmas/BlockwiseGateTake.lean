/-
The take pushdown (`_accept_shuffle`): unpacking the gate, the take as a re-indexing (`takeR`), and the
theorem for integer-list indices.
-/
import DaskArrayModel.Lemmas.BlockwiseGateSlice
namespace Dask.BWG
open Dask.Py Dask.Py.PySlice Dask.ND Dask.Slicing Dask.Contract

theorem idxOf_of_count_le_one (l : Nat) : ∀ (ind : List Nat) (k : Nat), k < ind.length → ind.getD k 0 = l →
    ind.count l ≤ 1 → ind.idxOf l = k
  | [], _, h, _, _ => absurd h (Nat.not_lt_zero _)
  | x :: xs, 0, _, h, _ => by
    have hx : x = l := h
    rw [hx]; exact List.idxOf_cons_self
  | x :: xs, k + 1, hk, h, hc => by
    have hk' : k < xs.length := Nat.lt_of_succ_lt_succ hk
    have h' : xs.getD k 0 = l := h
    have hpos : 0 < xs.count l := List.count_pos_iff.mpr (h' ▸ getD_mem xs k 0 hk')
    have hx : x ≠ l := fun e => by
      rw [e, List.count_cons_self] at hc
      omega
    rw [List.count_cons_of_ne hx] at hc
    rw [List.idxOf_cons, beq_false_of_ne hx, cond_false, idxOf_of_count_le_one l xs k hk' h' hc]

def takeR (bw : BW) (axis : Nat) (flat : List Nat) : Reix :=
  { act := fun l => decide (axis < bw.outInd.length) && l == bw.outInd.getD axis 0
    len := fun _ => flat.length
    map := fun _ x => flat.getD x 0 }

/-- what `_accept_shuffle` makes of one `(arg, ind)` pair: taken along the axis that carries the label, if one does -/
def pushedOpdT (bw : BW) (axis : Nat) (indexer : List (List Nat)) (o : Opd) : Opd :=
  if bw.outInd.getD axis 0 ∈ o.labels then
    takeOpd indexer o (some (o.labels.idxOf (bw.outInd.getD axis 0)))
  else o

theorem shuffleArg_isSome (U : Nat → List Nat) (bw : BW) (axis : Nat) (indexer : List (List Nat)) (o : Opd)
    (h : (shuffleArg {} U bw axis o).isSome = true) :
    takeOpd indexer o ((shuffleArg {} U bw axis o).getD none) = pushedOpdT bw axis indexer o ∧
    (bw.outInd.getD axis 0 ∈ o.labels →
      o.labels.count (bw.outInd.getD axis 0) ≤ 1 ∧
      o.arr.shape.getD (o.labels.idxOf (bw.outInd.getD axis 0)) 0 = (outShape U bw).getD axis 0 ∧
      (bw.align = false →
        o.chunks.getD (o.labels.idxOf (bw.outInd.getD axis 0)) [] = (outChunks U bw).getD axis [])) := by
  unfold shuffleArg pushedOpdT Opd.labels at *
  cases hind : o.ind with
  | none => exact ⟨rfl, fun e => nomatch e⟩
  | some ind =>
    rw [hind] at h
    dsimp only [Option.getD_some] at h ⊢
    by_cases hc : ind.contains (bw.outInd.getD axis 0) = true
    · rw [if_pos hc] at h
      rw [if_pos hc, if_pos (List.contains_iff_mem.mp hc)]
      have h1 := (isSome_ite_none_left.mp h).1
      rw [if_neg h1] at h ⊢
      have h2 := (isSome_ite_none_left.mp h).1
      rw [if_neg h2] at h ⊢
      have h3 := (isSome_ite_none_left.mp h).1
      rw [if_neg h3] at h ⊢
      have h4 := (isSome_ite_none_left.mp h).1
      rw [if_neg h4]
      -- `true && c` is `c`: each negated test is read directly
      refine ⟨rfl, fun _ => ⟨Nat.le_of_not_gt (of_decide_eq_false (Bool.eq_false_iff.mpr h2)),
        Decidable.not_not.mp (of_decide_eq_false (Bool.eq_false_iff.mpr h3)), fun hna => ?_⟩⟩
      rw [hna] at h4
      exact Decidable.not_not.mp (of_decide_eq_false (Bool.eq_false_iff.mpr h4))
    · rw [if_neg hc, if_neg fun hm => hc (List.contains_iff_mem.mpr hm)]
      exact ⟨rfl, fun hm => absurd (by simpa using hm) hc⟩

theorem acceptShuffle_some (U : Nat → List Nat) (bw : BW) (axis : Nat)
    (axes : List (Option Nat)) (h : acceptShuffleG {} U bw axis = some axes) :
    bw.newAxes.lookup (bw.outInd.getD axis 0) = none ∧
    (∀ o ∈ bw.ops, (shuffleArg {} U bw axis o).isSome = true) ∧
    axes = bw.ops.map (fun o => (shuffleArg {} U bw axis o).getD none) := by
  unfold acceptShuffleG at h
  obtain ⟨_, h⟩ := Option.ite_none_left_eq_some.mp h
  dsimp only at h
  obtain ⟨hnew, h⟩ := Option.ite_none_left_eq_some.mp h
  obtain ⟨_, h⟩ := Option.ite_none_left_eq_some.mp h
  obtain ⟨hall, h⟩ := Option.ite_none_right_eq_some.mp h
  exact ⟨newFree_of_gate hnew id, List.all_eq_true.mp hall, (Option.some.inj h).symm⟩

/-- What a fired take pushdown gives: the label is indexable, no operand carries it on two axes (`Gates.repeated`:
`ind.count(shuffle_ind) > 1` declines), and the rewritten node is the operand-wise take. -/
theorem push_take_unpack (U : Nat → List Nat) (bw : BW) (hnd : bw.outInd.Nodup) (axis : Nat)
    (hax : axis < bw.outInd.length) (indexer : List (List Nat)) (p : Pushed)
    (hp : push U bw (.take axis indexer) = some p) :
    Indexable U bw (bw.outInd.getD axis 0) ∧ (∀ o ∈ bw.ops, o.labels.count (bw.outInd.getD axis 0) ≤ 1) ∧
    p.bw = { bw with ops := bw.ops.map (pushedOpdT bw axis indexer) } ∧ p.extract = none := by
  simp only [push, pushG] at hp
  split at hp
  · rename_i axes heq
    obtain ⟨hnew, hall, haxes⟩ := acceptShuffle_some U bw axis axes heq
    cases hp
    have hone : ∀ o ∈ bw.ops, o.labels.count (bw.outInd.getD axis 0) ≤ 1 := fun o ho => by
      by_cases hm : bw.outInd.getD axis 0 ∈ o.labels
      · exact ((shuffleArg_isSome U bw axis indexer o (hall o ho)).2 hm).1
      · rw [List.count_eq_zero_of_not_mem hm]; exact Nat.zero_le _
    refine ⟨⟨getD_mem _ _ _ hax, hnew, fun o ho k hk hl => ?_⟩, hone, ?_, rfl⟩
    · obtain ⟨h2, h3, h4⟩ := (shuffleArg_isSome U bw axis indexer o (hall o ho)).2 (hl ▸ getD_mem _ k 0 hk)
      rw [idxOf_of_count_le_one _ _ k hk hl h2] at h3 h4
      rw [idxOf_getD_of_nodup _ hnd axis hax]
      exact ⟨h3, h4⟩
    · show { bw with ops := List.zipWith (takeOpd indexer) bw.ops axes } = _
      rw [haxes, List.zipWith_map_right, List.zipWith_self]
      exact congrArg (fun ops => { bw with ops := ops })
        (List.map_congr_left fun o ho => (shuffleArg_isSome U bw axis indexer o (hall o ho)).1)
  · simp at hp

theorem takeR_act (bw : BW) (axis : Nat) (flat : List Nat) (l : Nat) :
    (takeR bw axis flat).act l = true ↔ axis < bw.outInd.length ∧ l = bw.outInd.getD axis 0 := by
  simp [takeR]

theorem takeR_ok (U : Nat → List Nat) (bw : BW) (hS : SOK bw) (hL : LOK U bw) (axis : Nat)
    (indexer : List (List Nat)) (hI : indexOK (outShape U bw) (.take axis indexer) = true)
    (hG : Indexable U bw (bw.outInd.getD axis 0)) : ReixOK (takeR bw axis indexer.flatten) bw := by
  simp only [indexOK, Bool.and_eq_true, decide_eq_true_eq, List.all_eq_true] at hI
  rw [outShape_length] at hI
  refine ⟨?_, ?_⟩
  · intro l hact
    obtain ⟨_, e⟩ := (takeR_act bw axis _ l).mp hact
    exact e ▸ hG.point hS
  · intro l hact x hx
    obtain ⟨_, e⟩ := (takeR_act bw axis _ l).mp hact
    subst e
    simp only [takeR] at hx ⊢
    have := hI.2 _ (getD_mem _ x 0 hx)
    rwa [hG.out hS hL hI.1] at this

/-- For any array that carries the label once and unbroadcast: the operands (by the gate) and the node's own result
(labelled `outInd`). -/
theorem take_reix (bw : BW) (axis : Nat) (flat : List Nat) (hax : axis < bw.outInd.length) (ind : List Nat)
    (a : Arr Int) (hr : ind.length = a.shape.length) (hmem : bw.outInd.getD axis 0 ∈ ind)
    (hone : ∀ k, k < ind.length → ind.getD k 0 = bw.outInd.getD axis 0 → ind.idxOf (bw.outInd.getD axis 0) = k)
    (hub : a.shape.getD (ind.idxOf (bw.outInd.getD axis 0)) 0 = labLen bw (bw.outInd.getD axis 0)) :
    Arr.Equiv (takeArr a (ind.idxOf (bw.outInd.getD axis 0)) flat)
      (reix (takeR bw axis flat) (labLen bw) ind a) := by
  have hrank : (a.shape.set (ind.idxOf (bw.outInd.getD axis 0)) flat.length).length = ind.length := by
    rw [List.length_set, hr]
  refine equiv_reix _ _ ind a _ (fun i => i.set (ind.idxOf (bw.outInd.getD axis 0))
      (flat.getD (i.getD (ind.idxOf (bw.outInd.getD axis 0)) 0) 0)) (fun _ _ => rfl) hrank
    (fun i hi => by rw [List.length_set]; exact hi.length_eq.trans hrank) fun k hk => ?_
  by_cases e : ind.idxOf (bw.outInd.getD axis 0) = k
  · subst e
    have hon : (takeR bw axis flat).on (labLen bw) (ind.getD (ind.idxOf (bw.outInd.getD axis 0)) 0)
        (a.shape.getD (ind.idxOf (bw.outInd.getD axis 0)) 0) = true := by
      rw [getD_idxOf _ _ hmem]
      exact Reix.on_iff.mpr ⟨(takeR_act _ _ _ _).mpr ⟨hax, rfl⟩, hub⟩
    rw [if_pos hon]
    exact ⟨getD_set_eq _ _ _ _ (hr ▸ hk), fun i hi => by
      rw [if_pos hon]; exact getD_set_eq _ _ _ _ ((hi.length_eq.trans hrank).symm ▸ hk)⟩
  · rw [Reix.on_of_not_act (Bool.eq_false_iff.mpr fun h => e (hone k hk ((takeR_act _ _ _ _).mp h).2))]
    exact ⟨getD_set_ne _ _ _ _ _ e, fun i _ => getD_set_ne _ _ _ _ _ e⟩

theorem pushedOpdT_ind (bw : BW) (axis : Nat) (indexer : List (List Nat)) (o : Opd) :
    (pushedOpdT bw axis indexer o).ind = o.ind := by
  unfold pushedOpdT; split <;> rfl

theorem pushedT_reindexed (U : Nat → List Nat) (bw : BW) (hS : SOK bw) (hL : LOK U bw) (axis : Nat)
    (hax : axis < bw.outInd.length) (indexer : List (List Nat)) (hG : Indexable U bw (bw.outInd.getD axis 0))
    (hone : ∀ o ∈ bw.ops, o.labels.count (bw.outInd.getD axis 0) ≤ 1) :
    Reindexed (takeR bw axis indexer.flatten) bw { bw with ops := bw.ops.map (pushedOpdT bw axis indexer) } := by
  apply Reindexed.of_map _ (pushedOpdT_ind bw axis indexer)
  · intro o; unfold pushedOpdT; split <;> rfl
  · intro o; unfold pushedOpdT; split <;> rfl
  · intro o ho
    unfold pushedOpdT
    split
    · exact (List.length_set ..).trans (hS.chunks_length ho)
    · exact hS.chunks_length ho
  · intro o ho
    have hr := hS.labels_length ho
    unfold pushedOpdT
    split
    · rename_i hm
      exact take_reix bw axis _ hax o.labels o.arr hr hm
        (fun k hk hl => idxOf_of_count_le_one _ _ k hk hl (hone o ho))
        (hG.len hS hL ho (List.idxOf_lt_length_of_mem hm) (getD_idxOf _ _ hm))
    · rename_i hm
      exact reix_off _ _ _ _ hr fun k hk => Reix.on_of_not_act (Bool.eq_false_iff.mpr fun h =>
        hm (((takeR_act _ _ _ _).mp h).2 ▸ getD_mem _ k 0 hk))

theorem pushedOpdT_labels (bw : BW) (axis : Nat) (indexer : List (List Nat)) (o : Opd) :
    (pushedOpdT bw axis indexer o).labels = o.labels := by
  unfold Opd.labels; rw [pushedOpdT_ind]

/-- with `align_arrays=False` every operand axis that carries the take label gets the same new chunks: the
regrouping of the NODE's chunks of that label -/
theorem take_pairing (U : Nat → List Nat) (bw : BW) (hS : SOK bw) (axis : Nat)
    (hax : axis < bw.outInd.length) (indexer : List (List Nat)) (hG : Indexable U bw (bw.outInd.getD axis 0))
    (hone : ∀ o ∈ bw.ops, o.labels.count (bw.outInd.getD axis 0) ≤ 1) (hna : bw.align = false)
    (o : Opd) (ho : o ∈ bw.ops) (k : Nat) (hk : k < o.labels.length)
    (hl : o.labels.getD k 0 = bw.outInd.getD axis 0) :
    (pushedOpdT bw axis indexer o).chunks.getD k [] = shuffleChunks ((outChunks U bw).getD axis []) indexer := by
  have hr1 := hS.labels_length ho
  have hr2 := hS.chunks_length ho
  have hidx := idxOf_of_count_le_one _ _ k hk hl (hone o ho)
  have h4 := (hG.axes o ho k hk hl).2 hna
  rw [idxOf_getD_of_nodup _ hS.nodup axis hax] at h4
  unfold pushedOpdT
  rw [if_pos (hl ▸ getD_mem _ k 0 hk), hidx]
  simp only [takeOpd]
  rw [getD_set_eq _ _ _ _ (by omega), h4]

theorem indexOK_take_axis (U : Nat → List Nat) (bw : BW) (axis : Nat) (indexer : List (List Nat))
    (hI : indexOK (outShape U bw) (.take axis indexer) = true) : axis < bw.outInd.length := by
  simp only [indexOK, Bool.and_eq_true, decide_eq_true_eq] at hI
  rw [outShape_length] at hI; exact hI.1

theorem push_sound_take (U U' : Nat → List Nat) (bw : BW) (hS : SOK bw) (hL : LOK U bw)
    (hf : LabelLocal bw.sig bw.f) (axis : Nat) (indexer : List (List Nat))
    (hI : indexOK (outShape U bw) (.take axis indexer) = true) (p : Pushed)
    (hp : push U bw (.take axis indexer) = some p) (hL' : LOK U' p.bw) :
    SOK p.bw ∧ Arr.Equiv (denPushed U' p) (applyIndex bw.outInd.length (den U bw) (.take axis indexer)) := by
  have hax := indexOK_take_axis U bw axis indexer hI
  obtain ⟨hG, hone, hbw, hex⟩ := push_take_unpack U bw hS.nodup axis hax indexer p hp
  have hRe := pushedT_reindexed U bw hS hL axis hax indexer hG hone
  rw [← hbw] at hRe
  refine ⟨sok_reindexed hS hRe, ?_⟩
  have hidx := idxOf_getD_of_nodup (d := 0) _ hS.nodup axis hax
  have hO := take_reix bw axis indexer.flatten hax bw.outInd (den U bw) (outShape_length U bw).symm
    (getD_mem _ _ _ hax) (fun k hk hl => hl ▸ idxOf_getD_of_nodup _ hS.nodup k hk) (hG.outLen hS hL)
  rw [hidx] at hO
  unfold denPushed
  rw [hex]
  exact (den_reindexed U U' hS hL hf (takeR_ok U bw hS hL axis indexer hI hG) hRe hL').trans hO.symm

end Dask.BWG
