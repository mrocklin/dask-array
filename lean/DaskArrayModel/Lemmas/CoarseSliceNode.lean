/-
Node level: `Blockwise.chunks` of the rewritten node (`nodeChunks (rewritten n r)`) are the chunks of the kept output
blocks; the fired rule (or positive operand chunks) gives `keepsAll`; the chunks after the top adjustment.
-/
import DaskArrayModel.Lemmas.CoarseSliceOvl
import DaskArrayModel.Lemmas.CoarseSliceND
namespace Dask.Lemmas.Coarse
open Dask.Py Dask.Py.PySlice Dask.Slicing Dask.Coarse
open Dask.Lemmas.Slice1dPos

/-- what the coarse rule keeps of an operand axis `ic` carrying label `lab` -/
def keepFor (outInd : List Nat) (plans : List AxisPlan) (lab : Nat) (ic : List Int) : List Int :=
  keptOut1 ic (labelPlan outInd plans lab)

theorem axes_chunks (outInd : List Nat) (plans : List AxisPlan) (nb : List Nat) (hpok : PlansOK plans nb)
    (ind : List Nat) (chunks : List (List Int)) (sl : List (Option (Int × Int)))
    (w : ZipSome (opAxisSlice outInd plans nb) ind chunks sl)
    (hk : (ind.zip chunks).all (fun p => keepsAxis outInd plans p.1 p.2) = true) :
    ind.zip (List.zipWith opChunksAfter chunks sl)
      = (ind.zip chunks).map (fun p => (p.1, keepFor outInd plans p.1 p.2)) := by
  induction w with
  | left _ => rfl
  | right _ => simp
  | @cons l ls ic ics s ss hs _ ih =>
    simp only [List.zip_cons_cons, List.all_cons, Bool.and_eq_true] at hk
    simp only [List.zipWith_cons_cons, List.zip_cons_cons, List.map_cons]
    rw [ih hk.2, (opAxis_kept hpok hs hk.1).2.1]
    rfl

theorem chunkPairs_rewritten (outInd : List Nat) (plans : List AxisPlan) (nb : List Nat) (hpok : PlansOK plans nb)
    (ops : List Opd) (sls : List (Option (List (Option (Int × Int)))))
    (w : MapSome (opSlice outInd plans nb) ops sls) (hk : keepsAll outInd plans ops = true) :
    chunkPairs (List.zipWith sliceOpd ops sls)
      = (chunkPairs ops).map (fun p => (p.1, keepFor outInd plans p.1 p.2)) := by
  induction w with
  | nil => rfl
  | @cons o os r rs hr _ ih =>
    have hk := keepsAll_cons.mp hk
    simp only [List.zipWith_cons_cons]
    rw [chunkPairs_cons, chunkPairs_cons, ih hk.2, List.map_append]
    congr 1
    rcases opSlice_cases outInd plans nb o r hr with ⟨hn, rfl⟩ | ⟨ind, sl, hi, rfl, hsl⟩
    · simp [sliceOpd, hn]
    · have hk1 := hk.1
      rw [hi] at hk1
      simp only at hk1
      simp only [sliceOpd, hi]
      exact axes_chunks outInd plans nb hpok ind o.chunks sl (opAxesSlices_zip hsl) hk1

theorem pairs_gate (outInd : List Nat) (plans : List AxisPlan) (nb : List Nat)
    (ops : List Opd) (sls : List (Option (List (Option (Int × Int)))))
    (w : MapSome (opSlice outInd plans nb) ops sls) (q : Nat × List Int) (hq : q ∈ chunkPairs ops)
    (f l : Nat) (hbr : (labelPlan outInd plans q.1).br = some (f, l)) :
    q.2.length = nb.getD (outInd.idxOf q.1) 0 ∧ q.2.contains 0 = false := by
  induction w with
  | nil => exact nomatch hq
  | @cons o os r rs hr _ ih =>
    rw [chunkPairs_cons, List.mem_append] at hq
    rcases hq with hq | hq
    · rcases opSlice_cases outInd plans nb o r hr with ⟨hn, _⟩ | ⟨ind, sl, hi, _, hsl⟩
      · rw [hn] at hq
        exact nomatch hq
      · rw [hi] at hq
        obtain ⟨s, h⟩ := (opAxesSlices_zip hsl).mem hq
        rcases opAxisSlice_some h with ⟨hno, _⟩ | ⟨_, _, _, hg, hz, _⟩
        · exact nomatch hbr.symm.trans hno
        · exact ⟨hg, hz⟩
    · exact ih hq

theorem foldl_mostBlocks_keep (b : List Int) : ∀ (qs : List (Nat × List Int)), (∀ q ∈ qs, q.2.length ≤ b.length) →
    qs.foldl (fun best q => mostBlocks best q.2) (some b) = some b
  | [], _ => rfl
  | q :: qs, h => by
    have hq := h q List.mem_cons_self
    simp only [List.foldl_cons, mostBlocks]
    rw [if_neg (by omega)]
    exact foldl_mostBlocks_keep b qs (fun q' hq' => h q' (List.mem_cons_of_mem _ hq'))

theorem foldl_mostBlocks_same (N : Nat) (qs : List (Nat × List Int)) (h : ∀ q ∈ qs, q.2.length = N) :
    qs.foldl (fun best q => mostBlocks best q.2) none = qs.head?.map (·.2) := by
  cases qs with
  | nil => rfl
  | cons q qs =>
    simp only [List.foldl_cons, mostBlocks, List.head?_cons, Option.map_some]
    apply foldl_mostBlocks_keep
    intro q' hq'
    rw [h q' (List.mem_cons_of_mem _ hq'), h q List.mem_cons_self]
    exact Nat.le_refl N

theorem filter_label_map (l : Nat) (K : Nat → List Int → List Int) : ∀ (L : List (Nat × List Int)),
    (L.map (fun p => (p.1, K p.1 p.2))).filter (fun q => q.1 == l)
      = (L.filter (fun q => q.1 == l)).map (fun p => (p.1, K l p.2))
  | [] => rfl
  | (k, v) :: ps => by
    simp only [List.map_cons, List.filter_cons]
    cases hkl : k == l with
    | false => exact filter_label_map l K ps
    | true =>
      obtain rfl := eq_of_beq hkl
      exact congrArg ((k, K k v) :: ·) (filter_label_map k K ps)

theorem lookup_map_key (l l' : Nat) (g : AdjKind → AdjKind) : ∀ (adj : List (Nat × AdjKind)),
    (adj.map (fun e => if e.1 == l' then (e.1, g e.2) else e)).lookup l
      = if l == l' then (adj.lookup l).map g else adj.lookup l
  | [] => by split <;> rfl
  | (k, v) :: rest => by
    have hF : (if k == l' then (k, g v) else (k, v)) = (k, if k == l' then g v else v) := by split <;> rfl
    simp only [List.map_cons]
    rw [hF, List.lookup_cons, List.lookup_cons, lookup_map_key l l' g rest]
    cases hl : l == k with
    | false => rfl
    | true =>
      rw [eq_of_beq hl]
      cases k == l' <;> rfl

theorem sliceAdjust_cons (l : Nat) (ls : List Nat) (p : AxisPlan) (ps : List AxisPlan) (adj : List (Nat × AdjKind)) :
    sliceAdjust (l :: ls) (p :: ps) adj =
      match p.br with
      | none => sliceAdjust ls ps adj
      | some (first, last) =>
        sliceAdjust ls ps (adj.map (fun e => if e.1 == l then (e.1, sliceAdjKind first last e.2) else e)) := rfl

theorem sliceAdjust_lookup (l : Nat) : ∀ (ls : List Nat) (ps : List AxisPlan) (adj : List (Nat × AdjKind)),
    ls.Nodup →
    (sliceAdjust ls ps adj).lookup l
      = match (labelPlan ls ps l).br with
        | none => adj.lookup l
        | some (f, l2) => (adj.lookup l).map (sliceAdjKind f l2)
  | [], _, _, _ => rfl
  | _ :: _, [], _, _ => by
    unfold labelPlan
    rw [List.getD_nil, ite_self]
    rfl
  | l0 :: ls, p :: ps, adj, hnd => by
    rw [List.nodup_cons] at hnd
    have ih := fun adj' => sliceAdjust_lookup l ls ps adj' hnd.2
    rw [labelPlan_cons, sliceAdjust_cons]
    by_cases h0 : l0 = l
    · subst h0
      -- a label occurs once: the rest of the loop leaves its entry alone
      have hout : labelPlan ls ps l0 = ⟨none, .colon⟩ := if_neg (fun e => hnd.1 (List.contains_iff_mem.mp e))
      rw [if_pos rfl]
      cases p.br with
      | none =>
        simp only
        rw [ih, hout]
      | some fl =>
        simp only
        rw [ih, hout, lookup_map_key, beq_self_eq_true, if_pos rfl]
    · rw [if_neg h0]
      cases p.br with
      | none => exact ih adj
      | some fl =>
        simp only
        rw [ih, lookup_map_key, if_neg (by simpa using Ne.symm h0)]

theorem MapSome.length_eq {α β : Type} (g : α → Option β) (ls : List α) (cs : List β)
    (w : MapSome g ls cs) : cs.length = ls.length := by
  induction w with
  | nil => rfl
  | cons _ _ ih => rw [List.length_cons, List.length_cons, ih]

theorem mapOpt_kept {g g' : Nat → Option (List Int)} {ls : List Nat} {cs : List (List Int)} (w : MapSome g ls cs) :
    ∀ (ps : List AxisPlan), ls.Nodup → ps.length = ls.length →
    (∀ l ∈ ls, g' l = (g l).map (keepFor ls ps l)) → mapOpt g' ls = some (List.zipWith keptOut1 cs ps) := by
  induction w with
  | nil => exact fun _ _ _ _ => rfl
  | @cons l ls c cs hc _ ih =>
    intro ps hnd hlen hg
    cases ps with
    | nil => exact nomatch hlen
    | cons p ps =>
      rw [List.nodup_cons] at hnd
      have hhead : keepFor (l :: ls) (p :: ps) l c = keptOut1 c p := by
        unfold keepFor
        rw [labelPlan_cons, if_pos rfl]
      have htail : ∀ l' ∈ ls, g' l' = (g l').map (keepFor ls ps l') := fun l' hl' => by
        rw [hg l' (List.mem_cons_of_mem _ hl')]
        unfold keepFor
        rw [labelPlan_cons, if_neg (fun e : l = l' => hnd.1 (e ▸ hl'))]
      rw [mapOpt_cons, hg l List.mem_cons_self, hc, Option.map_some, ih ps hnd.2 (Nat.succ.inj hlen) htail, hhead]
      rfl

theorem MapSome.getElem?_idxOf {β : Type} (g : Nat → Option β) (ls : List Nat) (cs : List β) (w : MapSome g ls cs)
    (l : Nat) (hm : l ∈ ls) : ∃ c, g l = some c ∧ cs[ls.idxOf l]? = some c := by
  induction w with
  | nil => exact nomatch hm
  | @cons l0 ls c0 cs' hc0 _ ih =>
    by_cases h0 : l0 = l
    · subst h0
      exact ⟨c0, hc0, by simp⟩
    · obtain ⟨c, hc, hget⟩ := ih ((List.mem_cons.mp hm).resolve_left (Ne.symm h0))
      refine ⟨c, hc, ?_⟩
      rw [List.idxOf_cons, show (l0 == l) = false by simpa using h0]
      exact hget

/-- labels whose axis is sliced are not `new_axes` labels (`_accept_slice` declines those before the coarse path) -/
def slicedNotNew (n : Node) (plans : List AxisPlan) : Prop :=
  ∀ a, (plans.getD a dfltPlan).br ≠ none → n.newAxes.lookup (n.outInd.getD a 0) = none

theorem applyAdjust_kept (a : Option AdjKind) (base oc : List Int) (f l : Nat) (hfl : f ≤ l) (hl : l < base.length)
    (h : applyAdjust a base = some oc) :
    applyAdjust (a.map (sliceAdjKind f l)) (keptChunks base f l) = some (keptChunks oc f l) := by
  cases a with
  | none =>
    obtain rfl : base = oc := Option.some.inj h
    rfl
  | some k =>
    cases k with
    | fn g =>
      obtain rfl : base.map g = oc := Option.some.inj h
      show some ((keptChunks base f l).map g) = some (keptChunks (base.map g) f l)
      unfold keptChunks
      rw [List.map_take, List.map_drop]
    | const c =>
      obtain rfl : base.map (fun _ => c) = oc := Option.some.inj h
      show some ((keptChunks base f l).map (fun _ => c)) = some (keptChunks (base.map (fun _ => c)) f l)
      unfold keptChunks
      rw [List.map_take, List.map_drop]
    | tuple t =>
      -- the kept tuple has as many entries as there are kept blocks: the length check passes again
      simp only [applyAdjust] at h
      split at h
      · exact nomatch h
      · rename_i ht
        obtain rfl : t = oc := Option.some.inj h
        have e : (keptChunks t f l).length = (keptChunks base f l).length := by
          rw [keptChunks_length base f l hl hfl,
            keptChunks_length t f l (by rw [Decidable.of_not_not ht]; exact hl) hfl]
        show (if (keptChunks t f l).length ≠ (keptChunks base f l).length then none else some (keptChunks t f l)) = _
        rw [if_neg (fun hne => hne e)]

theorem applyAdjust_length (a : Option AdjKind) (base c : List Int) (h : applyAdjust a base = some c) :
    c.length = base.length := by
  unfold applyAdjust at h
  split at h
  · rw [← Option.some.inj h]
  · rw [← Option.some.inj h, List.length_map]
  · rw [← Option.some.inj h, List.length_map]
  · split at h
    · exact nomatch h
    · rename_i ht
      rw [← Option.some.inj h]
      exact Decidable.of_not_not ht

/-- "most blocks wins" on the rewritten node: every operand axis of a sliced label has the output's block count, so
the winner is the same axis as before, cut to the kept blocks -/
theorem chunkss_rewritten (n : Node) (plans : List AxisPlan) (nb : List Nat)
    (sls : List (Option (List (Option (Int × Int))))) (adj' : List (Nat × AdjKind))
    (hs : mapOpt (opSlice n.outInd plans nb) n.ops = some sls) (hkeep : keepsAll n.outInd plans n.ops = true)
    (hpok : PlansOK plans nb) (hnew : slicedNotNew n plans) (l : Nat) (hl : l ∈ n.outInd) :
    chunkss { n with ops := List.zipWith sliceOpd n.ops sls, adjust := adj' } l
      = (chunkss n l).map (keepFor n.outInd plans l) := by
  have hlp : labelPlan n.outInd plans l = plans.getD (n.outInd.idxOf l) ⟨none, .colon⟩ :=
    if_pos (List.contains_iff_mem.mpr hl)
  have hpairs := chunkPairs_rewritten n.outInd plans nb hpok n.ops sls (mapOpt_some hs) hkeep
  unfold chunkss
  simp only
  rw [hpairs, filter_label_map]
  cases hbr : (labelPlan n.outInd plans l).br with
  | none =>
    have hk1 : keepFor n.outInd plans l = id := by
      funext c; simp only [keepFor, keptOut1, hbr, id]
    rw [hk1, Option.map_id]
    cases n.newAxes.lookup l with
    | some v => rfl
    | none => exact congrArg _ (List.map_id _)
  | some fl =>
    obtain ⟨f, l2⟩ := fl
    have hna : n.newAxes.lookup l = none := by
      have := hnew (n.outInd.idxOf l) (fun e => nomatch (hlp ▸ hbr).symm.trans e)
      rwa [List.getD_eq_getElem?_getD, List.getElem?_eq_getElem (List.idxOf_lt_length_iff.mpr hl),
        List.getElem_idxOf] at this
    obtain ⟨hfl, hl2⟩ := hpok (n.outInd.idxOf l) f l2 (hlp ▸ hbr)
    rw [hna]
    simp only
    have hsame : ∀ q ∈ (chunkPairs n.ops).filter (fun q => q.1 == l), q.2.length = nb.getD (n.outInd.idxOf l) 0 := by
      intro q hq
      rw [List.mem_filter] at hq
      obtain rfl : q.1 = l := by simpa using hq.2
      exact (pairs_gate n.outInd plans nb n.ops sls (mapOpt_some hs) q hq.1 f l2 hbr).1
    have hsame' : ∀ q ∈ ((chunkPairs n.ops).filter (fun q => q.1 == l)).map
        (fun p => (p.1, keepFor n.outInd plans l p.2)), q.2.length = l2 + 1 - f := by
      intro q hq
      rw [List.mem_map] at hq
      obtain ⟨p, hp', rfl⟩ := hq
      simp only [keepFor, keptOut1, hbr]
      exact keptChunks_length p.2 f l2 (by rw [hsame p hp']; exact hl2) hfl
    rw [foldl_mostBlocks_same _ _ hsame, foldl_mostBlocks_same _ _ hsame', List.head?_map]
    cases ((chunkPairs n.ops).filter (fun q => q.1 == l)).head? with
    | none => rfl
    | some p => rfl

theorem rewritten_chunks (n : Node) (oc : List (List Int)) (idx : List Idx) (r : Result)
    (hch : nodeChunks n = some oc) (h : acceptCoarse0 n oc idx = some r)
    (hoc : ∀ cs ∈ oc, ∀ c ∈ cs, 0 ≤ c) (hnd : n.outInd.Nodup) (hil : idx.length ≤ n.outInd.length)
    (hok : idxsOK oc (fullIndex idx n.outInd.length) = true)
    (hkeep : keepsAll n.outInd r.plans n.ops = true) (hnew : slicedNotNew n r.plans) :
    nodeChunks (rewritten n r) = some (keptOut oc r.plans) := by
  have hlen : oc.length = n.outInd.length := MapSome.length_eq _ _ _ (mapOpt_some hch)
  obtain ⟨hp, hs, hadj'⟩ := acceptCoarse0_some h
  obtain ⟨hpok, hplen⟩ := plans_ok oc _ r.plans hoc (axisPlans_zip hp) hok
  rw [fullIndex_length idx _ hil, hlen, Nat.min_self] at hplen
  unfold nodeChunks at hch ⊢
  refine mapOpt_kept (mapOpt_some hch) r.plans hnd hplen (fun l hl => ?_)
  -- `Blockwise.chunks` of `n` succeeded on this label: `base` adjusts to `c`, the entry of `oc` at the label's position
  obtain ⟨c, hgl, hoc'⟩ := MapSome.getElem?_idxOf _ _ _ (mapOpt_some hch) l hl
  obtain ⟨base, hbase, hap⟩ := Option.bind_eq_some_iff.mp hgl
  simp only [rewritten]
  rw [chunkss_rewritten n r.plans _ r.opSlices r.adjust hs hkeep hpok hnew l hl, hbase]
  simp only [Option.map_some, Option.bind_some]
  rw [hap]
  rw [hadj', sliceAdjust_lookup l n.outInd r.plans n.adjust hnd]
  simp only [Option.map_some, keepFor]
  cases hbr : (labelPlan n.outInd r.plans l).br with
  | none => simpa only [keptOut1, hbr, Option.map_some] using hap
  | some fl =>
    obtain ⟨f, l2⟩ := fl
    obtain ⟨hfl, hl2⟩ := labelPlan_ok hpok l f l2 hbr
    have hbl : l2 < base.length := by
      have : (oc.map List.length).getD (n.outInd.idxOf l) 0 = c.length := by
        rw [List.getD_eq_getElem?_getD, List.getElem?_map, hoc']
        rfl
      rw [← applyAdjust_length _ _ _ hap, ← this]
      exact hl2
    simp only [keptOut1, hbr]
    exact applyAdjust_kept (n.adjust.lookup l) base c f l2 hfl hbl hap

theorem keepsAll_of_pairs (outInd : List Nat) (plans : List AxisPlan) : ∀ ops : List Opd,
    (∀ q ∈ chunkPairs ops, keepsAxis outInd plans q.1 q.2 = true) → keepsAll outInd plans ops = true
  | [], _ => rfl
  | o :: os, key => by
    refine keepsAll_cons.mpr ⟨?_, keepsAll_of_pairs outInd plans os
      (fun q hq => key q (by rw [chunkPairs_cons]; exact List.mem_append_right _ hq))⟩
    cases hi : o.ind with
    | none => rfl
    | some ind =>
      simp only
      rw [List.all_eq_true]
      intro p hp
      exact key p (by rw [chunkPairs_cons, hi]; exact List.mem_append_left _ hp)

/-- every sliced operand axis passed the gate `0 in arg.chunks[dim_idx]`, so its chunks are positive and
`sliceKeeps_of_pos` applies -/
theorem keepsAll_of_fired (outInd : List Nat) (plans : List AxisPlan) (nb : List Nat) (hpok : PlansOK plans nb)
    (ops : List Opd) (sls : List (Option (List (Option (Int × Int)))))
    (hs : mapOpt (opSlice outInd plans nb) ops = some sls)
    (hnn : ∀ q ∈ chunkPairs ops, ∀ c ∈ q.2, 0 ≤ c) :
    keepsAll outInd plans ops = true := by
  apply keepsAll_of_pairs
  intro q hq
  rw [keepsAxis_eq]
  split
  · rfl
  · rename_i f l hbr
    have hb := labelPlan_ok (outInd := outInd) hpok q.1 f l hbr
    obtain ⟨hg, hz⟩ := pairs_gate outInd plans nb ops sls (mapOpt_some hs) q hq f l hbr
    have hpos : ∀ c ∈ q.2, 0 < c := by
      intro c hcm
      have hne : c ≠ 0 := fun e => by
        rw [e] at hcm
        rw [List.contains_iff_mem.mpr hcm] at hz
        exact nomatch hz
      have := hnn q hq c hcm
      omega
    exact sliceKeeps_of_pos q.2 hpos f l hb.1 (by rw [hg]; exact hb.2)

theorem keepsAll_of_accept {n : Node} {oc : List (List Int)} {idx : List Idx} {r : Result}
    (h : acceptCoarse0 n oc idx = some r) (hoc : ∀ cs ∈ oc, ∀ c ∈ cs, 0 ≤ c)
    (hok : idxsOK oc (fullIndex idx n.outInd.length) = true) (hnn : ∀ q ∈ chunkPairs n.ops, ∀ c ∈ q.2, 0 ≤ c) :
    keepsAll n.outInd r.plans n.ops = true :=
  keepsAll_of_fired n.outInd r.plans _ (plans_ok oc _ r.plans hoc (axisPlans_zip (acceptCoarse0_some h).1) hok).1 _ r.opSlices
    (acceptCoarse0_some h).2.1 hnn

theorem axis_top_chunks (oc : List Int) (hpos : ∀ c ∈ oc, 0 < c) (i : Idx) (hi : idxOK (isum oc) i = true)
    (pl : AxisPlan) (h : acceptAxis oc i = some pl) :
    indexedChunks1 (keptOut1 oc pl) pl.adj.toIdx = indexedChunks1 oc i := by
  have hoc : ∀ c ∈ oc, 0 ≤ c := fun c hc => Int.le_of_lt (hpos c hc)
  cases i with
  | int i =>
    simp only [idxOK, decide_eq_true_eq] at hi
    obtain ⟨f, l, hacc, _⟩ := acceptAxis_int oc hoc i hi.1 hi.2
    rw [hacc] at h
    have := Option.some.inj h
    subst this
    rfl
  | slc s =>
    by_cases hcol : s = colon
    · subst hcol
      rw [acceptAxis_colon] at h
      have := Option.some.inj h
      subst this
      rfl
    · exact top_chunks oc hpos s hcol pl h

theorem top_chunks_nd (oc : List (List Int)) (idx : List Idx) (plans : List AxisPlan)
    (hpos : ∀ cs ∈ oc, ∀ c ∈ cs, 0 < c) (w : ZipSome acceptAxis oc idx plans) (hok : idxsOK oc idx = true) :
    indexedChunks (keptOut oc plans) (plans.map (·.adj.toIdx)) = indexedChunks oc idx := by
  induction w with
  | left _ => rfl
  | right _ => simp [indexedChunks, keptOut]
  | @cons c cs i is p ps hp _ ih =>
    have hok := idxsOK_cons hok
    have ih := ih (fun cs' h' => hpos cs' (List.mem_cons_of_mem _ h')) hok.2
    have h1 := axis_top_chunks c (hpos c List.mem_cons_self) i hok.1 p hp
    unfold indexedChunks at ih ⊢
    simp only [keptOut_cons, List.zipWith_cons_cons, List.map_cons, List.filterMap_cons] at ih ⊢
    rw [h1, ih]

/-- `hpos` is more than is needed: `keepsAll_of_accept` asks for chunks `≥ 0` -/
theorem accept_sound_pos {α β : Type} (F : List (List Nat → Blk α) → List Int → β) (outInd : List Nat)
    (ops : List (Operand α)) (adjust : List (Nat × AdjKind)) (newAxes : List (Nat × List Int))
    (oc : List (List Int)) (idx : List Idx) (r : Result)
    (h : acceptCoarse0 ⟨outInd, ops.map Operand.toOpd, adjust, newAxes⟩ oc idx = some r)
    (hoc : ∀ cs ∈ oc, ∀ c ∈ cs, 0 ≤ c) (hlen : oc.length = outInd.length) (hil : idx.length ≤ outInd.length)
    (hok : idxsOK oc (fullIndex idx outInd.length) = true)
    (hpos : ∀ q ∈ chunkPairs (ops.map Operand.toOpd), ∀ c ∈ q.2, 0 < c)
    (q : List Nat) (hql : q.length = outInd.length) (hq : inSels oc (fullIndex idx outInd.length) q = true) :
    indexDen (bwDen F outInd ops oc) (oc.map isum) (fullIndex idx outInd.length) q
      = rewrittenDen F outInd ops (keptOut oc r.plans) r q :=
  accept_sound F outInd ops adjust newAxes oc idx r h hoc hlen hil hok
    (keepsAll_of_accept h hoc hok (fun p hp c hc => Int.le_of_lt (hpos p hp c hc))) q hql hq

theorem rewritten_chunks_pos (n : Node) (oc : List (List Int)) (idx : List Idx) (r : Result)
    (hch : nodeChunks n = some oc) (h : acceptCoarse0 n oc idx = some r)
    (hoc : ∀ cs ∈ oc, ∀ c ∈ cs, 0 < c) (hnd : n.outInd.Nodup) (hil : idx.length ≤ n.outInd.length)
    (hok : idxsOK oc (fullIndex idx n.outInd.length) = true)
    (hpos : ∀ q ∈ chunkPairs n.ops, ∀ c ∈ q.2, 0 < c) (hnew : slicedNotNew n r.plans) :
    nodeChunks (rewritten n r) = some (keptOut oc r.plans) ∧
    indexedChunks (keptOut oc r.plans) (r.plans.map (·.adj.toIdx)) = indexedChunks oc (fullIndex idx n.outInd.length) :=
  have hoc' : ∀ cs ∈ oc, ∀ c ∈ cs, 0 ≤ c := fun cs hcs c hc => Int.le_of_lt (hoc cs hcs c hc)
  ⟨rewritten_chunks n oc idx r hch h hoc' hnd hil hok
      (keepsAll_of_accept h hoc' hok (fun p hp c hc => Int.le_of_lt (hpos p hp c hc))) hnew,
   top_chunks_nd oc _ r.plans hoc (axisPlans_zip (acceptCoarse0_some h).1) hok⟩

end Dask.Lemmas.Coarse
