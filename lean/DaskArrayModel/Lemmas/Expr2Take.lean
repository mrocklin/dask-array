/-
`Expr2.take` (integer-list index along one axis): the groups of positions that make the
output blocks (`takeGroups`: `_compute_indexer` + `Shuffle._new_chunks`, or the identity grouping)
concatenate to the posified index list (C12's `computeIndexer_flatten` / `newChunks_flatten`), hence the
gathered block is the block of NumPy's `x[:, …, idx, …, :]`.  Also the gather specs of an op acting
on one axis (`axisSpecs`).
-/
import DaskArrayModel.Lemmas.Expr2Zip
import DaskArrayModel.Lemmas.IndexingTake
namespace Dask.ND
open Dask.Py Dask.Py.PySlice Dask.Slicing

theorem axis_gathers : ∀ (cl : Layout) (ax : Nat) (m : AxisMap) (oc : List Nat), ax < cl.length →
    AxisOK m oc (cl.getD ax []) →
    Gathers (axisSpecs cl ax m) (cl.set ax oc) cl (fun g => g.set ax (m.gmap (g.getD ax 0)))
  | [], _, _, _, h, _ => nomatch h
  | _ :: cl, 0, _, _, _, hm => .keep hm (id_gathers cl) (fun _ _ _ => rfl)
  | cs :: cl, ax + 1, m, oc, h, hm =>
    .keep (idAxis_ok cs) (axis_gathers cl ax m oc (Nat.lt_of_succ_lt_succ h) hm) (fun _ _ _ => rfl)

theorem flatten_getD : ∀ (gs : List (List Int)) (j i : Nat), j < gs.length → i < (gs.getD j []).length →
    gs.flatten.getD (((gs.map List.length).take j).sum + i) 0 = (gs.getD j []).getD i 0
  | [], _, _, h, _ => absurd h (Nat.not_lt_zero _)
  | g :: gs, 0, i, _, hi => by
    rw [List.flatten_cons, List.take_zero, List.sum_nil, Nat.zero_add]
    exact getD_append_left _ _ _ _ hi
  | g :: gs, j + 1, i, hj, hi => by
    rw [List.flatten_cons, List.map_cons, List.take_succ_cons, List.sum_cons, Nat.add_assoc,
      getD_append_right _ _ _ _ (Nat.le_add_right _ _), Nat.add_sub_cancel_left]
    exact flatten_getD gs j i (Nat.lt_of_succ_lt_succ hj) hi

theorem splitLens_flatten {α} : ∀ (cs : List Nat) (l : List α), (splitLens cs l).flatten = l.take cs.sum
  | [], _ => rfl
  | c :: cs, l => by
    show l.take c ++ (splitLens cs (l.drop c)).flatten = l.take (c + cs.sum)
    rw [splitLens_flatten cs (l.drop c), List.take_add]

theorem take_limit_pos (cs : List Nat) (h : 0 < cs.sum) : 0 < ((toI cs).foldl max 0).toNat := by
  obtain ⟨c, hc, hpos⟩ := List.sum_pos_iff_exists_pos_nat.mp h
  have := (foldl_max_ge (toI cs) 0).2 (c : Int) (by simp only [toI, List.mem_map]; exact ⟨c, hc, rfl⟩)
  omega

/-- there is always a block: the empty index list gives the one empty group `[[]]` -/
theorem takeGroups_spec (n : Nat) (cs : List Nat) (idx : List Int) (hn : cs.sum = n)
    (hidx : ∀ k ∈ idx, -(n : Int) ≤ k ∧ k < (n : Int)) :
    (takeGroups n cs idx).flatten = idx.map (posifyInt n) ∧ takeGroups n cs idx ≠ [] := by
  have hflat : (takeGroups n cs idx).flatten = idx.map (posifyInt n) := by
    unfold takeGroups
    dsimp only
    split
    · rename_i h; rw [h]; rfl
    · rename_i hne
      split
      · rename_i hr
        rw [splitLens_flatten, hn]
        apply List.take_of_length_le
        rw [hr, length_rangeList_one 0 n, Int.sub_zero, Int.toNat_natCast]
        exact Nat.le_refl n
      · have hflat := Dask.Lemmas.Indexing.computeIndexer_flatten (idx.map (posifyInt n)) (toI cs)
        split
        · exact hflat
        · have hpos : 0 < n := by
            cases idx with
            | nil => exact absurd rfl hne
            | cons k _ => have := hidx k List.mem_cons_self; omega
          rw [Dask.Lemmas.Indexing.newChunks_flatten (take_limit_pos cs (hn ▸ hpos)), hflat]
  refine ⟨hflat, fun he => ?_⟩
  rw [he] at hflat
  have hnil : idx.map (posifyInt n) = [] := hflat.symm
  unfold takeGroups at he
  dsimp only at he
  rw [if_pos hnil] at he
  exact absurd he (List.cons_ne_nil _ _)

theorem takeAxis_ok (n : Nat) (cs : List Nat) (idx : List Int) (hn : cs.sum = n)
    (hidx : ∀ k ∈ idx, -(n : Int) ≤ k ∧ k < (n : Int)) :
    AxisOK (takeAxis n cs idx) ((takeGroups n cs idx).map List.length) cs := by
  have hflat := (takeGroups_spec n cs idx hn hidx).1
  intro j hj
  rw [List.length_map] at hj
  have hlen : ((takeGroups n cs idx).map List.length).getD j 0 = ((takeGroups n cs idx).getD j []).length := by
    rw [getD_map List.length _ j [] 0 hj]
  refine ⟨by simp only [takeAxis]; exact hlen.symm, ?_⟩
  intro i hi
  rw [hlen] at hi
  have hp := flatten_getD (takeGroups n cs idx) j i hj hi
  rw [hflat] at hp
  have hglt : ((List.map List.length (takeGroups n cs idx)).take j).sum + i < idx.length := by
    have h1 : ((takeGroups n cs idx).map List.length).sum = idx.length := by
      rw [← List.length_flatten, hflat, List.length_map]
    have h2 := Layout.nstart_end_le ((takeGroups n cs idx).map List.length) j
    unfold Layout.nstart at h2
    rw [hlen] at h2
    rw [h1] at h2
    exact Nat.lt_of_lt_of_le (Nat.add_lt_add_left hi _) h2
  rw [getD_map (posifyInt n) idx _ 0 0 hglt] at hp
  have hb := posifyInt_bounds n _ (hidx _ (getD_mem idx _ 0 hglt))
  have hlt : (posifyInt n (idx.getD (((List.map List.length (takeGroups n cs idx)).take j).sum + i) 0)).toNat
      < cs.sum := (Int.toNat_lt hb.1).mpr (by rw [hn]; exact hb.2)
  obtain ⟨f1, f2, f3⟩ := findBlock_spec cs _ hlt
  simp only [takeAxis]
  rw [← hp]
  exact ⟨f1, f2, f3⟩

theorem take_block (env : Env) (e : Expr2) (ax : Nat) (idx : List Int)
    (m1 : (chunks2 e).map List.sum = shape2 e) (hax : ax < (shape2 e).length)
    (hidx : ∀ k ∈ idx, -(((shape2 e).getD ax 0 : Nat) : Int) ≤ k ∧ k < (((shape2 e).getD ax 0 : Nat) : Int))
    (hsum : (chunks2 (.take e ax idx)).map List.sum = shape2 (.take e ax idx))
    (ih : IsGrid (chunks2 e) (den2 env e) (blockDen2 env e)) :
    IsGrid (chunks2 (.take e ax idx)) (den2 env (.take e ax idx)) (blockDen2 env (.take e ax idx)) := by
  have hcl : (chunks2 e).length = (shape2 e).length := length_of_map_sum m1
  have haxc : ax < (chunks2 e).length := by omega
  have hn : ((chunks2 e).getD ax []).sum = (shape2 e).getD ax 0 := sum_getD_of_map_sum m1 ax
  have hidx' : ∀ k ∈ idx, -((((chunks2 e).getD ax []).sum : Nat) : Int) ≤ k ∧
      k < ((((chunks2 e).getD ax []).sum : Nat) : Int) := by rw [hn]; exact hidx
  have hAx := takeAxis_ok _ ((chunks2 e).getD ax []) idx rfl hidx'
  have hspecs := axis_gathers (chunks2 e) ax _ _ haxc hAx
  refine gather_ok hspecs ih (den2 env (.take e ax idx)) hsum ?_
  intro g _
  simp only [den2, takeAxis, hn]

end Dask.ND
