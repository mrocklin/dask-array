/-
The one kernel evaluation over the generated import / call graph (Generated/ImportGraph.lean) that the C26 theorems
rest on: the generated backward closure `canReachSeedMask` contains no module, contains the registry-writing
functions, and is closed backwards under every import and call edge.  `noRootReachesSeed_sound` (Lemmas/Closure.lean)
turns it into statements about paths of any length.  A regenerated table that breaks it fails here, at once.
-/
import DaskArrayModel.Generated.ImportGraph
import DaskArrayModel.Lemmas.Closure
import DaskArrayModel.Lemmas.KernelDecide
namespace Dask.Lemmas.ImportGraph
open Dask.Closure Dask.Generated.ImportGraph

theorem graph_check :
    noRootReachesSeed modules.length (importEdges ++ callEdges) registrySeeds canReachSeedMask = true := by
  kernel_decide

end Dask.Lemmas.ImportGraph
