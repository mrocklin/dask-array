/-
The shape-changing gather ops `expand_dims`, `squeeze`, `broadcast_to`: each one's specs gather along the index map
of its NumPy meaning (`Gathers`: erase the new axis, insert 0 on the squeezed axis, NumPy's broadcast index).  `bcOK_*`
say what the well-formedness check of `broadcast_to` (`bcOK`: each operand axis is one block of length 1 or has the
output's chunks) gives axis by axis.
-/
import DaskArrayModel.Lemmas.ExprRechunk
namespace Dask.ND

theorem idAxis_ok (cs : List Nat) : AxisOK (idAxis cs) cs cs := by
  intro j hj
  refine ⟨rfl, ?_⟩
  intro i hi
  exact ⟨hj, hi, rfl⟩

theorem bcastAxis_ok (oc : List Nat) : AxisOK (bcastAxis oc) oc [1] := by
  intro j _
  refine ⟨rfl, ?_⟩
  intro i _
  simp [bcastAxis]

theorem id_gathers : ∀ (cl : Layout), Gathers (idSpecs cl) cl cl id
  | [] => .nil rfl
  | cs :: cl => .keep (idAxis_ok cs) (id_gathers cl) (fun _ _ _ => rfl)

theorem expand_gathers : ∀ (cl : Layout) (ax : Nat), ax ≤ cl.length →
    Gathers (expandSpecs cl ax) (cl.insertIdx ax [1]) cl (·.eraseIdx ax)
  | cl, 0, _ => by
    simp only [expandSpecs, List.insertIdx_zero]
    exact .new (fun j hj => by rw [Nat.lt_one_iff.mp hj]; rfl) (id_gathers cl) (fun _ _ => rfl)
  | cs :: cl, ax + 1, h =>
    .keep (idAxis_ok cs) (expand_gathers cl ax (Nat.le_of_succ_le_succ h)) (fun _ _ _ => rfl)
  | [], _ + 1, h => nomatch h

theorem squeeze_gathers : ∀ (cl : Layout) (ax : Nat), ax < cl.length → cl.getD ax [] = [1] →
    Gathers (squeezeSpecs cl ax) (cl.eraseIdx ax) cl (·.insertIdx ax 0)
  | cs :: cl, 0, _, h1 => by
    obtain rfl : cs = [1] := h1
    exact .fix Nat.zero_lt_one Nat.zero_lt_one rfl (id_gathers cl) (fun _ => rfl)
  | cs :: cl, ax + 1, h, h1 =>
    .keep (idAxis_ok cs) (squeeze_gathers cl ax (Nat.lt_of_succ_lt_succ h) h1) (fun _ _ _ => rfl)
  | [], _, h, _ => nomatch h

theorem SpecsOK.append {s1 s2 : List AxSpec} {ol1 ol2 cl1 cl2 : Layout} (h1 : SpecsOK s1 ol1 cl1)
    (h2 : SpecsOK s2 ol2 cl2) : SpecsOK (s1 ++ s2) (ol1 ++ ol2) (cl1 ++ cl2) := by
  induction h1 with
  | nil => exact h2
  | keep hax _ ih => exact SpecsOK.keep hax ih
  | fix a b c _ ih => exact SpecsOK.fix a b c ih
  | new hl _ ih => exact SpecsOK.new hl ih

theorem bcOK_cons {cc oc : List Nat} {cl ol : Layout} :
    bcOK (cc :: cl) (oc :: ol) = true ↔ (cc = [1] ∨ cc = oc) ∧ bcOK cl ol = true := by
  show ((decide (cc = [1]) || decide (cc = oc)) && bcOK cl ol) = true ↔ _
  simp

theorem bcOK_iff : ∀ (cl ol : Layout), bcOK cl ol = true ↔
    cl.length = ol.length ∧ ∀ m, m < cl.length → cl.getD m [] = [1] ∨ cl.getD m [] = ol.getD m []
  | [], [] => ⟨fun _ => ⟨rfl, fun _ hm => absurd hm (Nat.not_lt_zero _)⟩, fun _ => rfl⟩
  | cc :: cl, oc :: ol => by
    rw [bcOK_cons, bcOK_iff cl ol]
    constructor
    · rintro ⟨h0, hl, h⟩
      refine ⟨congrArg (· + 1) hl, fun m hm => ?_⟩
      cases m with
      | zero => exact h0
      | succ m => exact h m (Nat.lt_of_succ_lt_succ hm)
    · rintro ⟨hl, h⟩
      exact ⟨h 0 (Nat.zero_lt_succ _), Nat.succ.inj hl, fun m hm => h (m + 1) (Nat.succ_lt_succ hm)⟩
  | [], _ :: _ => ⟨fun h => (nomatch h), fun h => nomatch h.1⟩
  | _ :: _, [] => ⟨fun h => (nomatch h), fun h => nomatch h.1⟩

theorem bcOK_getD (cl ol : Layout) (h : bcOK cl ol = true) : ∀ m, m < cl.length →
    cl.getD m [] = [1] ∨ cl.getD m [] = ol.getD m [] :=
  ((bcOK_iff cl ol).1 h).2

theorem bcOK_length : ∀ (cl ol : Layout), bcOK cl ol = true → cl.length = ol.length :=
  fun cl ol h => ((bcOK_iff cl ol).1 h).1

theorem bcEntry_of_lt {n x : Nat} (h : x < n) : (if n = 1 then 0 else x) = x := by
  split
  · omega
  · rfl

theorem bcZip_gathers : ∀ (cl ol : Layout), bcOK cl ol = true →
    Gathers (List.zipWith (fun cc oc =>
      if cc = [1] then AxSpec.keep (bcastAxis oc) else AxSpec.keep (idAxis cc)) cl ol) ol cl (bcIdx (cl.map List.sum))
  | [], [], _ => .nil rfl
  | cc :: cl, oc :: ol, h => by
    rw [bcOK_cons] at h
    have ih := bcZip_gathers cl ol h.2
    simp only [List.zipWith_cons_cons]
    by_cases h1 : cc = [1]
    · rw [if_pos h1, h1]
      exact .keep (bcastAxis_ok oc) ih (fun _ _ _ => rfl)
    · rw [if_neg h1]
      obtain rfl : cc = oc := h.1.resolve_left h1
      exact .keep (idAxis_ok cc) ih (fun _ _ hx => congrArg (· :: _) (bcEntry_of_lt hx))
  | [], _ :: _, h => nomatch h
  | _ :: _, [], h => nomatch h

theorem Gathers.new_prefix {rest : List AxSpec} {ol cl : Layout} {f : List Nat → List Nat} (h : Gathers rest ol cl f) :
    ∀ (pre : Layout), Gathers (pre.map (fun oc => AxSpec.new (fun j => oc.getD j 0)) ++ rest) (pre ++ ol) cl
      (fun g => f (g.drop pre.length))
  | [] => h
  | _ :: pre => .new (fun _ _ => rfl) (h.new_prefix pre) (fun _ _ => rfl)

theorem broadcast_gathers (cl ol : Layout) (h : bcOK cl (ol.drop (ol.length - cl.length)) = true) :
    Gathers (broadcastSpecs cl ol) ol cl (fun g => bcIdx (cl.map List.sum) (g.drop (ol.length - cl.length))) := by
  have := (bcZip_gathers cl _ h).new_prefix (ol.take (ol.length - cl.length))
  rwa [List.take_append_drop, List.length_take, Nat.min_eq_left (Nat.sub_le _ _)] at this

end Dask.ND
