/-
A list of integers as the index on one axis (Model/Indexing.lean): `check_index` accepts it exactly when
every entry is in `[-d, d)`, and `posify_index` then puts every entry in `[0, d)`; `_compute_indexer` and
`Shuffle._new_chunks` only regroup the list, into runs within one input chunk and into chunks of bounded
length.
-/
import DaskArrayModel.Model.Indexing
import DaskArrayModel.Lemmas.PyBasic
namespace Dask.Lemmas.Indexing
open Dask.Py Dask.Py.PySlice Dask.Slicing Dask.Indexing

theorem checkItem_lst_eq (l : List Int) (n : Int) :
    checkItem (.lst l, some n) = if (∀ i ∈ l, -n ≤ i ∧ i < n) then .ok () else .error .indexError := by
  show (if l.any (fun i => decide (i ≥ n)) ∨ l.any (fun i => decide (i < -n)) then _ else _) = _
  by_cases h : ∀ i ∈ l, -n ≤ i ∧ i < n
  · rw [if_pos h, if_neg]
    intro hany
    rcases hany with hany | hany
    · obtain ⟨i, hi, hd⟩ := List.any_eq_true.mp hany
      exact Int.not_le.mpr (h i hi).2 (of_decide_eq_true hd)
    · obtain ⟨i, hi, hd⟩ := List.any_eq_true.mp hany
      exact Int.not_lt.mpr (h i hi).1 (of_decide_eq_true hd)
  · rw [if_neg h, if_pos]
    apply Decidable.byContradiction
    intro hn
    apply h
    intro i hi
    exact ⟨Int.not_lt.mp fun hc => hn (Or.inr (List.any_eq_true.mpr ⟨i, hi, decide_eq_true hc⟩)),
      Int.not_le.mp fun hc => hn (Or.inl (List.any_eq_true.mpr ⟨i, hi, decide_eq_true hc⟩))⟩

theorem checkItem_lst {v : List Int} {d : Int} :
    checkItem (.lst v, some d) = .ok () ↔ ∀ i ∈ v, -d ≤ i ∧ i < d := by
  rw [checkItem_lst_eq]
  split
  · rename_i h; exact ⟨fun _ => h, fun _ => rfl⟩
  · rename_i h; exact ⟨fun hc => (nomatch hc), fun h' => absurd h' h⟩

theorem posifyInt_bounds {d i : Int} (h : -d ≤ i ∧ i < d) : 0 ≤ posifyInt d i ∧ posifyInt d i < d := by
  unfold posifyInt; split <;> omega

theorem posifyInt_nonneg {d i : Int} (h : 0 ≤ i) : posifyInt d i = i := by
  unfold posifyInt; split <;> omega

theorem indexerLoop_flatten (bounds : List Int) (rest : List Int) (cid : Nat) (cur : List Int) :
    (indexerLoop bounds rest cid cur).flatten = cur.reverse ++ rest := by
  fun_induction indexerLoop bounds rest cid cur with
  | case1 cid cur => simp
  | case2 i rest cur c ih => rw [ih]; simp
  | case3 i rest cid cur c h ih => rw [List.flatten_cons, ih]; simp

theorem computeIndexer_flatten (index chunks : List Int) :
    (computeIndexer index chunks).flatten = index := by
  unfold computeIndexer
  cases index with
  | nil => simp
  | cons i rest => simp only; rw [indexerLoop_flatten]; simp

theorem run_same {bounds : List Int} {cid : Nat} {cur : List Int} (hc : ∀ x ∈ cur, bisectRight bounds x = cid) :
    ∀ x ∈ cur.reverse, ∀ y ∈ cur.reverse, bisectRight bounds x = bisectRight bounds y :=
  fun x hx y hy => (hc x (List.mem_reverse.mp hx)).trans (hc y (List.mem_reverse.mp hy)).symm

theorem indexerLoop_groups (bounds : List Int) (rest : List Int) (cid : Nat) (cur : List Int)
    (hc : ∀ x ∈ cur, bisectRight bounds x = cid) :
    ∀ g ∈ indexerLoop bounds rest cid cur, ∀ x ∈ g, ∀ y ∈ g,
      bisectRight bounds x = bisectRight bounds y := by
  fun_induction indexerLoop bounds rest cid cur with
  | case1 cid cur => exact List.forall_mem_singleton.mpr (run_same hc)
  | case2 i rest cur c ih => exact ih (List.forall_mem_cons.mpr ⟨rfl, hc⟩)
  | case3 i rest cid cur c h ih =>
    exact List.forall_mem_cons.mpr ⟨run_same hc, ih (List.forall_mem_singleton.mpr rfl)⟩

theorem flatten_flush (cur : List Int) : (if cur.length > 0 then [cur] else []).flatten = cur := by
  split
  · exact List.append_nil cur
  · exact (List.length_eq_zero_iff.mp (by omega)).symm

theorem mem_flush {cur g : List Int} {limit : Nat} (hc : cur.length ≤ limit)
    (hg : g ∈ (if cur.length > 0 then [cur] else [])) : 0 < g.length ∧ g.length ≤ limit := by
  split at hg
  · rename_i h
    rw [List.mem_singleton.mp hg]
    exact ⟨h, hc⟩
  · nomatch hg

theorem newChunksLoop_spec {limit : Nat} (hl : 0 < limit) (rest : List (List Int)) (cur : List Int)
    (hc : cur.length ≤ limit) :
    (newChunksLoop limit rest cur).flatten = cur ++ rest.flatten ∧
      ∀ g ∈ newChunksLoop limit rest cur, 0 < g.length ∧ g.length ≤ limit := by
  fun_induction newChunksLoop limit rest cur with
  | case1 cur h =>
    exact ⟨by rw [List.flatten_nil, List.append_nil]; exact List.append_nil cur,
      List.forall_mem_singleton.mpr ⟨h, hc⟩⟩
  | case2 cur h =>
    exact ⟨by rw [List.flatten_nil, List.append_nil]; exact (List.length_eq_zero_iff.mp (by omega)).symm,
      fun _ hg => nomatch hg⟩
  | case3 idx rest cur h ih =>
    obtain ⟨ihf, ihb⟩ := ih (Nat.zero_le _)
    refine ⟨?_, fun g hg => ?_⟩
    · rw [List.flatten_append, List.flatten_append, flatten_flush, partitionAll_flatten hl, ihf,
        List.flatten_cons, List.nil_append, List.append_assoc]
    · rcases List.mem_append.mp hg with hg | hg
      · rcases List.mem_append.mp hg with hg | hg
        · exact mem_flush hc hg
        · have hp := partitionAll_parts hl idx g hg
          exact ⟨List.length_pos_iff.mpr hp.1, hp.2⟩
      · exact ihb g hg
  | case4 idx rest cur h1 h ih =>
    obtain ⟨ihf, ihb⟩ := ih (Nat.le_of_not_gt h1)
    exact ⟨by rw [List.flatten_cons, ihf, List.flatten_cons], List.forall_mem_cons.mpr ⟨⟨h.2, hc⟩, ihb⟩⟩
  | case5 idx rest cur h1 h2 cur' h ih =>
    -- unreachable: an empty `cur` leaves `cur' = idx`, which is not longer than `limit`
    have hlen : cur'.length = cur.length + idx.length := List.length_append
    omega
  | case6 idx rest cur _ _ cur' h ih =>
    obtain ⟨ihf, ihb⟩ := ih (Nat.le_of_not_gt h)
    exact ⟨by rw [ihf, List.flatten_cons, List.append_assoc], ihb⟩

theorem newChunks_flatten {limit : Nat} (hl : 0 < limit) (indexer : List (List Int)) :
    (newChunks limit indexer).flatten = indexer.flatten :=
  (newChunksLoop_spec hl indexer [] (Nat.zero_le _)).1

theorem newChunks_bounded {limit : Nat} (hl : 0 < limit) (indexer : List (List Int)) :
    ∀ g ∈ newChunks limit indexer, 0 < g.length ∧ g.length ≤ limit :=
  (newChunksLoop_spec hl indexer [] (Nat.zero_le _)).2

end Dask.Lemmas.Indexing
