/-
Lemmas for the map_overlap pipeline (Model/OverlapPipe.lean), one axis.

Under the minimum-chunk guard the extended block that `overlap_internal` builds is a stretch of the axis, and with what
`_trim` cuts it is a slice pushed through `map_overlap` with kind `none`: the record `blockRec` satisfies `AxRec.Geom` of
Lemmas/OverlapSlice.lean, so a window-local block function returns the block's stretch of the global result by
`AxRec.Geom.slice_push` (`block_none` asks of the block function only that it commutes with that pushed slice).
`boundaries` turns the block list into the cut of the padded axis along `dl :: cs ++ [dr]`, so behind pieces the pipeline
is the kind-`none` pipeline on the padded axis, read at its interior blocks, which do not see the markers.  Depth 0 is
treated as kind `none`.  Core Lean only.
-/
import DaskArrayModel.Model.OverlapPipe
import DaskArrayModel.Lemmas.OverlapSlice
import DaskArrayModel.Lemmas.Layout
namespace Dask.Lemmas.OverlapPipe
open Dask.OverlapSlice Dask.OverlapPipe Dask.Lemmas.OverlapSlice

variable {α β γ δ : Type}

theorem cut_length : ∀ (cs : List Nat) (x : List α), (cut cs x).length = cs.length
  | [], _ => rfl
  | c :: cs, x => by simp [cut, cut_length cs]

theorem cut_flatten : ∀ (cs : List Nat) (x : List α), cs.sum = x.length → (cut cs x).flatten = x
  | [], x, h => by
    have : x = [] := List.eq_nil_of_length_eq_zero (by simpa using h.symm)
    simp [cut, this]
  | c :: cs, x, h => by
    simp only [cut, List.flatten_cons]
    rw [cut_flatten cs (x.drop c) (by simp [List.length_drop] at h ⊢; omega), List.take_append_drop]

theorem cut_lengths : ∀ (cs : List Nat) (x : List α), cs.sum = x.length → (cut cs x).map List.length = cs
  | [], _, _ => rfl
  | c :: cs, x, h => by
    simp only [cut, List.map_cons, List.length_take]
    rw [cut_lengths cs (x.drop c) (by simp [List.length_drop] at h ⊢; omega)]
    simp at h
    congr 1
    omega

theorem lo_eq (cs : List Nat) (k : Nat) : lo cs k = Layout.nstart cs k := rfl

theorem lo_zero (cs : List Nat) : lo cs 0 = 0 := rfl

theorem lo_succ (cs : List Nat) (k : Nat) : lo cs (k + 1) = lo cs k + cs.getD k 0 := Layout.nstart_succ cs k

theorem lo_length (cs : List Nat) : lo cs cs.length = cs.sum := Layout.nstart_length cs

theorem lo_le_sum (cs : List Nat) (k : Nat) : lo cs k + cs.getD k 0 ≤ cs.sum := Layout.nstart_end_le cs k

theorem cut_getD : ∀ (cs : List Nat) (x : List α) (k : Nat),
    (cut cs x).getD k [] = (x.drop (lo cs k)).take (cs.getD k 0)
  | [], _, _ => by simp [cut]
  | c :: cs, x, 0 => by simp [cut, lo]
  | c :: cs, x, k + 1 => by
    simp only [cut, List.getD_cons_succ, cut_getD cs (x.drop c) k, List.drop_drop, lo, List.take_succ_cons,
      List.sum_cons]

theorem cut_append : ∀ (cs ds : List Nat) (x y : List α), cs.sum = x.length →
    cut (cs ++ ds) (x ++ y) = cut cs x ++ cut ds y
  | [], ds, x, y, h => by
    obtain rfl : x = [] := List.eq_nil_of_length_eq_zero h.symm
    rfl
  | c :: cs, ds, x, y, h => by
    rw [List.sum_cons] at h
    rw [List.cons_append, cut, cut, List.take_append_of_le_length (by omega),
      List.drop_append_of_le_length (by omega), cut_append cs ds _ y (by rw [List.length_drop]; omega),
      List.cons_append]

theorem cut_pieces (cs : List Nat) (x L R : List α) (hsum : cs.sum = x.length) :
    cut (L.length :: (cs ++ [R.length])) (L ++ x ++ R) = L :: (cut cs x ++ [R]) := by
  rw [List.append_assoc, cut, List.take_left, List.drop_left, cut_append cs _ x R hsum, cut, cut, List.take_length]

theorem lo_pieces (dl dr : Nat) (cs : List Nat) (k : Nat) (hk : k ≤ cs.length) :
    lo (dl :: (cs ++ [dr])) (k + 1) = dl + lo cs k := by
  unfold lo
  rw [List.take_succ_cons, List.sum_cons, List.take_append_of_le_length hk]

theorem getD_pieces (d0 d1 d : δ) (l : List δ) (j : Nat) :
    (d0 :: (l ++ [d1])).getD (j + 1) d = if j < l.length then l.getD j d else if j = l.length then d1 else d := by
  simp only [List.getD_eq_getElem?_getD, List.getElem?_cons_succ]
  by_cases h : j < l.length
  · simp [h, List.getElem?_append_left h]
  · by_cases h2 : j = l.length
    · subst h2; simp
    · have : (l ++ [d1]).length ≤ j := by simp; omega
      simp [h, h2, List.getElem?_eq_none this]

theorem pieces_sizes {dl dr : Nat} {cs : List Nat} (hmin : ∀ j, j < cs.length → dl ≤ cs.getD j 0 ∧ dr ≤ cs.getD j 0)
    (j : Nat) (hj : j ≤ cs.length) :
    dl ≤ (dl :: (cs ++ [dr])).getD j 0 ∧ dr ≤ (dl :: (cs ++ [dr])).getD (j + 1) 0 := by
  constructor
  · cases j with
    | zero => exact Nat.le_refl _
    | succ i => rw [getD_pieces, if_pos (Nat.lt_of_succ_le hj)]; exact (hmin i hj).1
  · rw [getD_pieces]
    by_cases h : j < cs.length
    · rw [if_pos h]; exact (hmin j h).2
    · rw [if_neg h, if_pos (Nat.le_antisymm hj (Nat.le_of_not_lt h))]; exact Nat.le_refl _

/-- What the minimum-chunk guard gives block `k` of an axis of length `n`: the block holds both depths, and each of its
sides ends in a neighbour that holds the depth, its halo inside the axis, or at the end of the axis (`halo_cases`). -/
structure BlockGeom (dl dr : Nat) (cs : List Nat) (n k : Nat) : Prop where
  chunk : dl ≤ cs.getD k 0 ∧ dr ≤ cs.getD k 0
  fits : lo cs k + cs.getD k 0 ≤ n
  prev : 0 < k → dl ≤ cs.getD (k - 1) 0 ∧ dl ≤ lo cs k
  next : k + 1 < cs.length → dr ≤ cs.getD (k + 1) 0 ∧ lo cs k + cs.getD k 0 + dr ≤ n
  last : ¬ k + 1 < cs.length → lo cs k + cs.getD k 0 = n

theorem blockGeom_of_sizes {dl dr : Nat} {cs : List Nat} {k : Nat} (hk : k < cs.length)
    (hc : dl ≤ cs.getD k 0 ∧ dr ≤ cs.getD k 0) (hp : 0 < k → dl ≤ cs.getD (k - 1) 0)
    (hn : k + 1 < cs.length → dr ≤ cs.getD (k + 1) 0) : BlockGeom dl dr cs cs.sum k := by
  refine ⟨hc, lo_le_sum cs k, ?_, ?_, ?_⟩
  · intro h0
    have h2 := hp h0
    obtain ⟨j, rfl⟩ : ∃ j, k = j + 1 := ⟨k - 1, (Nat.sub_add_cancel h0).symm⟩
    rw [Nat.add_sub_cancel] at h2 ⊢
    rw [lo_succ]
    exact ⟨h2, Nat.le_trans h2 (Nat.le_add_left _ _)⟩
  · intro h1
    have h3 := lo_le_sum cs (k + 1)
    rw [lo_succ] at h3
    exact ⟨hn h1, Nat.le_trans (Nat.add_le_add_left (hn h1) _) h3⟩
  · intro h1
    rw [← lo_succ, show k + 1 = cs.length by omega, lo_length]

theorem guard_block {dl dr : Nat} {cs : List Nat} {n : Nat} (hG : Guard dl dr cs n) {k : Nat} (hk : k < cs.length) :
    BlockGeom dl dr cs n k := by
  obtain ⟨_, rfl, hmin⟩ := hG
  have hmem : ∀ j, j < cs.length → dl ≤ cs.getD j 0 ∧ dr ≤ cs.getD j 0 := fun j hj =>
    have h := hmin _ (Dask.Py.getD_mem cs j 0 hj)
    ⟨Nat.le_trans (Nat.le_max_left dl dr) h, Nat.le_trans (Nat.le_max_right dl dr) h⟩
  exact blockGeom_of_sizes hk (hmem k hk) (fun _ => (hmem (k - 1) (by omega)).1) (fun h => (hmem (k + 1) h).2)

theorem guard_depth_le {dl dr : Nat} {cs : List Nat} {n : Nat} (hG : Guard dl dr cs n) : dl ≤ n ∧ dr ≤ n := by
  have h := guard_block hG (k := 0) (List.length_pos_iff.mpr hG.1)
  exact ⟨Nat.le_trans h.chunk.1 (Nat.le_trans (Nat.le_add_left _ _) h.fits),
    Nat.le_trans h.chunk.2 (Nat.le_trans (Nat.le_add_left _ _) h.fits)⟩

/-- Block `k` of a chunking under kind `none`, as the record of a slice pushed through `map_overlap`
(Lemmas/OverlapSlice.lean): the request is the block, the pushed sub-array is the extended block, the trim slice is
what `_trim` cuts.  So `overlap_internal` + `_trim` on block `k` IS the rewrite of `x[lo_k : hi_k]`. -/
def blockRec (α : Type) (dl dr : Nat) (cs : List Nat) (n k : Nat) : AxRec α :=
  { b := .none, dl := dl, dr := dr, n := n,
    m := (if 0 < k then dl else 0) + cs.getD k 0 + (if k + 1 < cs.length then dr else 0),
    s := lo cs k, es := lo cs k - (if 0 < k then dl else 0), ts := if 0 < k then dl else 0, L := cs.getD k 0 }

theorem halo_cases {dl dr : Nat} {cs : List Nat} {n k : Nat} (hB : BlockGeom dl dr cs n k) :
    ((if 0 < k then dl else 0) = dl ∧ dl ≤ lo cs k ∨ (if 0 < k then dl else 0) = 0 ∧ lo cs k = 0) ∧
    ((if k + 1 < cs.length then dr else 0) = dr ∧ lo cs k + cs.getD k 0 + dr ≤ n ∨
      (if k + 1 < cs.length then dr else 0) = 0 ∧ lo cs k + cs.getD k 0 = n) := by
  constructor
  · by_cases h : 0 < k
    · exact .inl ⟨if_pos h, (hB.prev h).2⟩
    · obtain rfl : k = 0 := by omega
      exact .inr ⟨rfl, rfl⟩
  · by_cases h : k + 1 < cs.length
    · exact .inl ⟨if_pos h, (hB.next h).2⟩
    · exact .inr ⟨if_neg h, hB.last h⟩

theorem blockRec_geom {dl dr : Nat} {cs : List Nat} {n k : Nat} (hB : BlockGeom dl dr cs n k) :
    (blockRec α dl dr cs n k).Geom := by
  obtain ⟨ha, hr⟩ := halo_cases hB
  have hc := hB.chunk
  unfold blockRec
  generalize (if 0 < k then dl else 0) = a at ha ⊢
  generalize (if k + 1 < cs.length then dr else 0) = r at hr ⊢
  generalize lo cs k = l at ha hr ⊢
  generalize cs.getD k 0 = c at hr hc ⊢
  clear hB
  have hb : (Boundary.none : Boundary α).kind ≠ .periodic := fun h => nomatch h
  have hal : a ≤ l := ha.elim (fun h => Nat.le_trans (Nat.le_of_eq h.1) h.2) (fun h => h.1 ▸ Nat.zero_le l)
  have hend : l - a + (a + c + r) = l + c + r := by rw [← Nat.add_assoc, ← Nat.add_assoc, Nat.sub_add_cancel hal]
  have hfit : l + c + r ≤ n := hr.elim (fun h => h.1 ▸ h.2) (fun h => h.1 ▸ Nat.le_of_eq h.2)
  have hdep : ∀ d, d ≤ c → d ≤ a + c + r := fun d h =>
    Nat.le_trans h (Nat.le_trans (Nat.le_add_left c a) (Nat.le_add_right _ r))
  refine ⟨(Nat.sub_add_cancel hal).symm, Nat.le_trans (Nat.le_of_eq hend) hfit, Nat.le_add_right _ _, hdep dl hc.1,
    hdep dr hc.2, ?_, ?_⟩
  · exact fun h => ⟨ha.elim (fun h' => absurd h'.1 (Nat.ne_of_lt h)) (fun h' => by rw [h'.1, h'.2]), hb⟩
  · rcases hr with hr | hr
    · exact fun _ => .inl (Nat.le_of_eq (by rw [hr.1]))
    · exact fun _ => .inr ⟨hend.trans (hr.1 ▸ hr.2), hb⟩

theorem stretch_append (x : List α) (s p q : Nat) :
    (x.drop s).take p ++ (x.drop (s + p)).take q = (x.drop s).take (p + q) := by
  rw [List.take_add, List.drop_drop]

theorem lastN_append (d : Nat) (a c : List α) (h : d ≤ c.length) : lastN d (a ++ c) = lastN d c := by
  unfold lastN
  rw [List.length_append, Nat.add_sub_assoc h, List.drop_append, List.drop_eq_nil_of_le (Nat.le_add_right _ _),
    Nat.add_sub_cancel_left, List.nil_append]

theorem lastN_stretch (x : List α) (s c d : Nat) (hd : d ≤ c) (hfit : s + c ≤ x.length) :
    lastN d ((x.drop s).take c) = (x.drop (s + c - d)).take d := by
  unfold lastN
  rw [List.length_take, List.length_drop, Nat.min_eq_left (Nat.le_sub_of_add_le' hfit), List.drop_take, List.drop_drop,
    Nat.sub_sub_self hd, Nat.add_sub_assoc hd]

theorem left_halo (dl : Nat) (cs : List Nat) (x : List α) (k : Nat) (hfit : lo cs k ≤ x.length)
    (hp : 0 < k → dl ≤ cs.getD (k - 1) 0) :
    (if 0 < k ∧ dl ≠ 0 then lastN dl ((cut cs x).getD (k - 1) []) else []) =
      (x.drop (lo cs k - if 0 < k then dl else 0)).take (if 0 < k then dl else 0) := by
  cases k with
  | zero => simp
  | succ j =>
    have hd := hp (Nat.succ_pos j)
    rw [Nat.add_sub_cancel] at hd
    rw [lo_succ] at hfit ⊢
    rw [Nat.add_sub_cancel, cut_getD, lastN_stretch x _ _ dl hd hfit, if_pos (Nat.succ_pos j)]
    by_cases h0 : dl = 0
    · simp [h0]
    · rw [if_pos ⟨Nat.succ_pos j, h0⟩]

theorem right_halo (dr : Nat) (cs : List Nat) (x : List α) (k : Nat)
    (hn : k + 1 < cs.length → dr ≤ cs.getD (k + 1) 0) :
    (if k + 1 < (cut cs x).length ∧ dr ≠ 0 then ((cut cs x).getD (k + 1) []).take dr else []) =
      (x.drop (lo cs k + cs.getD k 0)).take (if k + 1 < cs.length then dr else 0) := by
  rw [cut_length, cut_getD, lo_succ, List.take_take]
  by_cases h1 : k + 1 < cs.length
  · rw [if_pos h1, Nat.min_eq_left (hn h1)]
    by_cases h0 : dr = 0
    · simp [h0]
    · rw [if_pos ⟨h1, h0⟩]
  · rw [if_neg h1, if_neg (fun h => h1 h.1), List.take_zero]

theorem extBlock_cut (dl dr : Nat) (cs : List Nat) (x : List α) (k : Nat) (hfit : lo cs k ≤ x.length)
    (hp : 0 < k → dl ≤ cs.getD (k - 1) 0 ∧ dl ≤ lo cs k) (hn : k + 1 < cs.length → dr ≤ cs.getD (k + 1) 0) :
    extBlock dl dr (cut cs x) k =
      (x.drop (lo cs k - if 0 < k then dl else 0)).take
        ((if 0 < k then dl else 0) + cs.getD k 0 + if k + 1 < cs.length then dr else 0) := by
  unfold extBlock
  rw [left_halo dl cs x k hfit (fun h => (hp h).1), right_halo dr cs x k hn, cut_getD]
  have hl : (if 0 < k then dl else 0) ≤ lo cs k := by
    split
    · exact (hp ‹_›).2
    · exact Nat.zero_le _
  generalize (if 0 < k then dl else 0) = a at hl ⊢
  rw [← stretch_append, ← stretch_append, Nat.sub_add_cancel hl]
  congr 3
  omega

theorem window_mid (w : Nat) (A M B : List γ) (j : Nat) (h : j + w ≤ M.length) :
    window w (A ++ M ++ B) (A.length + j) = window w M j := by
  unfold window
  rw [List.append_assoc, List.drop_append, List.drop_of_length_le (Nat.le_add_right _ _), List.nil_append,
    Nat.add_sub_cancel_left, List.drop_append_of_le_length (by omega),
    List.take_append_of_le_length (by rw [List.length_drop]; omega)]

theorem window_stretch (w : Nat) (x : List γ) (s L i : Nat) (h : i + w ≤ L) :
    window w ((x.drop s).take L) i = window w x (s + i) := by
  unfold window
  rw [List.drop_take, List.drop_drop, List.take_take, Nat.min_eq_left (by omega)]

/-- `x[front:back]` of `_trim`, as one `take`/`drop` -/
theorem trimBlock_eq (bk : BKind) (dl dr nb loc : Nat) (y : List β) :
    trimBlock bk dl dr nb loc y =
      (y.take (y.length - (if loc = nb - 1 ∧ bk = .none then 0 else dr))).drop (trimFront bk dl loc) := by
  unfold trimBlock trimBack
  by_cases h : loc = nb - 1 ∧ bk = .none
  · simp [h]
  · by_cases hd : dr = 0
    · simp [h, hd]
    · simp [h, hd]

theorem trimFront_none (dl k : Nat) : trimFront .none dl k = if 0 < k then dl else 0 := by
  unfold trimFront
  by_cases h : 0 < k
  · rw [if_pos h, if_neg (by omega)]
  · rw [if_neg h, if_pos ⟨by omega, rfl⟩]

theorem trimBlock_none (dl dr nb k : Nat) (y : List β) (hk : k < nb) :
    trimBlock .none dl dr nb k y =
      (y.take (y.length - if k + 1 < nb then dr else 0)).drop (if 0 < k then dl else 0) := by
  have e1 : (if k = nb - 1 ∧ BKind.none = BKind.none then 0 else dr) = if k + 1 < nb then dr else 0 := by
    by_cases h : k + 1 < nb
    · rw [if_pos h, if_neg (by omega)]
    · rw [if_neg h, if_pos ⟨by omega, rfl⟩]
  rw [trimBlock_eq, e1, trimFront_none]

/-- "no neighbour" markers -/
abbrev markers (α : Type) (d : Nat) : List (Option α) := List.replicate d Option.none

theorem padB_none_eq (dl dr : Nat) (e : List α) : padB .none dl dr e = markers α dl ++ e.map some ++ markers α dr := rfl

theorem dropFrontBlocks_zero (bs : List (List α)) : dropFrontBlocks 0 bs = bs := by
  cases bs <;> simp [dropFrontBlocks]

theorem dropFrontBlocks_exact (t : Nat) (b : List α) (bs : List (List α)) (ht : t ≠ 0) (hb : b.length = t) :
    dropFrontBlocks t (b :: bs) = bs := by
  simp [dropFrontBlocks, ht, hb, dropFrontBlocks_zero]

theorem dropBackBlocks_exact (t : Nat) (mid : List (List α)) (last : List α) (ht : t ≠ 0) (hb : last.length = t) :
    dropBackBlocks t (mid ++ [last]) = mid := by
  unfold dropBackBlocks
  rw [List.reverse_append, List.reverse_singleton, List.singleton_append, List.map_cons,
    dropFrontBlocks_exact t _ _ ht (by simp [hb])]
  simp [List.map_reverse, Function.comp_def]

theorem overlapInternal_pieces (dl dr : Nat) (L R : List α) (blks : List (List α)) :
    overlapInternal dl dr (L :: (blks ++ [R])) =
      extBlock dl dr (L :: (blks ++ [R])) 0 ::
        ((List.range blks.length).map (fun k => extBlock dl dr (L :: (blks ++ [R])) (k + 1)) ++
          [extBlock dl dr (L :: (blks ++ [R])) (blks.length + 1)]) := by
  unfold overlapInternal
  have : (L :: (blks ++ [R])).length = blks.length + 1 + 1 := by simp
  rw [this, List.range_succ_eq_map, List.map_cons, List.map_map, List.range_succ, List.map_append]
  simp [Function.comp_def]

theorem chunkTrim_pieces (dl dr : Nat) (cs : List Nat) (x L R : List α) (hL : L.length = dl) (hR : R.length = dr)
    (hsum : cs.sum = x.length) (hmin : ∀ j, j < cs.length → dl ≤ cs.getD j 0 ∧ dr ≤ cs.getD j 0)
    (ht : dl + dr ≠ 0) :
    chunkTrim (dl + dr) (overlapInternal dl dr (L :: (cut cs x ++ [R]))) =
      (List.range cs.length).map (fun k => extBlock dl dr (L :: (cut cs x ++ [R])) (k + 1)) := by
  subst hL hR
  have hx : (L ++ x ++ R).length = L.length + cs.sum + R.length := by
    rw [List.length_append, List.length_append, hsum]
  have hlen : (L.length :: (cs ++ [R.length])).length = cs.length + 1 + 1 := by simp
  -- block 0 is the left piece and `dr` entries of the first block, the last block `dl` entries and the right piece
  have h0 : (extBlock L.length R.length (L :: (cut cs x ++ [R])) 0).length = L.length + R.length := by
    rw [← cut_pieces cs x L R hsum, extBlock_cut _ _ _ _ 0 (Nat.zero_le _) (fun h => absurd h (Nat.lt_irrefl 0))
      (fun _ => (pieces_sizes hmin 0 (Nat.zero_le _)).2),
      if_neg (Nat.lt_irrefl 0), hlen, if_pos (Nat.succ_lt_succ (Nat.succ_pos _)), lo_zero, List.getD_cons_zero,
      Nat.sub_self, Nat.zero_add, List.drop_zero, List.length_take, hx]
    exact Nat.min_eq_left (by omega)
  have hlo : lo (L.length :: (cs ++ [R.length])) (cs.length + 1) = L.length + cs.sum := by
    rw [lo_pieces _ _ cs _ (Nat.le_refl _), lo_length]
  have h1 : (extBlock L.length R.length (L :: (cut cs x ++ [R])) (cs.length + 1)).length = L.length + R.length := by
    rw [← cut_pieces cs x L R hsum, extBlock_cut _ _ _ _ (cs.length + 1) (by rw [hlo, hx]; omega)
      (fun _ => ⟨(pieces_sizes hmin cs.length (Nat.le_refl _)).1, by rw [hlo]; exact Nat.le_add_right _ _⟩)
      (fun h => absurd h (by rw [hlen]; exact Nat.lt_irrefl _)),
      if_pos (Nat.succ_pos _), hlen, if_neg (Nat.lt_irrefl _), hlo, getD_pieces, if_neg (Nat.lt_irrefl _),
      if_pos rfl, Nat.add_sub_cancel_left, Nat.add_zero, List.length_take, List.length_drop, hx]
    exact Nat.min_eq_left (by omega)
  unfold chunkTrim
  rw [if_neg ht, overlapInternal_pieces, dropFrontBlocks_exact _ _ _ ht h0, cut_length,
    dropBackBlocks_exact _ _ _ ht h1]

theorem flatMap_nil_fn {δ ε : Type} (l : List δ) : l.flatMap (fun _ => ([] : List ε)) = [] := by
  induction l with
  | nil => rfl
  | cons a t ih => simp [List.flatMap_cons, ih]

theorem padB_zero (b : Boundary α) (x : List α) : padB b 0 0 x = padB .none 0 0 x := by
  cases b <;> simp [padB, flatMap_nil_fn]

theorem trimBlock_zero (bk : BKind) (nb loc : Nat) (y : List β) :
    trimBlock bk 0 0 nb loc y = trimBlock .none 0 0 nb loc y := by
  simp [trimBlock_eq, trimFront]

theorem trimInternal_range (bk : BKind) (dl dr n : Nat) (h : Nat → List β) :
    trimInternal bk dl dr ((List.range n).map h) = (List.range n).map (fun k => trimBlock bk dl dr n k (h k)) := by
  unfold trimInternal
  rw [List.length_map, List.length_range]
  apply List.ext_getElem?
  intro k
  rw [List.getElem?_mapIdx, List.getElem?_map, List.getElem?_map]
  by_cases hk : k < n
  · rw [List.getElem?_range hk]; rfl
  · rw [List.getElem?_eq_none (by simpa using hk)]; rfl

theorem cut_eq_map (cs : List Nat) (y : List α) :
    cut cs y = (List.range cs.length).map (fun k => (y.drop (lo cs k)).take (cs.getD k 0)) := by
  apply List.ext_getElem?
  intro k
  rw [List.getElem?_map]
  by_cases hk : k < cs.length
  · have h := cut_getD cs y k
    rw [List.getD_eq_getElem?_getD] at h
    rw [List.getElem?_range hk, Option.map_some, ← h, List.getElem?_eq_getElem (by rw [cut_length]; exact hk)]
    rfl
  · rw [List.getElem?_eq_none (by simpa [cut_length] using hk), List.getElem?_eq_none (by simpa using hk)]; rfl

theorem sum_eq_result_length {dl dr : Nat} {g : List (Option α) → List β} (hg : WinLocal dl dr g) (b : Boundary α)
    (x : List α) {cs : List Nat} (hG : Guard dl dr cs x.length) : cs.sum = (g (padB b dl dr x)).length :=
  hG.2.1.trans (mapOverlap1_length hg b x (guard_depth_le hG).1 (guard_depth_le hG).2).symm

/-- what `boundaries` does on an axis: two pieces for a kind other than `none` with some depth; nothing for kind `none`,
and nothing for depth 0 -/
theorem boundaries_cases (b : Boundary α) (dl dr : Nat) :
    (addsPieces b.kind dl dr = true ∧ b.kind ≠ .none ∧ dl + dr ≠ 0) ∨
      (¬ addsPieces b.kind dl dr = true ∧ (b = .none ∨ dl = 0 ∧ dr = 0)) := by
  by_cases hk : b.kind = .none
  · exact .inr ⟨by simp [addsPieces, hk], .inl (by cases b <;> first | rfl | cases hk)⟩
  · by_cases h0 : dl = 0 ∧ dr = 0
    · exact .inr ⟨by simp [addsPieces, h0], .inr h0⟩
    · exact .inl ⟨by simp [addsPieces, h0, hk], hk, by omega⟩

theorem overlapBlocks_eq (b : Boundary α) (dl dr : Nat) (cs : List Nat) (x : List α) (hG : Guard dl dr cs x.length) :
    overlapBlocks b dl dr (cut cs x) =
      if addsPieces b.kind dl dr then
        (List.range cs.length).map (fun k =>
          extBlock dl dr (leftPiece b dl x :: (cut cs x ++ [rightPiece b dr x])) (k + 1))
      else (List.range cs.length).map (extBlock dl dr (cut cs x)) := by
  unfold overlapBlocks boundaryBlocks overlapTrimDepth
  rcases boundaries_cases b dl dr with ⟨hp, hb, ht⟩ | ⟨hp, h⟩
  · have hpc := pieces_length b dl dr x hb (guard_depth_le hG).1 (guard_depth_le hG).2
    rw [if_pos hp, if_pos hp, if_pos (by simpa using hb), cut_flatten cs x hG.2.1, List.singleton_append,
      List.cons_append,
      chunkTrim_pieces dl dr cs x _ _ hpc.1 hpc.2 hG.2.1 (fun j hj => (guard_block hG hj).chunk) ht]
  · rw [if_neg hp, if_neg hp]
    have : (if b.kind != BKind.none then dl + dr else 0) = 0 := by
      rcases h with rfl | ⟨rfl, rfl⟩
      · rfl
      · simp
    rw [this]
    simp only [chunkTrim, if_true, overlapInternal, cut_length]

theorem extBlock_blockRec {dl dr : Nat} {cs : List Nat} (x : List α) {k : Nat} (hB : BlockGeom dl dr cs x.length k) :
    extBlock dl dr (cut cs x) k = (x.drop (blockRec α dl dr cs x.length k).es).take (blockRec α dl dr cs x.length k).m :=
  extBlock_cut dl dr cs x k (Nat.le_trans (Nat.le_add_right _ _) hB.fits) hB.prev (fun h => (hB.next h).1)

/-- `hf` is asked of the block function at the extended block `e` only (handed over with its length).  `r` stands for the
block's record so that the caller reads `hf` in the fields of `AxRec.Geom.slice_push` (`hr`, closed by `rfl`). -/
theorem block_none {dl dr : Nat} {cs : List Nat} (f : List α → List β) (Y : List β) (x : List α)
    {k : Nat} (hB : BlockGeom dl dr cs x.length k) (hk : k < cs.length) {r : AxRec α}
    (hr : r = blockRec α dl dr cs x.length k)
    (hf : ∀ e, e = (x.drop r.es).take r.m → e.length = r.m →
      (f e).length = e.length ∧ ((f e).drop r.ts).take r.L = (Y.drop r.s).take r.L) :
    trimBlock .none dl dr cs.length k (f (extBlock dl dr (cut cs x) k)) =
      (Y.drop (lo cs k)).take (cs.getD k 0) := by
  subst hr
  have hfit : _ ≤ x.length - _ := Nat.le_sub_of_add_le' (blockRec_geom (α := α) hB).sub
  obtain ⟨h1, h2⟩ := hf _ rfl (by rw [List.length_take, List.length_drop]; exact Nat.min_eq_left hfit)
  rw [trimBlock_none _ _ _ _ _ hk, extBlock_blockRec x hB, List.drop_take, h1, List.length_take, List.length_drop,
    Nat.min_eq_left hfit]
  exact Eq.trans (congrArg (List.take · _)
    (by simp only [blockRec]; rw [Nat.add_sub_cancel, Nat.add_sub_cancel_left])) h2

theorem block_none_win {dl dr : Nat} {g : List (Option α) → List β} (hg : WinLocal dl dr g) {cs : List Nat}
    (x : List α) {k : Nat} (hB : BlockGeom dl dr cs x.length k) (hk : k < cs.length) :
    trimBlock .none dl dr cs.length k (g (padB .none dl dr (extBlock dl dr (cut cs x) k))) =
      ((g (padB .none dl dr x)).drop (lo cs k)).take (cs.getD k 0) := by
  have hgeo := blockRec_geom (α := α) hB
  have hl : dl ≤ _ := hgeo.depthL
  have hr : dr ≤ _ := hgeo.depthR
  refine block_none (fun e => g (padB .none dl dr e)) _ x hB hk rfl fun e he hlen => ⟨?_, ?_⟩
  · rw [hg.1, padB_length _ _ _ _ (hlen.symm ▸ hl) (hlen.symm ▸ hr)]; omega
  · exact he ▸ (hgeo.slice_push hg x rfl).symm

theorem pieces_block {dl dr : Nat} {cs : List Nat} {n : Nat} (hsum : cs.sum = n)
    (hmin : ∀ j, j < cs.length → dl ≤ cs.getD j 0 ∧ dr ≤ cs.getD j 0) {k : Nat} (hk : k < cs.length) :
    BlockGeom dl dr (dl :: (cs ++ [dr])) (dl + n + dr) (k + 1) := by
  have hs : (dl :: (cs ++ [dr])).sum = dl + n + dr := by
    rw [List.sum_cons, List.sum_append, List.sum_singleton, hsum, Nat.add_assoc]
  exact hs ▸ blockGeom_of_sizes (by simp; omega)
    ⟨(pieces_sizes hmin (k + 1) hk).1, (pieces_sizes hmin k (Nat.le_of_lt hk)).2⟩
    (fun _ => (pieces_sizes hmin k (Nat.le_of_lt hk)).1) (fun _ => (pieces_sizes hmin (k + 1) hk).2)

theorem trimBlock_pieces (bk : BKind) (hb : bk ≠ .none) (dl dr nb k : Nat) (y : List β) (hk : k < nb) :
    trimBlock bk dl dr nb k y = trimBlock .none dl dr (nb + 1 + 1) (k + 1) y := by
  rw [trimBlock_none _ _ _ _ _ (by omega), trimBlock_eq, if_neg (fun h => hb h.2),
    if_pos (show k + 1 + 1 < nb + 1 + 1 by omega)]
  simp [trimFront, hb]

theorem winLocal_mid {dl dr : Nat} {g : List γ → List β} (hg : WinLocal dl dr g) (A M B : List γ) (i c : Nat)
    (h : i + c + (dl + dr) ≤ M.length) :
    ((g (A ++ M ++ B)).drop (A.length + i)).take c = ((g M).drop i).take c := by
  apply winLocal_transfer hg
  · simp only [List.length_append]; omega
  · exact h
  · intro j hj
    rw [Nat.add_assoc A.length i j, window_mid (dl + dr + 1) A M B (i + j) (by omega)]

theorem block_pieces_win {dl dr : Nat} {g : List (Option α) → List β} (hg : WinLocal dl dr g) (bk : BKind)
    (hb : bk ≠ .none) (cs : List Nat) (x L R : List α) (hL : L.length = dl) (hR : R.length = dr)
    (hsum : cs.sum = x.length) (hmin : ∀ j, j < cs.length → dl ≤ cs.getD j 0 ∧ dr ≤ cs.getD j 0)
    (k : Nat) (hk : k < cs.length) :
    trimBlock bk dl dr cs.length k (g (padB .none dl dr (extBlock dl dr (L :: (cut cs x ++ [R])) (k + 1)))) =
      ((g ((L ++ x ++ R).map some)).drop (lo cs k)).take (cs.getD k 0) := by
  subst hL hR
  have hle := lo_le_sum cs k
  have hP : (L ++ x ++ R).length = L.length + x.length + R.length := by simp [Nat.add_assoc]
  have hB := pieces_block (dl := L.length) (dr := R.length) hsum hmin hk
  rw [← hP] at hB
  have h := block_none_win hg (L ++ x ++ R) hB (by simp; omega)
  rw [cut_pieces cs x L R hsum, lo_pieces _ _ cs k (Nat.le_of_lt hk), getD_pieces, if_pos hk, padB_none_eq _ _ (L ++ x ++ R),
    show (L.length :: (cs ++ [R.length])).length = cs.length + 1 + 1 by simp] at h
  rw [trimBlock_pieces bk hb _ _ _ _ _ hk, h]
  have := winLocal_mid hg (markers α L.length) ((L ++ x ++ R).map some) (markers α R.length) (lo cs k)
    (cs.getD k 0) (by rw [List.length_map, hP]; omega)
  rwa [List.length_replicate] at this

theorem pipelineBlocks_eq_cut {dl dr : Nat} {g : List (Option α) → List β} (hg : WinLocal dl dr g)
    (b : Boundary α) (cs : List Nat) (f : List α → List β) (x : List α)
    (hf : ∀ e, f e = g (padB .none dl dr e)) (hG : Guard dl dr cs x.length) :
    pipelineBlocks b dl dr cs f x = cut cs (g (padB b dl dr x)) := by
  have hsum := hG.2.1
  have hmin : ∀ j, j < cs.length → dl ≤ cs.getD j 0 ∧ dr ≤ cs.getD j 0 := fun j hj => (guard_block hG hj).chunk
  have hn := guard_depth_le hG
  unfold pipelineBlocks
  rw [overlapBlocks_eq b dl dr cs x hG, cut_eq_map cs (g _)]
  rcases boundaries_cases b dl dr with ⟨hp, hb, _⟩ | ⟨hp, h⟩
  · -- pieces: every block is interior in the padded axis, which is `padB b`
    rw [if_pos hp, List.map_map, trimInternal_range]
    apply List.map_congr_left
    intro k hk
    have hk := List.mem_range.mp hk
    rw [Function.comp_apply, hf, padB_pieces b dl dr x hb]
    have hpc := pieces_length b dl dr x hb hn.1 hn.2
    exact block_pieces_win hg b.kind hb cs x _ _ hpc.1 hpc.2 hsum hmin k hk
  · -- no pieces: kind `none`, or depth 0 where every kind is kind `none`
    rw [if_neg hp, List.map_map, trimInternal_range]
    apply List.map_congr_left
    intro k hk
    have hk := List.mem_range.mp hk
    rw [Function.comp_apply, hf]
    rcases h with rfl | ⟨rfl, rfl⟩
    · exact block_none_win hg x (guard_block hG hk) hk
    · rw [trimBlock_zero, padB_zero b x]
      exact block_none_win hg x (guard_block hG hk) hk

theorem trimChunks_pieces (bk : BKind) (dl dr : Nat) (cs : List Nat) (hb : bk ≠ .none) :
    trimChunks bk dl dr (cs.map (· + (dl + dr))) = cs := by
  apply List.ext_getElem?
  intro j
  simp only [trimChunks, List.getElem?_mapIdx, List.getElem?_map]
  cases cs[j]? <;> simp [hb]

/-- chunk arithmetic, kind `none`: `trim_internal`'s chunks of `_overlap_internal_chunks(cs)` are `cs`.  (The same
round trip for the integer model of Model/Window.lean is `overlapTrim_chunks_id`, Props/C19.lean; the two models are
not linked by a lemma.) -/
theorem trimChunks_internal (dl dr : Nat) : ∀ (cs : List Nat),
    trimChunks .none dl dr (internalChunks dl dr cs) = cs
  | [] => rfl
  | [b] => by simp [internalChunks, trimChunks]
  | b0 :: b1 :: rest => by
    obtain ⟨mid, last, h⟩ : ∃ mid last, b1 :: rest = mid ++ [last] :=
      ⟨(b1 :: rest).dropLast, (b1 :: rest).getLast (by simp), (List.dropLast_concat_getLast _).symm⟩
    have hi : internalChunks dl dr (b0 :: b1 :: rest) = (b0 + dr) :: (mid.map (· + dl + dr) ++ [last + dl]) := by
      show (b0 + dr) :: ((b1 :: rest).dropLast.map (· + dl + dr) ++ [(b1 :: rest).getLastD 0 + dl]) = _
      rw [h]; simp
    rw [hi, h]
    apply List.ext_getElem?
    intro j
    simp only [trimChunks, List.getElem?_mapIdx, List.length_cons, List.length_append, List.length_map]
    cases j with
    | zero => simp
    | succ j =>
      simp only [List.getElem?_cons_succ]
      by_cases hj : j < mid.length
      · have hne : ¬ j = mid.length := by omega
        rw [List.getElem?_append_left (by simpa using hj), List.getElem?_append_left hj]
        simp [List.getElem?_eq_getElem hj, hne]
        omega
      · by_cases hj2 : j = mid.length
        · subst hj2; simp
        · have h1 : (mid.map (· + dl + dr) ++ [last + dl]).length ≤ j := by simp; omega
          have h2 : (mid ++ [last]).length ≤ j := by simp; omega
          rw [List.getElem?_eq_none h1, List.getElem?_eq_none h2]
          rfl

def xs12 : List Int := [0, 1, 2, 3, 4, 5, 6, 7, 8, 9, 10, 11]

end Dask.Lemmas.OverlapPipe
