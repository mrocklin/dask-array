/-
Arithmetic progressions `a, a + c, a + 2c, …` cut at a stop: `rangeLen` / `rangeList` of `Py/Basic.lean`, without
any slice.  All of it comes from one condition: rank `i` is in the range exactly when `a + i * c` lies before the
stop; a descending range is the mirror image of an ascending one.  On a chunked axis, as `_slice_1d` and
`__setitem__` both meet it, a progression of positive step continues inside the block that starts at `base` as the
local progression from `relStart S base c`, and the local rank of an entry is its global rank less
`rangeLen S base c`, the number of entries before the block (`relStart_rank`, `block_rank`).

Declared into four namespaces: `Dask.Py` (`length_rangeList`, the ranges of step 1), `Dask.Lemmas.SliceAlgebra` (the
rank condition and what follows from it for either sign of the step; SliceRange, SliceWindow and SliceAlgebra declare
into it too), `Dask.Lemmas.Rank` (duplicate-freeness, rank of an entry), `Dask.Lemmas.Progression` (positive step and
the chunked-axis part).
-/
import DaskArrayModel.Lemmas.PyBasic
namespace Dask.Py

@[simp] theorem length_rangeList (a b c : Int) : (rangeList a b c).length = rangeLen a b c := by
  simp [rangeList]

end Dask.Py

namespace Dask.Lemmas.SliceAlgebra
open Dask.Py

theorem lt_rangeLen_pos (a b c : Int) (hc : 0 < c) (i : Nat) :
    i < rangeLen a b c ↔ a + (i : Int) * c < b := by
  have hic : 0 ≤ (i : Int) * c := Int.mul_nonneg (Int.natCast_nonneg i) (Int.le_of_lt hc)
  unfold rangeLen
  simp only [gt_iff_lt, hc, if_true]
  split
  · rename_i hab
    have hq : 0 ≤ (b - a - 1) / c := Int.ediv_nonneg (by omega) (Int.le_of_lt hc)
    have key : (i : Int) ≤ (b - a - 1) / c ↔ (i : Int) * c ≤ b - a - 1 :=
      Int.le_ediv_iff_mul_le hc
    omega
  · omega

theorem lt_rangeLen_pos_int (A Aend ac : Int) (hac : 0 < ac) (i : Int) (hi : 0 ≤ i) :
    i < (rangeLen A Aend ac : Int) ↔ A + i * ac < Aend := by
  have h := lt_rangeLen_pos A Aend ac hac i.toNat
  rw [Int.toNat_of_nonneg hi] at h
  omega

theorem rangeLen_neg_eq (a b c : Int) (hc : c < 0) : rangeLen a b c = rangeLen (-a) (-b) (-c) := by
  unfold rangeLen
  have h1 : ¬ c > 0 := by omega
  have h2 : -c > 0 := by omega
  simp only [h1, h2, hc, if_true, if_false]
  have e2 : -b - -a - 1 = a - b - 1 := by omega
  rw [e2]
  by_cases hba : b < a
  · have : -a < -b := by omega
    simp only [hba, this, if_true]
  · have : ¬ -a < -b := by omega
    simp only [hba, this, if_false]

theorem lt_rangeLen_neg (a b c : Int) (hc : c < 0) (i : Nat) :
    i < rangeLen a b c ↔ b < a + (i : Int) * c := by
  rw [rangeLen_neg_eq a b c hc, lt_rangeLen_pos (-a) (-b) (-c) (by omega) i, Int.mul_neg]
  omega

theorem rangeLen_step_zero (a b : Int) : rangeLen a b 0 = 0 := by
  simp [rangeLen]

theorem getElem?_rangeList (a b c : Int) (i : Nat) :
    (rangeList a b c)[i]? = if i < rangeLen a b c then some (a + (i : Int) * c) else none := by
  unfold rangeList
  split
  · rename_i h; simp [h]
  · rename_i h; simp [h]

theorem mem_rangeList (a b c p : Int) :
    p ∈ rangeList a b c ↔ ∃ i : Nat, i < rangeLen a b c ∧ p = a + (i : Int) * c := by
  unfold rangeList
  simp only [List.mem_map, List.mem_range]
  constructor
  · rintro ⟨i, hi, rfl⟩; exact ⟨i, hi, rfl⟩
  · rintro ⟨i, hi, rfl⟩; exact ⟨i, hi, rfl⟩

theorem rangeLen_eq_zero_pos {a b c : Int} (hc : 0 < c) (h : b ≤ a) : rangeLen a b c = 0 := by
  have h1 : ¬ a < b := by omega
  simp [rangeLen, hc, h1]

theorem rangeLen_eq_zero_neg {a b c : Int} (hc : c < 0) (h : a ≤ b) : rangeLen a b c = 0 := by
  have h1 : ¬ b < a := by omega
  have h2 : ¬ 0 < c := by omega
  simp [rangeLen, hc, h1, h2]

theorem rangeList_eq_nil_pos {a b c : Int} (hc : 0 < c) (h : b ≤ a) : rangeList a b c = [] := by
  unfold rangeList; rw [rangeLen_eq_zero_pos hc h]; rfl

theorem rangeList_eq_nil_neg {a b c : Int} (hc : c < 0) (h : a ≤ b) : rangeList a b c = [] := by
  unfold rangeList; rw [rangeLen_eq_zero_neg hc h]; rfl

theorem rangeList_max_stop {a b c : Int} (hc : 0 < c) :
    rangeList a (max a b) c = rangeList a b c := by
  by_cases h : b ≤ a
  · rw [rangeList_eq_nil_pos hc (by omega), rangeList_eq_nil_pos hc h]
  · rw [Int.max_eq_right (by omega)]

theorem getElem_rangeList (a b c : Int) (i : Nat) (h : i < (rangeList a b c).length) :
    (rangeList a b c)[i] = a + (i : Int) * c := by
  simp [rangeList]

theorem rangeLen_through (A d c : Int) (hc : 0 < c) : rangeLen A (A + d * c + 1) c = (d + 1).toNat :=
  nat_eq_of_lt_iff fun i => by
    rw [lt_rangeLen_pos _ _ _ hc, Int.lt_toNat, Int.add_assoc, Int.add_lt_add_iff_left, Int.lt_add_one_iff,
      Int.lt_add_one_iff]
    exact ⟨fun h => Int.le_of_mul_le_mul_right h hc, fun h => Int.mul_le_mul_of_nonneg_right h (Int.le_of_lt hc)⟩

theorem rangeLen_neg_div (a b c : Int) (hc : c < 0) : rangeLen a b c = ((a - b - 1) / (-c) + 1).toNat := by
  unfold rangeLen
  rw [if_neg (Int.not_lt.mpr (Int.le_of_lt hc)), if_pos hc]
  split
  · rfl
  · have := Int.ediv_neg_of_neg_of_pos (a := a - b - 1) (b := -c) (by omega) (by omega)
    omega

/-- the start of the ascending range is written as `parse_assignment_indices` computes it -/
theorem rangeList_neg_reverse (a b c : Int) (hc : c < 0) :
    rangeList a b c = (rangeList (a - (a - b - 1) / (-c) * (-c)) (a + 1) (-c)).reverse := by
  have hL1 := rangeLen_neg_div a b c hc
  generalize (a - b - 1) / (-c) = d at hL1 ⊢
  have hL2 := rangeLen_through (a - d * (-c)) d (-c) (Int.neg_pos_of_neg hc)
  rw [Int.sub_add_cancel] at hL2
  apply List.ext_getElem (by rw [List.length_reverse, length_rangeList, length_rangeList, hL1, hL2])
  intro i h1 h2
  rw [length_rangeList, hL1] at h1
  have hi : (((d + 1).toNat - 1 - i : Nat) : Int) = d - i := by
    have hid := Int.lt_toNat.mp h1
    rw [Int.natCast_sub (Nat.le_sub_one_of_lt h1), Int.natCast_sub (Nat.one_le_of_lt h1),
      Int.toNat_of_nonneg (Int.le_trans (Int.natCast_nonneg i) (Int.le_of_lt hid)), Int.natCast_one,
      Int.add_sub_cancel]
  rw [List.getElem_reverse, getElem_rangeList, getElem_rangeList, length_rangeList, hL2, hi, Int.sub_mul,
    ← Int.add_sub_assoc, Int.sub_add_cancel, Int.mul_neg, Int.sub_neg]

theorem rangeList_mirror (N a b c : Int) (hc : 0 < c) :
    rangeList (N - a) (N - b) (-c) = (rangeList a b c).map (fun p => N - p) := by
  have hlen : rangeLen (N - a) (N - b) (-c) = rangeLen a b c := nat_eq_of_lt_iff fun i => by
    rw [lt_rangeLen_neg _ _ _ (Int.neg_neg_of_pos hc), lt_rangeLen_pos _ _ _ hc, Int.mul_neg, ← Int.sub_eq_add_neg,
      Int.sub_sub, Int.sub_lt_sub_left_iff]
  unfold rangeList
  rw [hlen, List.map_map]
  exact List.map_congr_left fun i _ => by
    rw [Function.comp, Int.mul_neg, ← Int.sub_eq_add_neg, Int.sub_sub]

theorem filterMap_rangeList (A Aend ac B Bend bc : Int)
    (hin : ∀ j : Nat, j < rangeLen B Bend bc →
      0 ≤ B + (j : Int) * bc ∧ B + (j : Int) * bc < (rangeLen A Aend ac : Int)) :
    (rangeList B Bend bc).filterMap (fun i => (rangeList A Aend ac)[i.toNat]?) =
      (List.range (rangeLen B Bend bc)).map (fun j : Nat => A + (B + (j : Int) * bc) * ac) := by
  have e : rangeList B Bend bc =
      (List.range (rangeLen B Bend bc)).map (fun (i : Nat) => B + (i : Int) * bc) := rfl
  rw [e, List.filterMap_map]
  apply filterMap_eq_map_of
  intro j hj
  have hj' := List.mem_range.mp hj
  obtain ⟨h0, h1⟩ := hin j hj'
  simp only [Function.comp]
  rw [getElem?_rangeList]
  have : (B + (j : Int) * bc).toNat < rangeLen A Aend ac := by omega
  simp only [this, if_true, Int.toNat_of_nonneg h0]

/-- `Fend` may be any bound that cuts the outer positions `A + t * ac` exactly where `Bend` cuts the inner
positions `t` (`hwin`). -/
theorem compose_core (A Aend ac B Bend bc Fend : Int) (hB : 0 ≤ B) (hac : 0 < ac) (hbc : 0 < bc)
    (hBend : Bend ≤ (rangeLen A Aend ac : Int))
    (hwin : ∀ t : Int, B ≤ t → (t < Bend ↔ A + t * ac < Fend)) :
    rangeList (A + B * ac) Fend (ac * bc) =
      (rangeList B Bend bc).filterMap (fun i => (rangeList A Aend ac)[i.toNat]?) := by
  have hacbc : 0 < ac * bc := Int.mul_pos hac hbc
  have hpos : ∀ j : Nat, 0 ≤ (j : Int) * bc := fun j =>
    Int.mul_nonneg (Int.natCast_nonneg j) (Int.le_of_lt hbc)
  have hring : ∀ j : Nat, A + B * ac + (j : Int) * (ac * bc) = A + (B + (j : Int) * bc) * ac := by
    intro j
    rw [Int.add_mul, Int.mul_assoc, Int.mul_comm bc ac, Int.add_assoc]
  have hlen : rangeLen (A + B * ac) Fend (ac * bc) = rangeLen B Bend bc := by
    apply nat_eq_of_lt_iff
    intro j
    rw [lt_rangeLen_pos _ _ _ hacbc, lt_rangeLen_pos _ _ _ hbc, hring]
    exact (hwin _ (by have := hpos j; omega)).symm
  rw [filterMap_rangeList]
  · conv => lhs; unfold rangeList
    rw [hlen]
    apply List.map_congr_left
    intro j _
    exact hring j
  · intro j hj
    have h1 := (lt_rangeLen_pos B Bend bc hbc j).mp hj
    have := hpos j
    omega

end Dask.Lemmas.SliceAlgebra

namespace Dask.Py
open Dask.Lemmas.SliceAlgebra

theorem rangeLen_one (a b : Int) : rangeLen a b 1 = (b - a).toNat := by
  unfold rangeLen
  simp
  omega

theorem rangeList_one (a b : Int) :
    rangeList a b 1 = (List.range (b - a).toNat).map (fun i : Nat => a + (i : Int)) := by
  simp [rangeList, rangeLen_one]

theorem rangeList_self (a : Int) : rangeList a a 1 = [] := by simp [rangeList_one]

theorem rangeList_singleton (a : Int) : rangeList a (a + 1) 1 = [a] := by
  rw [rangeList_one, Int.add_comm a 1, Int.add_sub_cancel]
  exact congrArg (· :: []) (Int.add_zero a)

theorem length_rangeList_one (a b : Int) : (rangeList a b 1).length = (b - a).toNat := by
  rw [length_rangeList, rangeLen_one]

theorem mem_rangeList_one (a b i : Int) : i ∈ rangeList a b 1 ↔ a ≤ i ∧ i < b := by
  rw [rangeList_one]
  simp only [List.mem_map, List.mem_range]
  constructor
  · rintro ⟨j, hj, rfl⟩; omega
  · intro h; exact ⟨(i - a).toNat, by omega, by omega⟩

theorem rangeList_append_one (a b c : Int) (hab : a ≤ b) (hbc : b ≤ c) :
    rangeList a b 1 ++ rangeList b c 1 = rangeList a c 1 := by
  have h : (c - a).toNat = (b - a).toNat + (c - b).toNat := by omega
  rw [rangeList_one, rangeList_one, rangeList_one, h, List.range_add, List.map_append,
    List.map_map]
  congr 1
  apply List.map_congr_left
  intro i _
  simp; omega

theorem rangeList_one_getD (a b : Int) (q : Nat) (hq : q < (rangeList a b 1).length) :
    (rangeList a b 1).getD q 0 = a + q := by
  rw [getD_eq_getElem _ _ _ hq, getElem_rangeList, Int.mul_one]

end Dask.Py

namespace Dask.Lemmas.Rank
open Dask.Py Dask.Lemmas.SliceAlgebra

theorem nodup_rangeList (a b c : Int) (hc : c ≠ 0) : (rangeList a b c).Nodup := by
  unfold rangeList
  refine List.Pairwise.map _ (fun i j hij e => hij ?_) List.nodup_range
  have e' : ((i : Int) - j) * c = 0 := by rw [Int.sub_mul]; omega
  rcases Int.mul_eq_zero.mp e' with h | h
  · omega
  · exact absurd h hc

theorem rank_rangeList (a b c p : Int) (hc : c ≠ 0) (k : Nat)
    (hk : k < rangeLen a b c) (hp : p = a + (k : Int) * c) :
    (rangeList a b c).findIdx? (· == p) = some k := by
  rw [rank_nodup _ (nodup_rangeList a b c hc), getElem?_rangeList, if_pos hk, hp]

theorem rank_reverse_rangeList (a b c p : Int) (hc : c ≠ 0) (k : Nat)
    (hk : k < rangeLen a b c) (hp : p = a + (k : Int) * c) :
    (rangeList a b c).reverse.findIdx? (· == p) = some (rangeLen a b c - 1 - k) := by
  rw [rank_nodup _ (List.pairwise_reverse.mpr ((nodup_rangeList a b c hc).imp Ne.symm)),
    List.getElem?_reverse (by rw [length_rangeList]; omega), length_rangeList,
    show rangeLen a b c - 1 - (rangeLen a b c - 1 - k) = k by omega,
    getElem?_rangeList, if_pos hk, hp]

theorem rank_rangeList_none (a b c p : Int)
    (h : ∀ k : Nat, k < rangeLen a b c → p ≠ a + (k : Int) * c) :
    (rangeList a b c).findIdx? (· == p) = none :=
  (rank_none _ p).mpr fun hp =>
    let ⟨k, hk, e⟩ := (mem_rangeList a b c p).mp hp
    h k hk e

end Dask.Lemmas.Rank

namespace Dask.Lemmas.Progression
open Dask.Py Dask.Lemmas.SliceAlgebra

theorem mem_rangeList_pos {S T c x : Int} (hc : 0 < c) :
    x ∈ rangeList S T c ↔ S ≤ x ∧ x < T ∧ (x - S) % c = 0 := by
  rw [mem_rangeList]
  constructor
  · rintro ⟨i, hi, rfl⟩
    rw [lt_rangeLen_pos _ _ _ hc] at hi
    have h0 : 0 ≤ (i : Int) * c := Int.mul_nonneg (Int.natCast_nonneg i) (Int.le_of_lt hc)
    refine ⟨by omega, hi, ?_⟩
    have e : S + (i : Int) * c - S = (i : Int) * c := by omega
    rw [e, Int.mul_emod_left]
  · rintro ⟨h1, h2, h3⟩
    have hx : (x - S) / c * c = x - S := Int.ediv_mul_cancel (Int.dvd_of_emod_eq_zero h3)
    have hq0 : 0 ≤ (x - S) / c := Int.ediv_nonneg (by omega) (Int.le_of_lt hc)
    refine ⟨((x - S) / c).toNat, ?_, ?_⟩
    · rw [lt_rangeLen_pos _ _ _ hc, Int.toNat_of_nonneg hq0, hx]
      omega
    · rw [Int.toNat_of_nonneg hq0, hx]
      omega

theorem rangeList_sorted {S T c : Int} (hc : 0 < c) : (rangeList S T c).Pairwise (· < ·) := by
  unfold rangeList
  rw [List.pairwise_map]
  refine List.Pairwise.imp ?_ List.pairwise_lt_range
  intro a b hab
  have : (a : Int) * c < (b : Int) * c := Int.mul_lt_mul_of_pos_right (by omega) hc
  omega

theorem rangeList_shift (x y c a : Int) :
    (rangeList x y c).map (· + a) = rangeList (x + a) (y + a) c := by
  unfold rangeList
  have hl : rangeLen (x + a) (y + a) c = rangeLen x y c := by
    unfold rangeLen
    have e1 : y + a - (x + a) - 1 = y - x - 1 := by omega
    have e2 : x + a - (y + a) - 1 = x - y - 1 := by omega
    have e3 : (x + a < y + a) = (x < y) := by simp
    have e4 : (y + a < x + a) = (y < x) := by simp
    simp only [e1, e2, e3, e4]
  rw [hl, List.map_map]
  apply List.map_congr_left
  intro i _
  simp only [Function.comp]
  omega

theorem ceilDiv_toNat (st T c : Int) (hc : 0 < c) : (ceilDiv (T - st) c).toNat = rangeLen st T c :=
  nat_eq_of_lt_iff fun i => by
    rw [Int.lt_toNat, lt_ceilDiv _ _ hc, lt_rangeLen_pos _ _ _ hc]; omega

theorem ceilDiv_rangeLen {st T c : Int} (hc : 0 < c) (h : -c < T - st) :
    ceilDiv (T - st) c = (rangeLen st T c : Int) := by
  have := (lt_ceilDiv (T - st) c hc (-1)).mpr (by omega)
  rw [← ceilDiv_toNat st T c hc]; omega

theorem lt_of_lt_rangeLen {a b c : Int} (hc : 0 < c) {i : Nat} (h : i < rangeLen a b c) : a < b :=
  Int.not_le.mp fun hba => absurd h (by rw [rangeLen_eq_zero_pos hc hba]; exact Nat.not_lt_zero i)

/-- local offset, in the block starting at `base`, of the first entry at or after `base`: the running `start` of
`_slice_1d`, `block_index.start` of `setitem_array_expr`. -/
def relStart (S base c : Int) : Int := if base ≤ S then S - base else (S - base) % c

theorem relStart_nonneg {S base c : Int} (hc : 0 < c) : 0 ≤ relStart S base c := by
  unfold relStart
  split
  · omega
  · exact Int.emod_nonneg _ (by omega)

theorem relStart_le {S base c : Int} (hc : 0 < c) : relStart S base c ≤ max (S - base) (c - 1) := by
  unfold relStart
  split
  · omega
  · have := Int.emod_lt_of_pos (S - base) hc
    omega

theorem relStart_rank {S base c : Int} (hc : 0 < c) :
    base + relStart S base c = S + (rangeLen S base c : Int) * c := by
  unfold relStart
  split
  · rename_i h
    rw [rangeLen_eq_zero_pos hc h]; omega
  · -- `rangeLen S base c = ⌈(base - S) / c⌉ = -((S - base) / c)`
    rw [← ceilDiv_rangeLen hc (by omega), ceilDiv, pyDiv_pos _ _ hc, Int.neg_sub, Int.neg_mul]
    have := Int.emod_add_mul_ediv (S - base) c
    rw [Int.mul_comm] at this
    omega

theorem block_rank {S E c base len q : Int} (hc : 0 < c) (hq0 : 0 ≤ q) (hq1 : q < len) (r : Nat) :
    (base + q = S + (r : Int) * c ∧ base + q < E) ↔
      ∃ j : Nat, r = rangeLen S base c + j ∧ q = relStart S base c + (j : Int) * c ∧
        q < min (E - base) len := by
  have hf := relStart_rank (S := S) (base := base) hc
  constructor
  · rintro ⟨hr, hE⟩
    -- `base ≤ S + r * c`, so `r` is not among the ranks before the block
    have hk : rangeLen S base c ≤ r := Nat.le_of_not_lt fun h =>
      absurd ((lt_rangeLen_pos S base c hc r).mp h) (by omega)
    refine ⟨r - rangeLen S base c, (Nat.add_sub_cancel' hk).symm, ?_, Int.lt_min.mpr ⟨by omega, hq1⟩⟩
    rw [Int.natCast_sub hk, Int.sub_mul]
    omega
  · rintro ⟨j, rfl, hj, hlt⟩
    have := Int.lt_min.mp hlt
    rw [Int.natCast_add, Int.add_mul]
    omega

end Dask.Lemmas.Progression
