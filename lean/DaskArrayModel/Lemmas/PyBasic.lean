/-
Basic facts about the Python primitives of `Py/Basic.lean` (`pyDiv`, `pyMod`, `ceilDiv`, `isum`, `cumsum`, `bisect`,
`partitionAll`; `range` is in Lemmas/Progression.lean).  Declared in `Dask.Py`, so a file that opens `Dask.Py` for the
primitives sees these too, and with them the `List` facts of Lemmas/ListBasic.lean.  Core Lean only.
-/
import DaskArrayModel.Py.Basic
import DaskArrayModel.Lemmas.ListBasic
namespace Dask.Py

theorem pyDiv_pos (a b : Int) (hb : 0 < b) : pyDiv a b = a / b := by simp [pyDiv, hb]

theorem pyDiv_zero (a : Int) : pyDiv a 0 = 0 := by simp [pyDiv]

theorem pyMod_pos (a b : Int) (hb : 0 < b) : pyMod a b = a % b := by simp [pyMod, hb]

theorem pyMod_neg (x c : Int) (hc : c < 0) : pyMod x c = -((-x) % (-c)) := by
  unfold pyMod
  have h1 : ¬ c > 0 := by omega
  simp [h1, hc]

theorem pyMod_neg_bounds (x c : Int) (hc : c < 0) : c < pyMod x c ∧ pyMod x c ≤ 0 := by
  rw [pyMod_neg x c hc]
  have h1 := Int.emod_nonneg (-x) (b := -c) (by omega)
  have h2 := Int.emod_lt_of_pos (-x) (b := -c) (by omega)
  omega

theorem pyMod_neg_add_self (x c : Int) (hc : c < 0) : pyMod (x + c) c = pyMod x c := by
  rw [pyMod_neg _ c hc, pyMod_neg _ c hc]
  have : -(x + c) = -x + -c := by omega
  rw [this, Int.add_emod_right]

theorem pyMod_neg_small (x c : Int) (hc : c < 0) (h1 : c < x) (h2 : x ≤ 0) : pyMod x c = x := by
  rw [pyMod_neg _ c hc, Int.emod_eq_of_lt (by omega) (by omega)]
  omega

theorem ceilDiv_neg_neg (x c : Int) (hc : c < 0) : ceilDiv x c = ceilDiv (-x) (-c) := by
  unfold ceilDiv pyDiv
  rw [if_neg (Int.lt_asymm hc), if_pos hc, if_pos (Int.neg_pos_of_neg hc)]

theorem lt_ceilDiv (D c : Int) (hc : 0 < c) (i : Int) : i < ceilDiv D c ↔ i * c < D := by
  have := @Int.ediv_lt_iff_lt_mul (-D) (-i) c hc
  rw [Int.neg_mul] at this
  unfold ceilDiv
  rw [pyDiv_pos _ _ hc]
  omega

theorem isum_append (a b : List Int) : isum (a ++ b) = isum a + isum b := by
  induction a with
  | nil => simp [isum]
  | cons x xs ih => simp only [List.cons_append, isum, ih]; omega

theorem isum_nonneg (l : List Int) (h : ∀ x ∈ l, 0 ≤ x) : 0 ≤ isum l := by
  induction l with
  | nil => exact Int.le_refl 0
  | cons x xs ih =>
    have h1 := h x (List.mem_cons_self ..)
    have h2 := ih (fun y hy => h y (List.mem_cons_of_mem _ hy))
    simp only [isum]; omega

theorem isum_eq_zero_iff : ∀ c : List Int, (∀ x ∈ c, 0 ≤ x) → (isum c = 0 ↔ ∀ x ∈ c, x = 0)
  | [], _ => by simp [isum]
  | y :: ys, h => by
    have h1 := h y List.mem_cons_self
    have h2 := isum_nonneg ys (fun z hz => h z (List.mem_cons_of_mem _ hz))
    rw [List.forall_mem_cons, ← isum_eq_zero_iff ys (fun z hz => h z (List.mem_cons_of_mem _ hz)), isum]
    omega

theorem isum_replicate (k : Nat) (c : Int) : isum (List.replicate k c) = (k : Int) * c := by
  induction k with
  | zero => simp [isum]
  | succ k ih =>
    simp only [List.replicate_succ, isum, ih]
    rw [Int.natCast_succ, Int.add_mul]; omega

theorem sum_map_toNat : ∀ (l : List Int), (∀ x ∈ l, 0 ≤ x) → ((l.map Int.toNat).sum : Int) = isum l
  | [], _ => rfl
  | x :: xs, h => by
    have h1 := h x List.mem_cons_self
    have ih := sum_map_toNat xs (fun y hy => h y (List.mem_cons_of_mem _ hy))
    simp only [List.map_cons, List.sum_cons, isum]
    omega

theorem isum_take_succ (l : List Int) (k : Nat) :
    isum (l.take (k + 1)) = isum (l.take k) + l.getD k 0 := by
  rw [List.take_add_one, isum_append]
  cases h : l[k]? <;> simp [List.getD_eq_getElem?_getD, h, isum]

theorem isum_take_le (l : List Int) (h : ∀ x ∈ l, 0 ≤ x) {i j : Nat} (hij : i ≤ j) :
    isum (l.take i) ≤ isum (l.take j) := by
  induction j with
  | zero => rw [Nat.le_zero.mp hij]; exact Int.le_refl _
  | succ j ih =>
    rcases Nat.lt_or_ge i (j + 1) with hlt | hge
    · have := ih (Nat.le_of_lt_succ hlt)
      have h1 := isum_take_succ l j
      have h2 := getD_nonneg l h j
      omega
    · rw [Nat.le_antisymm hij hge]; exact Int.le_refl _

theorem cumsumFrom_length : ∀ (l : List Int) (acc : Int), (cumsumFrom acc l).length = l.length
  | [], _ => rfl
  | x :: xs, acc => by simp [cumsumFrom, cumsumFrom_length xs]

theorem cumsum_length (l : List Int) : (cumsum l).length = l.length := cumsumFrom_length l 0

theorem cumsumFrom_getD : ∀ (l : List Int) (acc : Int) (j : Nat), j < l.length →
    (cumsumFrom acc l).getD j 0 = acc + isum (l.take (j + 1))
  | [], _, _, h => by simp at h
  | x :: xs, acc, 0, _ => by simp [cumsumFrom, isum]
  | x :: xs, acc, j + 1, h => by
    have := cumsumFrom_getD xs (acc + x) j (by simpa using h)
    simp only [cumsumFrom, List.getD_cons_succ, this, List.take_succ_cons, isum]
    omega

theorem bisectRight_le : ∀ (l : List Int) (x : Int), bisectRight l x ≤ l.length
  | [], _ => by simp [bisectRight]
  | y :: ys, x => by
    unfold bisectRight
    split
    · omega
    · have := bisectRight_le ys x; simp; omega

theorem bisectRight_spec : ∀ (l : List Int) (x : Int) (j : Nat),
    j < bisectRight l x → l.getD j 0 ≤ x
  | [], _, _, h => by simp [bisectRight] at h
  | y :: ys, x, j, h => by
    unfold bisectRight at h
    split at h
    · omega
    · cases j with
      | zero => simp; omega
      | succ j => simpa using bisectRight_spec ys x j (by omega)

theorem bisectRight_gt : ∀ (l : List Int) (x : Int), bisectRight l x < l.length →
    x < l.getD (bisectRight l x) 0
  | [], _, h => by simp at h
  | y :: ys, x, h => by
    unfold bisectRight at h ⊢
    split
    · simpa
    · rename_i hxy
      rw [if_neg hxy] at h
      simpa using bisectRight_gt ys x (by simpa using h)

theorem bisectRight_unique : ∀ (l : List Int) (x : Int) (k : Nat), k ≤ l.length →
    (∀ j, j < k → l.getD j 0 ≤ x) → (k < l.length → x < l.getD k 0) → bisectRight l x = k
  | [], _, k, hk, _, _ => by rw [Nat.le_zero.mp hk]; rfl
  | y :: ys, x, 0, _, _, h2 => by
    unfold bisectRight
    exact if_pos (h2 (Nat.zero_lt_succ _))
  | y :: ys, x, k + 1, hk, h1, h2 => by
    have hy : y ≤ x := h1 0 (Nat.zero_lt_succ k)
    unfold bisectRight
    rw [if_neg (Int.not_lt.mpr hy), bisectRight_unique ys x k (Nat.le_of_succ_le_succ hk)
      (fun j hj => h1 (j + 1) (Nat.succ_lt_succ hj)) (fun hlt => h2 (Nat.succ_lt_succ hlt))]

theorem bisectRight_mono (l : List Int) {x y : Int} (h : x ≤ y) : bisectRight l x ≤ bisectRight l y := by
  induction l with
  | nil => exact Nat.le_refl _
  | cons a l ih =>
    unfold bisectRight
    by_cases hx : x < a
    · rw [if_pos hx]
      exact Nat.zero_le _
    · rw [if_neg hx, if_neg (by omega)]
      exact Nat.succ_le_succ ih

theorem bisectLeft_ge : ∀ (l : List Int) (x : Int),
    bisectLeft l x < l.length → x ≤ l.getD (bisectLeft l x) 0
  | [], _, h => by simp at h
  | y :: ys, x, h => by
    unfold bisectLeft at h ⊢
    split
    · simpa
    · rename_i hxy
      rw [if_neg hxy] at h
      simpa using bisectLeft_ge ys x (by simpa using h)

theorem partitionAll_nil {α} (k : Nat) : partitionAll k ([] : List α) = [] := by
  rw [partitionAll]; simp

theorem partitionAll_step {α} {k : Nat} {xs : List α} (hk : 0 < k) (hx : xs ≠ []) :
    partitionAll k xs = xs.take k :: partitionAll k (xs.drop k) := by
  rw [partitionAll]
  have : ¬ (k = 0 ∨ xs = []) := by
    intro h; cases h with
    | inl h => omega
    | inr h => exact hx h
  simp [this]

theorem partitionAll_flatten {α} {k : Nat} (hk : 0 < k) (xs : List α) :
    (partitionAll k xs).flatten = xs := by
  fun_induction partitionAll k xs with
  | case1 xs h => exact (h.resolve_left (Nat.ne_of_gt hk)).symm
  | case2 xs h _ ih => rw [List.flatten_cons, ih, List.take_append_drop]

theorem partitionAll_parts {α} {k : Nat} (hk : 0 < k) (xs : List α) :
    ∀ p ∈ partitionAll k xs, p ≠ [] ∧ p.length ≤ k := by
  fun_induction partitionAll k xs with
  | case1 xs h => exact fun p hp => nomatch hp
  | case2 xs h _ ih =>
    intro p hp
    rcases List.mem_cons.mp hp with rfl | hp
    · have hpos : 0 < xs.length := List.length_pos_iff.mpr (fun e => h (Or.inr e))
      rw [← List.length_pos_iff, List.length_take]
      omega
    · exact ih p hp

theorem nat_ceilDiv_step {n k : Nat} (hk : 0 < k) (hn : 0 < n) : (n + k - 1) / k = (n - k + k - 1) / k + 1 := by
  by_cases hle : n ≤ k
  · rw [Nat.sub_eq_zero_of_le hle, Nat.zero_add, Nat.div_eq_of_lt (Nat.sub_lt hk Nat.one_pos)]
    exact Nat.div_eq_of_lt_le (by omega) (by omega)
  · rw [← Nat.add_div_right _ hk]
    congr 1
    omega

theorem partitionAll_length {α} {k : Nat} (hk : 0 < k) (xs : List α) :
    (partitionAll k xs).length = (xs.length + k - 1) / k := by
  fun_induction partitionAll k xs with
  | case1 xs h =>
    rw [h.resolve_left (Nat.ne_of_gt hk), List.length_nil, List.length_nil, Nat.zero_add,
      Nat.div_eq_of_lt (Nat.sub_lt hk Nat.one_pos)]
  | case2 xs h _ ih =>
    rw [List.length_cons, ih, List.length_drop,
      nat_ceilDiv_step hk (List.length_pos_iff.mpr (fun e => h (Or.inr e)))]

theorem partitionAll_ne_nil {α} {k : Nat} (hk : 0 < k) {xs : List α} (hx : xs ≠ []) :
    partitionAll k xs ≠ [] := by
  rw [partitionAll_step hk hx]; simp

theorem partitionAll_short {α} {k : Nat} {xs : List α} (hx : xs ≠ []) (hl : xs.length ≤ k) :
    partitionAll k xs = [xs] := by
  have hpos : 0 < xs.length := List.length_pos_iff.mpr hx
  have hk : 0 < k := by omega
  rw [partitionAll_step hk hx, List.take_of_length_le hl, List.drop_of_length_le hl,
    partitionAll_nil]

theorem partitionAll_map {α β} {k : Nat} (hk : 0 < k) (f : α → β) (xs : List α) :
    partitionAll k (xs.map f) = (partitionAll k xs).map (List.map f) := by
  fun_induction partitionAll k xs with
  | case1 xs h => rw [h.resolve_left (Nat.ne_of_gt hk)]; exact partitionAll_nil k
  | case2 xs h _ ih =>
    rw [partitionAll_step hk (mt List.map_eq_nil_iff.mp fun e => h (Or.inr e)), List.map_cons, ← List.map_drop, ih,
      List.map_take]

theorem partitionAll_one {α} (xs : List α) : partitionAll 1 xs = xs.map (fun x => [x]) := by
  induction xs with
  | nil => simp [partitionAll_nil]
  | cons x r ih =>
    rw [partitionAll_step (by decide) (by simp)]
    simp [ih]

end Dask.Py
