/-
`x[idx]` and `.blocks[idx]` for the normal form of an index (`Norm`, Lemmas/NormalizeIndex.lean), one fact per
kind of item by rule induction: the pieces the per-axis `_slice_1d` plans read are the positions NumPy selects,
`new_blockdim` advertises their lengths, `ExpandDims` after `SliceSlicesIntegers` gives `outChunks`, and `.blocks`
selects as NumPy does on `arange(numblocks)`.
-/
import DaskArrayModel.Lemmas.NormalizeIndex
import DaskArrayModel.Lemmas.Slice1dNeg
namespace Dask.Lemmas.Indexing
open Dask.Py Dask.Py.PySlice Dask.Slicing Dask.Indexing

theorem slice1dInt_spec (L : List Int) (i : Int)
    (h0 : 0 ≤ i) (h1 : i < isum L) :
    (slice1dInt L i).1 < L.length ∧ 0 ≤ (slice1dInt L i).2 ∧
      (slice1dInt L i).2 < L.getD (slice1dInt L i).1 0 ∧
      blockStart L (slice1dInt L i).1 + (slice1dInt L i).2 = i := by
  obtain ⟨ib, e⟩ := Slice1dPos.slice1dInt_inBlock L h0 h1
  rw [e]
  exact ⟨ib.lt, ib.off_nonneg, ib.off_lt, by omega⟩

theorem axisPieces_slc (lengths : List Int) (s0 : PySlice) (hl : ∀ c ∈ lengths, 0 ≤ c)
    (hs : s0.stp ≠ 0) :
    (axisPieces lengths (.slc (normalizeSlice s0 (isum lengths)))).flatten = sel s0 (isum lengths) := by
  rw [axisPieces, ← List.flatMap_def, ← planPositions, SliceAlgebra.normalizeSlice_stp s0 _]
  exact (Slice1d.slice1d_spec lengths s0 hl hs).1

theorem planLengths_eq_pieces (lengths : List Int) (plan : List (Nat × PySlice)) :
    planLengths lengths plan =
      (plan.map (fun p => (sel p.2 (lengths.getD p.1 0)).map (· + blockStart lengths p.1))).map
        (fun q => (q.length : Int)) := by
  unfold planLengths
  rw [List.map_map]
  apply List.map_congr_left
  intro p _
  simp

theorem newBlockdim_slc (lengths : List Int) (s0 : PySlice) (hl : ∀ c ∈ lengths, 0 ≤ c)
    (hs : s0.stp ≠ 0) :
    isum (newBlockdim (isum lengths) lengths (normalizeSlice s0 (isum lengths))) =
        ((sel s0 (isum lengths)).length : Int) ∧
    (sel s0 (isum lengths) ≠ [] →
      newBlockdim (isum lengths) lengths (normalizeSlice s0 (isum lengths)) =
        (axisPieces lengths (.slc (normalizeSlice s0 (isum lengths)))).map (fun q => (q.length : Int))) := by
  rw [axisPieces, SliceAlgebra.normalizeSlice_stp s0 _, ← planLengths_eq_pieces]
  obtain ⟨h1, h2, _⟩ := Slice1d.slice1d_spec lengths s0 hl hs
  exact ⟨by rw [h2, Slice1dPos.isum_planLengths, h1], fun _ => h2⟩

variable {l idx' : List Ix} {chunks : List (List Int)} {r : List (List Int) × List Nat}

theorem Norm.axesRead (h : Norm isum l chunks idx' r) (hc : ∀ l ∈ chunks, ∀ c ∈ l, 0 ≤ c)
    (hl : ∀ x ∈ idx', ¬ x.isLst = true) :
    (List.zipWith axisPieces chunks (idx'.filter (fun i => !i.isNone))).map List.flatten = r.1 := by
  induction h with
  | nil cs => cases cs <;> rfl
  | none _ ih => exact ih hc (List.forall_mem_cons.mp hl).2
  | @int _ lengths _ _ _ _ hb _ ih =>
    have hp := posifyInt_bounds hb
    -- the head is `(axisPieces lengths (.int i)).flatten`, by definition `[blockStart lengths b + o]` for
    -- `(b, o) = slice1dInt lengths i`, and `r.1`'s head is `[i]`
    exact List.cons_eq_cons.mpr ⟨congrArg (fun a => [a]) (slice1dInt_spec lengths _ hp.1 hp.2).2.2.2,
      ih (List.forall_mem_cons.mp hc).2 (List.forall_mem_cons.mp hl).2⟩
  | @slc s lengths _ _ _ _ hz _ ih =>
    have hc := List.forall_mem_cons.mp hc
    exact List.cons_eq_cons.mpr ⟨axisPieces_slc lengths s hc.1 hz, ih hc.2 (List.forall_mem_cons.mp hl).2⟩
  | lst _ _ _ => exact absurd rfl (List.forall_mem_cons.mp hl).1

theorem Norm.chunksAgree (h : Norm isum l chunks idx' r) (hc : ∀ l ∈ chunks, ∀ c ∈ l, 0 ≤ c) :
    ChunksAgree chunks (idx'.filter (fun i => !i.isNone)) := by
  induction h with
  | nil cs => cases cs <;> trivial
  | none _ ih => exact ih hc
  | int _ _ ih => exact ih (List.forall_mem_cons.mp hc).2
  | @slc s lengths _ _ _ _ hz _ ih =>
    have hc := List.forall_mem_cons.mp hc
    -- the head of `ChunksAgree` speaks of `(axisPieces lengths (.slc _)).flatten`, `newBlockdim_slc` of the positions
    -- `sel s (isum lengths)`: the goal is rewritten from the first to the second
    exact ⟨axisPieces_slc lengths s hc.1 hz ▸ newBlockdim_slc lengths s hc.1 hz, ih hc.2⟩
  | lst _ _ ih => exact ih (List.forall_mem_cons.mp hc).2

/-- per axis, the `index_maps` of `.blocks` are NumPy's selection of `arange(numblocks)` and
name existing blocks. -/
theorem Norm.blocksMaps (h : Norm (fun c : List Int => (c.length : Int)) l chunks idx' r)
    (h0 : ∀ x ∈ idx', ¬ x.isNone = true) :
    List.zipWith (fun c i => blockSel (c.length : Int) i) chunks (idx'.map keepDim) = r.1 ∧
      ∀ p ∈ List.zip chunks r.1, ∀ b ∈ p.2, 0 ≤ b ∧ b < (p.1.length : Int) := by
  induction h with
  | nil cs => cases cs <;> exact ⟨rfl, fun p hp => nomatch hp⟩
  | none _ _ => exact absurd rfl (h0 _ (List.mem_cons_self ..))
  | int hb _ ih =>
    have ih := ih (fun y hy => h0 y (List.mem_cons_of_mem _ hy))
    have hp := posifyInt_bounds hb
    exact ⟨List.cons_eq_cons.mpr ⟨SliceAlgebra.sel_point _ _ hp.1 hp.2, ih.1⟩,
      List.forall_mem_cons.mpr ⟨fun b hb => (List.mem_singleton.mp hb).symm ▸ hp, ih.2⟩⟩
  | @slc s _ _ _ _ _ hz _ ih =>
    have ih := ih (fun y hy => h0 y (List.mem_cons_of_mem _ hy))
    exact ⟨List.cons_eq_cons.mpr ⟨SliceAlgebra.sel_normalizeSlice s _ (Int.natCast_nonneg _) hz, ih.1⟩,
      List.forall_mem_cons.mpr ⟨SliceAlgebra.sel_bounds _ _ (Int.natCast_nonneg _), ih.2⟩⟩
  | lst hv _ ih =>
    have ih := ih (fun y hy => h0 y (List.mem_cons_of_mem _ hy))
    exact ⟨congrArg (List.cons _) ih.1, List.forall_mem_cons.mpr ⟨posifyInt_map_bounds hv, ih.2⟩⟩

theorem Norm.outShape (h : Norm isum l chunks idx' r) (hc : ∀ l ∈ chunks, ∀ c ∈ l, 0 ≤ c)
    (hl : ∀ x ∈ idx', ¬ x.isLst = true) :
    r.2 = (outChunks chunks idx').map (fun c => (isum c).toNat) := by
  induction h with
  | nil cs => cases cs <;> rfl
  | none _ ih =>
    exact congrArg (List.cons 1) (ih hc (List.forall_mem_cons.mp hl).2)
  | int _ _ ih => exact ih (List.forall_mem_cons.mp hc).2 (List.forall_mem_cons.mp hl).2
  | @slc s lengths _ _ _ _ hz _ ih =>
    have hc := List.forall_mem_cons.mp hc
    refine List.cons_eq_cons.mpr ⟨?_, ih hc.2 (List.forall_mem_cons.mp hl).2⟩
    show _ = (isum _).toNat
    rw [(newBlockdim_slc lengths s hc.1 hz).1, Int.toNat_natCast]
  | lst _ _ _ => exact absurd rfl (List.forall_mem_cons.mp hl).1

theorem insertAt_length_append {α} (pre X : List α) (a : α) :
    insertAt (pre ++ X) pre.length a = (pre ++ [a]) ++ X := by
  unfold insertAt
  simp

/-- `ExpandDims(SliceSlicesIntegers(x, index without None), where_none)` has the chunks
`outChunks` writes down directly: generalised over the output axes `pre` already produced. -/
theorem expandDims_whereNone (h : Norm isum l chunks idx' r) (hl : ∀ x ∈ idx', ¬ x.isLst = true)
    (pre : List (List Int)) (pos ints : Nat) (hi : ints ≤ pos) (hp : pre.length = pos - ints) :
    (whereNoneFrom pos ints idx').foldl (fun c ax => insertAt c ax [1])
        (pre ++ ssiChunks chunks (idx'.filter (fun i => !i.isNone)))
      = pre ++ outChunks chunks idx' := by
  induction h generalizing pre pos ints with
  | nil cs => cases cs <;> rfl
  | none _ ih =>
    rw [List.filter_cons_of_neg Bool.false_ne_true]
    show (whereNoneFrom (pos + 1) ints _).foldl _ (insertAt (pre ++ _) (pos - ints) [1]) = pre ++ [1] :: outChunks _ _
    rw [← hp, insertAt_length_append,
      ih (List.forall_mem_cons.mp hl).2 (pre ++ [[1]]) (pos + 1) ints (Nat.le_succ_of_le hi)
        (by rw [List.length_append, List.length_singleton, hp, Nat.sub_add_comm hi]),
      List.append_assoc]
    rfl
  | int _ _ ih =>
    rw [List.filter_cons_of_pos rfl]
    exact ih (List.forall_mem_cons.mp hl).2 pre (pos + 1) (ints + 1) (Nat.succ_le_succ hi)
      (hp.trans (Nat.add_sub_add_right pos 1 ints).symm)
  | @slc s lengths _ _ _ _ _ _ ih =>
    rw [List.filter_cons_of_pos rfl]
    have ih := ih (List.forall_mem_cons.mp hl).2
      (pre ++ [newBlockdim (isum lengths) lengths (normalizeSlice s (isum lengths))]) (pos + 1) ints
      (Nat.le_succ_of_le hi) (by rw [List.length_append, List.length_singleton, hp, Nat.sub_add_comm hi])
    rw [List.append_assoc, List.append_assoc] at ih
    exact ih
  | lst _ _ _ => exact absurd rfl (List.forall_mem_cons.mp hl).1

end Dask.Lemmas.Indexing
