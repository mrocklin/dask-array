/-
Folds of possibly-empty lists with an associative operation (`ofold`, `oop` of Model/ScanSpec.lean): the fold of a
concatenation is the `oop` of the folds, so folding block by block is folding the concatenation.  Used by the scan
layers (Lemmas/Scan.lean, whose namespace `Dask.Lemmas.Scan` these lemmas share) and the window plans
(Lemmas/Window.lean).  Core Lean only.
-/
import DaskArrayModel.Model.ScanSpec
namespace Dask.Lemmas.Scan
open Dask.Scan

variable {β : Type}

theorem oop_none_right (op : β → β → β) (x : Option β) : oop op x none = x := by
  cases x <;> rfl

theorem oop_none_left (op : β → β → β) (x : Option β) : oop op none x = x := rfl

theorem oop_assoc {op : β → β → β} (hop : Assoc op) (x y z : Option β) :
    oop op (oop op x y) z = oop op x (oop op y z) := by
  cases x <;> cases y <;> cases z <;> simp [oop, hop _ _ _]

theorem ofold_append {op : β → β → β} (hop : Assoc op) (xs ys : List β) :
    ofold op (xs ++ ys) = oop op (ofold op xs) (ofold op ys) := by
  cases xs with
  | nil => rfl
  | cons x xs =>
    cases ys with
    | nil => simp [ofold, oop]
    | cons y ys =>
      simp only [List.cons_append, ofold, oop, List.foldl_append, List.foldl_cons]
      rw [← List.foldl_assoc (ha := ⟨hop⟩)]

theorem ofold_cons {op : β → β → β} (hop : Assoc op) (x : β) (xs : List β) :
    ofold op (x :: xs) = oop op (some x) (ofold op xs) := by
  have := ofold_append hop [x] xs
  simpa [ofold] using this

theorem foldl_oop_flatten {op : β → β → β} (hop : Assoc op) (ls : List (List β)) (acc : Option β) :
    ls.foldl (fun a l => oop op a (ofold op l)) acc = oop op acc (ofold op ls.flatten) := by
  induction ls generalizing acc with
  | nil => exact (oop_none_right op acc).symm
  | cons l ls ih =>
    rw [List.foldl_cons, List.flatten_cons, ih, ofold_append hop, oop_assoc hop]

theorem ofold_pieces {op : β → β → β} (hop : Assoc op) (first : List β) (mid : List (List β)) (last : List β) :
    oop op (mid.foldl (fun a blk => oop op a (ofold op blk)) (ofold op first)) (ofold op last)
      = ofold op (first ++ mid.flatten ++ last) := by
  rw [foldl_oop_flatten hop, ofold_append hop, ofold_append hop]

end Dask.Lemmas.Scan
