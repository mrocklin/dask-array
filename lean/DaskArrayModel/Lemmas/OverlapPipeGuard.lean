/-
What `overlap` establishes before the pipeline runs: `_get_overlap_rechunked_chunks` (`overlapRechunkedChunks` of
Model/Window.lean: `ensure_minimum_chunksize(max(before, after), chunks)` followed, for boundary `none`, by merging an
edge chunk that is not longer than its missing depth into its neighbour) returns chunks that cover the axis and are ALL
at least the larger depth (`Covers`, over the integers; read as the `Guard` of the pipeline theorems in
Props/C19Overlap.lean); chunks that are already longer than both depths come back unchanged (`rechunked_noop`).
Core Lean only.
-/
import DaskArrayModel.Lemmas.Window
import DaskArrayModel.Lemmas.PyBasic
namespace Dask.Lemmas.OverlapPipe
open Dask.Py Dask.Window

def Covers (size S : Int) (l : List Int) : Prop := l ≠ [] ∧ isum l = S ∧ ∀ c ∈ l, size ≤ c

theorem split_last_two : ∀ (l : List Int), 1 < l.length → ∃ m a b, l = m ++ [a, b]
  | [], h => by simp at h
  | [_], h => by simp at h
  | [a, b], _ => ⟨[], a, b, rfl⟩
  | x :: y :: z :: t, _ => by
    obtain ⟨m, a, b, h⟩ := split_last_two (y :: z :: t) (by simp)
    exact ⟨x :: m, a, b, by rw [h]; rfl⟩

/-- the first `let` of `overlapRechunkedChunks` (Model/Window.lean) -/
def mergeFront (c : List Int) (before : Int) : List Int :=
  match c with
  | c0 :: c1 :: rest => if c0 ≤ before then (c0 + c1) :: rest else c
  | _ => c

/-- the second -/
def mergeBack (c1 : List Int) (after : Int) : List Int :=
  if c1.length > 1 ∧ c1.getLastD 0 ≤ after then
    (c1.dropLast.dropLast) ++ [c1.dropLast.getLastD 0 + c1.getLastD 0]
  else c1

theorem overlapRechunkedChunks_eq (chunks : List Int) (before after : Int) (bn : Bool) :
    overlapRechunkedChunks chunks before after bn =
      match ensureMinimumChunksize (max before after) chunks with
      | none => none
      | some c => if bn then some (mergeBack (mergeFront c before) after) else some c := rfl

theorem covers_merge {size S : Int} (hs : 0 ≤ size) (pre post : List Int) (a b : Int)
    (h : Covers size S (pre ++ a :: b :: post)) : Covers size S (pre ++ (a + b) :: post) := by
  obtain ⟨_, hsum, hmin⟩ := h
  refine ⟨by simp, ?_, ?_⟩
  · rw [isum_append] at hsum ⊢
    simp only [isum] at hsum ⊢; omega
  · intro c hc
    simp only [List.mem_append, List.mem_cons] at hc
    rcases hc with hc | rfl | hc
    · exact hmin c (by simp [hc])
    · have := hmin a (by simp); have := hmin b (by simp); omega
    · exact hmin c (by simp [hc])

theorem covers_mergeFront (size S : Int) (hs : 0 ≤ size) (c : List Int) (before : Int) (h : Covers size S c) :
    Covers size S (mergeFront c before) := by
  unfold mergeFront
  split
  · next c0 c1 rest =>
    split
    · exact covers_merge hs [] rest c0 c1 h
    · exact h
  · exact h

theorem covers_mergeBack (size S : Int) (hs : 0 ≤ size) (c : List Int) (after : Int) (h : Covers size S c) :
    Covers size S (mergeBack c after) := by
  unfold mergeBack
  split
  · next hc =>
    obtain ⟨m, a, b, rfl⟩ := split_last_two c (by omega)
    have e1 : (m ++ [a, b]).dropLast = m ++ [a] := by
      rw [show m ++ [a, b] = (m ++ [a]) ++ [b] by simp, List.dropLast_concat]
    have e2 : (m ++ [a]).dropLast = m := List.dropLast_concat
    have e3 : (m ++ [a]).getLastD 0 = a := by simp [List.getLastD_eq_getLast?]
    have e4 : (m ++ [a, b]).getLastD 0 = b := by
      rw [show m ++ [a, b] = (m ++ [a]) ++ [b] by simp]; simp [List.getLastD_eq_getLast?]
    rw [e1, e2, e3, e4]
    exact covers_merge hs m [] a b h
  · exact h

theorem rechunked_covers (chunks : List Int) (before after : Int) (bn : Bool) (hne : chunks ≠ [])
    (hpos : ∀ c ∈ chunks, 0 ≤ c) (hb : 0 ≤ before) (out : List Int)
    (h : overlapRechunkedChunks chunks before after bn = some out) :
    Covers (max before after) (isum chunks) out := by
  have hs : 0 ≤ max before after := by omega
  have spec := Dask.Lemmas.Window.ensureMinimumChunksize_spec (max before after) chunks hne hpos
  rw [overlapRechunkedChunks_eq] at h
  cases hc : ensureMinimumChunksize (max before after) chunks with
  | none => rw [hc] at h; cases h
  | some c =>
    rw [hc] at h spec
    simp only at h spec
    have hcov : Covers (max before after) (isum chunks) c := ⟨spec.2.2, spec.1, spec.2.1⟩
    cases bn with
    | false => simp at h; rw [← h]; exact hcov
    | true =>
      simp only [if_true, Option.some.injEq] at h
      rw [← h]
      exact covers_mergeBack _ _ hs _ _ (covers_mergeFront _ _ hs _ _ hcov)

theorem le_foldl_min (b : Int) : ∀ (l : List Int) (a : Int), b ≤ a → (∀ c ∈ l, b ≤ c) → b ≤ l.foldl min a
  | [], _, h, _ => h
  | x :: xs, a, h, hl =>
    le_foldl_min b xs (min a x) (Int.le_min.mpr ⟨h, hl x List.mem_cons_self⟩) fun c hc =>
      hl c (List.mem_cons_of_mem x hc)

theorem rechunked_noop (chunks : List Int) (before after : Int) (bn : Bool) (hne : chunks ≠ [])
    (h : ∀ c ∈ chunks, max before after < c) : overlapRechunkedChunks chunks before after bn = some chunks := by
  have hmin : max before after ≤ lmin chunks := by
    cases chunks with
    | nil => exact absurd rfl hne
    | cons a r =>
      exact le_foldl_min _ r a (Int.le_of_lt (h a List.mem_cons_self))
        fun c hc => Int.le_of_lt (h c (List.mem_cons_of_mem a hc))
  have hfront : mergeFront chunks before = chunks := by
    unfold mergeFront
    split
    · next c0 c1 rest =>
      have := h c0 List.mem_cons_self
      exact if_neg (by omega)
    · rfl
  have hback : mergeBack chunks after = chunks := by
    have hl : chunks.getLastD 0 = chunks.getLast hne := by
      rw [List.getLastD_eq_getLast?, List.getLast?_eq_some_getLast hne]; rfl
    have := h _ (List.getLast_mem hne)
    exact if_neg fun hc => by omega
  rw [overlapRechunkedChunks_eq]
  unfold ensureMinimumChunksize
  rw [if_pos hmin]
  cases bn
  · rfl
  · simp only [if_true, hfront, hback]

end Dask.Lemmas.OverlapPipe
