/-
`Expr2.swvReduce` (sliding-window reduction, overlap plan): output block `j`, computed from
block `j` and the first `W-1` positions of block `j+1`, is the block of NumPy's
`sliding_window_view(x, W, axis).<reduce>(axis=-1)` under the chunks `c[:-1] + (c[-1] - (W-1),)`.
-/
import DaskArrayModel.Lemmas.Expr2Take
namespace Dask.ND
open Dask.Py Dask.Py.PySlice Dask.Slicing Dask.Reduce

theorem exists_concat {cs : List Nat} (h : cs ≠ []) : ∃ init last, cs = init ++ [last] :=
  ⟨_, _, (List.dropLast_concat_getLast h).symm⟩

theorem swvChunks_eq (init : List Nat) (last w : Nat) :
    swvChunks (init ++ [last]) w = init ++ [last - (w - 1)] := by
  unfold swvChunks
  rw [List.dropLast_concat, List.getLastD_concat]

theorem swvChunks_ne_nil (cs : List Nat) (w : Nat) : swvChunks cs w ≠ [] :=
  List.concat_ne_nil _ _

theorem swvChunks_length (cs : List Nat) (w : Nat) (h : cs ≠ []) : (swvChunks cs w).length = cs.length := by
  obtain ⟨init, last, rfl⟩ := exists_concat h
  rw [swvChunks_eq]; simp

theorem swvChunks_getD (cs : List Nat) (w j : Nat) (hj : j < cs.length) :
    (swvChunks cs w).getD j 0 = if j + 1 = cs.length then cs.getD j 0 - (w - 1) else cs.getD j 0 := by
  have hne : cs ≠ [] := by intro e; rw [e] at hj; simp at hj
  obtain ⟨init, last, rfl⟩ := exists_concat hne
  rw [swvChunks_eq]
  simp only [List.length_append, List.length_cons, List.length_nil] at hj ⊢
  split
  · rename_i hl
    have : j = init.length := by omega
    subst this
    rw [getD_append_right _ _ _ _ (Nat.le_refl _), getD_append_right _ _ _ _ (Nat.le_refl _), Nat.sub_self]
    rfl
  · rename_i hl
    rw [getD_append_left _ _ _ _ (by omega), getD_append_left _ _ _ _ (by omega)]

theorem swvChunks_take (cs : List Nat) (w j : Nat) (hj : j < cs.length) :
    (swvChunks cs w).take j = cs.take j := by
  have hne : cs ≠ [] := by intro e; rw [e] at hj; simp at hj
  obtain ⟨init, last, rfl⟩ := exists_concat hne
  rw [swvChunks_eq]
  simp only [List.length_append, List.length_cons, List.length_nil] at hj
  rw [List.take_append_of_le_length (by omega), List.take_append_of_le_length (by omega)]

theorem swvChunks_sum (cs : List Nat) (w : Nat) (h : cs ≠ []) (hw : 1 ≤ w) (hall : ∀ c ∈ cs, w ≤ c) :
    (swvChunks cs w).sum = cs.sum + 1 - w := by
  obtain ⟨init, last, rfl⟩ := exists_concat h
  have := hall last (by simp)
  rw [swvChunks_eq]
  simp only [List.sum_append, List.sum_cons, List.sum_nil]
  omega

theorem window_spill {x s c w oc b len : Nat} (hoc : oc = if b + 1 = len then c - (w - 1) else c)
    (hx : x < oc) (hs : s < w) (hc : ¬ x + s < c) (hb : b < len) :
    b + 1 < len ∧ x + s - c < w ∧ c + (x + s - c) = x + s := by
  have hcs : c ≤ x + s := Nat.le_of_not_lt hc
  by_cases hl : b + 1 = len
  · -- the last block: its output is shorter by `w - 1`, so the window stays inside it
    rw [if_pos hl] at hoc
    subst hoc
    have : x + s ≤ x + (w - 1) := Nat.add_le_add_left (Nat.le_sub_one_of_lt hs) x
    exact absurd (Nat.lt_of_le_of_lt this (Nat.add_lt_of_lt_sub hx)) hc
  · rw [if_neg hl] at hoc
    subst hoc
    exact ⟨Nat.lt_of_le_of_ne hb hl, Nat.sub_lt_left_of_lt_add hcs (Nat.add_lt_add hx hs), Nat.add_sub_cancel' hcs⟩

theorem window_line (r : Red) (cs : List Nat) (w : Nat) (hall : ∀ c ∈ cs, w ≤ c) (F : Nat → Int)
    (rd : Nat → Nat → Int) (j x : Nat) (hj : j < cs.length) (hx : x < (swvChunks cs w).getD j 0)
    (hrd : ∀ j' t, j' < cs.length → t < cs.getD j' 0 → rd j' t = F ((cs.take j').sum + t)) :
    r.list ((List.range w).map fun s =>
        if x + s < cs.getD j 0 then rd j (x + s) else rd (j + 1) (x + s - cs.getD j 0))
      = r.list ((List.range w).map fun s => F ((cs.take j).sum + x + s)) := by
  refine congrArg _ (List.map_congr_left ?_)
  intro s hs
  by_cases hc : x + s < cs.getD j 0
  · rw [if_pos hc, hrd j _ hj hc, Nat.add_assoc]
  · obtain ⟨hnl, hsp, hsum⟩ := window_spill (swvChunks_getD cs w _ hj) hx (List.mem_range.mp hs) hc hj
    have hcn : w ≤ cs.getD (j + 1) 0 := hall _ (getD_mem cs _ 0 hnl)
    rw [if_neg hc, hrd (j + 1) _ hnl (Nat.lt_of_lt_of_le hsp hcn),
      show (cs.take (j + 1)).sum = (cs.take j).sum + cs.getD j 0 from Layout.nstart_succ cs j, Nat.add_assoc, hsum,
      Nat.add_assoc]

theorem swv_block (env : Env) (r : Red) (e : Expr2) (w ax : Nat)
    (m1 : (chunks2 e).map List.sum = shape2 e) (m2 : NonEmptyAxes (chunks2 e))
    (hax : ax < (shape2 e).length)
    (hall : ∀ c ∈ (chunks2 e).getD ax [], w ≤ c)
    (ih : IsGrid (chunks2 e) (den2 env e) (blockDen2 env e)) :
    IsGrid (chunks2 (.swvReduce r e w ax)) (den2 env (.swvReduce r e w ax)) (blockDen2 env (.swvReduce r e w ax)) := by
  have haxc : ax < (chunks2 e).length := by rw [length_of_map_sum m1]; exact hax
  have hlen := swvChunks_length ((chunks2 e).getD ax []) w (m2.getD ax haxc)
  refine alongAxis_grid ih haxc (oc := swvChunks ((chunks2 e).getD ax []) w) (Nat.le_of_eq hlen)
    (fun j x rd => r.list ((List.range w).map fun s =>
      if x + s < ((chunks2 e).getD ax []).getD j 0 then rd j (x + s)
      else rd (j + 1) (x + s - ((chunks2 e).getD ax []).getD j 0)))
    (fun x F => r.list ((List.range w).map fun s => F (x + s))) ?_
    (fun bid => blockDen2 env (.swvReduce r e w ax) bid) (den2 env (.swvReduce r e w ax)) ?_
    (fun bid i => by simp only [set_getD_same]; rfl) (fun _ => rfl)
  · intro F rd j x hj hx hrd
    rw [hlen] at hj
    show _ = r.list _
    rw [swvChunks_take _ w j hj]
    exact window_line r _ w hall F rd j x hj hx hrd
  · intro bid hbc hj
    rw [hlen] at hj
    show (blockDen2 env e bid).shape.set ax _ = _
    rw [(ih bid hbc).1, swvChunks_getD _ w _ hj]
    rfl

end Dask.ND
