/-
The coarse rule on one axis.  `keptOut1` and `first1` read a plan as "the kept blocks and the number of the first one"
(all blocks and `0` when nothing is cut).  An accepted index gives a plan that keeps a range of existing blocks containing
every selected position and leaves on top a unit-step slice (or an integer) of the kept blocks, counted from the start of
the first one (`PlanOK`); locating such a position in the kept blocks is then one axis of the soundness theorem.
-/
import DaskArrayModel.Lemmas.CoarseSlice1D
import DaskArrayModel.Lemmas.SliceWindow
namespace Dask.Lemmas.Coarse
open Dask.Py Dask.Py.PySlice Dask.Slicing Dask.Coarse
open Dask.Lemmas.Slice1dPos
open Dask.Lemmas.SliceAlgebra (sel_stp_one sel_length_unit istart_some istop_some istart_none istop_none)

theorem srcPos1_unit (s : PySlice) (n : Int) (hs : s.stp = 1) (q : Nat) (hq : (q : Int) < s.istop n - s.istart n) :
    srcPos1 n (.slc s) q = s.istart n + q := by
  show (sel s n).getD q 0 = s.istart n + q
  rw [sel_stp_one s n hs, rangeList_one_getD _ _ _ (by rw [length_rangeList, rangeLen_one]; omega)]

def keptOut1 (oc : List Int) (pl : AxisPlan) : List Int :=
  match pl.br with
  | none => oc
  | some (f, l) => keptChunks oc f l

def first1 (pl : AxisPlan) : Nat :=
  match pl.br with
  | none => 0
  | some (f, _) => f

def brOK (n : Nat) (pl : AxisPlan) : Prop :=
  ∀ f l, pl.br = some (f, l) → f ≤ l ∧ l < n

theorem acceptAxis_colon (oc : List Int) : acceptAxis oc (.slc colon) = some ⟨none, .colon⟩ := by
  simp [acceptAxis]

theorem acceptAxis_int (oc : List Int) (hoc : ∀ c ∈ oc, 0 ≤ c) (i : Int) (h0 : -isum oc ≤ i) (h1 : i < isum oc) :
    ∃ f l : Nat, acceptAxis oc (.int i) = some ⟨some (f, l), .int ((if i ≥ 0 then i else i + isum oc) - blockStart oc f)⟩ ∧
      f ≤ l ∧ l < oc.length ∧
      blockStart oc f ≤ (if i ≥ 0 then i else i + isum oc) ∧ (if i ≥ 0 then i else i + isum oc) < blockStart oc (f + 1) := by
  generalize hp : (if i ≥ 0 then i else i + isum oc) = pos
  have hp0 : 0 ≤ pos := by rw [← hp]; split <;> omega
  have hp1 : pos < isum oc := by rw [← hp]; split <;> omega
  obtain ⟨f, l, hfb, r⟩ := findBlockRange_inside oc hoc pos (pos + 1) hp0 (by omega) (by omega)
  have hl := r.last.lt
  refine ⟨f, l, ?_, r.le, hl, r.first.start_le, r.first.lt_next⟩
  unfold acceptAxis
  simp only [hp, hfb, Int.toNat_natCast]
  rw [cum0_getD oc f (Nat.le_of_lt (Nat.lt_of_le_of_lt r.le hl))]

/-- what the rule firing on a slice other than `slice(None)` means: the kept range
`f..l` is the blocks of `start` and `stop - 1`, and the adjustment left on top counts from the start of block `f` -/
structure SliceFires (oc : List Int) (s : PySlice) (pl : AxisPlan) (f l : Nat) : Prop where
  unit : s.stp = 1
  nonempty : s.istart (isum oc) < s.istop (isum oc)
  br : pl.br = some (f, l)
  range : BlockRange oc (s.istart (isum oc)) (s.istop (isum oc)) f l
  adj : pl.adj = (if s.istart (isum oc) - blockStart oc f = 0 ∧
                     s.istop (isum oc) - blockStart oc f = blockStart oc (l + 1) - blockStart oc f
                  then Adj.colon
                  else Adj.rng (s.istart (isum oc) - blockStart oc f) (s.istop (isum oc) - blockStart oc f))

theorem acceptAxis_slc (oc : List Int) (hoc : ∀ c ∈ oc, 0 ≤ c) (s : PySlice) (hc : s ≠ colon) (pl : AxisPlan)
    (h : acceptAxis oc (.slc s) = some pl) : ∃ f l : Nat, SliceFires oc s pl f l := by
  have hd : 0 ≤ isum oc := isum_nonneg oc hoc
  unfold acceptAxis at h
  simp only [if_neg hc] at h
  by_cases hs : s.stp = 1
  · simp only [hs, ne_eq, not_true_eq_false, if_false] at h
    have hs0 : 0 < s.stp := by rw [hs]; exact Int.one_pos
    obtain ⟨s0, s1⟩ := Dask.Lemmas.SliceAlgebra.istart_pos_bounds s (isum oc) hd hs0
    obtain ⟨e0, e1⟩ := Dask.Lemmas.SliceAlgebra.istop_pos_bounds s (isum oc) hd hs0
    by_cases hse : s.istart (isum oc) < s.istop (isum oc)
    · obtain ⟨f, l, hfb, r⟩ := findBlockRange_inside oc hoc (s.istart (isum oc)) (s.istop (isum oc)) s0 hse e1
      rw [hfb] at h
      simp only [Int.toNat_natCast] at h
      rw [if_neg (Int.not_lt.mpr (Int.ofNat_le.mpr r.le))] at h
      simp only [cum0_getD oc f (Nat.le_of_lt (Nat.lt_of_le_of_lt r.le r.last.lt)), cum0_getD oc (l + 1) r.last.lt] at h
      have h' := Option.some.inj h
      subst h'
      exact ⟨f, l, hs, hse, rfl, r, rfl⟩
    · exfalso
      -- empty selection: `find_block_range` answers out-of-bounds or the empty range; both decline
      rw [findBlockRange_of_empty oc _ _ (by omega)] at h
      by_cases hb : bisectRight (cumsum oc) (s.istart (isum oc)) ≥ oc.length
      · rw [if_pos hb] at h
        exact nomatch h
      · rw [if_neg hb] at h
        simp only at h
        rw [if_pos (by omega)] at h
        exact nomatch h
  · exfalso
    simp [hs] at h

theorem top_slice (a b d : Int) (h0 : 0 ≤ a) (hab : a ≤ b) (hb : b ≤ d) :
    ∃ s : PySlice, (if a = 0 ∧ b = d then Adj.colon else Adj.rng a b).toIdx = .slc s ∧ s.stp = 1 ∧
      s.istart d = a ∧ s.istop d = b := by
  split
  · rename_i h
    obtain ⟨ha, hbd⟩ := h
    subst ha hbd
    exact ⟨colon, rfl, rfl, istart_none none Int.one_pos _ _, istop_none none Int.one_pos _ _⟩
  · exact ⟨_, rfl, rfl, by rw [istart_some none Int.one_pos]; omega, by rw [istop_some none Int.one_pos]; omega⟩

theorem SliceFires.stop_le {oc : List Int} {s : PySlice} {pl : AxisPlan} {f l : Nat} (w : SliceFires oc s pl f l) :
    s.istop (isum oc) ≤ blockStart oc (l + 1) :=
  Int.le_of_sub_one_lt w.range.last.lt_next

theorem SliceFires.top {oc : List Int} {s : PySlice} {pl : AxisPlan} {f l : Nat} (w : SliceFires oc s pl f l) :
    ∃ t : PySlice, pl.adj.toIdx = .slc t ∧ t.stp = 1 ∧
      t.istart (isum (keptChunks oc f l)) = s.istart (isum oc) - blockStart oc f ∧
      t.istop (isum (keptChunks oc f l)) = s.istop (isum oc) - blockStart oc f := by
  rw [w.adj, isum_kept oc f l w.range.le]
  exact top_slice _ _ _ (Int.sub_nonneg_of_le w.range.first.start_le)
    (Int.sub_le_sub_right (Int.le_of_lt w.nonempty) _) (Int.sub_le_sub_right w.stop_le _)

structure PlanOK (oc : List Int) (idx : Idx) (pl : AxisPlan) : Prop where
  ok : brOK oc.length pl
  inside : ∀ q f l, inSel (isum oc) idx q = true → pl.br = some (f, l) →
    blockStart oc f ≤ srcPos1 (isum oc) idx q ∧ srcPos1 (isum oc) idx q < blockStart oc (l + 1)
  reads : ∀ q, inSel (isum oc) idx q = true →
    srcPos1 (isum (keptOut1 oc pl)) pl.adj.toIdx q = srcPos1 (isum oc) idx q - blockStart oc (first1 pl)

theorem acceptAxis_planOK (oc : List Int) (hoc : ∀ c ∈ oc, 0 ≤ c) (idx : Idx) (hidx : idxOK (isum oc) idx = true)
    (pl : AxisPlan) (h : acceptAxis oc idx = some pl) : PlanOK oc idx pl := by
  cases idx with
  | int i =>
    simp only [idxOK, decide_eq_true_eq] at hidx
    obtain ⟨f, l, hacc, hfl, hl, a2, a3⟩ := acceptAxis_int oc hoc i hidx.1 hidx.2
    obtain rfl := Option.some.inj (hacc.symm.trans h)
    -- the position lies in block `f ≤ l`, and the integer left on top is not negative
    exact ⟨fun _ _ e => by cases e; exact ⟨hfl, hl⟩,
      fun _ _ _ _ e => by cases e; exact ⟨a2, Int.lt_of_lt_of_le a3 (Layout.start_mono hoc (Nat.succ_le_succ hfl))⟩,
      fun _ _ => if_pos (Int.sub_nonneg_of_le a2)⟩
  | slc s =>
    by_cases hc : s = colon
    · subst hc
      obtain rfl := Option.some.inj ((acceptAxis_colon oc).symm.trans h)
      exact ⟨fun _ _ e => (nomatch e), fun _ _ _ _ e => (nomatch e), fun _ _ => (Int.sub_zero _).symm⟩
    · obtain ⟨f, l, w⟩ := acceptAxis_slc oc hoc s hc pl h
      obtain ⟨t, t1, t2, t3, t4⟩ := w.top
      have hsel : ∀ q, inSel (isum oc) (.slc s) q = true → (q : Int) < s.istop (isum oc) - s.istart (isum oc) := by
        intro q hq
        simp only [inSel, decide_eq_true_eq] at hq
        rwa [sel_length_unit s _ w.unit, Int.lt_toNat] at hq
      refine ⟨fun _ _ e => ?_, fun q _ _ hq e => ?_, fun q hq => ?_⟩
      · obtain ⟨rfl, rfl⟩ := Prod.mk.inj (Option.some.inj (w.br.symm.trans e))
        exact ⟨w.range.le, w.range.last.lt⟩
      · obtain ⟨rfl, rfl⟩ := Prod.mk.inj (Option.some.inj (w.br.symm.trans e))
        rw [srcPos1_unit s _ w.unit q (hsel q hq)]
        exact ⟨Int.le_trans w.range.first.start_le (Int.le_add_of_nonneg_right (Int.natCast_nonneg q)),
          Int.lt_of_lt_of_le (Int.add_lt_of_lt_sub_left (hsel q hq)) w.stop_le⟩
      · have hq := hsel q hq
        simp only [keptOut1, first1, w.br]
        rw [t1, srcPos1_unit s _ w.unit q hq, srcPos1_unit t _ t2 q (by rw [t3, t4]; omega), t3]
        omega

theorem keptOut1_block (cs : List Int) (pl : AxisPlan) (hb : brOK cs.length pl) (k : Nat)
    (hk : ∀ f l, pl.br = some (f, l) → k ≤ l - f) :
    (keptOut1 cs pl).getD k 0 = cs.getD (k + first1 pl) 0 ∧
    blockStart (keptOut1 cs pl) k + blockStart cs (first1 pl) = blockStart cs (k + first1 pl) := by
  unfold keptOut1 first1
  cases hbr : pl.br with
  | none => exact ⟨rfl, Int.add_zero _⟩
  | some fl =>
    obtain ⟨hfl, hl⟩ := hb fl.1 fl.2 hbr
    have := hk fl.1 fl.2 hbr
    simp only
    rw [getD_kept cs fl.1 fl.2 k (by omega), blockStart_kept cs fl.1 fl.2 k (by omega), Nat.add_comm]
    exact ⟨rfl, Int.sub_add_cancel _ _⟩

theorem keptOut1_locate (cs : List Int) (h : ∀ c ∈ cs, 0 ≤ c) (pl : AxisPlan) (hb : brOK cs.length pl) (p : Int)
    (hp : ∀ f l, pl.br = some (f, l) → blockStart cs f ≤ p ∧ p < blockStart cs (l + 1)) :
    (slice1dInt cs p).1 = (slice1dInt (keptOut1 cs pl) (p - blockStart cs (first1 pl))).1 + first1 pl ∧
    (slice1dInt cs p).2 = (slice1dInt (keptOut1 cs pl) (p - blockStart cs (first1 pl))).2 ∧
    ∀ f l, pl.br = some (f, l) → (slice1dInt (keptOut1 cs pl) (p - blockStart cs (first1 pl))).1 ≤ l - f := by
  unfold keptOut1 first1
  cases hbr : pl.br with
  | none => exact ⟨by rw [blockStart_zero, Int.sub_zero]; rfl, by rw [blockStart_zero, Int.sub_zero], fun _ _ e => nomatch e⟩
  | some fl =>
    obtain ⟨k1, k2, k3⟩ := locate_kept cs h fl.1 fl.2 (hb fl.1 fl.2 hbr).1 p (hp fl.1 fl.2 hbr).1 (hp fl.1 fl.2 hbr).2
    exact ⟨k1, k2, fun _ _ e => by cases e; exact k3⟩

theorem acceptAxis_sound (oc : List Int) (hoc : ∀ c ∈ oc, 0 ≤ c) (idx : Idx) (hidx : idxOK (isum oc) idx = true)
    (pl : AxisPlan) (h : acceptAxis oc idx = some pl) (q : Nat) (hq : inSel (isum oc) idx q = true) :
    brOK oc.length pl ∧
    (slice1dInt oc (srcPos1 (isum oc) idx q)).1
      = (slice1dInt (keptOut1 oc pl) (srcPos1 (isum (keptOut1 oc pl)) pl.adj.toIdx q)).1 + first1 pl ∧
    (slice1dInt oc (srcPos1 (isum oc) idx q)).2
      = (slice1dInt (keptOut1 oc pl) (srcPos1 (isum (keptOut1 oc pl)) pl.adj.toIdx q)).2 ∧
    (∀ f l, pl.br = some (f, l) →
      (slice1dInt (keptOut1 oc pl) (srcPos1 (isum (keptOut1 oc pl)) pl.adj.toIdx q)).1 ≤ l - f) := by
  have w := acceptAxis_planOK oc hoc idx hidx pl h
  rw [w.reads q hq]
  exact ⟨w.ok, keptOut1_locate oc hoc pl w.ok _ (fun f l => w.inside q f l hq)⟩

end Dask.Lemmas.Coarse
