/-
Facts shared by the shuffle and vindex proofs (Model/Shuffle.lean, Model/Vindex.lean): `argsortStable` sorts by ordered
insertion (an instance of the ordered insertion of Lemmas/ListBasic.lean); `astype` to `min_scalar_type` changes nothing below the bound;
the run boundaries of a sequence (`runStarts`) cut it into slices that tile it and on which it is constant, which
both consumers read off a list with a key on its entries.
-/
import DaskArrayModel.Model.Shuffle
import DaskArrayModel.Lemmas.ListBasic
namespace Dask.Lemmas.Shuffle
open Dask.Py Dask.Slicing Dask.Indexing Dask.Shuffle

theorem foldr_insertIdx_spec (key : Nat → Int) (r : List Nat) :
    (r.foldr (insertIdx key) []).Perm r ∧ ((r.foldr (insertIdx key) []).map key).Pairwise (· ≤ ·) := by
  have h := foldr_ins_spec (ins := insertIdx key) (r := fun j k => key j ≤ key k) (R := fun j k => key j ≤ key k)
    (fun _ => rfl) (fun _ _ _ => rfl) (fun _ _ _ => Int.le_trans) (fun _ _ h => h)
    (fun _ _ h => Int.le_of_lt (Int.not_le.mp h)) r
  exact ⟨h.1, List.pairwise_map.mpr h.2⟩

theorem IsArgsort.length {l : List Int} {s : List Nat} (h : IsArgsort l s) : s.length = l.length := by
  simpa using h.1.length_eq

theorem IsArgsort.lt {l : List Int} {s : List Nat} (h : IsArgsort l s) : ∀ j ∈ s, j < l.length :=
  fun _ hj => List.mem_range.mp (h.1.subset hj)

theorem argsortStable_of_sorted {l : List Int} (h : l.Pairwise (· ≤ ·)) :
    argsortStable l = List.range l.length := by
  refine foldr_ins_sorted (ins := insertIdx fun j => l.getD j 0) (r := fun j k => l.getD j 0 ≤ l.getD k 0)
    (fun _ => rfl) (fun _ _ _ => rfl) _ (List.pairwise_iff_getElem.mpr fun i j hi hj hij => ?_)
  rw [List.length_range] at hi hj
  rw [List.getElem_range, List.getElem_range, List.getD_eq_getElem?_getD, List.getD_eq_getElem?_getD,
    List.getElem?_eq_getElem hi, List.getElem?_eq_getElem hj]
  exact List.pairwise_iff_getElem.mp h i j hi hj hij

theorem wrapU_id {m v : Int} (h0 : 0 ≤ v) (hv : v ≤ m) : wrapU (minScalarBits m) v = v := by
  have hw : ∀ b : Nat, v < 2 ^ b → wrapU (some b) v = v := fun b h => Int.emod_eq_of_lt h0 h
  -- the thresholds of `minScalarBits` are `2 ^ 8`, `2 ^ 16`, `2 ^ 32`, `2 ^ 64` (by evaluation, where `hw` is applied)
  fun_cases minScalarBits m with
  | case1 h => exact hw 8 (Int.lt_of_le_of_lt hv h)
  | case2 _ h => exact hw 16 (Int.lt_of_le_of_lt hv h)
  | case3 _ _ h => exact hw 32 (Int.lt_of_le_of_lt hv h)
  | case4 _ _ _ h => exact hw 64 (Int.lt_of_le_of_lt hv h)
  | case5 => rfl

/-- the consecutive pairs of `rs`, the last one closed by `L`: the half-open pieces `[a, b)` that the boundaries `rs`
cut out of `[rs.head, L)`. -/
def pairsEnd : List Nat → Nat → List (Nat × Nat)
  | [], _ => []
  | [a], L => [(a, L)]
  | a :: b :: r, L => (a, b) :: pairsEnd (b :: r) L

theorem pairsEnd_length (rs : List Nat) (L : Nat) : (pairsEnd rs L).length = rs.length := by
  fun_induction pairsEnd rs L with
  | case1 => rfl
  | case2 => rfl
  | case3 a b r L ih => exact congrArg (· + 1) ih

theorem zip3_pairsEnd {β} (f : Nat → β) (rs : List Nat) (L : Nat) :
    zip3 (rs.map f) (rs ++ [L]) (rs ++ [L]).tail = (pairsEnd rs L).map (fun ab => (f ab.1, ab.1, ab.2)) := by
  fun_induction pairsEnd rs L with
  | case1 => rfl
  | case2 => rfl
  | case3 a b r L ih => exact congrArg ((f a, a, b) :: ·) ih

theorem zip_pairsEnd (rs : List Nat) (L : Nat) : (rs ++ [L]).zip (rs ++ [L]).tail = pairsEnd rs L := by
  fun_induction pairsEnd rs L with
  | case1 => rfl
  | case2 => rfl
  | case3 a b r L ih => exact congrArg ((a, b) :: ·) ih

theorem pySlice_append {α} (s : List α) {a b c : Nat} (hab : a ≤ b) (hbc : b ≤ c) :
    pySlice s a b ++ pySlice s b c = pySlice s a c := by
  unfold pySlice
  rw [← Nat.sub_add_sub_cancel hbc hab, Nat.add_comm, List.take_add, List.drop_drop, Nat.add_sub_of_le hab]

theorem pairsEnd_flatten {α} (s : List α) (rs : List Nat) (L : Nat) (hp : rs.Pairwise (· < ·))
    (hL : ∀ a ∈ rs, a ≤ L) :
    ((pairsEnd rs L).map (fun ab => pySlice s ab.1 ab.2)).flatten = pySlice s (rs.headD L) L := by
  fun_induction pairsEnd rs L with
  | case1 => simp [pySlice]
  | case2 => exact List.append_nil _
  | case3 a b r L ih =>
    have hp' := List.pairwise_cons.mp hp
    rw [List.map_cons, List.flatten_cons, ih hp'.2 (fun x hx => hL x (List.mem_cons_of_mem _ hx))]
    exact pySlice_append s (Nat.le_of_lt (hp'.1 b List.mem_cons_self))
      (hL b (List.mem_cons_of_mem _ List.mem_cons_self))

theorem pairsEnd_spec (rs : List Nat) (L : Nat) (hp : rs.Pairwise (· < ·)) (hL : ∀ a ∈ rs, a < L) :
    ∀ ab ∈ pairsEnd rs L, ab.1 ∈ rs ∧ ab.2 ≤ L ∧ ∀ j, ab.1 < j → j < ab.2 → j ∉ rs := by
  fun_induction pairsEnd rs L with
  | case1 =>
    intro _ h
    cases h
  | case2 a L =>
    intro ab h
    cases List.mem_singleton.mp h
    exact ⟨List.mem_singleton_self a, Nat.le_refl L,
      fun j h1 _ hj => Nat.lt_irrefl a (List.mem_singleton.mp hj ▸ h1)⟩
  | case3 a b r L ih =>
    intro ab h
    have ⟨hlt, hp'⟩ := List.pairwise_cons.mp hp
    rcases List.mem_cons.mp h with rfl | h
    · refine ⟨List.mem_cons_self, Nat.le_of_lt (hL b (List.mem_cons_of_mem _ List.mem_cons_self)),
        fun j h1 h2 hj => ?_⟩
      -- every later boundary is `≥ b`
      rcases List.mem_cons.mp hj with rfl | hj
      · exact Nat.lt_irrefl _ h1
      · rcases List.mem_cons.mp hj with rfl | hj
        · exact Nat.lt_irrefl _ h2
        · exact Nat.lt_asymm h2 ((List.pairwise_cons.mp hp').1 j hj)
    · obtain ⟨h1, h2, h3⟩ := ih hp' (fun x hx => hL x (List.mem_cons_of_mem _ hx)) ab h
      refine ⟨List.mem_cons_of_mem _ h1, h2, fun j hj1 hj2 hj => ?_⟩
      rcases List.mem_cons.mp hj with rfl | hj
      · exact Nat.lt_asymm hj1 (hlt _ h1)
      · exact h3 j hj1 hj2 hj

theorem runStarts_pairwise (aux : List Int) : (runStarts aux).Pairwise (· < ·) :=
  List.Pairwise.filter _ List.pairwise_lt_range

theorem runStarts_lt (aux : List Int) : ∀ a ∈ runStarts aux, a < aux.length :=
  fun _ ha => List.mem_range.mp (List.mem_filter.mp ha).1

theorem runStarts_head (aux : List Int) : (runStarts aux).headD aux.length = 0 := by
  cases aux with
  | nil => rfl
  | cons a t =>
    rw [runStarts, List.length_cons, List.range_succ_eq_map, List.filter_cons_of_pos (by exact decide_eq_true (Or.inl rfl))]
    rfl

theorem run_getD_const (aux : List Int) : ∀ ab ∈ pairsEnd (runStarts aux) aux.length,
    ∀ j, ab.1 ≤ j → j < ab.2 → aux.getD j 0 = aux.getD ab.1 0 := by
  intro ab hab j
  obtain ⟨_, hb, hgap⟩ := pairsEnd_spec _ _ (runStarts_pairwise aux) (runStarts_lt aux) ab hab
  induction j with
  | zero =>
    intro h1 _
    rw [Nat.le_zero.mp h1]
  | succ j ih =>
    intro h1 h2
    rcases Nat.eq_or_lt_of_le h1 with e | hlt
    · rw [e]
    · -- `j + 1` is not a run start
      have e : aux.getD (j + 1) 0 = aux.getD j 0 := Decidable.byContradiction fun hne =>
        hgap (j + 1) hlt h2 (List.mem_filter.mpr
          ⟨List.mem_range.mpr (Nat.lt_of_lt_of_le h2 hb), decide_eq_true (Or.inr hne)⟩)
      rw [e]
      exact ih (Nat.le_of_lt_succ hlt) (Nat.lt_of_succ_lt h2)

theorem mem_pySlice {α} {S : List α} {a b : Nat} {p : α} (d : α) (h : p ∈ pySlice S a b) :
    ∃ j, a ≤ j ∧ j < b ∧ j < S.length ∧ S.getD j d = p := by
  rcases List.mem_iff_getElem?.mp h with ⟨i, hi⟩
  rw [pySlice, List.getElem?_take, List.getElem?_drop] at hi
  by_cases hib : i < b - a
  · rw [if_pos hib] at hi
    exact ⟨a + i, Nat.le_add_right a i, Nat.add_lt_of_lt_sub' hib, (List.getElem?_eq_some_iff.mp hi).1,
      by rw [List.getD_eq_getElem?_getD, hi]; rfl⟩
  · rw [if_neg hib] at hi
    cases hi

theorem pySlice_full {α} (S : List α) : pySlice S 0 S.length = S := by simp [pySlice]

theorem runs_tile {α} (κ : α → Int) (S : List α) :
    ((pairsEnd (runStarts (S.map κ)) S.length).map (fun ab => pySlice S ab.1 ab.2)).flatten = S := by
  have h := pairsEnd_flatten S (runStarts (S.map κ)) (S.map κ).length (runStarts_pairwise _)
    (fun a ha => Nat.le_of_lt (runStarts_lt _ a ha))
  rwa [runStarts_head, List.length_map, pySlice_full] at h

theorem runs_const {α} (κ : α → Int) (S : List α) :
    ∀ ab ∈ pairsEnd (runStarts (S.map κ)) S.length, ∀ p ∈ pySlice S ab.1 ab.2, κ p = (S.map κ).getD ab.1 0 := by
  intro ab hab p hp
  obtain ⟨j, h1, h2, h3, h4⟩ := mem_pySlice p hp
  rw [← List.length_map (f := κ)] at hab
  rw [← run_getD_const (S.map κ) ab hab j h1 h2, getD_map κ S j p 0 h3, h4]

end Dask.Lemmas.Shuffle
