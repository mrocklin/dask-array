/-
`slice.indices` and `sel`.  The clamp `adjust` is put in closed form (a `max` or a `min`, by the sign of the bound);
every other fact about a clamped bound is a corollary, and `istart` / `istop` are read field by field for either sign
of the step.  With a positive step a missing bound may be written out (`0` and `n` are fixed by the clamp), and a
non-negative start needs no clamp: beyond the axis it is beyond the stop, and the range is empty either way.  That
unclamped form is what `SliceAlgebra` and the `_slice_1d` modules work with.  At the end, `normalize_slice` of a
positive-step slice field by field (the negative step is `normalizeSlice_neg` in SliceAlgebra, which needs `InAxis`),
and `normalizeSlice_stp` for either sign.  Progressions themselves are in
Lemmas/Progression; like that file and SliceWindow, this one declares into `Dask.Lemmas.SliceAlgebra`.
-/
import DaskArrayModel.Model.Slicing
import DaskArrayModel.Lemmas.Progression
namespace Dask.Lemmas.SliceAlgebra
open Dask.Py Dask.Py.PySlice Dask.Slicing

theorem adjust_false_eq (v n : Int) : adjust v n false = if v < 0 then max 0 (v + n) else min v n := by
  unfold adjust; simp only [Bool.false_eq_true, if_false]; omega

theorem adjust_true_eq (v n : Int) : adjust v n true = if v < 0 then max (-1) (v + n) else min v (n - 1) := by
  unfold adjust; simp only [if_true]; omega

theorem adjust_false_bounds (v n : Int) (hn : 0 ≤ n) :
    0 ≤ adjust v n false ∧ adjust v n false ≤ n := by
  rw [adjust_false_eq]; omega

theorem adjust_true_bounds (v n : Int) (hn : 0 ≤ n) :
    -1 ≤ adjust v n true ∧ adjust v n true ≤ n - 1 := by
  rw [adjust_true_eq]; omega

theorem adjust_false_eq_min (v n : Int) (h0 : 0 ≤ v) : adjust v n false = min v n := by
  rw [adjust_false_eq, if_neg (Int.not_lt.mpr h0)]

theorem adjust_false_id (v n : Int) (h0 : 0 ≤ v) (h1 : v ≤ n) : adjust v n false = v := by
  rw [adjust_false_eq_min v n h0, Int.min_eq_left h1]

theorem adjust_true_id (v n : Int) (h0 : 0 ≤ v) (h1 : v ≤ n - 1) : adjust v n true = v := by
  rw [adjust_true_eq, if_neg (Int.not_lt.mpr h0), Int.min_eq_left h1]

theorem adjust_true_last (n : Int) (hn : 0 ≤ n) : adjust (n - 1) n true = n - 1 := by
  rcases Int.lt_or_eq_of_le hn with h | h
  · exact adjust_true_id _ n (Int.sub_nonneg_of_le h) (Int.le_refl _)
  · rw [← h]; rfl

theorem adjust_true_of_neg (v n : Int) (h : v < 0) : adjust v n true = max (v + n) (-1) := by
  rw [adjust_true_eq, if_pos h, Int.max_comm]

theorem lt_adjust_false_iff (p v n : Int) (h0 : 0 ≤ v) :
    p < adjust v n false ↔ p < v ∧ p < n := by
  rw [adjust_false_eq_min v n h0]; exact Int.lt_min

theorem indices_pos (x y z : Option Int) (n : Int) (hz : 0 < stp ⟨x, y, z⟩) :
    istart ⟨x, y, z⟩ n = (x.map (adjust · n false)).getD 0 ∧
    istop ⟨x, y, z⟩ n = (y.map (adjust · n false)).getD n := by
  have h : ¬ stp ⟨x, y, z⟩ < 0 := by omega
  unfold istart istop
  cases x <;> cases y <;> simp [h]

theorem indices_neg (x y z : Option Int) (n : Int) (hz : stp ⟨x, y, z⟩ < 0) :
    istart ⟨x, y, z⟩ n = (x.map (adjust · n true)).getD (n - 1) ∧
    istop ⟨x, y, z⟩ n = (y.map (adjust · n true)).getD (-1) := by
  unfold istart istop
  cases x <;> cases y <;> simp [hz]

theorem sel_mk_pos (x y z : Option Int) (n c : Int) (hz : stp ⟨x, y, z⟩ = c) (hc : 0 < c) :
    sel ⟨x, y, z⟩ n =
      rangeList ((x.map (fun v => adjust v n false)).getD 0)
        ((y.map (fun v => adjust v n false)).getD n) c := by
  have h := indices_pos x y z n (hz ▸ hc)
  unfold sel
  rw [h.1, h.2, hz]

theorem sel_mk_neg (x y z : Option Int) (n c : Int) (hz : stp ⟨x, y, z⟩ = c) (hc : c < 0) :
    sel ⟨x, y, z⟩ n =
      rangeList ((x.map (fun v => adjust v n true)).getD (n - 1))
        ((y.map (fun v => adjust v n true)).getD (-1)) c := by
  have h := indices_neg x y z n (hz ▸ hc)
  unfold sel
  rw [h.1, h.2, hz]

theorem istart_pos_bounds (s : PySlice) (n : Int) (hn : 0 ≤ n) (hc : 0 < s.stp) :
    0 ≤ s.istart n ∧ s.istart n ≤ n := by
  rw [(indices_pos s.start s.stop s.step n hc).1]
  cases s.start with
  | none => exact ⟨Int.le_refl 0, hn⟩
  | some v => exact adjust_false_bounds v n hn

theorem istop_pos_bounds (s : PySlice) (n : Int) (hn : 0 ≤ n) (hc : 0 < s.stp) :
    0 ≤ s.istop n ∧ s.istop n ≤ n := by
  rw [(indices_pos s.start s.stop s.step n hc).2]
  cases s.stop with
  | none => exact ⟨hn, Int.le_refl n⟩
  | some v => exact adjust_false_bounds v n hn

theorem istart_neg_bounds (s : PySlice) (n : Int) (hn : 0 ≤ n) (hc : s.stp < 0) :
    -1 ≤ s.istart n ∧ s.istart n ≤ n - 1 := by
  rw [(indices_neg s.start s.stop s.step n hc).1]
  cases s.start with
  | none => exact ⟨show (-1 : Int) ≤ n - 1 by omega, Int.le_refl _⟩
  | some v => exact adjust_true_bounds v n hn

theorem istop_neg_bounds (s : PySlice) (n : Int) (hn : 0 ≤ n) (hc : s.stp < 0) :
    -1 ≤ s.istop n ∧ s.istop n ≤ n - 1 := by
  rw [(indices_neg s.start s.stop s.step n hc).2]
  cases s.stop with
  | none => exact ⟨Int.le_refl _, show (-1 : Int) ≤ n - 1 by omega⟩
  | some v => exact adjust_true_bounds v n hn

theorem sel_bounds (s : PySlice) (n : Int) (hn : 0 ≤ n) : ∀ p ∈ sel s n, 0 ≤ p ∧ p < n := by
  intro p hp
  unfold sel at hp
  obtain ⟨i, hi, rfl⟩ := (mem_rangeList _ _ _ _).mp hp
  rcases Int.lt_trichotomy s.stp 0 with hc | hc | hc
  · have h1 := (lt_rangeLen_neg _ _ _ hc i).mp hi
    have hA := istart_neg_bounds s n hn hc
    have hB := istop_neg_bounds s n hn hc
    have h2 : (i : Int) * s.stp ≤ 0 :=
      Int.mul_nonpos_of_nonneg_of_nonpos (Int.natCast_nonneg i) (Int.le_of_lt hc)
    omega
  · rw [hc, rangeLen_step_zero] at hi
    exact absurd hi (Nat.not_lt_zero i)
  · have h1 := (lt_rangeLen_pos _ _ _ hc i).mp hi
    have hA := istart_pos_bounds s n hn hc
    have hB := istop_pos_bounds s n hn hc
    have h2 : 0 ≤ (i : Int) * s.stp := Int.mul_nonneg (Int.natCast_nonneg i) (Int.le_of_lt hc)
    omega

theorem rangeList_clamp_start {v n T c : Int} (hc : 0 < c) (h0 : 0 ≤ v) (hT : T ≤ n) :
    rangeList (adjust v n false) T c = rangeList v T c := by
  by_cases h : v ≤ n
  · rw [adjust_false_id v n h0 h]
  · rw [adjust_false_eq_min v n h0, rangeList_eq_nil_pos hc (by omega),
      rangeList_eq_nil_pos hc (by omega)]

theorem rangeLen_clamp_start {v n T c : Int} (hc : 0 < c) (h0 : 0 ≤ v) (hT : T ≤ n) :
    rangeLen (adjust v n false) T c = rangeLen v T c := by
  rw [← length_rangeList, rangeList_clamp_start hc h0 hT, length_rangeList]

theorem getD_map_adjust (x : Option Int) {d n : Int} {neg : Bool} (hd : adjust d n neg = d) :
    (x.map (fun v => adjust v n neg)).getD d = adjust (x.getD d) n neg := by
  cases x with
  | none => exact hd.symm
  | some v => rfl

theorem sel_pos (s : PySlice) (n : Int) (hn : 0 ≤ n) (hc : 0 < s.stp) :
    sel s n = rangeList (adjust (s.start.getD 0) n false) (adjust (s.stop.getD n) n false) s.stp := by
  rw [sel_mk_pos s.start s.stop s.step n s.stp rfl hc,
    getD_map_adjust s.start (adjust_false_id 0 n (Int.le_refl 0) hn),
    getD_map_adjust s.stop (adjust_false_id n n hn (Int.le_refl n))]

theorem sel_from (s : PySlice) (n : Int) (hn : 0 ≤ n) (hc : 0 < s.stp) (h0 : 0 ≤ s.start.getD 0) :
    sel s n = rangeList (s.start.getD 0) (adjust (s.stop.getD n) n false) s.stp := by
  rw [sel_pos s n hn hc]
  exact rangeList_clamp_start hc h0 (adjust_false_bounds _ n hn).2

/-- no `a ≤ n`: a start beyond the axis is beyond the stop, and both sides are empty -/
theorem sel_inside {a b c n : Int} (hc : 0 < c) (ha : 0 ≤ a) (hb : 0 ≤ b) (hbn : b ≤ n) :
    sel ⟨some a, some b, some c⟩ n = rangeList a b c := by
  rw [sel_from ⟨some a, some b, some c⟩ n (Int.le_trans hb hbn) hc ha]
  exact congrArg (rangeList a · c) (adjust_false_id b n hb hbn)

theorem sel_stp_zero (s : PySlice) (n : Int) (h : s.stp = 0) : sel s n = [] := by
  unfold sel rangeList
  rw [h, rangeLen_step_zero]; rfl

/-- `length_rangeList` for `sel`, as an integer: its users meet `(sel s n).length` as the length of an axis -/
theorem sel_length (s : PySlice) (n : Int) :
    ((sel s n).length : Int) = (rangeLen (s.istart n) (s.istop n) s.stp : Int) := by
  unfold sel; rw [length_rangeList]

theorem sel_stp_one (s : PySlice) (n : Int) (h : s.stp = 1) :
    sel s n = rangeList (s.istart n) (s.istop n) 1 := by
  unfold sel; rw [h]

theorem sel_length_unit (s : PySlice) (n : Int) (h : s.stp = 1) :
    (sel s n).length = (s.istop n - s.istart n).toNat := by
  rw [sel_stp_one s n h, length_rangeList, rangeLen_one]

theorem sel_point (k n : Int) (h0 : 0 ≤ k) (h1 : k < n) : sel ⟨some k, some (k + 1), none⟩ n = [k] := by
  rw [sel_from ⟨some k, some (k + 1), none⟩ n (by omega) Int.one_pos h0]
  show rangeList k (adjust (k + 1) n false) 1 = [k]
  rw [adjust_false_id (k + 1) n (by omega) (by omega), rangeList_singleton]

theorem stp_mk_ite (x y : Option Int) (c : Int) :
    stp ⟨x, y, if c = 1 then none else some c⟩ = c := by
  by_cases h : c = 1 <;> simp [stp, h]

theorem normalizeSlice_step_pos (s : PySlice) (dim : Int) (hs : 0 < s.stp) :
    (normalizeSlice s dim).step = if s.stp = 1 then none else some s.stp := by
  unfold normalizeSlice
  simp only [gt_iff_lt, hs, if_true]

theorem normalizeSlice_start_pos (s : PySlice) (dim : Int) (hs : 0 < s.stp) :
    (normalizeSlice s dim).start.getD 0 = s.istart dim := by
  unfold normalizeSlice
  simp only [gt_iff_lt, hs, if_true]
  by_cases h1 : s.istart dim = 0 <;> simp [h1]

theorem normalizeSlice_stop_pos (s : PySlice) (dim : Int) (hd : 0 ≤ dim) (hs : 0 < s.stp) :
    (normalizeSlice s dim).stop.getD dim = max (s.istart dim) (s.istop dim) := by
  obtain ⟨a0, a1⟩ := istart_pos_bounds s dim hd hs
  obtain ⟨b0, b1⟩ := istop_pos_bounds s dim hd hs
  unfold normalizeSlice
  simp only [gt_iff_lt, hs, if_true]
  by_cases h2 : s.istop dim ≥ dim
  · simp only [h2, if_true, Option.getD_none]
    omega
  · simp only [h2, if_false]
    by_cases h1 : s.istart dim = 0
    · simp only [h1, if_true, Option.getD_some]
      omega
    · simp only [h1, if_false]
      split <;> simp only [Option.getD_some] <;> omega

theorem normalizeSlice_stp (s : PySlice) (n : Int) : (normalizeSlice s n).stp = s.stp := by
  unfold normalizeSlice
  by_cases h1 : s.stp > 0
  · rw [if_pos h1]; exact stp_mk_ite _ _ _
  · rw [if_neg h1]
    by_cases h2 : s.stp < 0
    · rw [if_pos h2]
      split
      · rfl
      · split <;> rfl
    · rw [if_neg h2]

end Dask.Lemmas.SliceAlgebra
