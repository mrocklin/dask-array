/-
The payload lookup on the per-block task path (Model/BlockInfoFused.lean).  When
the index map sends every output label to the block id's own coordinate (`idxToBlock_id`: distinct
output labels, none of them a new axis), `_compute_block_id` over the output grid returns the block
id itself (`computeBlockId_id`), so the payload is read at the block's own position
(`C20_task_lookup`, Props/C20Fused.lean).
-/
import DaskArrayModel.Model.BlockInfoFused
import DaskArrayModel.Lemmas.Assoc
namespace Dask.Lemmas.BlockInfoFused
open Dask.BlockInfo

theorem numChunks_cons (c : List Nat) (cs : Layout) : numChunks (c :: cs) = c.length :: numChunks cs := rfl

theorem computeBlockId_id (m : Nat → Option Nat) (ind bid : List Nat) (oc : Layout) (hl : ind.length = bid.length)
    (hv : validBid oc bid = true) (hm : ∀ p ∈ ind.zip bid, m p.1 = some p.2) :
    computeBlockId m ind (numChunks oc) = some bid := by
  induction bid generalizing ind oc with
  | nil => rw [List.eq_nil_of_length_eq_zero hl]; rfl
  | cons j js ih =>
    obtain ⟨i, is, rfl⟩ := List.exists_cons_of_length_eq_add_one hl
    cases oc with
    | nil => nomatch hv
    | cons c cs =>
      obtain ⟨hj, hjs⟩ := Bool.and_eq_true_iff.mp hv
      -- one step of `computeBlockId`, written so that `m i` is there to be rewritten
      show (match m i with | some b => (computeBlockId m is (numChunks cs)).map _ | none => _) = _
      rw [show m i = some j from hm (i, j) List.mem_cons_self,
        ih is cs (Nat.succ.inj hl) hjs fun p hp => hm p (List.mem_cons_of_mem _ hp)]
      exact congrArg (fun b => some (b :: js)) (Nat.mod_eq_of_lt (of_decide_eq_true hj))

theorem idxToBlock_id (outInd newAxes bid : List Nat) (hn : outInd.Nodup)
    (hd : ∀ l ∈ newAxes, l ∉ outInd) :
    ∀ p ∈ outInd.zip bid, idxToBlock outInd newAxes bid p.1 = some p.2 := by
  intro p hp
  have hc : newAxes.contains p.1 = false :=
    Bool.eq_false_iff.mpr fun h => hd p.1 (List.contains_iff_mem.mp h) (List.of_mem_zip hp).1
  simp only [idxToBlock, hc, Bool.false_eq_true, if_false]
  exact Dask.Assoc.lookup_zip_of_mem hn hp

end Dask.Lemmas.BlockInfoFused
