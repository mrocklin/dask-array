/-
The loop of `Transpose._inverse_axes` (`for i, a in enumerate(axes): inv[a] = i`): entry `a` of the result is the
position of `a` in `axes`.  Stated for the copy of the loop in Model/Fusion.lean, which rests on core Lean alone;
Lemmas/Perm.lean carries it to the copy in Model/Perm.lean (`inverseLoop_eq`).
-/
import DaskArrayModel.Model.Fusion
import DaskArrayModel.Lemmas.PyBasic
namespace Dask.Fusion
open Dask.Py

theorem invFrom_length (r : List Nat) (i : Nat) (inv : List Nat) :
    (invFrom r i inv).length = inv.length := by
  induction r generalizing i inv with
  | nil => rfl
  | cons a r ih => exact (ih (i + 1) (inv.set a i)).trans List.length_set

theorem invFrom_getD (r : List Nat) (i : Nat) (inv : List Nat) (a : Nat) (hnd : r.Nodup)
    (hlt : ∀ x ∈ r, x < inv.length) :
    (invFrom r i inv).getD a 0 = if a ∈ r then i + r.idxOf a else inv.getD a 0 := by
  induction r generalizing i inv with
  | nil => rfl
  | cons b r ih =>
    have hnd' := List.nodup_cons.mp hnd
    show (invFrom r (i + 1) (inv.set b i)).getD a 0 = _
    rw [ih (i + 1) (inv.set b i) hnd'.2
      (fun x hx => by rw [List.length_set]; exact hlt x (List.mem_cons_of_mem _ hx))]
    by_cases hab : a = b
    · subst hab
      rw [if_neg hnd'.1, if_pos List.mem_cons_self, getD_set_eq _ _ _ _ (hlt a List.mem_cons_self),
        List.idxOf_cons_self]
      rfl
    · by_cases har : a ∈ r
      · rw [if_pos har, if_pos (List.mem_cons_of_mem _ har), List.idxOf_cons, beq_false_of_ne (Ne.symm hab),
          Nat.add_assoc, Nat.add_comm 1]
        rfl
      · rw [if_neg har, if_neg (fun h => (List.mem_cons.mp h).elim hab har), getD_set_ne _ _ _ _ _ (Ne.symm hab)]

theorem invAxes_length (axes : List Nat) : (invAxes axes).length = axes.length := by
  unfold invAxes; rw [invFrom_length]; simp

end Dask.Fusion
