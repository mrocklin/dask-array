/-
Permutation algebra for Model/Perm.lean: validity of composed / inverse permutations, `unperm` under composition,
the `_inverse_axes` loop, double transpose, identity, take through transpose.  Core Lean only.
-/
import DaskArrayModel.Lemmas.ExprDerived
import DaskArrayModel.Model.Perm
import DaskArrayModel.Model.Expr2
import DaskArrayModel.Lemmas.InverseAxes
namespace Dask.Perm
open Dask.Py Dask.Slicing Dask.ND

theorem _root_.Dask.ND.PermOK.perm {p : List Nat} {n : Nat} (h : PermOK p n) : p.Perm (List.range n) :=
  (List.perm_ext_iff_of_nodup h.nodup List.nodup_range).mpr fun a =>
    ⟨fun ha => List.mem_range.mpr (h.lt a ha), fun ha => h.mem a (List.mem_range.mp ha)⟩

theorem map_getD_perm {p : List Nat} {n : Nat} (hp : PermOK p n) (l : List Nat) (hl : l.length = n) :
    (p.map (fun k => l.getD k 0)).Perm l := by
  have h := hp.perm.map (fun k => l.getD k 0)
  rwa [← hl, map_getD_range _ 0] at h

theorem range_ok (n : Nat) : PermOK (List.range n) n :=
  isPerm_ok (isPerm_of_perm (List.Perm.refl _))

theorem range_idxOf {n a : Nat} (ha : a < n) : (List.range n).idxOf a = a := by
  have := (range_ok n).idxOf_getD ha
  rwa [getD_range _ _ ha] at this

theorem composeAsCode_length (p q : List Nat) : (composeAsCode p q).length = q.length := by
  simp [composeAsCode]

theorem composeAsCode_getD {p q : List Nat} {n : Nat} (hq : PermOK q n) {k : Nat} (hk : k < n) :
    (composeAsCode p q).getD k 0 = p.getD (q.getD k 0) 0 := by
  unfold composeAsCode
  rw [getD_map _ q k 0 0 (by rw [hq.len]; exact hk)]

theorem composeAsCode_ok {p q : List Nat} {n : Nat} (hp : PermOK p n) (hq : PermOK q n) :
    PermOK (composeAsCode p q) n :=
  isPerm_ok (isPerm_of_perm ((map_getD_perm hq p hp.len).trans hp.perm))

/-- both sides are carried to `i` by the composed permutation -/
theorem unperm_compose {p q : List Nat} {n : Nat} (hp : PermOK p n) (hq : PermOK q n) {i : List Nat}
    (hi : i.length = n) : unperm p (unperm q i) = unperm (composeAsCode p q) i := by
  refine (unpermL_perm (composeAsCode_ok hp hq) (by rw [unperm_length, hp.len]) 0).symm.trans (congrArg (unpermL _ · 0) ?_)
  unfold composeAsCode
  rw [← gather_gather q p _ 0 (fun j hj => hp.len ▸ hq.lt j hj), unperm_eq, unperm_eq,
    perm_unpermL hp (by rw [unpermL_length, hq.len]), perm_unpermL hq hi]

/-- Model/Fusion.lean has its own copy of the loop, and the loop is proved there (Lemmas/InverseAxes.lean) -/
theorem inverseLoop_eq : ∀ (r : List Nat) (i : Nat) (inv : List Nat), inverseLoop r i inv = Dask.Fusion.invFrom r i inv
  | [], _, _ => rfl
  | a :: r, i, inv => inverseLoop_eq r (i + 1) (inv.set a i)

theorem inverseLoop_getD (r : List Nat) (i : Nat) (inv : List Nat) (a : Nat) (hnd : r.Nodup)
    (hlt : ∀ x ∈ r, x < inv.length) :
    (inverseLoop r i inv).getD a 0 = if a ∈ r then i + r.idxOf a else inv.getD a 0 :=
  inverseLoop_eq r i inv ▸ Dask.Fusion.invFrom_getD r i inv a hnd hlt

theorem inverse_length (p : List Nat) : (inverse p).length = p.length :=
  (congrArg List.length (inverseLoop_eq p 0 _)).trans (Dask.Fusion.invAxes_length p)

theorem inverse_getD {p : List Nat} {n : Nat} (hp : PermOK p n) {a : Nat} (ha : a < n) :
    (inverse p).getD a 0 = p.idxOf a := by
  unfold inverse
  rw [inverseLoop_getD p 0 _ a hp.nodup (fun x hx => by simp only [List.length_replicate]; rw [hp.len]; exact hp.lt x hx),
    if_pos (hp.mem a ha)]
  omega

theorem inverse_eq {p : List Nat} {n : Nat} (hp : PermOK p n) :
    inverse p = (List.range n).map (fun a => p.idxOf a) := by
  apply ext_getD 0
  · rw [inverse_length, hp.len]; simp
  · intro k hk
    rw [inverse_length, hp.len] at hk
    rw [inverse_getD hp hk, getD_map _ _ k 0 0 (by simpa using hk), getD_range _ _ hk]

theorem map_idxOf_self {p : List Nat} {n : Nat} (hp : PermOK p n) : p.map (fun a => p.idxOf a) = List.range n := by
  apply ext_getD 0
  · rw [List.length_map, hp.len, List.length_range]
  · intro k hk
    rw [List.length_map, hp.len] at hk
    rw [getD_map _ p k 0 0 (hp.len ▸ hk), hp.idxOf_getD hk, getD_range _ _ hk]

theorem inverse_ok {p : List Nat} {n : Nat} (hp : PermOK p n) : PermOK (inverse p) n := by
  rw [inverse_eq hp]
  exact isPerm_ok (isPerm_of_perm ((hp.perm.symm.map _).trans (map_idxOf_self hp ▸ List.Perm.refl _)))

theorem inverseE_ok {p : List Nat} {n : Nat} (hp : PermOK p n) : inverseE p = .ok (inverse p) := by
  unfold inverseE
  rw [if_pos]
  rw [List.all_eq_true]
  intro a ha
  rw [decide_eq_true_eq, hp.len]
  exact hp.lt a ha

theorem compose_inverse_right {p : List Nat} {n : Nat} (hp : PermOK p n) :
    composeAsCode p (inverse p) = List.range n := by
  apply ext_getD 0
  · rw [composeAsCode_length, inverse_length, hp.len]; simp
  · intro k hk
    rw [composeAsCode_length, inverse_length, hp.len] at hk
    rw [composeAsCode_getD (inverse_ok hp) hk, inverse_getD hp hk, hp.getD_idxOf hk, getD_range _ _ hk]

theorem compose_inverse_left {p : List Nat} {n : Nat} (hp : PermOK p n) :
    composeAsCode (inverse p) p = List.range n := by
  apply ext_getD 0
  · rw [composeAsCode_length, hp.len]; simp
  · intro k hk
    rw [composeAsCode_length, hp.len] at hk
    rw [composeAsCode_getD hp hk, inverse_getD hp (hp.getD_lt hk), hp.idxOf_getD hk, getD_range _ _ hk]

theorem inverse_inverse {p : List Nat} {n : Nat} (hp : PermOK p n) : inverse (inverse p) = p := by
  apply ext_getD 0
  · rw [inverse_length, inverse_length]
  · intro k hk
    rw [inverse_length, inverse_length, hp.len] at hk
    rw [inverse_getD (inverse_ok hp) hk]
    have := (inverse_ok hp).idxOf_getD (hp.getD_lt hk)
    rwa [inverse_getD hp (hp.getD_lt hk), hp.idxOf_getD hk] at this

theorem inputBlockId_eq {p : List Nat} {n : Nat} (hp : PermOK p n) (bid : List Nat) (hb : bid.length = n) :
    inputBlockId p bid = unperm p bid := by
  unfold inputBlockId unperm
  rw [hb, hp.len]
  apply List.map_congr_left
  intro a ha
  rw [inverse_getD hp (List.mem_range.mp ha)]

theorem den_transpose (env : Env) (e : Expr) (p : List Nat) :
    den env (.transpose e p) = transposeArr (den env e) p := rfl

theorem den2_take (env : Env) (e : Expr2) (ax : Nat) (idx : List Int) :
    den2 env (.take e ax idx) = takeArr ⟨shape2 e, (den2 env e).get⟩ ax idx := rfl

theorem unperm_range (n : Nat) (i : List Nat) (hi : i.length = n) : unperm (List.range n) i = i := by
  subst hi
  have := unpermL_perm (range_ok i.length) (x := i) rfl 0
  rwa [map_getD_range] at this

theorem transposeArr_identity (a : Arr Int) : Arr.Equiv (transposeArr a (List.range a.shape.length)) a := by
  refine ⟨map_getD_range a.shape 0, ?_⟩
  intro i hi
  simp only [transposeArr] at hi ⊢
  rw [map_getD_range _ 0] at hi
  rw [unperm_range _ i hi.length_eq]

theorem transposeArr_transposeArr {p q : List Nat} {n : Nat} (hp : PermOK p n) (hq : PermOK q n) (a : Arr Int) :
    Arr.Equiv (transposeArr (transposeArr a p) q) (transposeArr a (composeAsCode p q)) := by
  refine ⟨gather_gather q p a.shape 0 fun j hj => hp.len ▸ hq.lt j hj, ?_⟩
  intro i hi
  simp only [transposeArr]
  rw [unperm_compose hp hq (hi.length_eq.trans ((List.length_map _).trans hq.len))]

theorem unperm_set {p : List Nat} {n : Nat} (hp : PermOK p n) (i : List Nat) (hi : i.length = n) {k : Nat}
    (hk : k < n) (v : Nat) : unperm p (i.set k v) = (unperm p i).set (p.getD k 0) v := by
  rw [← unpermL_perm hp (x := (unperm p i).set (p.getD k 0) v) (by rw [List.length_set, unperm_length, hp.len]) 0,
    gather_set hp.nodup (hp.len ▸ hk) (by rw [unperm_length, hp.len]; exact hp.getD_lt hk), unperm_eq p i,
    perm_unpermL hp hi]
  rfl

theorem take_through_transpose {p : List Nat} {n : Nat} (hp : PermOK p n) (a : Arr Int) (ha : a.shape.length = n)
    {k : Nat} (hk : k < n) (idx : List Int) :
    Arr.Equiv (takeArr (transposeArr a p) k idx) (acceptShuffle a p k idx) := by
  refine ⟨(gather_set hp.nodup (hp.len ▸ hk) (ha ▸ hp.getD_lt hk) idx.length 0).symm, ?_⟩
  intro i hi
  have hil : i.length = n := by
    have := hi.length_eq
    simp only [takeArr, transposeArr, List.length_set, List.length_map] at this
    rw [this, hp.len]
  simp only [takeArr, transposeArr, acceptShuffle, shuffleAxis]
  rw [unperm_set hp i hil hk, getD_map _ p k 0 0 (by rw [hp.len]; exact hk),
    unperm_getD _ _ _ (by rw [hp.len]; exact hp.getD_lt hk), hp.idxOf_getD hk]

end Dask.Perm
