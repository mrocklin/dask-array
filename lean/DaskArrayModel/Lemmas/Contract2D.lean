/-
The 2-d / 1-d readings of the contraction theorem: `a @ b` for matrices, `dot` of two vectors,
matrix · vector.  Each plan is an instance of `Plan`; its NumPy meaning `contractDen` is the textbook
formula (`matmulDen`, `vdotDen`, `matvecDen`), its well-formedness follows from explicit hypotheses
on shapes / chunks / fan-in.
-/
import DaskArrayModel.Lemmas.ContractBlock
namespace Dask.Contract
open Dask.Py Dask.ND Dask.Reduce Dask.Lemmas.Reduce

/-- one contracted position with fan-in `k ≥ 2`: the depth the code computes suffices -/
theorem depth_one_axis {n k : Nat} (hk : 2 ≤ k) : n ≤ k ^ (max (depthOf n k) 1) :=
  Nat.le_trans (depthOf_spec hk)
    (Nat.pow_le_pow_right (Nat.lt_of_lt_of_le Nat.zero_lt_two hk) (Nat.le_max_left _ _))

theorem lsum_allIdx_one (K : Nat) (f : List Nat → Int) :
    lsum (allIdx [K]) f = lsum (List.range K) (fun k => f [k]) := by
  rw [lsum_allIdx_cons]
  apply lsum_congr
  intro k _
  rw [lsum_allIdx_nil]

theorem bne_zero_of_two_le {k : Nat} (hk : 2 ≤ k) : (k != 0) = true :=
  bne_iff_ne.mpr (Nat.ne_of_gt (Nat.lt_of_lt_of_le Nat.zero_lt_two hk))

theorem OpdOK.of_labels (full : Layout) (a : Arr Int) (ps : List Nat) (hpos : ∀ p ∈ ps, p < full.length)
    (hsh : ps.map (fun p => (full.getD p []).sum) = a.shape) :
    OpdOK full ⟨a, ps.map (full.getD · []), ps⟩ :=
  ⟨(List.length_map _).symm, List.map_map.trans hsh, fun t ht =>
    ⟨hpos _ (getD_mem ps t 0 ht), Or.inl (getD_map _ ps t 0 [] ht)⟩⟩

theorem covered_of_mem (full : Layout) (ps : List Nat) (p : Nat) (h : p ∈ ps) :
    ∃ t, t < ps.length ∧ ps.getD t 0 = p ∧ (ps.map (full.getD · [])).getD t [] = full.getD p [] := by
  obtain ⟨t, ht, rfl⟩ := exists_getD_of_mem ps p 0 h
  exact ⟨t, ht, rfl, getD_map _ ps t 0 [] ht⟩

/-- Two operands without broadcast axes whose positions `pa`, `pb` together are all `n` positions of `out_ind`:
what is left to show of a concrete plan is two finite facts about `pa ++ pb`, the shapes, and the depth of the
cascade. -/
theorem PlanOK.of_labels (a b : Arr Int) (pa pb : List Nat) (full : Layout) (split : List Nat) (depth : Nat)
    (direct : Bool) (n : Nat) (hn : full.length = n) (hsl : split.length = full.length)
    (hne : ∀ cs ∈ full, cs ≠ []) (hpos : ∀ p ∈ pa ++ pb, p < n) (hcov : ∀ p, p < n → p ∈ pa ++ pb)
    (ha : pa.map (fun p => (full.getD p []).sum) = a.shape)
    (hb : pb.map (fun p => (full.getD p []).sum) = b.shape)
    (hd : depthOK split (numblocks full) depth) (hdir : direct = true → maskedOne split (numblocks full)) :
    PlanOK ⟨[⟨a, pa.map (full.getD · []), pa⟩, ⟨b, pb.map (full.getD · []), pb⟩], full, split, depth, direct⟩ := by
  subst hn
  refine ⟨hsl, hne, List.forall_mem_cons.mpr
    ⟨OpdOK.of_labels full a pa (fun p hp => hpos p (List.mem_append_left _ hp)) ha, List.forall_mem_cons.mpr
      ⟨OpdOK.of_labels full b pb (fun p hp => hpos p (List.mem_append_right _ hp)) hb, nofun⟩⟩, ?_, hd, hdir⟩
  intro p hp
  cases List.mem_append.mp (hcov p hp) with
  | inl h => exact ⟨_, List.mem_cons_self, covered_of_mem full pa p h⟩
  | inr h => exact ⟨_, List.mem_cons_of_mem _ List.mem_cons_self, covered_of_mem full pb p h⟩

/-! The plans below are concrete: with the fan-in written `k' + 2`, their depth and mask are read off by
evaluation; the shapes (`ha`, `hb`), the non-empty chunk lists and `depth_one_axis` come from hypotheses. -/

theorem matmulPlan_ok (a b : Arr Int) (ri ck cj : List Nat) (k : Nat)
    (ha : a.shape = [ri.sum, ck.sum]) (hb : b.shape = [ck.sum, cj.sum])
    (hri : ri ≠ []) (hck : ck ≠ []) (hcj : cj ≠ []) (hk : 2 ≤ k) :
    PlanOK (matmulPlan a b ri ck cj k) := by
  obtain ⟨k', rfl⟩ := Nat.exists_eq_add_of_le' hk
  refine PlanOK.of_labels a b [0, 1] [1, 2] [ri, ck, cj] _ _ _ 3 rfl rfl ?_ (by decide) (by decide)
    ha.symm hb.symm ?_ ?_
  · exact List.forall_mem_cons.mpr ⟨hri, List.forall_mem_cons.mpr ⟨hck, List.forall_mem_cons.mpr ⟨hcj, nofun⟩⟩⟩
  · exact ⟨Nat.succ_pos _, List.length_pos_iff.mpr hck, depth_one_axis hk, trivial⟩
  · exact fun hd => ⟨of_decide_eq_true hd, trivial⟩

theorem matmulPlan_mask (a b : Arr Int) (ri ck cj : List Nat) (k : Nat) (hk : 2 ≤ k) :
    (matmulPlan a b ri ck cj k).mask = [false, true, false] :=
  congrArg (fun x => [false, x, false]) (bne_zero_of_two_le hk)

theorem matmulPlan_outChunks (a b : Arr Int) (ri ck cj : List Nat) (k : Nat) (hk : 2 ≤ k) :
    outChunks (matmulPlan a b ri ck cj k) = [ri, cj] := by
  rw [outChunks, matmulPlan_mask a b ri ck cj k hk]; rfl

theorem matmulPlan_den (a b : Arr Int) (ri ck cj : List Nat) (k : Nat)
    (ha : a.shape = [ri.sum, ck.sum]) (hb : b.shape = [ck.sum, cj.sum])
    (hri : ri ≠ []) (hck : ck ≠ []) (hcj : cj ≠ []) (hk : 2 ≤ k) :
    Arr.Equiv (contractDen (matmulPlan a b ri ck cj k)) (matmulDen a b) := by
  have hP := matmulPlan_ok a b ri ck cj k ha hb hri hck hcj hk
  have hm := matmulPlan_mask a b ri ck cj k hk
  have hsh : (contractDen (matmulPlan a b ri ck cj k)).shape = [ri.sum, cj.sum] := by
    rw [contractDen_shape _ hP, outChunks, hm]; rfl
  refine ⟨?_, ?_⟩
  · rw [hsh]; simp [matmulDen, ha, hb]
  · intro ij hij
    rw [hsh] at hij
    match ij, hij with
    | [i, j], hij =>
      simp only [InB] at hij
      rw [contractDen_get _ hP, hm]
      show lsum (allIdx [ck.sum]) _ = isum ((List.range (a.shape.getD 1 0)).map _)
      rw [lsum_allIdx_one, ha]
      apply lsum_congr
      intro c hc
      have hc' : c < ck.sum := List.mem_range.mp hc
      show npTerm [([0, 1], a), ([1, 2], b)] [i, c, j] = a.get [i, c] * b.get [c, j]
      simp only [npTerm, List.map_cons, List.map_nil, iprod, rd, ha, hb, List.zipWith_cons_cons,
        List.zipWith_nil_left, List.getD_cons_zero, List.getD_cons_succ, Int.mul_one]
      rw [bc_of_lt hij.1, bc_of_lt hc', bc_of_lt hij.2.1]

theorem vdotPlan_ok (a b : Arr Int) (ck : List Nat) (k : Nat)
    (ha : a.shape = [ck.sum]) (hb : b.shape = [ck.sum]) (hck : ck ≠ []) (hk : 2 ≤ k) :
    PlanOK (vdotPlan a b ck k) := by
  obtain ⟨k', rfl⟩ := Nat.exists_eq_add_of_le' hk
  refine PlanOK.of_labels a b [0] [0] [ck] _ _ _ 1 rfl rfl ?_ (by decide) (by decide) ha.symm hb.symm ?_ nofun
  · exact List.forall_mem_cons.mpr ⟨hck, nofun⟩
  · exact ⟨Nat.succ_pos _, List.length_pos_iff.mpr hck, depth_one_axis hk, trivial⟩

theorem vdotPlan_mask (a b : Arr Int) (ck : List Nat) (k : Nat) (hk : 2 ≤ k) :
    (vdotPlan a b ck k).mask = [true] :=
  congrArg (fun x => [x]) (bne_zero_of_two_le hk)

theorem vdotPlan_outChunks (a b : Arr Int) (ck : List Nat) (k : Nat) (hk : 2 ≤ k) :
    outChunks (vdotPlan a b ck k) = [] := by
  rw [outChunks, vdotPlan_mask a b ck k hk]; rfl

theorem vdotPlan_den (a b : Arr Int) (ck : List Nat) (k : Nat)
    (ha : a.shape = [ck.sum]) (hb : b.shape = [ck.sum]) (hck : ck ≠ []) (hk : 2 ≤ k) :
    Arr.Equiv (contractDen (vdotPlan a b ck k)) (vdotDen a b) := by
  have hP := vdotPlan_ok a b ck k ha hb hck hk
  have hm := vdotPlan_mask a b ck k hk
  have hsh : (contractDen (vdotPlan a b ck k)).shape = [] := by
    rw [contractDen_shape _ hP, outChunks, hm]; rfl
  refine ⟨by rw [hsh]; rfl, ?_⟩
  intro ij hij
  rw [hsh] at hij
  match ij, hij with
  | [], _ =>
    rw [contractDen_get _ hP, hm]
    show lsum (allIdx [ck.sum]) _ = isum ((List.range (a.shape.getD 0 0)).map _)
    rw [lsum_allIdx_one, ha]
    apply lsum_congr
    intro c hc
    have hc' : c < ck.sum := List.mem_range.mp hc
    show npTerm [([0], a), ([0], b)] [c] = a.get [c] * b.get [c]
    simp only [npTerm, List.map_cons, List.map_nil, iprod, rd, ha, hb, List.zipWith_cons_cons,
      List.zipWith_nil_left, List.getD_cons_zero, Int.mul_one]
    rw [bc_of_lt hc']

theorem matvecPlan_ok (a v : Arr Int) (ri ck : List Nat) (k : Nat)
    (ha : a.shape = [ri.sum, ck.sum]) (hv : v.shape = [ck.sum])
    (hri : ri ≠ []) (hck : ck ≠ []) (hk : 2 ≤ k) :
    PlanOK (matvecPlan a v ri ck k) := by
  obtain ⟨k', rfl⟩ := Nat.exists_eq_add_of_le' hk
  refine PlanOK.of_labels a v [0, 1] [1] [ri, ck] _ _ _ 2 rfl rfl ?_ (by decide) (by decide) ha.symm hv.symm ?_ nofun
  · exact List.forall_mem_cons.mpr ⟨hri, List.forall_mem_cons.mpr ⟨hck, nofun⟩⟩
  · exact ⟨Nat.succ_pos _, List.length_pos_iff.mpr hck, depth_one_axis hk, trivial⟩

theorem matvecPlan_mask (a v : Arr Int) (ri ck : List Nat) (k : Nat) (hk : 2 ≤ k) :
    (matvecPlan a v ri ck k).mask = [false, true] :=
  congrArg (fun x => [false, x]) (bne_zero_of_two_le hk)

theorem matvecPlan_outChunks (a v : Arr Int) (ri ck : List Nat) (k : Nat) (hk : 2 ≤ k) :
    outChunks (matvecPlan a v ri ck k) = [ri] := by
  rw [outChunks, matvecPlan_mask a v ri ck k hk]; rfl

theorem matvecPlan_den (a v : Arr Int) (ri ck : List Nat) (k : Nat)
    (ha : a.shape = [ri.sum, ck.sum]) (hv : v.shape = [ck.sum])
    (hri : ri ≠ []) (hck : ck ≠ []) (hk : 2 ≤ k) :
    Arr.Equiv (contractDen (matvecPlan a v ri ck k)) (matvecDen a v) := by
  have hP := matvecPlan_ok a v ri ck k ha hv hri hck hk
  have hm := matvecPlan_mask a v ri ck k hk
  have hsh : (contractDen (matvecPlan a v ri ck k)).shape = [ri.sum] := by
    rw [contractDen_shape _ hP, outChunks, hm]; rfl
  refine ⟨by rw [hsh]; simp [matvecDen, ha], ?_⟩
  intro ij hij
  rw [hsh] at hij
  match ij, hij with
  | [i], hij =>
    simp only [InB] at hij
    rw [contractDen_get _ hP, hm]
    show lsum (allIdx [ck.sum]) _ = isum ((List.range (a.shape.getD 1 0)).map _)
    rw [lsum_allIdx_one, ha]
    apply lsum_congr
    intro c hc
    have hc' : c < ck.sum := List.mem_range.mp hc
    show npTerm [([0, 1], a), ([1], v)] [i, c] = a.get [i, c] * v.get [c]
    simp only [npTerm, List.map_cons, List.map_nil, iprod, rd, ha, hv, List.zipWith_cons_cons,
      List.zipWith_nil_left, List.getD_cons_zero, List.getD_cons_succ, Int.mul_one]
    rw [bc_of_lt hij.1, bc_of_lt hc']

theorem block_vs_den (P : Plan) (hP : PlanOK P) (D : Arr Int) (hD : Arr.Equiv (contractDen P) D)
    (oc : Layout) (hoc : outChunks P = oc) (ob : List Nat) (hob : validBid oc ob) :
    Arr.Equiv (outBlock P ob) (restrict D (extent oc ob)) := by
  subst hoc
  exact (outBlock_refines P hP ob hob).trans
    (restrict_equiv hD (outChunks P) ob (contractDen_shape P hP).symm hob)

/-- `v @ b` for a vector and a matrix: `out[j] = Σ_k v[k] * b[k, j]` -/
def vecmatDen (v b : Arr Int) : Arr Int :=
  ⟨[b.shape.getD 1 0], fun j =>
    isum ((List.range (v.shape.getD 0 0)).map (fun k => v.get [k] * b.get [k, j.getD 0 0]))⟩

end Dask.Contract
