/-
The facts `Glue` of Lemmas/StoreND.lean for every accepted call: `fuse_slice(region, idx)` names, axis by axis, the
pieces `idx` of the region's selection, for every index `idx` of sub-intervals that fits the selection (the blocks of a
chunking are such).  Then several (source, target, region) triples with pairwise different targets, all block tasks of
all triples executed in any order.
-/
import DaskArrayModel.Lemmas.StoreND
namespace Dask.Lemmas.StoreND
open Dask.Py Dask.Py.PySlice Dask.Slicing Dask.SourceIO Dask.StoreND Dask.Lemmas.SourceIO
open Dask.Lemmas.SliceAlgebra

theorem fuseTuple_nil (r : List RIdx) : fuseTuple r [] = .ok r := by
  induction r with
  | nil => rfl
  | cons a as ih =>
    cases a with
    | int i => simp [fuseTuple, ih, bind, Except.bind, pure, Except.pure]
    | slc s => simp [fuseTuple, ih, bind, Except.bind, pure, Except.pure]

theorem regionOK_glue (tshape : List Int) (r : List RIdx) (chunks : List (List Int))
    (h : regionOK tshape r chunks = true) :
    ∃ G, indexSel tshape r = .ok G ∧ NodupSel G ∧ selShape G = srcShape chunks ∧
      ∀ idx, Fits G idx → ∃ widx, fuseTuple r idx = .ok widx ∧
        indexSel tshape widx = .ok (blockSel G idx) := by
  fun_induction regionOK tshape r chunks with
  | case1 =>
    refine ⟨[], rfl, trivial, rfl, fun idx hf => ?_⟩
    cases idx with
    | nil => exact ⟨[], rfl, rfl⟩
    | cons _ _ => cases hf
  | case2 n ns i r cs ih =>
    simp only [Bool.and_eq_true, decide_eq_true_eq] at h
    obtain ⟨G, hG, hn, hs, hblk⟩ := ih h.2
    refine ⟨AxSel.pt (if i < 0 then i + n else i) :: G,
      by simp only [indexSel, h.1, and_self, if_true, hG], hn, hs, fun idx hf => ?_⟩
    obtain ⟨widx, hw, hsel⟩ := hblk idx hf
    exact ⟨RIdx.int i :: widx, by simp only [fuseTuple, hw, bind, Except.bind, pure, Except.pure],
      by simp only [indexSel, h.1, and_self, if_true, hsel, blockSel]⟩
  | case3 n ns s r c cs ih =>
    simp only [Bool.and_eq_true, decide_eq_true_eq] at h
    obtain ⟨⟨hn, hst, hstep, hstop, hlen⟩, hrest⟩ := h
    obtain ⟨G, hG, hnd, hs, hblk⟩ := ih hrest
    refine ⟨AxSel.many (sel s n) :: G, by simp only [indexSel, hG],
      ⟨nodup_sel s n (Int.ne_of_gt hstep), hnd⟩, ?_, fun idx hf => ?_⟩
    · simp only [selShape, srcShape, List.map_cons, List.cons.injEq]
      exact ⟨hlen.symm, hs⟩
    · cases idx with
      | nil => cases hf
      | cons p ps =>
        obtain ⟨_, h0, h1, h2, hps⟩ := hf
        obtain ⟨widx, hw, hsel⟩ := hblk ps hps
        obtain ⟨f, hf⟩ := storeIndexAxis_ok s p ⟨hst, Int.le_of_lt hstep, hstop⟩ h0 h1
        have hfs := storeIndexAxis_sel s n hn p f h0 h1 h2 hf
        exact ⟨RIdx.slc f :: widx,
          by simp only [fuseTuple, show fuseSliceSlice s _ = .ok f from hf, hw, bind,
            Except.bind, pure, Except.pure],
          by simp only [indexSel, hsel, blockSel, hfs]⟩
  | case4 => cases h

theorem piece_range (n : Int) (p : Int × Int) (h0 : 0 ≤ p.1) (h2 : p.2 ≤ n) :
    piece (rangeList 0 n 1) p = rangeList p.1 p.2 1 := by
  unfold piece
  apply pick_range_id
  intro i hi
  have := (mem_rangeList_one _ _ _).mp hi
  omega

theorem noregion_glue (shape : List Int) (hs : ∀ n ∈ shape, 0 ≤ n) :
    ∃ G, indexSel shape [] = .ok G ∧ NodupSel G ∧ selShape G = shape ∧
      ∀ idx, Fits G idx →
        indexSel shape (idx.map (fun p => RIdx.slc (chunkSlice p))) = .ok (blockSel G idx) := by
  induction shape with
  | nil =>
    refine ⟨[], rfl, trivial, rfl, fun idx hf => ?_⟩
    cases idx with
    | nil => rfl
    | cons _ _ => cases hf
  | cons n ns ih =>
    obtain ⟨G, hG, hn, hsh, hblk⟩ := ih (fun m hm => hs m (List.mem_cons_of_mem _ hm))
    have hn0 := hs n (List.mem_cons_self ..)
    have hlen : ((rangeList 0 n 1).length : Int) = n := by rw [length_rangeList, rangeLen_one]; omega
    refine ⟨AxSel.many (rangeList 0 n 1) :: G, by simp only [indexSel, hG],
      ⟨Dask.Lemmas.Rank.nodup_rangeList 0 n 1 Int.one_ne_zero, hn⟩,
      by simp only [selShape, hlen, hsh], fun idx hf => ?_⟩
    cases idx with
    | nil => cases hf
    | cons p ps =>
      obtain ⟨_, h0, h1, h2, hps⟩ := hf
      rw [hlen] at h2
      simp only [List.map_cons, indexSel, hblk ps hps, blockSel]
      rw [sel_chunkSlice _ _ h0 h1 h2, piece_range _ _ h0 h2]

theorem chunksOK_of_all (chunks : List (List Int))
    (h : chunks.all (fun c => c.all (fun x => decide (0 ≤ x))) = true) : ChunksOK chunks := by
  intro c hc x hx
  simp only [List.all_eq_true, decide_eq_true_eq] at h
  exact h c hc x hx

theorem glue_of_accepted (tshape : List Int) (region : Option (List RIdx)) (chunks : List (List Int))
    (h : accepted tshape region chunks = true) :
    ChunksOK chunks ∧ ∃ G, Glue tshape region chunks G := by
  unfold accepted at h
  rw [Bool.and_eq_true] at h
  have hc := chunksOK_of_all chunks h.1
  refine ⟨hc, ?_⟩
  have hnone : tshape = srcShape chunks → (region = none ∨ region = some []) → ∃ G, Glue tshape region chunks G := by
    rintro rfl hr
    obtain ⟨G, hG, hn, hs, hblk⟩ := noregion_glue (srcShape chunks) (fun n hn => by
      obtain ⟨c, hc', rfl⟩ := List.mem_map.mp hn
      exact isum_nonneg c (hc c hc'))
    refine ⟨G, ⟨by rcases hr with rfl | rfl <;> exact hG, hn, hs, fun idx hf => ?_⟩⟩
    refine ⟨idx.map (fun p => RIdx.slc (chunkSlice p)), ?_, hblk idx hf⟩
    rcases hr with rfl | rfl <;> rfl
  cases region with
  | none => exact hnone (by simpa using h.2) (Or.inl rfl)
  | some r =>
    cases r with
    | nil => exact hnone (by simpa using h.2) (Or.inr rfl)
    | cons x r =>
      obtain ⟨G, hG, hn, hs, hblk⟩ := regionOK_glue tshape (x :: r) chunks h.2
      refine ⟨G, ⟨hG, hn, hs, fun idx hf => ?_⟩⟩
      obtain ⟨widx, hw, hsel⟩ := hblk idx hf
      refine ⟨widx, ?_, hsel⟩
      unfold storeIndex
      simp only
      split
      · rename_i he
        have : idx = [] := by simpa using he
        rw [this, fuseTuple_nil] at hw
        exact hw
      · exact hw

/-- the region's selection of a job (`[]` when `target[region]` itself raises) -/
def selOf (j : Job) : List AxSel :=
  match regionSel j.tshape j.region with
  | .ok G => G
  | .error _ => []

def taskSpec (jobs : List Job) (task : Nat × List Nat) : Write (Nat × Pos) :=
  match jobs[task.1]? with
  | none => fun _ => none
  | some j => liftW j.tid (blockSpec (selOf j) j.chunks j.src task.2)

theorem mem_allTasksFrom (k : Nat) (jobs : List Job) (t : Nat × List Nat) :
    t ∈ allTasksFrom k jobs ↔ ∃ i j, jobs[i]? = some j ∧ t.1 = k + i ∧ t.2 ∈ blockIds j.chunks := by
  induction jobs generalizing k with
  | nil => simp [allTasksFrom]
  | cons j js ih =>
    simp only [allTasksFrom, List.mem_append, List.mem_map, ih (k + 1)]
    constructor
    · rintro (⟨b, hb, rfl⟩ | ⟨i, j', hj', ht, hb⟩)
      · exact ⟨0, j, rfl, rfl, hb⟩
      · exact ⟨i + 1, j', hj', by omega, hb⟩
    · rintro ⟨i, j', hj', ht, hb⟩
      cases i with
      | zero =>
        injection hj' with hj'
        subst hj'
        exact Or.inl ⟨t.2, hb, Prod.ext ht.symm rfl⟩
      | succ i => exact Or.inr ⟨i, j', hj', by omega, hb⟩

theorem mem_allTasks (jobs : List Job) (t : Nat × List Nat) :
    t ∈ allTasks jobs ↔ ∃ j, jobs[t.1]? = some j ∧ t.2 ∈ blockIds j.chunks := by
  rw [allTasks, mem_allTasksFrom]
  constructor
  · rintro ⟨i, j, hj, ht, hb⟩
    rw [Nat.zero_add] at ht
    exact ⟨j, ht ▸ hj, hb⟩
  · rintro ⟨j, hj, hb⟩
    exact ⟨t.1, j, hj, (Nat.zero_add _).symm, hb⟩

theorem nodup_allTasksFrom (k : Nat) (jobs : List Job) : (allTasksFrom k jobs).Nodup := by
  induction jobs generalizing k with
  | nil => simp [allTasksFrom]
  | cons j js ih =>
    simp only [allTasksFrom]
    rw [List.nodup_append]
    refine ⟨?_, ih (k + 1), ?_⟩
    · rw [List.Nodup, List.pairwise_map]
      exact (nodup_blockIds j.chunks).imp (fun h e => h (by injection e))
    · intro a ha b hb e
      obtain ⟨_, _, rfl⟩ := List.mem_map.mp ha
      obtain ⟨i, _, _, hi, _⟩ := (mem_allTasksFrom (k + 1) js b).mp hb
      subst e
      simp only at hi
      omega

def DistinctTids (jobs : List Job) : Prop :=
  ∀ (k k' : Nat) (j j' : Job), jobs[k]? = some j → jobs[k']? = some j' → k ≠ k' → j.tid ≠ j'.tid

theorem taskSpec_apply (jobs : List Job) (t : Nat × List Nat) (j : Job) (hj : jobs[t.1]? = some j)
    (p : Nat × Pos) :
    taskSpec jobs t p = if p.1 = j.tid then blockSpec (selOf j) j.chunks j.src t.2 p.2 else none := by
  simp only [taskSpec, hj, liftW]

theorem taskSpec_other_tid (jobs : List Job) (t : Nat × List Nat) (j : Job) (hj : jobs[t.1]? = some j)
    (p : Nat × Pos) (hne : p.1 ≠ j.tid) : taskSpec jobs t p = none := by
  rw [taskSpec_apply jobs t j hj, if_neg hne]

theorem taskSpec_disjoint (jobs : List Job) (hd : DistinctTids jobs)
    (hc : ∀ j ∈ jobs, ChunksOK j.chunks) (t t' : Nat × List Nat)
    (ht : t ∈ allTasks jobs) (ht' : t' ∈ allTasks jobs) (hne : t ≠ t') :
    Disjoint (taskSpec jobs t) (taskSpec jobs t') := by
  obtain ⟨j, hj, hb⟩ := (mem_allTasks jobs t).mp ht
  obtain ⟨j', hj', hb'⟩ := (mem_allTasks jobs t').mp ht'
  intro p
  by_cases hp : p.1 = j.tid
  · by_cases hk : t.1 = t'.1
    · obtain rfl : j = j' := Option.some.inj (hj.symm.trans (hk ▸ hj'))
      rw [taskSpec_apply jobs t j hj, taskSpec_apply jobs t' j hj', if_pos hp, if_pos hp]
      exact blockSpec_disjoint _ _ _ (hc j (List.mem_of_getElem? hj)) t.2 t'.2 hb hb'
        (fun e => hne (Prod.ext hk e)) p.2
    · exact Or.inr (taskSpec_other_tid jobs t' j' hj' p
        (fun e => hd t.1 t'.1 j j' hj hj' hk (hp.symm.trans e)))
  · exact Or.inl (taskSpec_other_tid jobs t j hj p hp)

theorem taskWrite_eq (jobs : List Job) (hacc : ∀ j ∈ jobs, accepted j.tshape j.region j.chunks = true)
    (t : Nat × List Nat) (ht : t ∈ allTasks jobs) : taskWrite jobs t = .ok (taskSpec jobs t) := by
  obtain ⟨j, hj, hb⟩ := (mem_allTasks jobs t).mp ht
  obtain ⟨hc, G, hg⟩ := glue_of_accepted j.tshape j.region j.chunks (hacc j (List.mem_of_getElem? hj))
  have hsel : selOf j = G := by simp [selOf, hg.sel]
  unfold taskWrite taskSpec
  simp only [hj, blockWrite_eq j.tshape j.region j.chunks G j.src hc hg t.2 hb, hsel]

theorem store_multi (jobs : List Job) (hd : DistinctTids jobs)
    (hacc : ∀ j ∈ jobs, accepted j.tshape j.region j.chunks = true)
    (sched : List (Nat × List Nat)) (hp : sched.Perm (allTasks jobs)) (heap : Nat × Pos → Int) :
    ∃ heap', storeMultiOrder jobs sched heap = .ok heap' ∧
      (∀ j ∈ jobs, ∀ q, heap' (j.tid, q) = specTarget (selOf j) j.src (fun q => heap (j.tid, q)) q) ∧
      (∀ tid, (∀ j ∈ jobs, j.tid ≠ tid) → ∀ q, heap' (tid, q) = heap (tid, q)) := by
  have hcs : ∀ j ∈ jobs, ChunksOK j.chunks := fun j hj =>
    (glue_of_accepted j.tshape j.region j.chunks (hacc j hj)).1
  have hm : mapE (taskWrite jobs) sched = .ok (sched.map (taskSpec jobs)) :=
    mapE_eq_map _ _ _ (fun t ht => taskWrite_eq jobs hacc t (hp.mem_iff.mp ht))
  have ha := applyAll_perm (taskSpec jobs) _ sched hp (nodup_allTasksFrom 0 jobs)
    (fun a ha b hb hab => taskSpec_disjoint jobs hd hcs a b ha hb hab) heap
  unfold storeMultiOrder
  simp only [hm]
  refine ⟨_, rfl, ?_, ?_⟩
  · intro j hj q
    obtain ⟨k, hk, hkj⟩ := List.getElem_of_mem hj
    have hkj' : jobs[k]? = some j := by rw [List.getElem?_eq_getElem hk, hkj]
    obtain ⟨hc, G, hg⟩ := glue_of_accepted j.tshape j.region j.chunks (hacc j hj)
    have hsel : selOf j = G := by simp [selOf, hg.sel]
    have hpart := writes_partition G j.chunks j.src hc hg.shape q
    unfold specTarget
    rw [hsel]
    cases hl : locate G q with
    | none =>
      apply (ha (j.tid, q)).2
      intro t ht
      obtain ⟨j', hj', _⟩ := (mem_allTasks jobs t).mp ht
      by_cases ht1 : t.1 = k
      · obtain rfl : j' = j := Option.some.inj (hj'.symm.trans (ht1 ▸ hkj'))
        rw [taskSpec_apply jobs t j' hj', if_pos rfl, hsel]
        exact hpart.2 hl t.2
      · exact taskSpec_other_tid jobs t j' hj' _ (fun e => hd t.1 k j' j hj' hkj' ht1 e.symm)
    | some g =>
      obtain ⟨bid, hb, hv, _⟩ := hpart.1 g hl
      apply (ha (j.tid, q)).1 (k, bid) ((mem_allTasks jobs (k, bid)).mpr ⟨j, hkj', hb⟩)
      rw [taskSpec_apply jobs (k, bid) j hkj', if_pos rfl, hsel]
      exact hv
  · intro tid hno q
    apply (ha (tid, q)).2
    intro t ht
    obtain ⟨j', hj', _⟩ := (mem_allTasks jobs t).mp ht
    exact taskSpec_other_tid jobs t j' hj' _ (fun e => hno j' (List.mem_of_getElem? hj') e.symm)

end Dask.Lemmas.StoreND
