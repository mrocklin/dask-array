/-
Lemmas for `gradient` (Model/Gradient.lean), one axis.

The `array_locs` arithmetic, read as a Python slice, selects the coordinates
`slab cs coords b = coords[lo_b - (b>0) : lo_b + c_b + (b<last)]`, and `overlap(depth 1, boundary none)` hands the block the
same positions of the values.  An `EdgeLocal` kernel on such a stretch agrees with the kernel on the whole axis except at
an end of the stretch that is not an end of the axis (`slice_local`), so it commutes with the pushed slice that a block
is (`edge_push` over `AxRec.Geom`, then `block_none` of Lemmas/OverlapPipe.lean).  Core Lean only.
-/
import DaskArrayModel.Model.Gradient
import DaskArrayModel.Lemmas.OverlapPipe
namespace Dask.Lemmas.Gradient
open Dask.Py Dask.Py.PySlice Dask.OverlapSlice Dask.OverlapPipe Dask.Gradient Dask.Lemmas.OverlapSlice Dask.Lemmas.OverlapPipe

variable {α β γ V C : Type}

theorem getSl_nonneg (s e : Nat) (x : List α) :
    getSl ⟨some (s : Int), some (e : Int), none⟩ x = (x.drop s).take (e - s) := by
  rw [getSl_window (SliceAlgebra.Window.of_fields (some (s : Int)) (some (e : Int)) (lo := min s x.length)
    (hi := min e x.length) (Int.natCast_nonneg _)
    (by simp only [Option.map_some, Option.getD_some, SliceAlgebra.adjust_false_eq]; omega)
    (by simp only [Option.map_some, Option.getD_some, SliceAlgebra.adjust_false_eq]; omega))]
  by_cases h : s ≤ x.length
  · rw [Nat.min_eq_left h]
    by_cases h2 : e ≤ x.length
    · rw [Nat.min_eq_left h2]
    · -- the stop is clamped: both counts reach the end of the list
      rw [Nat.min_eq_right (by omega), List.take_of_length_le (by rw [List.length_drop]; omega),
        List.take_of_length_le (by rw [List.length_drop]; omega)]
  · rw [List.drop_eq_nil_of_le (by omega), List.drop_eq_nil_of_le (by omega), List.take_nil, List.take_nil]

theorem cumsum_nat (cs : List Nat) {b : Nat} (hb : b < cs.length) :
    (cumsum (cs.map Int.ofNat))[b]? = some ((lo cs (b + 1) : Nat) : Int) := by
  have hl : b < (Layout.ofNat cs).length := by rw [Layout.ofNat_length]; exact hb
  have h := Layout.cumsum_getD (Layout.ofNat cs) hl
  rw [Layout.start_ofNat, List.getD_eq_getElem?_getD, List.getElem?_eq_getElem (by rw [cumsum_length]; exact hl)] at h
  exact (List.getElem?_eq_getElem _).trans (congrArg some h)

/-- `a[-1] -= 1` as a `modify` -/
theorem decLast_eq : ∀ (l : List Int), l ≠ [] → decLast l = some (l.modify (l.length - 1) (· - 1))
  | [], h => absurd rfl h
  | [a], _ => rfl
  | a :: c :: r, _ => by
    rw [decLast, decLast_eq (c :: r) (List.cons_ne_nil c r)]
    rfl

/-- `array_locs` in closed form: the two NumPy vectors with one entry overwritten each -/
theorem arrayLocs_eq (chunk : List Int) (hne : chunk ≠ []) :
    arrayLocs chunk = some
      (0 :: (List.zipWith (fun s c => s - c - 2) ((cumsum chunk).map (· + 1)) chunk).tail,
       ((cumsum chunk).map (· + 1)).modify (chunk.length - 1) (· - 1)) := by
  obtain ⟨c0, cr, rfl⟩ := List.exists_cons_of_ne_nil hne
  have h := decLast_eq ((cumsum (c0 :: cr)).map (· + 1)) (by intro h; cases h)
  rw [List.length_map, cumsum_length] at h
  simp only [arrayLocs, h]
  rfl

theorem arrayLocs_spec (cs : List Nat) (hne : cs ≠ []) :
    ∃ st sp, arrayLocs (cs.map Int.ofNat) = some (st, sp) ∧
      ∀ b, b < cs.length →
        st[b]? = some (if b = 0 then 0 else ((lo cs (b + 1) : Nat) : Int) + 1 - (cs.getD b 0 : Nat) - 2) ∧
        sp[b]? = some (((lo cs (b + 1) : Nat) : Int) + 1 - (if b + 1 = cs.length then 1 else 0)) := by
  refine ⟨_, _, arrayLocs_eq _ (mt List.map_eq_nil_iff.mp hne), fun b hb => ⟨?_, ?_⟩⟩
  · cases b with
    | zero => rfl
    | succ b =>
      rw [List.getElem?_cons_succ, List.getElem?_tail, List.getElem?_zipWith, List.getElem?_map, cumsum_nat cs hb,
        List.getElem?_map, List.getD_eq_getElem?_getD, List.getElem?_eq_getElem hb]
      rfl
  · rw [List.getElem?_modify, List.getElem?_map, cumsum_nat cs hb, List.length_map, Option.map_eq_map, Option.map_some,
      Option.map_some]
    by_cases h : b + 1 = cs.length
    · rw [if_pos h, if_pos (Nat.sub_eq_of_eq_add h.symm)]
    · rw [if_neg h, if_neg (by omega), Int.sub_zero]

theorem guard_of_min {m : Nat} (hm1 : 1 ≤ m) (cs : List Nat) (n : Nat) (hne : cs ≠ []) (hsum : cs.sum = n)
    (hmin : ∀ c ∈ cs, m ≤ c) : Guard 1 1 cs n :=
  ⟨hne, hsum, fun c hc => by have := hmin c hc; omega⟩

theorem coordSlice_eq (cs : List Nat) (coords : List C) (hpos : ∀ c ∈ cs, 1 ≤ c) (b : Nat) (hb : b < cs.length) :
    coordSlice cs coords b = some (slab cs coords b) := by
  have hne : cs ≠ [] := by intro h; rw [h] at hb; simp at hb
  obtain ⟨st, sp, h1, h2⟩ := arrayLocs_spec cs hne
  obtain ⟨hs, he⟩ := h2 b hb
  have hprev := (guard_block (guard_of_min (Nat.le_refl 1) cs cs.sum hne rfl hpos) hb).prev
  have hsucc := lo_succ cs b
  -- both bounds are natural numbers: the start of the slab, and its start plus its length
  have e0 : (if b = 0 then (0 : Int) else ((lo cs (b + 1) : Nat) : Int) + 1 - (cs.getD b 0 : Nat) - 2) =
      ((lo cs b - (if 0 < b then 1 else 0) : Nat) : Int) := by
    by_cases h0 : b = 0
    · subst h0; rfl
    · rw [if_neg h0, if_pos (by omega), hsucc]
      have := (hprev (by omega)).2
      omega
  have ha : (if 0 < b then 1 else 0) ≤ lo cs b := by
    split
    · exact (hprev ‹_›).2
    · exact Nat.zero_le _
  have e1 : (((lo cs (b + 1) : Nat) : Int) + 1 - (if b + 1 = cs.length then 1 else 0)) =
      ((lo cs b - (if 0 < b then 1 else 0) +
        ((if 0 < b then 1 else 0) + cs.getD b 0 + (if b + 1 < cs.length then 1 else 0)) : Nat) : Int) := by
    rw [hsucc]
    by_cases h : b + 1 < cs.length
    · rw [if_pos h, if_neg (by omega)]; omega
    · rw [if_neg h, if_pos (by omega)]; omega
  unfold coordSlice coordSliceWith
  rw [h1]
  simp only [hs, he]
  rw [e0, e1, getSl_nonneg, Nat.add_sub_cancel_left]
  rfl

theorem extBlock_slab (cs : List Nat) (x : List α) (hG : Guard 1 1 cs x.length) (k : Nat) (hk : k < cs.length) :
    extBlock 1 1 (cut cs x) k = slab cs x k :=
  extBlock_blockRec x (guard_block hG hk)

theorem slice_local {m : Nat} {K : List γ → List β} (hK : EdgeLocal m K) (x : List γ) (s L : Nat)
    (hfit : s + L ≤ x.length) (hm : m ≤ L) (j : Nat) (hj : j < L) (h0 : j = 0 → s = 0)
    (h1 : j + 1 = L → s + L = x.length) :
    (K ((x.drop s).take L))[j]? = (K x)[s + j]? := by
  obtain ⟨_, hint, hleft, hright⟩ := hK
  have hEl : ((x.drop s).take L).length = L := by
    rw [List.length_take, List.length_drop]; omega
  have hmE : m ≤ ((x.drop s).take L).length := by rw [hEl]; exact hm
  have hmx : m ≤ x.length := Nat.le_trans hm (Nat.le_trans (Nat.le_add_left L s) hfit)
  by_cases hj0 : j = 0
  · obtain rfl := h0 hj0
    subst hj0
    apply hleft _ _ hmE hmx
    rw [List.drop_zero, List.take_take, Nat.min_eq_left hm]
  · by_cases hj1 : j + 1 = L
    · have hx := h1 hj1
      subst hj1
      have := hright ((x.drop s).take (j + 1)) x hmE hmx (by
        rw [List.take_of_length_le (by rw [List.length_drop]; omega)]
        unfold lastN
        rw [List.length_drop, List.drop_drop]
        congr 1
        omega)
      rw [hEl, ← hx] at this
      exact this
    · cases j with
      | zero => exact absurd rfl hj0
      | succ i =>
        have h2 : i + 2 < L := Nat.lt_of_le_of_ne hj hj1
        exact hint _ x i (s + i) hmE hmx (hEl.symm ▸ h2) (Nat.lt_of_lt_of_le (Nat.add_lt_add_left h2 s) hfit)
          (window_stretch 3 x s L i h2)

theorem edge_push {m : Nat} {K : List γ → List β} (hK : EdgeLocal m K) {r : AxRec γ} (h : r.Geom) (hdl : r.dl = 1)
    (hdr : r.dr = 1) (x : List γ) (hx : x.length = r.n) (hm : m ≤ r.L) :
    ((K ((x.drop r.es).take r.m)).drop r.ts).take r.L = ((K x).drop r.s).take r.L := by
  have hreq := h.req
  apply List.ext_getElem?
  intro i
  rw [List.getElem?_take, List.getElem?_take, List.getElem?_drop, List.getElem?_drop]
  by_cases hi : i < r.L
  · rw [if_pos hi, if_pos hi, h.start, Nat.add_assoc]
    refine slice_local hK x r.es r.m (hx ▸ h.sub) (Nat.le_trans hm (Nat.le_trans (Nat.le_add_left _ _) hreq)) (r.ts + i)
      (Nat.lt_of_lt_of_le (Nat.add_lt_add_left hi _) hreq) (fun h0 => (h.left (by omega)).1) ?_
    intro h1
    rcases h.right (Nat.lt_of_le_of_lt (Nat.zero_le i) hi) with h' | h'
    · omega
    · exact hx ▸ h'.1
  · rw [if_neg hi, if_neg hi]

theorem block_edge {m : Nat} {K : List γ → List β} (hK : EdgeLocal m K) (hm1 : 1 ≤ m)
    (cs : List Nat) (x : List γ) (hne : cs ≠ []) (hsum : cs.sum = x.length) (hmin : ∀ c ∈ cs, m ≤ c)
    (k : Nat) (hk : k < cs.length) :
    trimBlock .none 1 1 cs.length k (K (extBlock 1 1 (cut cs x) k)) = ((K x).drop (lo cs k)).take (cs.getD k 0) := by
  have hG := guard_of_min hm1 cs x.length hne hsum hmin
  have hgeo := blockRec_geom (α := γ) (guard_block hG hk)
  have hck : m ≤ (blockRec γ 1 1 cs x.length k).L := hmin _ (getD_mem cs k 0 hk)
  have hreq := hgeo.req
  exact block_none K (K x) x (guard_block hG hk) hk rfl fun e he hlen =>
    ⟨hK.1 e (by omega), he ▸ edge_push hK hgeo rfl rfl x rfl hck⟩

theorem overlapBlocks_none (blks : List (List α)) :
    overlapBlocks (.none : Boundary α) 1 1 blks = overlapInternal 1 1 blks := by
  simp [overlapBlocks, boundaryBlocks, addsPieces, Boundary.kind, overlapTrimDepth, chunkTrim]

theorem gradientBlocks_eq_cut {m : Nat} {K : List γ → List β} (hK : EdgeLocal m K) (hm1 : 1 ≤ m)
    (cs : List Nat) (x : List γ) (hne : cs ≠ []) (hsum : cs.sum = x.length) (hmin : ∀ c ∈ cs, m ≤ c) :
    gradientBlocks cs K x = cut cs (K x) := by
  have hG := guard_of_min hm1 cs x.length hne hsum hmin
  unfold gradientBlocks pipelineBlocks
  rw [overlapBlocks_none, overlapInternal, cut_length, List.map_map, trimInternal_range, cut_eq_map cs (K x)]
  apply List.map_congr_left
  intro k hk
  have hk := List.mem_range.mp hk
  exact block_edge hK hm1 cs x hne hsum hmin k hk

theorem gradientAxis_eq {m : Nat} {K : List γ → List β} (hK : EdgeLocal m K) (hm1 : 1 ≤ m)
    (cs : List Nat) (x : List γ) (hne : cs ≠ []) (hsum : cs.sum = x.length) (hmin : ∀ c ∈ cs, m ≤ c) :
    gradientAxis cs K x = K x := by
  unfold gradientAxis
  rw [gradientBlocks_eq_cut hK hm1 cs x hne hsum hmin]
  apply cut_flatten
  have h0 := List.length_pos_iff.mpr hne
  have hm : m ≤ x.length :=
    Nat.le_trans (hmin _ (getD_mem cs 0 0 h0))
      (Nat.le_trans (Nat.le_add_left _ _) (guard_block (guard_of_min hm1 cs x.length hne hsum hmin) h0).fits)
  rw [hK.1 x hm, hsum]

theorem slab_zip (cs : List Nat) (f : List V) (coords : List C) (k : Nat) :
    slab cs (f.zip coords) k = (slab cs f k).zip (slab cs coords k) := by
  unfold slab
  simp only [List.zip, List.take_zipWith, List.drop_zipWith]

theorem blockInput_slab (cs : List Nat) (f : List V) (coords : List C) (hG : Guard 1 1 cs f.length)
    (hc : coords.length = f.length) (b : Nat) (hb : b < cs.length) :
    blockInput cs f coords b = some ((slab cs f b).zip (slab cs coords b)) := by
  have hpos : ∀ c ∈ cs, 1 ≤ c := fun c h => by have := hG.2.2 c h; omega
  unfold blockInput blockValues
  rw [coordSlice_eq cs coords hpos b hb, extBlock_slab cs f hG b hb]
  have hl : (slab cs coords b).length = (slab cs f b).length := by
    simp only [slab, List.length_take, List.length_drop, hc]
  simp only [hl, if_true]

theorem blockInput_eq (cs : List Nat) (f : List V) (coords : List C) (hG : Guard 1 1 cs f.length)
    (hc : coords.length = f.length) (b : Nat) (hb : b < cs.length) :
    blockInput cs f coords b = some (extBlock 1 1 (cut cs (f.zip coords)) b) := by
  have hGz : Guard 1 1 cs (f.zip coords).length := by
    rw [List.length_zip, hc, Nat.min_self]; exact hG
  rw [blockInput_slab cs f coords hG hc b hb, extBlock_slab cs _ hGz b hb, slab_zip]

theorem gradientCoordBlocks_eq (cs : List Nat) (K : List (V × C) → List β) (f : List V) (coords : List C)
    (hG : Guard 1 1 cs f.length) (hc : coords.length = f.length) :
    gradientCoordBlocks cs K f coords = some (gradientBlocks cs K (f.zip coords)) := by
  unfold gradientCoordBlocks
  rw [mapM_some _ (fun b => extBlock 1 1 (cut cs (f.zip coords)) b) _
    (fun b hb => blockInput_eq cs f coords hG hc b (by simpa using hb))]
  unfold gradientBlocks pipelineBlocks
  rw [overlapBlocks_none]
  simp only [overlapInternal, cut_length, List.map_map, Option.map_some]
  rfl

theorem chunkGuard_iff (eo : Nat) (cs : List Nat) :
    chunkGuard eo (cs.map Int.ofNat) = true ↔ ∀ c ∈ cs, eo + 1 ≤ c := by
  unfold chunkGuard
  simp only [List.all_eq_true, List.mem_map, Bool.not_eq_true', decide_eq_false_iff_not]
  constructor
  · intro h c hc
    have := h (Int.ofNat c) ⟨c, hc, rfl⟩
    simp at this
    omega
  · rintro h _ ⟨c, hc, rfl⟩
    have := h c hc
    simp
    omega

/-- the middle term of `edgeKernel` (Model/Gradient.lean) -/
def mid (c : γ → γ → γ → β) (e : List γ) : List β :=
  List.zipWith (fun (pq : γ × γ) r => c pq.1 pq.2 r) (e.zip (e.drop 1)) (e.drop 2)

theorem edgeKernel_eq (m : Nat) (c : γ → γ → γ → β) (L R : List γ → β) (e : List γ) (hm : 2 ≤ m)
    (he : m ≤ e.length) : edgeKernel m c L R e = L (e.take m) :: (mid c e ++ [R (lastN m e)]) := by
  unfold edgeKernel
  rw [if_neg (by omega)]
  rfl

theorem window_entries {w : Nat} {e e' : List γ} {i j : Nat} (hw : window w e i = window w e' j) (t : Nat)
    (ht : t < w) : e[i + t]? = e'[j + t]? := by
  have := congrArg (·[t]?) hw
  rwa [window_getElem?, window_getElem?, if_pos ht, if_pos ht] at this

theorem mid_winLocal (c : γ → γ → γ → β) : WinLocal 1 1 (mid c) := by
  refine ⟨fun e => ?_, fun e e' i j _ _ hw => ?_⟩
  · show _ = e.length - 2
    simp only [mid, List.length_zipWith, List.length_zip, List.length_drop]
    omega
  · simp only [mid, List.zip, List.getElem?_zipWith, List.getElem?_drop, Nat.add_comm 1, Nat.add_comm 2]
    rw [show e[i]? = e'[j]? from window_entries hw 0 (by decide), window_entries hw 1 (by decide),
      window_entries hw 2 (by decide)]

theorem edgeKernel_edgeLocal (m : Nat) (c : γ → γ → γ → β) (L R : List γ → β) (hm : 2 ≤ m) :
    EdgeLocal m (edgeKernel m c L R) := by
  have hmid := mid_winLocal c
  have hlen : ∀ e, m ≤ e.length → (edgeKernel m c L R e).length = e.length := by
    intro e he
    rw [edgeKernel_eq m c L R e hm he, List.length_cons, List.length_append, hmid.1, List.length_singleton]
    omega
  have hlast : ∀ e, m ≤ e.length → (edgeKernel m c L R e)[e.length - 1]? = some (R (lastN m e)) := by
    intro e he
    rw [← hlen e he, ← List.getLast?_eq_getElem?, edgeKernel_eq m c L R e hm he, ← List.cons_append,
      List.getLast?_concat]
  refine ⟨hlen, ?_, ?_, ?_⟩
  · intro e e' i j he he' hi hj hw
    rw [edgeKernel_eq m c L R e hm he, edgeKernel_eq m c L R e' hm he', List.getElem?_cons_succ,
      List.getElem?_cons_succ, List.getElem?_append_left (by rw [hmid.1]; omega),
      List.getElem?_append_left (by rw [hmid.1]; omega)]
    exact hmid.2 e e' i j hi hj hw
  · intro e e' he he' ht
    rw [edgeKernel_eq m c L R e hm he, edgeKernel_eq m c L R e' hm he', ht]
    rfl
  · intro e e' he he' ht
    rw [hlast e he, hlast e' he', ht]

def pos12 : List Int := [0, 1, 2, 3, 4, 5, 6, 7, 8, 9, 10, 11]

/-- an integer kernel of the class with three-point ends -/
def kInt : List Int → List Int := edgeKernel 3 (fun a _ c => c - a) (fun l => l.sum) (fun l => 0 - l.sum)
def sq6 : List Int := [0, 1, 4, 9, 16, 25]

end Dask.Lemmas.Gradient
