/-
`x.vindex[...]` end to end (Model/Vindex.lean `vindexEval`).  `_vindex`: the bounds test and `ind %= size` agree
with NumPy's meaning of negative entries.  `_vindex_array` on the normalised arrays, by the number of indexed
axes: one goes through `_compute_indexer` + `_shuffle`, two or more through the `VIndexArray` layer
(Lemmas/Vindex.lean).
-/
import DaskArrayModel.Lemmas.Vindex
namespace Dask.Lemmas.Vindex
open Dask.Py Dask.Slicing Dask.Indexing Dask.Shuffle Dask.Vindex Dask.Lemmas.Shuffle

theorem pyMod_posify {n i : Int} (h : -n ≤ i ∧ i < n) : pyMod i n = posifyInt n i := by
  unfold pyMod posifyInt
  rw [if_pos (Int.neg_lt_self_iff.mp (Int.lt_of_le_of_lt h.1 h.2))]
  split
  next hi =>
    rw [← Int.add_emod_right i n]
    exact Int.emod_eq_of_lt (Int.add_nonneg_iff_neg_le.mpr h.1) (Int.add_lt_of_lt_sub_right (Int.sub_self n ▸ hi))
  next hi => exact Int.emod_eq_of_lt (Int.not_lt.mp hi) h.2

/-- the bounds test of `_vindex` is NumPy's rule, and `ind %= size` is `posify_index` on what passes. -/
theorem normAxis_eq (size : Int) (ind : List Int) :
    normAxis size ind =
      if ∀ i ∈ ind, -size ≤ i ∧ i < size then .ok (ind.map (posifyInt size)) else .error .indexError := by
  unfold normAxis
  by_cases h : ∀ i ∈ ind, -size ≤ i ∧ i < size
  · rw [if_pos h, if_neg]
    · exact congrArg Except.ok (List.map_congr_left fun i hi => pyMod_posify (h i hi))
    · intro ha
      obtain ⟨i, hi, hd⟩ := List.any_eq_true.mp ha
      exact (of_decide_eq_true hd).elim (Int.not_le.mpr (h i hi).2) (Int.not_lt.mpr (h i hi).1)
  · rw [if_neg h, if_pos]
    refine Decidable.byContradiction fun hn => h fun i hi => ?_
    exact ⟨Int.not_lt.mp fun hc => hn (List.any_eq_true.mpr ⟨i, hi, decide_eq_true (Or.inr hc)⟩),
      Int.not_le.mp fun hc => hn (List.any_eq_true.mpr ⟨i, hi, decide_eq_true (Or.inl hc)⟩)⟩

theorem normAll_cons (size : Int) (sizes : List Int) (ind : List Int) (inds : List (List Int)) :
    normAll (size :: sizes) (ind :: inds) =
      match normAxis size ind with
      | .error e => .error e
      | .ok r =>
        match normAll sizes inds with
        | .ok rs => .ok (r :: rs)
        | .error e => .error e := rfl

/-- the index arrays after `ind %= size`, axis by axis (`size` = the sum of the axis's chunks) -/
def normed (css inds : List (List Int)) : List (List Int) :=
  List.zipWith (fun cs ind => ind.map (posifyInt (isum cs))) css inds

theorem normAll_ok (css inds : List (List Int)) (P : Nat) (h : WF css inds P)
    (hr : InRangeAll (css.map isum) inds) :
    normAll (css.map isum) inds = .ok (normed css inds) ∧ PointsOK css (normed css inds) P := by
  induction css generalizing inds with
  | nil =>
    cases inds with
    | nil => exact ⟨rfl, trivial⟩
    | cons _ _ => exact h.elim
  | cons cs css ih =>
    cases inds with
    | nil => exact h.elim
    | cons ind inds =>
      obtain ⟨hcs, hl, hrest⟩ := h
      obtain ⟨hr1, hr2⟩ := hr
      have ih := ih inds hrest hr2
      simp only [List.map_cons, normAll_cons, normAxis_eq, if_pos hr1, ih.1, normed, List.zipWith_cons_cons]
      refine ⟨trivial, hcs, by rw [List.length_map, hl], ?_, ih.2⟩
      intro p hp
      rcases List.mem_map.mp hp with ⟨i, hi, rfl⟩
      exact Dask.Lemmas.Indexing.posifyInt_bounds (hr1 i hi)

theorem normAll_err (sizes : List Int) (inds : List (List Int)) (hr : ¬ InRangeAll sizes inds) :
    normAll sizes inds = .error .indexError := by
  induction sizes generalizing inds with
  | nil => exact absurd trivial hr
  | cons size sizes ih =>
    cases inds with
    | nil => exact absurd trivial hr
    | cons ind inds =>
      simp only [normAll_cons, normAxis_eq]
      by_cases h1 : ∀ i ∈ ind, -size ≤ i ∧ i < size
      · rw [if_pos h1, ih inds (fun h2 => hr ⟨h1, h2⟩)]
      · rw [if_neg h1]

theorem pointAt_normed (css inds : List (List Int)) (P j : Nat) (h : WF css inds P) (hj : j < P) :
    pointAt (normed css inds) j = normPoint css inds j := by
  induction css generalizing inds with
  | nil =>
    cases inds with
    | nil => rfl
    | cons _ _ => exact h.elim
  | cons cs css ih =>
    cases inds with
    | nil => exact h.elim
    | cons ind inds =>
      have ih := ih inds h.2.2
      unfold pointAt normed normPoint at ih ⊢
      simp only [List.zipWith_cons_cons, List.map_cons, ih]
      rw [getD_map _ _ _ 0 0 (by rw [h.2.1]; exact hj)]

theorem headD_normed_length (cs : List Int) (css inds : List (List Int)) (P : Nat)
    (h : WF (cs :: css) inds P) : ((normed (cs :: css) inds).headD []).length = P := by
  cases inds with
  | nil => exact h.elim
  | cons ind inds => exact (List.length_map _).trans h.2.1

section top
variable (argsort : List Int → List Nat) (hA : ∀ l, IsArgsort l (argsort l))
include hA

/-- `_compute_indexer` + `_shuffle` on an index list made non-negative by `posify_index` / `ind %= size`:
`[x[i] for i in index]`, negatives counted from the end. -/
theorem shuffle_posify (cs index : List Int) (hcs : ChunksOK cs)
    (h : ∀ i ∈ index, -(isum cs) ≤ i ∧ i < isum cs) {α} (x : Int → α) :
    ∃ out, shuffleEval argsort cs (computeIndexer (index.map (posifyInt (isum cs))) cs) x = .ok out ∧
      out.flatten = index.map (fun i => x (posifyInt (isum cs) i)) ∧
      out.map (fun c => (c.length : Int)) =
        shuffleChunks cs (computeIndexer (index.map (posifyInt (isum cs))) cs) := by
  have hfl := Dask.Lemmas.Indexing.computeIndexer_flatten (index.map (posifyInt (isum cs))) cs
  have hib : InBounds (isum cs) (computeIndexer (index.map (posifyInt (isum cs))) cs) := by
    intro g hg p hp
    have hp' : p ∈ index.map (posifyInt (isum cs)) := hfl ▸ List.mem_flatten.mpr ⟨g, hg, hp⟩
    obtain ⟨i, hi, rfl⟩ := List.mem_map.mp hp'
    exact Dask.Lemmas.Indexing.posifyInt_bounds (h i hi)
  obtain ⟨out, h1, h2, h3⟩ := shuffle_correct argsort hA cs hcs _ hib x
  refine ⟨out, h1, ?_, h3⟩
  rw [h2, hfl, List.map_map]
  rfl

theorem vindex_single (cs ind : List Int) (hcs : ChunksOK cs)
    (h : ∀ i ∈ ind, -(isum cs) ≤ i ∧ i < isum cs) {α} (x : List Int → α) :
    ∃ out, vindexEval argsort [cs] [ind] x = .ok out ∧
      out.flatten = (List.range ind.length).map (fun j => some (x (normPoint [cs] [ind] j))) := by
  have hn := normAll_ok [cs] [ind] ind.length ⟨hcs, rfl, trivial⟩ ⟨h, trivial⟩
  unfold vindexEval
  rw [hn.1]
  simp only [normed, List.zipWith_cons_cons, List.zipWith_nil_right, List.headD_cons, List.length_map]
  by_cases hP : ind.length = 0
  · rw [if_pos hP, hP]
    exact ⟨[[]], rfl, rfl⟩
  · rw [if_neg hP]
    obtain ⟨out, h1, h2, _⟩ := shuffle_posify argsort hA cs ind hcs h (fun p => x [p])
    refine ⟨out.map (fun c => c.map some), by rw [h1], ?_⟩
    rw [← List.map_flatten, h2, List.map_map]
    -- read `ind` as `range ind.length` mapped through `getD`, which is how `normPoint` names its entries
    refine Eq.trans (congrArg _ (map_getD_range ind 0).symm) ?_
    rw [List.map_map]
    rfl

theorem vindex_multi (cs cs2 : List Int) (css inds : List (List Int)) (P : Nat)
    (hwf : WF (cs :: cs2 :: css) inds P) (h : InRangeAll ((cs :: cs2 :: css).map isum) inds)
    {α} (x : List Int → α) :
    ∃ out, vindexEval argsort (cs :: cs2 :: css) inds x = .ok out ∧
      out.flatten = (List.range P).map (fun j => some (x (normPoint (cs :: cs2 :: css) inds j))) ∧
      out.map (fun c => (c.length : Int)) = vChunks (cs :: cs2 :: css) P := by
  have hn := normAll_ok _ inds P hwf h
  have hhead := headD_normed_length cs (cs2 :: css) inds P hwf
  unfold vindexEval
  rw [hn.1]
  simp only [hhead]
  by_cases hP : P = 0
  · subst hP
    exact ⟨[[]], rfl, rfl, rfl⟩
  · have hP' : 0 < P := Nat.pos_of_ne_zero hP
    have hm := mcpd_pos _ _ P hn.2 hP'
    refine ⟨_, (if_neg hP).trans (evalLayer_correct argsort hA _ _ P hn.2 hhead hP' x), ?_, ?_⟩
    · rw [chunk_flatten (fun j => some (x (pointAt (normed (cs :: cs2 :: css) inds) j))),
        Nat.min_eq_right (by rw [vChunks_length _ P hP']; exact le_pieces_mul hm P)]
      apply List.map_congr_left
      intro j hj
      rw [pointAt_normed _ inds P j hwf (List.mem_range.mp hj)]
    · rw [List.map_map]
      simp only [Function.comp_def, List.length_map, List.length_range]
      rw [vChunks_length _ P hP', piece_lengths hm P]
      exact (vChunks_pos _ hP').symm

end top
end Dask.Lemmas.Vindex
