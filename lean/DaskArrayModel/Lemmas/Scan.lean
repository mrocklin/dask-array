/-
Proofs for the cumulative-scan models (Model/Scan.lean): the sequential `extra` chain and the Blelloch up-sweep and
down-sweep give every block the fold of all earlier elements, for EVERY block count; hence the assembled blocks are the
global inclusive scan (`specBlocks` is the block-wise form of that scan, and both layers are shown equal to it).
Blelloch: `Cover op t pv len` says `prefix_vals[j]` holds the fold of the `len (j + 1)` totals ending at position
`j + 1`; a level of either sweep is the same step on positions (`sweep_level`), and the sweeps differ only in the
lengths they keep (`lenUp`, `dlen`).  The down-sweep knows the up-sweep only through `Lowbit n len`: every position
`0 < k ≤ n` holds the segment whose length is the largest power of two dividing `k`.
-/
import DaskArrayModel.Lemmas.OFold
namespace Dask.Lemmas.Scan
open Dask.Scan

variable {β : Type}

theorem scanFrom_cons (op : β → β → β) (a x : β) (xs : List β) :
    scanFrom op a (x :: xs) = op a x :: scanFrom op (op a x) xs := rfl

theorem scanFrom_append (op : β → β → β) (a : β) (xs ys : List β) :
    scanFrom op a (xs ++ ys) = scanFrom op a xs ++ scanFrom op (xs.foldl op a) ys := by
  induction xs generalizing a with
  | nil => rfl
  | cons x xs ih => simp [scanFrom_cons, ih]

theorem scanFrom_map {op : β → β → β} (hop : Assoc op) (a y : β) (ys : List β) :
    scanFrom op (op a y) ys = (scanFrom op y ys).map (op a) := by
  induction ys generalizing y with
  | nil => rfl
  | cons z zs ih => simp only [scanFrom_cons, List.map_cons]; rw [hop a y z, ih]

theorem scanFrom_eq_map {op : β → β → β} (hop : Assoc op) (a : β) (b : List β) :
    scanFrom op a b = (scanl1 op b).map (op a) := by
  cases b with
  | nil => rfl
  | cons y ys => simp [scanFrom_cons, scanl1, scanFrom_map hop]

theorem scanFrom_length (op : β → β → β) (a : β) (b : List β) : (scanFrom op a b).length = b.length := by
  induction b generalizing a with
  | nil => rfl
  | cons y ys ih => exact congrArg Nat.succ (ih _)

theorem scanl1_length (op : β → β → β) (b : List β) : (scanl1 op b).length = b.length := by
  cases b <;> simp [scanl1, scanFrom_length]

theorem getLast?_scan (op : β → β → β) (y : β) (ys : List β) :
    (y :: scanFrom op y ys).getLast? = some (ys.foldl op y) := by
  induction ys generalizing y with
  | nil => rfl
  | cons z zs ih => exact List.getLast?_cons_cons.trans (ih _)

/-- the scan of a block seeded with the fold of everything before it, if there is anything before it -/
def scanO (op : β → β → β) : Option β → List β → List β
  | none, l => scanl1 op l
  | some a, l => scanFrom op a l

theorem scanO_append {op : β → β → β} (hop : Assoc op) (acc : Option β) (xs ys : List β) :
    scanO op acc (xs ++ ys) = scanO op acc xs ++ scanO op (oop op acc (ofold op xs)) ys := by
  cases xs with
  | nil => simp [scanO, ofold, oop_none_right]; cases acc <;> rfl
  | cons x xs =>
    cases acc with
    | none => simp [scanO, scanl1, ofold, oop, scanFrom_append]
    | some a =>
      simp only [scanO, ofold, oop, scanFrom_append, List.foldl_cons]
      rw [← List.foldl_assoc (ha := ⟨hop⟩)]

/-- the specification in block form: block `i` is the scan of its elements seeded with the
fold of everything before it. -/
def specBlocks (op : β → β → β) : Option β → List (List β) → List (List β)
  | _, [] => []
  | acc, b :: bs => scanO op acc b :: specBlocks op (oop op acc (ofold op b)) bs

theorem specBlocks_flatten {op : β → β → β} (hop : Assoc op) (acc : Option β) (bs : List (List β)) :
    (specBlocks op acc bs).flatten = scanO op acc bs.flatten := by
  induction bs generalizing acc with
  | nil => cases acc <;> rfl
  | cons b bs ih => simp [specBlocks, ih, scanO_append hop]

theorem specBlocks_lengths (op : β → β → β) (acc : Option β) (bs : List (List β)) :
    (specBlocks op acc bs).map List.length = bs.map List.length := by
  induction bs generalizing acc with
  | nil => rfl
  | cons b bs ih =>
    simp only [specBlocks, List.map_cons, ih]
    cases acc <;> simp [scanO, scanl1_length, scanFrom_length]

/-- the loop's blocks are the specification seeded with the offset `A` of the next block; `A` is a variable
tied to `op extra (cumTail ident prev)` by `hA` so that the induction hypothesis meets the next offset in
whatever form the loop produces it -/
theorem seqLoop_spec {op : β → β → β} (hop : Assoc op) (ident : β) (rest : List (List β))
    (hne : ∀ b ∈ rest, b ≠ []) (extra : β) (prev : List β) (A : β)
    (hA : op extra (cumTail ident prev) = A) :
    (seqLoop op ident extra prev (rest.map (scanl1 op))).map Prod.snd = specBlocks op (some A) rest := by
  induction rest generalizing extra prev A with
  | nil => rfl
  | cons b rest ih =>
    simp only [List.map_cons, seqLoop, specBlocks, hA, scanO]
    have hb : b ≠ [] := hne b (by simp)
    have hrest : ∀ b ∈ rest, b ≠ [] := fun b' h => hne b' (by simp [h])
    rw [← scanFrom_eq_map hop]
    congr 1
    cases b with
    | nil => exact absurd rfl hb
    | cons y ys =>
      simp only [ofold, oop]
      apply ih hrest
      simp [cumTail, scanl1, getLast?_scan]

theorem seqBlocks_eq_spec {op : β → β → β} (hop : Assoc op) (ident : β)
    (hid : ∀ x, op ident x = x) (bs : List (List β)) (hne : ∀ b ∈ bs, b ≠ []) :
    seqBlocks op ident bs = specBlocks op none bs := by
  cases bs with
  | nil => rfl
  | cons b0 rest =>
    simp only [seqBlocks, List.map_cons, specBlocks, scanO, oop_none_left]
    have hb : b0 ≠ [] := hne b0 (by simp)
    have hrest : ∀ b ∈ rest, b ≠ [] := fun b' h => hne b' (by simp [h])
    congr 1
    cases b0 with
    | nil => exact absurd rfl hb
    | cons y ys =>
      rw [seqLoop_spec hop ident rest hrest ident (scanl1 op (y :: ys)) (ys.foldl op y)]
      · rfl
      · simp [cumTail, scanl1, getLast?_scan, hid]

theorem seqScan_correct {op : β → β → β} (hop : Assoc op) (ident : β)
    (hid : ∀ x, op ident x = x) (bs : List (List β)) (hne : ∀ b ∈ bs, b ≠ []) :
    (seqBlocks op ident bs).flatten = scanl1 op bs.flatten := by
  rw [seqBlocks_eq_spec hop ident hid bs hne, specBlocks_flatten hop]; rfl

theorem mem_rangeStep {a m d i : Nat} (hd : 0 < d) :
    i ∈ rangeStep a m d ↔ ∃ k, i = a + k * d ∧ i < m := by
  unfold rangeStep
  simp only [List.mem_map, List.mem_range]
  constructor
  · rintro ⟨k, hk, rfl⟩
    refine ⟨k, rfl, ?_⟩
    have h1 : (k + 1) * d ≤ m - a + d - 1 := (Nat.le_div_iff_mul_le hd).mp hk
    rw [Nat.add_mul] at h1
    omega
  · rintro ⟨k, rfl, hlt⟩
    refine ⟨k, ?_, rfl⟩
    apply (Nat.le_div_iff_mul_le hd).mpr
    rw [Nat.succ_mul]
    omega

theorem nodup_rangeStep {a m d : Nat} (hd : 0 < d) : (rangeStep a m d).Nodup := by
  unfold rangeStep
  rw [List.nodup_iff_pairwise_ne]
  refine List.Pairwise.map _ ?_ List.pairwise_lt_range
  intro x y hxy h
  have h2 : x * d < y * d := Nat.mul_lt_mul_of_pos_right hxy hd
  omega

theorem applyStep_length (op : β → β → β) (pv : List β) (s : Step) :
    (applyStep op pv s).length = pv.length := by
  unfold applyStep; split <;> simp

theorem runSteps_length (op : β → β → β) (pv : List β) (steps : List Step) :
    (runSteps op pv steps).length = pv.length := by
  unfold runSteps
  induction steps generalizing pv with
  | nil => rfl
  | cons s ss ih => simp only [List.foldl_cons]; rw [ih, applyStep_length]

theorem getElem?_applyStep (op : β → β → β) (pv : List β) (i s : Nat) (hi : i < pv.length) (j : Nat) :
    (applyStep op pv ⟨i, s⟩)[j]? = if j = i then oop op pv[i - s]? pv[i]? else pv[j]? := by
  have h1 : pv[i]? = some pv[i] := List.getElem?_eq_getElem hi
  have h2 : pv[i - s]? = some (pv[i - s]'(by omega)) := List.getElem?_eq_getElem (by omega)
  unfold applyStep
  simp only [h1, h2, oop, List.getElem?_set]
  by_cases hji : j = i
  · subst hji; simp [hi]
  · have : ¬ i = j := fun h => hji h.symm
    simp [hji, this]

/-- the combine steps of one level act in parallel: with distinct positions `is`, none the left neighbour
(`stride` away) of another, every step reads the values `prefix_vals` had before the level -/
theorem runLevel (op : β → β → β) (s : Nat) (is : List Nat) (pv : List β)
    (hnd : is.Nodup) (hlt : ∀ i ∈ is, i < pv.length) (hs : ∀ i ∈ is, i - s ∉ is) (j : Nat) :
    (runSteps op pv (is.map (fun i => (⟨i, s⟩ : Step))))[j]?
      = if j ∈ is then oop op pv[j - s]? pv[j]? else pv[j]? := by
  induction is generalizing pv with
  | nil => simp [runSteps]
  | cons i is ih =>
    have hi : i < pv.length := hlt i (by simp)
    have hnd' := List.nodup_cons.mp hnd
    simp only [List.map_cons, runSteps, List.foldl_cons]
    have := ih (applyStep op pv ⟨i, s⟩) hnd'.2
      (fun k hk => by rw [applyStep_length]; exact hlt k (by simp [hk]))
      (fun k hk h => hs k (by simp [hk]) (by simp [h]))
    simp only [runSteps] at this
    rw [this]
    by_cases hj : j ∈ is
    · have hji : j ≠ i := fun h => hnd'.1 (h ▸ hj)
      have hjs : j - s ≠ i := fun h => hs j (by simp [hj]) (by simp [h])
      simp [hj, getElem?_applyStep op pv i s hi, hji, hjs]
    · simp only [hj, if_false, getElem?_applyStep op pv i s hi, List.mem_cons, or_false]
      by_cases hji : j = i
      · subst hji; simp
      · simp [hji]

def seg (op : β → β → β) (t : List β) (a b : Nat) : Option β := ofold op ((t.drop a).take (b - a))

theorem seg_append {op : β → β → β} (hop : Assoc op) (t : List β) {a b c : Nat} (hab : a ≤ b) (hbc : b ≤ c) :
    oop op (seg op t a b) (seg op t b c) = seg op t a c := by
  unfold seg
  rw [← ofold_append hop, ← Nat.sub_add_sub_cancel hbc hab, Nat.add_comm, List.take_add, List.drop_drop,
    Nat.add_sub_of_le hab]

theorem seg_zero (op : β → β → β) (t : List β) (k : Nat) : seg op t 0 k = ofold op (t.take k) := by
  simp [seg]

theorem seg_single (op : β → β → β) (t : List β) (j : Nat) (hj : j < t.length) :
    seg op t j (j + 1) = t[j]? := by
  unfold seg
  have : j + 1 - j = 1 := by omega
  rw [this, List.drop_eq_getElem_cons hj, List.getElem?_eq_getElem hj]
  rfl

/-- length of the segment ending at position `k` held by `prefix_vals[k-1]` after the
up-sweep levels `< l` (largest `2^j ∣ k` with `j ≤ l`). -/
def lenUp : Nat → Nat → Nat
  | 0, _ => 1
  | l + 1, k => if 2 ^ (l + 1) ∣ k then 2 ^ (l + 1) else lenUp l k

theorem lenUp_of_dvd (l k : Nat) (h : 2 ^ l ∣ k) : lenUp l k = 2 ^ l := by
  cases l with
  | zero => rfl
  | succ l => exact if_pos h

theorem lenUp_exact {j L k : Nat} (hj : j ≤ L) (h1 : 2 ^ j ∣ k) (h2 : ¬ 2 ^ (j + 1) ∣ k) :
    lenUp L k = 2 ^ j := by
  induction L with
  | zero => exact (Nat.le_zero.mp hj).symm ▸ rfl
  | succ L ih =>
    by_cases hjl : j = L + 1
    · subst hjl; exact if_pos h1
    · have : ¬ 2 ^ (L + 1) ∣ k := fun h => h2 (Nat.dvd_trans (Nat.pow_dvd_pow 2 (by omega)) h)
      exact (if_neg this).trans (ih (by omega))

/-- the invariant of both sweeps: `prefix_vals[j]` holds the fold of the `len (j + 1)` totals of `t` that end
at position `j + 1` -/
def Cover (op : β → β → β) (t pv : List β) (len : Nat → Nat) : Prop :=
  pv.length = t.length ∧ ∀ j, j < t.length → pv[j]? = seg op t (j + 1 - len (j + 1)) (j + 1)

theorem cover_init (op : β → β → β) (t : List β) : Cover op t t (lenUp 0) := by
  refine ⟨rfl, fun j hj => ?_⟩
  show t[j]? = seg op t (j + 1 - 1) (j + 1)
  have : j + 1 - 1 = j := by omega
  rw [this, seg_single op t j hj]

theorem Cover.congr {op : β → β → β} {t pv : List β} {len len' : Nat → Nat} (h : Cover op t pv len)
    (he : ∀ k, 0 < k → k ≤ t.length → len k = len' k) : Cover op t pv len' :=
  ⟨h.1, fun j hj => by rw [h.2 j hj, he (j + 1) (Nat.succ_pos j) hj]⟩

theorem two_pow_succ_half (l : Nat) : 2 ^ (l + 1) / 2 = 2 ^ l := by
  rw [Nat.pow_succ, Nat.mul_div_cancel _ (by decide)]

/-- what the up-sweep leaves: `len k` is the largest power of two dividing `k`, for every position `0 < k ≤ n` -/
def Lowbit (n : Nat) (len : Nat → Nat) : Prop :=
  ∀ j k, 0 < k → k ≤ n → 2 ^ j ∣ k → ¬ 2 ^ (j + 1) ∣ k → len k = 2 ^ j

theorem lowbit_lenUp {n L : Nat} (hL : n < 2 ^ (L + 1)) : Lowbit n (lenUp L) := fun _ _ hk0 hk h1 h2 =>
  -- `2 ^ j ≤ k ≤ n < 2 ^ (L + 1)`
  have hj := Nat.lt_of_le_of_lt (Nat.le_trans (Nat.le_of_dvd hk0 h1) hk) hL
  lenUp_exact (Nat.le_of_lt_succ ((Nat.pow_lt_pow_iff_right (by decide)).mp hj)) h1 h2

theorem Lowbit.pow {n : Nat} {len : Nat → Nat} (h : Lowbit n len) {e : Nat} (he : 2 ^ e ≤ n) : len (2 ^ e) = 2 ^ e :=
  h e _ (Nat.pow_pos (by decide)) he (Nat.dvd_refl _) fun hd =>
    Nat.not_le_of_lt ((Nat.pow_lt_pow_iff_right (by decide)).mpr (Nat.lt_succ_self e))
      (Nat.le_of_dvd (Nat.pow_pos (by decide)) hd)

theorem odd_multiple {s k : Nat} (hs : 0 < s) : (s ∣ k ∧ ¬ 2 * s ∣ k) ↔ ∃ c, k = 2 * s * c + s := by
  constructor
  · rintro ⟨⟨q, rfl⟩, h2⟩
    refine ⟨q / 2, ?_⟩
    rcases Nat.mod_two_eq_zero_or_one q with h | h
    · exact absurd ⟨q / 2, by rw [Nat.mul_assoc, Nat.mul_left_comm, Nat.mul_div_cancel' (Nat.dvd_of_mod_eq_zero h)]⟩ h2
    · rw [Nat.mul_assoc, Nat.mul_left_comm, ← Nat.mul_succ, Nat.succ_eq_add_one, ← h, Nat.div_add_mod]
  · rintro ⟨c, rfl⟩
    refine ⟨⟨2 * c + 1, by rw [Nat.mul_succ, Nat.mul_left_comm, Nat.mul_assoc]⟩, fun h => ?_⟩
    have := Nat.le_of_dvd hs ((Nat.dvd_add_right (Nat.dvd_mul_right _ _)).mp h)
    omega

theorem mem_level {s b m i : Nat} (hs : 0 < s) :
    i ∈ rangeStep (b + s) m (2 * s) ↔ i < m ∧ ∃ c, i = b + 2 * s * c + s := by
  rw [mem_rangeStep (Nat.mul_pos (by decide) hs)]
  exact ⟨fun ⟨c, hc, hlt⟩ => ⟨hlt, c, by rw [hc, Nat.mul_comm c, Nat.add_right_comm]⟩,
    fun ⟨hlt, c, hc⟩ => ⟨c, by rw [hc, Nat.mul_comm c, Nat.add_right_comm], hlt⟩⟩

/-- One level of either sweep, in positions `k = i + 1`.  The left neighbours are `p + 2 * s * c` (up-sweep: `p = s`,
down-sweep: `p = 2 * s`), the combined positions lie a stride `s` to their right; the step is twice the stride, so no
combined position is another's left neighbour.  Each absorbs the segment held at its neighbour, which ends where its
own segment of length `s` begins; all other positions keep theirs. -/
theorem sweep_level {op : β → β → β} (hop : Assoc op) (t pv : List β) {s p first : Nat} (hs : 0 < s) (hp : 0 < p)
    (hfirst : first = p + s - 1) (len len' : Nat → Nat)
    (hin : ∀ c, p + 2 * s * c + s ≤ t.length →
      len (p + 2 * s * c + s) = s ∧ len' (p + 2 * s * c + s) = len (p + 2 * s * c) + s)
    (hout : ∀ k, 0 < k → k ≤ t.length → (∀ c, k ≠ p + 2 * s * c + s) → len' k = len k)
    (h : Cover op t pv len) :
    Cover op t (runSteps op pv (levelSteps first s (2 * s) t.length)) len' := by
  have hd : 0 < 2 * s := Nat.mul_pos (by decide) hs
  obtain ⟨b, rfl⟩ : ∃ b, p = b + 1 := ⟨p - 1, (Nat.sub_add_cancel hp).symm⟩
  rw [Nat.add_right_comm, Nat.add_sub_cancel] at hfirst
  subst hfirst
  have hpos : ∀ c, b + 2 * s * c + s + 1 = b + 1 + 2 * s * c + s := fun c => by
    rw [Nat.add_right_comm b 1, Nat.add_right_comm _ 1 s]
  refine ⟨by rw [runSteps_length]; exact h.1, fun i hi => ?_⟩
  unfold levelSteps
  have hfree : ∀ i ∈ rangeStep (b + s) t.length (2 * s), i - s ∉ rangeStep (b + s) t.length (2 * s) := fun i hi hj => by
    obtain ⟨-, c, rfl⟩ := (mem_level hs).mp hi
    obtain ⟨-, a, ha⟩ := (mem_level hs).mp hj
    rw [Nat.add_sub_cancel, Nat.add_assoc b _ s] at ha
    -- the even multiple `2 * s * c` of `s` would be an odd one
    have hodd : 2 * s * c = 2 * s * a + s := Nat.add_left_cancel ha
    exact ((odd_multiple hs).mpr ⟨a, hodd⟩).2 (Nat.dvd_mul_right _ c)
  rw [runLevel op s _ pv (nodup_rangeStep hd) (fun i hi => h.1 ▸ ((mem_level hs).mp hi).1) hfree]
  by_cases hi' : i ∈ rangeStep (b + s) t.length (2 * s)
  · obtain ⟨-, c, rfl⟩ := (mem_level hs).mp hi'
    obtain ⟨h2, h3⟩ := hin c (hpos c ▸ hi)
    rw [← hpos c] at h2 h3
    rw [Nat.add_right_comm b 1] at h3
    rw [if_pos hi', Nat.add_sub_cancel, h.2 _ (Nat.lt_of_le_of_lt (Nat.le_add_right _ s) hi), h.2 _ hi, h2, h3,
      Nat.add_right_comm _ s 1, Nat.add_sub_cancel, Nat.add_sub_add_right]
    exact seg_append hop t (Nat.sub_le _ _) (Nat.le_add_right _ _)
  · rw [if_neg hi', h.2 i hi, hout (i + 1) (Nat.succ_pos i) hi fun c hc =>
      hi' ((mem_level hs).mpr ⟨hi, c, Nat.succ.inj (hc.trans (hpos c).symm)⟩)]

theorem up_level {op : β → β → β} (hop : Assoc op) (t pv : List β) (l : Nat)
    (h : Cover op t pv (lenUp l)) :
    Cover op t (runSteps op pv (levelSteps (2 ^ (l + 1) - 1) (2 ^ l) (2 ^ (l + 1)) t.length))
      (lenUp (l + 1)) := by
  have hs : 0 < 2 ^ l := Nat.pow_pos (by omega)
  have hd2 : 2 ^ (l + 1) = 2 * 2 ^ l := Nat.pow_succ'
  rw [hd2]
  refine sweep_level hop t pv hs hs (by rw [Nat.two_mul]) _ _ (fun c _ => ?_) (fun k hk _ hmem => ?_) h
  · have h0 : 2 ^ l ∣ 2 ^ l + 2 * 2 ^ l * c :=
      Nat.dvd_add (Nat.dvd_refl _) (Nat.dvd_trans (Nat.dvd_mul_left _ 2) (Nat.dvd_mul_right _ c))
    have h2 : 2 ^ (l + 1) ∣ 2 ^ l + 2 * 2 ^ l * c + 2 ^ l := ⟨c + 1, by rw [hd2, Nat.mul_succ]; omega⟩
    rw [lenUp_of_dvd l _ (Nat.dvd_add h0 (Nat.dvd_refl _)), lenUp_of_dvd (l + 1) _ h2, lenUp_of_dvd l _ h0, hd2,
      Nat.two_mul]
    exact ⟨rfl, rfl⟩
  · have hdv : ¬ 2 ^ (l + 1) ∣ k := by
      rintro ⟨q, rfl⟩
      cases q with
      | zero => exact absurd hk (Nat.lt_irrefl 0)
      | succ q => exact hmem q (by rw [hd2, Nat.mul_succ]; omega)
    exact if_neg hdv

theorem runSteps_append (op : β → β → β) (pv : List β) (s1 s2 : List Step) :
    runSteps op pv (s1 ++ s2) = runSteps op (runSteps op pv s1) s2 := by
  simp [runSteps, List.foldl_append]

theorem up_all {op : β → β → β} (hop : Assoc op) (t : List β) (fuel : Nat) :
    ∀ (l : Nat) (pv : List β), t.length ≤ fuel + l → Cover op t pv (lenUp l) →
      ∃ len, Lowbit t.length len ∧
        Cover op t (runSteps op pv (upSteps fuel (2 ^ l) (2 ^ (l + 1)) t.length)) len := by
  induction fuel with
  | zero =>
    intro l pv hl h
    rw [Nat.zero_add] at hl
    exact ⟨_, lowbit_lenUp (Nat.lt_of_le_of_lt hl (Nat.lt_trans (Nat.lt_succ_self l) (Nat.lt_pow_self (by decide)))), h⟩
  | succ fuel ih =>
    intro l pv hl h
    by_cases hle : 2 ^ (l + 1) ≤ t.length
    · simp only [upSteps, hle, if_true, runSteps_append]
      have := ih (l + 1) _ (by rw [← Nat.add_assoc, Nat.add_right_comm]; exact hl) (up_level hop t pv l h)
      rw [Nat.pow_succ 2 (l + 1)] at this
      exact this
    · refine ⟨_, lowbit_lenUp (Nat.lt_of_not_le hle), ?_⟩
      simpa [upSteps, hle, runSteps] using h

/-- cover length before the down-sweep level with `stride2 = d`: positions divisible by `d`
already hold the full prefix. -/
def dlen (d : Nat) (len : Nat → Nat) (k : Nat) : Nat := if d ∣ k then k else len k

theorem down_level {op : β → β → β} (hop : Assoc op) (t pv : List β) (len : Nat → Nat) (j : Nat)
    (hlow : Lowbit t.length len)
    (h : Cover op t pv (dlen (2 ^ (j + 1)) len)) :
    Cover op t (runSteps op pv (levelSteps (2 ^ (j + 1) + 2 ^ j - 1) (2 ^ j) (2 ^ (j + 1)) t.length))
      (dlen (2 ^ j) len) := by
  have hs : 0 < 2 ^ j := Nat.pow_pos (by omega)
  have hd2 : 2 ^ (j + 1) = 2 * 2 ^ j := Nat.pow_succ'
  have hlen := hlow j
  rw [hd2] at h hlen ⊢
  generalize 2 ^ j = s at *
  clear hd2
  refine sweep_level (p := 2 * s) hop t pv hs (Nat.mul_pos (by decide) hs) rfl _ _ (fun c hle => ?_) (fun k hk hkn hmem => ?_) h
  · have hodd : s ∣ 2 * s + 2 * s * c + s ∧ ¬ 2 * s ∣ 2 * s + 2 * s * c + s :=
      (odd_multiple hs).mpr ⟨c + 1, by rw [Nat.mul_succ, Nat.add_comm (2 * s)]⟩
    unfold dlen
    rw [if_neg hodd.2, if_pos hodd.1, if_pos (Nat.dvd_add (Nat.dvd_refl _) (Nat.dvd_mul_right _ c))]
    exact ⟨hlen _ (Nat.lt_of_lt_of_le hs (Nat.le_add_left _ _)) hle hodd.1 hodd.2, rfl⟩
  · unfold dlen
    by_cases h2 : 2 * s ∣ k
    · rw [if_pos h2, if_pos (Nat.dvd_trans ⟨2, Nat.mul_comm 2 s⟩ h2)]
    · rw [if_neg h2]
      by_cases h1 : s ∣ k
      · -- an odd multiple of `s` that no step combines is `s` itself
        obtain ⟨c, rfl⟩ := (odd_multiple hs).mp ⟨h1, h2⟩
        cases c with
        | zero => rw [if_pos h1, hlen _ hk hkn h1 h2, Nat.mul_zero, Nat.zero_add]
        | succ c => exact absurd (by rw [Nat.mul_succ, Nat.add_comm (2 * s)]) (hmem c)
      · rw [if_neg h1]

theorem down_all {op : β → β → β} (hop : Assoc op) (t : List β) (len : Nat → Nat) (hlow : Lowbit t.length len)
    (j : Nat) : ∀ (fuel : Nat) (pv : List β), j + 1 ≤ fuel → Cover op t pv (dlen (2 ^ (j + 1)) len) →
      Cover op t (runSteps op pv (downSteps fuel (2 ^ j) (2 ^ (j + 1)) t.length)) (dlen 1 len) := by
  induction j with
  | zero =>
    intro fuel pv hf h
    cases fuel with
    | zero => exact absurd hf (Nat.not_succ_le_zero _)
    | succ f =>
      have h0 : downSteps f (2 ^ 0 / 2) (2 ^ 0) t.length = [] := by
        cases f <;> simp [downSteps]
      simp only [downSteps, h0, List.append_nil]
      have := down_level hop t pv len 0 hlow h
      simpa using this
  | succ j ih =>
    intro fuel pv hf h
    cases fuel with
    | zero => exact absurd hf (Nat.not_succ_le_zero _)
    | succ f =>
      have hpos : 2 ^ (j + 1) > 0 := Nat.pow_pos (by decide)
      simp only [downSteps, hpos, if_true, runSteps_append, two_pow_succ_half]
      exact ih f _ (Nat.le_of_succ_le_succ hf) (down_level hop t pv len (j + 1) hlow h)

theorem clog2From_spec (fuel : Nat) : ∀ e x, x ≤ fuel + e → x ≤ 2 ^ clog2From fuel e x := by
  induction fuel with
  | zero =>
    intro e x h
    have : e < 2 ^ e := Nat.lt_pow_self (by omega)
    show x ≤ 2 ^ e; omega
  | succ fuel ih =>
    intro e x h
    by_cases hx : x ≤ 2 ^ e
    · rw [show clog2From (fuel + 1) e x = e from if_pos hx]; exact hx
    · rw [show clog2From (fuel + 1) e x = clog2From fuel (e + 1) x from if_neg hx]; exact ih (e + 1) x (by omega)

theorem clog2_spec (x : Nat) : x ≤ 2 ^ clog2 x := clog2From_spec x 0 x (by omega)

theorem downStart_spec (m : Nat) : ∃ J, downStart m = 2 ^ (J + 1) ∧ m / 2 ≤ downStart m := by
  unfold downStart
  have h := clog2_spec (m / 2)
  cases hc : clog2 (m / 2) with
  | zero => rw [hc] at h; exact ⟨0, rfl, Nat.le_trans h (by decide)⟩
  | succ c =>
    rw [hc] at h
    have h2 : 2 ^ 1 ≤ 2 ^ (c + 1) := Nat.pow_le_pow_right (by decide) (Nat.succ_pos c)
    rw [Nat.max_eq_right h2]
    exact ⟨c, rfl, h⟩

/-- the positions divisible by the down-sweep's first `stride2` are powers of two (`n / 2 ≤ stride2` leaves room for
the multiples `1` and `2` only), so they hold the full prefix already -/
theorem cover_down_init {op : β → β → β} (t pv : List β) (len : Nat → Nat) (J : Nat) (hlow : Lowbit t.length len)
    (hJ : t.length / 2 ≤ 2 ^ (J + 1)) (h : Cover op t pv len) :
    Cover op t pv (dlen (2 ^ (J + 1)) len) := by
  refine h.congr fun k hk hkn => ?_
  unfold dlen
  by_cases hd : 2 ^ (J + 1) ∣ k
  · rw [if_pos hd]
    obtain ⟨q, rfl⟩ := hd
    have hS : 2 ^ 1 ≤ 2 ^ (J + 1) := Nat.pow_le_pow_right (by decide) (Nat.succ_pos J)
    rcases q with _ | _ | _ | q
    · exact absurd hk (Nat.lt_irrefl 0)
    · rw [Nat.mul_one] at hkn ⊢; exact hlow.pow hkn
    · rw [← Nat.pow_succ] at hkn ⊢; exact hlow.pow hkn
    · have := Nat.mul_le_mul_left (2 ^ (J + 1)) (show 3 ≤ q + 1 + 1 + 1 from Nat.le_add_left 3 q)
      omega
  · rw [if_neg hd]

theorem blelloch_cover {op : β → β → β} (hop : Assoc op) (t : List β) :
    Cover op t (runSteps op t (blellochSteps t.length)) (fun k => k) := by
  unfold blellochSteps
  by_cases hm : t.length ≥ 2
  · simp only [hm, if_true, runSteps_append]
    obtain ⟨len, hlow, hup⟩ := up_all hop t t.length 0 t (by omega) (cover_init op t)
    obtain ⟨J, hJ, hJ2⟩ := downStart_spec t.length
    have hfuel : J + 1 ≤ 2 ^ (J + 1) := Nat.le_of_lt (Nat.lt_pow_self (by decide))
    rw [hJ, two_pow_succ_half]
    have hup' : Cover op t (runSteps op t (upSteps t.length 1 2 t.length)) len := by simpa using hup
    exact (down_all hop t _ hlow J (2 ^ (J + 1)) _ hfuel (cover_down_init t _ _ J hlow (by omega) hup')).congr
      fun k _ _ => if_pos (Nat.one_dvd k)
  · simp only [hm, if_false, runSteps, List.foldl_nil]
    exact (cover_init op t).congr fun k hk hkn => by show 1 = k; omega

theorem blellochPrefix_spec {op : β → β → β} (hop : Assoc op) (totals : List β) :
    (blellochPrefix op totals).length = totals.length - 1 ∧
    ∀ i, i + 1 < totals.length → (blellochPrefix op totals)[i]? = ofold op (totals.take (i + 1)) := by
  have h := blelloch_cover hop totals.dropLast
  unfold blellochPrefix
  refine ⟨by rw [h.1, List.length_dropLast], fun i hi => ?_⟩
  rw [h.2 i (by rw [List.length_dropLast]; omega)]
  simp only [Nat.sub_self, seg_zero, List.dropLast_eq_take, List.take_take]
  congr 2
  omega

theorem blellochOffsets_correct {op : β → β → β} (hop : Assoc op) (totals : List β) :
    blellochOffsets op totals = (List.range totals.length).map (fun i => ofold op (totals.take i)) := by
  cases totals with
  | nil => rfl
  | cons x xs =>
    obtain ⟨hlen, hval⟩ := blellochPrefix_spec hop (x :: xs)
    apply List.ext_getElem?
    intro i
    simp only [blellochOffsets]
    cases i with
    | zero => simp [ofold]
    | succ i =>
      simp only [List.getElem?_cons_succ, List.getElem?_map]
      by_cases hi : i + 1 < (x :: xs).length
      · rw [hval i hi, List.getElem?_range hi]
        simp [ofold]
      · have h1 : (blellochPrefix op (x :: xs))[i]? = none := by
          apply List.getElem?_eq_none; rw [hlen]; omega
        have h2 : (List.range (x :: xs).length)[i + 1]? = none := by
          apply List.getElem?_eq_none; simp at hi ⊢; omega
        rw [h1, h2]; rfl

theorem combineBlock_eq {op : β → β → β} (hop : Assoc op) (o : Option β) (b : List β) :
    combineBlock op o b = scanO op o b := by
  cases o with
  | none => rfl
  | some p => simp [combineBlock, scanO, scanFrom_eq_map hop]

theorem specBlocks_getElem? {op : β → β → β} (hop : Assoc op) (acc : Option β) (bs : List (List β)) (i : Nat) :
    (specBlocks op acc bs)[i]? = bs[i]?.map (scanO op (oop op acc (ofold op (bs.take i).flatten))) := by
  induction bs generalizing acc i with
  | nil => simp [specBlocks]
  | cons b bs ih =>
    cases i with
    | zero => simp [specBlocks, ofold, oop_none_right]
    | succ i => simp [specBlocks, ih, ofold_append hop, oop_assoc hop]

theorem ofold_totals {op : β → β → β} (hop : Assoc op) (pre : List β → β)
    (hpre : ∀ x xs, pre (x :: xs) = xs.foldl op x) (bs : List (List β)) (hne : ∀ b ∈ bs, b ≠ []) :
    ofold op (bs.map pre) = ofold op bs.flatten := by
  induction bs with
  | nil => rfl
  | cons b bs ih =>
    have hb : b ≠ [] := hne b (by simp)
    rw [List.map_cons, ofold_cons hop, List.flatten_cons, ofold_append hop, ih (fun b' h => hne b' (by simp [h]))]
    cases b with
    | nil => exact absurd rfl hb
    | cons x xs => simp [ofold, hpre]

theorem blellochBlocks_eq_spec {op : β → β → β} (hop : Assoc op) (pre : List β → β)
    (hpre : ∀ x xs, pre (x :: xs) = xs.foldl op x) (bs : List (List β)) (hne : ∀ b ∈ bs, b ≠ []) :
    blellochBlocks op pre bs = specBlocks op none bs := by
  unfold blellochBlocks
  rw [blellochOffsets_correct hop]
  apply List.ext_getElem?
  intro i
  rw [specBlocks_getElem? hop, List.getElem?_zipWith, List.getElem?_map, List.length_map]
  by_cases hi : i < bs.length
  · rw [List.getElem?_range hi, List.getElem?_eq_getElem hi]
    simp only [Option.map_some, oop_none_left, combineBlock_eq hop]
    rw [← List.map_take, ofold_totals hop pre hpre _ (fun b hb => hne b (List.mem_of_mem_take hb))]
  · have : bs[i]? = none := List.getElem?_eq_none (by omega)
    rw [this]
    cases (List.range bs.length)[i]? <;> rfl

theorem blellochScan_correct {op : β → β → β} (hop : Assoc op) (pre : List β → β)
    (hpre : ∀ x xs, pre (x :: xs) = xs.foldl op x) (bs : List (List β)) (hne : ∀ b ∈ bs, b ≠ []) :
    (blellochBlocks op pre bs).flatten = scanl1 op bs.flatten := by
  rw [blellochBlocks_eq_spec hop pre hpre bs hne, specBlocks_flatten hop]; rfl

end Dask.Lemmas.Scan
