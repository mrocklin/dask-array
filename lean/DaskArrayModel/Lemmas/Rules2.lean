/-
Soundness of the rules of Model/Rules2.lean (`rules2`), the redistribution loop of
rechunk-through-concatenate (`redistribute_spec`: what the loop returns splits the target between the two
operands; the rule re-checks `wf` of its product, so its soundness proof does not rest on this), and soundness of
every sequence of single-rule steps over `rules`, `extraRules` and `rules2`.  The rules re-check well-formedness of
their product, so soundness is about values; the one real argument is `bcIdx_sliceIdx` (slicing commutes with
broadcasting).  `mu_ite_le` is the one fact about the termination measure `mu` (Model/Rules.lean) that the
decrease proofs of these rules (Props/C02Ext.lean) share.
-/
import DaskArrayModel.Lemmas.RulesConcat
import DaskArrayModel.Model.Rules2
namespace Dask.ND
open Dask.Py Dask.Py.PySlice Dask.Slicing

theorem bcIdx_getD (sh g : List Nat) (j : Nat) (h1 : j < sh.length) (h2 : j < g.length) :
    (bcIdx sh g).getD j 0 = if sh.getD j 0 = 1 then 0 else g.getD j 0 := by
  unfold bcIdx; rw [getD_zipWith _ sh g j 0 0 0 h1 h2]

theorem bcIdx_length (sh g : List Nat) : (bcIdx sh g).length = min sh.length g.length := by
  simp [bcIdx]

theorem broadcast_real_dim (e : Expr) (sh : List Nat) (l : Layout) (hw : WF (.broadcastTo e sh l))
    (j : Nat) (hj : j < (shape e).length) (h1 : (shape e).getD j 0 ≠ 1) :
    sh.getD (sh.length - (shape e).length + j) 0 = (shape e).getD j 0 := by
  obtain ⟨hwe, hwl, _, hbc⟩ := WF_broadcastTo.mp hw
  obtain ⟨i1, _⟩ := meta_ok e hwe
  obtain ⟨o1, _⟩ := wfLayout_iff.mp hwl
  have hlen := length_of_map_sum i1
  have := bcOK_getD _ _ hbc j (by rw [hlen]; exact hj)
  rw [getD_drop] at this
  rcases this with h | h
  · exfalso; apply h1
    rw [← sum_getD_of_map_sum i1 j, h]; rfl
  · rw [← sum_getD_of_map_sum i1 j, h, sum_getD_of_map_sum o1]

/-- one axis of `bcIdx_sliceIdx`: an input axis of length 1 gets the full slice and is read at 0 either way; a real
axis (`m = n`) gets the slice of its output axis, and is read at 0 after slicing only if `x` is 0 already -/
theorem bc_sel {n m x : Nat} {s : PySlice} (hreal : n ≠ 1 → m = n) (hx : x < (sel s m).length) :
    ((sel (if n = 1 then colon else s) n).getD
        (if (sel (if n = 1 then colon else s) n).length = 1 then 0 else x) 0).toNat
      = if n = 1 then 0 else ((sel s m).getD x 0).toNat := by
  by_cases h1 : n = 1
  · rw [if_pos h1, if_pos h1, h1, sel_colon_length, if_pos rfl, sel_colon_getD 1 0 Nat.one_pos]
    rfl
  · rw [if_neg h1, if_neg h1, ← hreal h1]
    split
    · rename_i hone
      have h0 : x = 0 := Nat.lt_one_iff.mp (hone ▸ hx)
      rw [h0]
    · rfl

/-- NumPy broadcasting of the trailing axes commutes with slicing, when an input axis of length 1
gets the full slice and every other input axis the slice of its output axis (`k` leading axes are new) -/
theorem bcIdx_sliceIdx {shE sh : List Nat} {ss inSl : List PySlice} {k : Nat} {i : List Nat}
    (hk : k + shE.length = sh.length) (hssl : ss.length = sh.length) (hinl : inSl.length = shE.length)
    (hin : ∀ j, j < shE.length →
      inSl.getD j colon = if shE.getD j 0 = 1 then colon else ss.getD (k + j) colon)
    (hreal : ∀ j, j < shE.length → shE.getD j 0 ≠ 1 → sh.getD (k + j) 0 = shE.getD j 0)
    (hi : InB i (sliceShape sh (ss.map Ix.slc))) :
    sliceIdx shE (inSl.map Ix.slc) (bcIdx (sliceShape shE (inSl.map Ix.slc)) (i.drop k))
      = bcIdx shE ((sliceIdx sh (ss.map Ix.slc) i).drop k) := by
  have hil : i.length = sh.length := by rw [hi.length_eq, sliceShape_slc_length, hssl, Nat.min_self]
  have hS'l : (sliceShape shE (inSl.map Ix.slc)).length = shE.length := by
    rw [sliceShape_slc_length, hinl, Nat.min_self]
  have hsub : sh.length - k = shE.length := by rw [← hk, Nat.add_sub_cancel_left]
  have hdl : (i.drop k).length = shE.length := by rw [List.length_drop, hil, hsub]
  have hsil : (sliceIdx sh (ss.map Ix.slc) i).length = sh.length := by
    rw [sliceIdx_slc_length, hssl, hil, Nat.min_self, Nat.min_self]
  have hdl' : ((sliceIdx sh (ss.map Ix.slc) i).drop k).length = shE.length := by
    rw [List.length_drop, hsil, hsub]
  apply ext_getD 0
  · simp only [sliceIdx_slc_length, hinl, bcIdx_length, hS'l, hdl, hdl', Nat.min_self]
  · intro j hj
    simp only [sliceIdx_slc_length, hinl, bcIdx_length, hS'l, hdl, Nat.min_self] at hj
    have hkj : k + j < sh.length := hk ▸ Nat.add_lt_add_left hj k
    rw [sliceIdx_slc_getD _ _ _ _ hj (by rw [hinl]; exact hj)
        (by rw [bcIdx_length, hS'l, hdl, Nat.min_self]; exact hj),
      bcIdx_getD _ _ _ (by rw [hS'l]; exact hj) (by rw [hdl]; exact hj),
      bcIdx_getD _ _ _ hj (by rw [hdl']; exact hj),
      getD_drop, getD_drop,
      sliceIdx_slc_getD _ _ _ _ hkj (by rw [hssl]; exact hkj) (by rw [hil]; exact hkj),
      sliceShape_slc_getD _ _ _ hj (by rw [hinl]; exact hj), hin j hj]
    have hx := hi.getD_lt (k + j) (by rw [sliceShape_slc_length, hssl, Nat.min_self]; exact hkj)
    rw [sliceShape_slc_getD _ _ _ hkj (by rw [hssl]; exact hkj)] at hx
    exact bc_sel (hreal j hj) hx

theorem sliceThroughBroadcast_sound : Sound sliceThroughBroadcast := by
  intro env e0 e' hw
  fun_cases sliceThroughBroadcast e0
  case case1 e sh l idx ss hss k hcond starts stops newShape inSl e1 newChunks r hg =>
    intro h
    injection h with h
    subst h
    have hidx := allSlc?_some idx ss hss
    subst hidx
    have hwb := (WF_slice.mp hw).1
    have hle : (shape e).length ≤ sh.length := (WF_broadcastTo.mp hwb).2.2.1
    have hk : sh.length - (sh.length - (shape e).length) = (shape e).length := Nat.sub_sub_self hle
    have hinl : inSl.length = (shape e).length := by
      show (List.zipWith _ (ss.drop k) (shape e)).length = _
      rw [List.length_zipWith, List.length_drop, hcond.2, hk, Nat.min_self]
    -- `e1` is `e` sliced by `inSl` (for rank 0 the slice is left out)
    have he1 : shape e1 = sliceShape (shape e) (inSl.map Ix.slc) ∧ ∀ g, denGet env e1 (bcIdx (shape e1) g)
        = denGet env e (sliceIdx (shape e) (inSl.map Ix.slc) (bcIdx (shape e1) g)) := by
      by_cases hr0 : inSl = []
      · rw [show e1 = e from if_pos hr0]
        rw [hr0] at hinl
        rw [hr0, List.length_eq_zero_iff.mp hinl.symm]
        exact ⟨rfl, fun _ => rfl⟩
      · rw [show e1 = e.slice (inSl.map Ix.slc) from if_neg hr0]
        exact ⟨rfl, fun _ => rfl⟩
    refine ⟨hg.1, hg.2, fun i hi => ?_⟩
    show denGet env e1 (bcIdx (shape e1) (i.drop (newShape.length - (shape e1).length)))
      = denGet env e (bcIdx (shape e) ((sliceIdx sh (ss.map Ix.slc) i).drop k))
    rw [he1.2, he1.1, hg.2, sliceShape_slc_length, sliceShape_slc_length, hinl, hcond.2, Nat.min_self, Nat.min_self]
    refine congrArg _ ?_
    refine bcIdx_sliceIdx (k := k) (Nat.sub_add_cancel hle) hcond.2 hinl (fun j hj => ?_)
      (fun j hj h1 => broadcast_real_dim e sh l hwb j hj h1) hi
    show (List.zipWith _ (ss.drop k) (shape e)).getD j colon = _
    rw [getD_zipWith _ _ _ j colon 0 colon (by rw [List.length_drop, hcond.2, hk]; exact hj) hj,
      getD_drop]
  all_goals exact fun h => nomatch h

theorem ite_rechunk (env : Env) (c : Prop) [Decidable c] (x : Expr) (l : Layout) :
    shape (if c then x else x.rechunk l) = shape x ∧ denGet env (if c then x else x.rechunk l) = denGet env x := by
  split <;> exact ⟨rfl, rfl⟩

/-- a `slice` / `rechunk` that is put on or left out at most doubles the measure -/
theorem mu_ite_le (c : Prop) [Decidable c] (x y : Expr) (h : mu y = 2 * mu x) :
    mu (if c then x else y) ≤ 2 * mu x := by
  split
  · exact Nat.le_of_lt (mu_lt_double x)
  · exact Nat.le_of_eq h

theorem rechunkThroughConcat_sound : Sound rechunkThroughConcat := by
  intro env e e' hw
  fun_cases rechunkThroughConcat e
  case case3 a b ax l _ _ _ _ pa pb _ sa sb _ a' b' nc r hwr =>
    intro h
    injection h with h
    subst h
    have ha' : shape a' = shape a ∧ denGet env a' = denGet env a := ite_rechunk env ..
    have hb' : shape b' = shape b ∧ denGet env b' = denGet env b := ite_rechunk env ..
    have hr' : shape r = shape nc ∧ denGet env r = denGet env nc := ite_rechunk env ..
    refine ⟨hwr, ?_, fun i _ => ?_⟩
    · rw [hr'.1]; simp only [nc, shape, ha'.1, hb'.1]
    · rw [hr'.2]; simp only [nc, denGet, ha'.1, ha'.2, hb'.2]
  all_goals exact fun h => nomatch h

theorem rechunkThroughSlice_sound : Sound rechunkThroughSlice := by
  intro env e e' hw
  fun_cases rechunkThroughSlice e
  case case4 hc =>
    intro h
    injection h with h
    subst h
    exact ⟨hc.1, rfl, fun i _ => rfl⟩
  all_goals exact fun h => nomatch h

theorem redistLast_spec (room : Nat) (tgt pb : List Nat) :
    redistLast room tgt = some pb → pb = tgt ∧ tgt.sum ≤ room := by
  fun_induction redistLast room tgt generalizing pb with
  | case1 =>
    intro h
    cases h
    exact ⟨rfl, Nat.zero_le _⟩
  | case2 room c cs hc ih =>
    intro h
    obtain ⟨q, hq, rfl⟩ := Option.map_eq_some_iff.mp h
    obtain ⟨rfl, h2⟩ := ih q hq
    exact ⟨rfl, by rw [List.sum_cons]; omega⟩
  | case3 => exact fun h => nomatch h

theorem redistribute_spec (nb room : Nat) (tgt pa pb : List Nat) :
    redistribute nb room tgt = some (pa, pb) → pa.sum + pb.sum = tgt.sum ∧ pa.sum ≤ room ∧ pb.sum ≤ nb := by
  fun_induction redistribute nb room tgt generalizing pa pb with
  | case1 =>
    intro h
    cases h
    exact ⟨rfl, Nat.zero_le _, Nat.zero_le _⟩
  | case2 room c cs hc ih =>
    intro h
    obtain ⟨q, hq, hq2⟩ := Option.map_eq_some_iff.mp h
    cases hq2
    obtain ⟨h1, h2, h3⟩ := ih q.1 q.2 hq
    simp only [List.sum_cons]
    exact ⟨by omega, by omega, h3⟩
  | case3 room cs _ =>
    intro h
    obtain ⟨q, hq, hq2⟩ := Option.map_eq_some_iff.mp h
    cases hq2
    obtain ⟨rfl, h2⟩ := redistLast_spec nb _ _ hq
    simp only [List.sum_cons, List.sum_nil]
    exact ⟨by omega, by omega, h2⟩
  | case4 => exact fun h => nomatch h
  | case5 room c cs _ _ _ =>
    intro h
    obtain ⟨q, hq, hq2⟩ := Option.map_eq_some_iff.mp h
    cases hq2
    obtain ⟨rfl, h2⟩ := redistLast_spec nb _ _ hq
    simp only [List.sum_cons, List.sum_nil] at h2 ⊢
    exact ⟨by omega, by omega, h2⟩

theorem allRules2_sound : ∀ r ∈ rules ++ extraRules ++ rules2, Sound r.2 := by
  simp only [List.forall_mem_append]
  refine ⟨⟨rules_sound, ?_⟩, ?_⟩
  · simp only [extraRules, List.forall_mem_cons, List.not_mem_nil, false_imp_iff, implies_true, and_true]
    exact ⟨sliceIntoSrcKeep_sound, sliceSplitInts_sound⟩
  · simp only [rules2, List.forall_mem_cons, List.not_mem_nil, false_imp_iff, implies_true, and_true]
    exact ⟨sliceThroughBroadcast_sound, rechunkThroughConcat_sound, rechunkThroughSlice_sound⟩

/-- a sequence of single-rule steps over `rules ++ extraRules ++ rules2`: each step applies ONE rule at the
first position (root first, then the children left to right) where it fires -/
inductive Rewrites2 : Expr → Expr → Prop
  | refl (e : Expr) : Rewrites2 e e
  | step {e e'' : Expr} {p : String × Expr} (r : String × (Expr → Option Expr))
      (hr : r ∈ rules ++ extraRules ++ rules2) (h : stepWith [r] e = some p) (t : Rewrites2 p.2 e'') :
      Rewrites2 e e''

theorem rewrites2_refines (env : Env) (henv : EnvOK env) {e e' : Expr} (h : Rewrites2 e e') :
    WF e → Refines env e' e := by
  induction h with
  | refl e => exact fun hw => Refines.refl hw
  | step r hr h _ ih =>
    intro hw
    have h1 := stepWith_sound [r] (fun r' hr' => List.mem_singleton.mp hr' ▸ allRules2_sound r hr) env henv _ _ hw h
    exact (ih h1.isWF).trans h1

theorem Rewrites.toRewrites2 {e e' : Expr} (h : Rewrites e e') : Rewrites2 e e' := by
  induction h with
  | refl e => exact .refl e
  | step r hr h _ ih => exact .step r (List.mem_append_left _ hr) h ih

theorem rewrites_refines (env : Env) (henv : EnvOK env) {e e' : Expr} (h : Rewrites e e') :
    WF e → Refines env e' e :=
  rewrites2_refines env henv h.toRewrites2

end Dask.ND
