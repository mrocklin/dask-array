/-
The n-d arrays of `Model/Arr.lean` over the one-dimensional layouts of `Lemmas/Layout.lean`: a global index and a pair
(block id, local position) determine each other, so blocks that form the block grid of `a` (`IsGrid`) assemble to `a`.
`IsGrid` is what every `Expr*` module proves of its nodes; `alongAxis_grid` reduces a node that acts along one axis to
its one-dimensional case.
-/
import DaskArrayModel.Model.Arr
import DaskArrayModel.Lemmas.Layout
namespace Dask.ND
open Dask.Py (getD_eq_getElem getD_of_ge getD_zipWith zipWith_set_left zipWith_set_right zipWith_set_set)

theorem InB_iff_getD : ∀ {i s : List Nat},
    InB i s ↔ i.length = s.length ∧ ∀ k, k < s.length → i.getD k 0 < s.getD k 0
  | [], [] => ⟨fun _ => ⟨rfl, fun _ hk => absurd hk (Nat.not_lt_zero _)⟩, fun _ => trivial⟩
  | [], _ :: _ => ⟨False.elim, fun h => nomatch h.1⟩
  | _ :: _, [] => ⟨False.elim, fun h => nomatch h.1⟩
  | x :: i, n :: s => by
    rw [InB, InB_iff_getD (i := i) (s := s)]
    constructor
    · rintro ⟨h0, hl, h⟩
      refine ⟨congrArg (· + 1) hl, fun k hk => ?_⟩
      cases k with
      | zero => exact h0
      | succ k => exact h k (Nat.lt_of_succ_lt_succ hk)
    · rintro ⟨hl, h⟩
      exact ⟨h 0 (Nat.zero_lt_succ _), Nat.succ.inj hl, fun k hk => h (k + 1) (Nat.succ_lt_succ hk)⟩

theorem InB.length_eq {i s : List Nat} (h : InB i s) : i.length = s.length := (InB_iff_getD.1 h).1

theorem InB.getD_lt {i s : List Nat} (h : InB i s) : ∀ k, k < s.length → i.getD k 0 < s.getD k 0 :=
  (InB_iff_getD.1 h).2

theorem InB.of_getD {i s : List Nat} (hl : i.length = s.length)
    (h : ∀ k, k < s.length → i.getD k 0 < s.getD k 0) : InB i s :=
  InB_iff_getD.2 ⟨hl, h⟩

theorem InB.eq_nil : ∀ {i : List Nat}, InB i [] → i = []
  | [], _ => rfl
  | _ :: _, h => h.elim

theorem InB_iff_zip : ∀ {i s : List Nat}, InB i s ↔ i.length = s.length ∧ ∀ p ∈ i.zip s, p.1 < p.2
  | [], [] => by simp [InB]
  | [], _ :: _ => by simp [InB]
  | _ :: _, [] => by simp [InB]
  | x :: i, n :: s => by
    simp only [InB, InB_iff_zip (i := i) (s := s), List.length_cons, Nat.add_right_cancel_iff, List.zip_cons_cons,
      List.forall_mem_cons]
    exact and_left_comm

theorem Arr.Equiv.refl {α} (a : Arr α) : Arr.Equiv a a := ⟨rfl, fun _ _ => rfl⟩

theorem Arr.Equiv.symm {α} {a b : Arr α} (h : Arr.Equiv a b) : Arr.Equiv b a :=
  ⟨h.1.symm, fun i hi => (h.2 i (h.1 ▸ hi)).symm⟩

theorem Arr.Equiv.trans {α} {a b c : Arr α} (h1 : Arr.Equiv a b) (h2 : Arr.Equiv b c) :
    Arr.Equiv a c :=
  ⟨h1.1.trans h2.1, fun i hi => (h1.2 i hi).trans (h2.2 i (h1.1 ▸ hi))⟩

/-! The model enumerates a grid of multi-indices under several names (`Hist.grid`, `Entry.grid`, `Graph.grid`,
`Unknown.grid`, `StoreND.blockIds` ...), all by the recursion of `allIdx`; their lemma files rewrite to `allIdx` and use
these. -/

theorem mem_allIdx : ∀ (s i : List Nat), i ∈ allIdx s ↔ InB i s
  | [], [] => by simp [allIdx, InB]
  | [], _ :: _ => by simp [allIdx, InB]
  | _ :: _, [] => by simp [allIdx, InB]
  | n :: ns, x :: t => by
    simp only [allIdx, Dask.Py.mem_consProd, List.cons.injEq, List.mem_range, mem_allIdx ns, InB]
    exact ⟨fun ⟨_, _, ⟨e1, e2⟩, h⟩ => e1 ▸ e2 ▸ h, fun h => ⟨x, t, ⟨rfl, rfl⟩, h⟩⟩

theorem length_of_mem_allIdx {s i : List Nat} (h : i ∈ allIdx s) : i.length = s.length :=
  ((mem_allIdx s i).mp h).length_eq

theorem nodup_allIdx : ∀ s : List Nat, (allIdx s).Nodup
  | [] => by simp [allIdx]
  | _ :: ns => Dask.Py.nodup_consProd List.nodup_range (nodup_allIdx ns)

theorem Arr.Equiv.toList_eq {α} {a b : Arr α} (h : Arr.Equiv a b) : a.toList = b.toList := by
  unfold Arr.toList
  rw [← h.1]
  exact List.map_congr_left (fun i hi => h.2 i ((mem_allIdx _ i).mp hi))

theorem validBid_cons {cs : List Nat} {l : Layout} {b : Nat} {bid : List Nat} :
    validBid (cs :: l) (b :: bid) ↔ b < cs.length ∧ validBid l bid := by
  simp [validBid, numblocks, InB]

theorem validBid_nil : validBid [] [] := by simp [validBid, numblocks, InB]

theorem validBid.length_eq {l : Layout} {bid : List Nat} (h : validBid l bid) :
    bid.length = l.length := by
  have := InB.length_eq h
  simpa [numblocks] using this

theorem validBid.getD_lt {l : Layout} {bid : List Nat} (h : validBid l bid) (k : Nat)
    (hk : k < l.length) : bid.getD k 0 < (l.getD k []).length := by
  have := InB.getD_lt h k (by simpa [numblocks] using hk)
  rwa [numblocks, Dask.Py.getD_map List.length l k [] 0 hk] at this

theorem validBid.of_getD {l : Layout} {bid : List Nat} (hl : bid.length = l.length)
    (h : ∀ k, k < l.length → bid.getD k 0 < (l.getD k []).length) : validBid l bid := by
  apply InB.of_getD (by simpa [numblocks] using hl)
  intro k hk
  have hk' : k < l.length := by simpa [numblocks] using hk
  rw [numblocks, Dask.Py.getD_map List.length l k [] 0 hk']
  exact h k hk'

def NonEmptyAxes (l : Layout) : Prop := ∀ cs ∈ l, cs ≠ []

theorem NonEmptyAxes.nil : NonEmptyAxes [] := fun _ h => nomatch h

theorem NonEmptyAxes.cons_iff {cs : List Nat} {l : Layout} :
    NonEmptyAxes (cs :: l) ↔ cs ≠ [] ∧ NonEmptyAxes l :=
  List.forall_mem_cons

theorem NonEmptyAxes.getD {l : Layout} (h : NonEmptyAxes l) (k : Nat) (hk : k < l.length) :
    l.getD k [] ≠ [] := by
  rw [getD_eq_getElem _ _ _ hk]
  exact h _ (List.getElem_mem hk)

theorem NonEmptyAxes.set {l : Layout} {ax : Nat} {oc : List Nat} (h : NonEmptyAxes l) (hoc : oc ≠ []) :
    NonEmptyAxes (l.set ax oc) := by
  intro c hc
  rcases List.mem_or_eq_of_mem_set hc with hc | rfl
  · exact h c hc
  · exact hoc

theorem blockShape_length {l : Layout} {bid : List Nat} (h : bid.length = l.length) :
    (blockShape l bid).length = l.length := by
  simp [blockShape, h]

theorem origin_length {l : Layout} {bid : List Nat} (h : bid.length = l.length) :
    (origin l bid).length = l.length := by
  simp [origin, h]

theorem blockShape_getD {l : Layout} {bid : List Nat} (h : bid.length = l.length) (k : Nat)
    (hk : k < l.length) : (blockShape l bid).getD k 0 = (l.getD k []).getD (bid.getD k 0) 0 := by
  unfold blockShape
  rw [getD_zipWith _ l bid k [] 0 0 hk (h ▸ hk)]

theorem origin_getD {l : Layout} {bid : List Nat} (h : bid.length = l.length) (k : Nat)
    (hk : k < l.length) : (origin l bid).getD k 0 = ((l.getD k []).take (bid.getD k 0)).sum := by
  unfold origin
  rw [getD_zipWith _ l bid k [] 0 0 hk (h ▸ hk)]

theorem vadd_getD {a b : List Nat} (k : Nat) (h1 : k < a.length) (h2 : k < b.length) :
    (vadd a b).getD k 0 = a.getD k 0 + b.getD k 0 := by
  unfold vadd
  rw [getD_zipWith _ a b k 0 0 0 h1 h2]

theorem vadd_length {a b : List Nat} (h : a.length = b.length) : (vadd a b).length = a.length := by
  simp [vadd, h]

/-! `origin`, `blockShape` and `vadd` are `zipWith`s, so changing one entry of a block id, a layout or an
index changes one entry of the result; no length hypotheses are needed because `set` beyond the end does nothing on
either side. -/

theorem origin_set (l : Layout) (bid : List Nat) (ax j : Nat) :
    origin l (bid.set ax j) = (origin l bid).set ax ((l.getD ax []).take j).sum :=
  zipWith_set_right _ [] l bid ax j

theorem blockShape_set (l : Layout) (bid : List Nat) (ax j : Nat) :
    blockShape l (bid.set ax j) = (blockShape l bid).set ax ((l.getD ax []).getD j 0) :=
  zipWith_set_right _ [] l bid ax j

theorem origin_set_layout (l : Layout) (cs bid : List Nat) (ax : Nat) :
    origin (l.set ax cs) bid = (origin l bid).set ax (cs.take (bid.getD ax 0)).sum :=
  zipWith_set_left _ 0 l bid ax cs

theorem blockShape_set_layout (l : Layout) (cs bid : List Nat) (ax : Nat) :
    blockShape (l.set ax cs) bid = (blockShape l bid).set ax (cs.getD (bid.getD ax 0) 0) :=
  zipWith_set_left _ 0 l bid ax cs

theorem vadd_set (o i : List Nat) (ax a t : Nat) :
    vadd (o.set ax a) (i.set ax t) = (vadd o i).set ax (a + t) :=
  zipWith_set_set _ o i ax a t

theorem vadd_set_left (o i : List Nat) (ax a : Nat) :
    vadd (o.set ax a) i = (vadd o i).set ax (a + i.getD ax 0) :=
  zipWith_set_left _ 0 o i ax a

theorem InB.set : ∀ {i s : List Nat}, InB i s → ∀ {ax t n : Nat}, t < n → InB (i.set ax t) (s.set ax n)
  | [], [], _, _, _, _, _ => trivial
  | _ :: _, _ :: _, h, 0, _, _, ht => ⟨ht, h.2⟩
  | _ :: _, _ :: _, h, _ + 1, _, _, ht => ⟨h.1, InB.set h.2 ht⟩
  | [], _ :: _, h, _, _, _, _ => h.elim
  | _ :: _, [], h, _, _, _, _ => h.elim

theorem InB_drop : ∀ (k : Nat) (g s : List Nat), InB g s → InB (g.drop k) (s.drop k)
  | 0, _, _, h => h
  | k + 1, [], [], _ => by simp [InB]
  | k + 1, x :: g, n :: s, h => by
    simp only [List.drop_succ_cons]
    exact InB_drop k g s h.2
  | _ + 1, [], _ :: _, h => h.elim
  | _ + 1, _ :: _, [], h => h.elim

theorem validBid.set {l : Layout} {oc bid : List Nat} {ax j : Nat} (h : validBid (l.set ax oc) bid)
    (hj : j < (l.getD ax []).length) : validBid l (bid.set ax j) := by
  have := InB.set h (ax := ax) hj
  rwa [numblocks, List.map_set, List.set_set, ← List.map_set, Dask.Py.set_getD_same] at this

theorem findBlock_spec : ∀ (cs : List Nat) (g : Nat), g < cs.sum →
    (findBlock cs g).1 < cs.length ∧ (findBlock cs g).2 < cs.getD (findBlock cs g).1 0 ∧
      (cs.take (findBlock cs g).1).sum + (findBlock cs g).2 = g
  | [], g, h => absurd h (Nat.not_lt_zero _)
  | c :: cs, g, h => by
    unfold findBlock
    by_cases hg : g < c
    · rw [if_pos hg]
      exact ⟨Nat.zero_lt_succ _, hg, Nat.zero_add g⟩
    · rw [if_neg hg]
      have hge : c ≤ g := Nat.le_of_not_lt hg
      obtain ⟨ih1, ih2, ih3⟩ := findBlock_spec cs (g - c)
        (Nat.sub_lt_left_of_lt_add hge (by rw [← List.sum_cons]; exact h))
      refine ⟨Nat.succ_lt_succ ih1, ih2, ?_⟩
      rw [List.take_succ_cons, List.sum_cons, Nat.add_assoc, ih3, Nat.add_sub_cancel' hge]

theorem locate_spec : ∀ {l : Layout} {g : List Nat}, InB g (l.map List.sum) →
    validBid l (bidOf l g) ∧ InB (localOf l g) (blockShape l (bidOf l g)) ∧
      vadd (origin l (bidOf l g)) (localOf l g) = g
  | [], [], _ => by simp [bidOf, localOf, validBid, numblocks, blockShape, origin, vadd, InB]
  | cs :: l, x :: g, h => by
    simp only [List.map_cons, InB] at h
    obtain ⟨h1, h2, h3⟩ := findBlock_spec cs x h.1
    obtain ⟨r1, r2, r3⟩ := locate_spec (l := l) (g := g) h.2
    simp only [bidOf, localOf, List.zipWith_cons_cons] at r1 r2 r3 ⊢
    refine ⟨validBid_cons.2 ⟨h1, r1⟩, ?_, ?_⟩
    · simp only [blockShape, List.zipWith_cons_cons, InB]
      exact ⟨h2, r2⟩
    · simp only [origin, vadd, List.zipWith_cons_cons] at r3 ⊢
      rw [h3, r3]
  | [], _ :: _, h => False.elim h
  | _ :: _, [], h => False.elim h

theorem findBlock_start (cs : List Nat) (b p : Nat) (hp : p < cs.getD b 0) :
    findBlock cs ((cs.take b).sum + p) = (b, p) := by
  have hlt : (cs.take b).sum + p < cs.sum :=
    Nat.lt_of_lt_of_le (Nat.add_lt_add_left hp _) (Layout.nstart_end_le cs b)
  obtain ⟨-, h2, h3⟩ := findBlock_spec cs _ hlt
  generalize findBlock cs ((cs.take b).sum + p) = r at h2 h3 ⊢
  -- the position lies in block `b` and in the block found: they are the same block
  have e : r.1 = b :=
    Layout.nstart_block_unique (p := (cs.take b).sum + p) ⟨Nat.le.intro h3, h3 ▸ Nat.add_lt_add_left h2 _⟩
      ⟨Nat.le_add_right _ _, Nat.add_lt_add_left hp _⟩
  rw [e] at h3
  exact Prod.ext e (Nat.add_left_cancel h3)

theorem origin_spec : ∀ {l : Layout} {bid i : List Nat}, validBid l bid → InB i (blockShape l bid) →
    InB (vadd (origin l bid) i) (l.map List.sum) ∧
      bidOf l (vadd (origin l bid) i) = bid ∧ localOf l (vadd (origin l bid) i) = i
  | [], [], [], _, _ => ⟨trivial, rfl, rfl⟩
  | cs :: l, b :: bid, x :: i, hb, hi => by
    rw [validBid_cons] at hb
    simp only [blockShape, List.zipWith_cons_cons, InB] at hi
    obtain ⟨r0, r1, r2⟩ := origin_spec (l := l) (bid := bid) (i := i) hb.2 hi.2
    simp only [bidOf, localOf, origin, vadd, List.zipWith_cons_cons, List.map_cons, InB] at r0 r1 r2 ⊢
    rw [findBlock_start cs b x hi.1, r1, r2]
    exact ⟨⟨Nat.lt_of_lt_of_le (Nat.add_lt_add_left hi.1 _) (Layout.nstart_end_le cs b), r0⟩, rfl, rfl⟩
  | [], _ :: _, _, hb, _ => False.elim hb
  | _ :: _, [], _, hb, _ => False.elim hb
  | _ :: _, _ :: _, [], _, hi => False.elim hi
  | [], [], _ :: _, _, hi => False.elim hi

theorem InB_vadd_origin {l : Layout} {bid i : List Nat} (hb : validBid l bid) (hi : InB i (blockShape l bid)) :
    InB (vadd (origin l bid) i) (l.map List.sum) :=
  (origin_spec hb hi).1

theorem locate_origin {l : Layout} {bid i : List Nat} (hb : validBid l bid) (hi : InB i (blockShape l bid)) :
    bidOf l (vadd (origin l bid) i) = bid ∧ localOf l (vadd (origin l bid) i) = i :=
  (origin_spec hb hi).2

/-- `child` is the block grid of `a` under the layout `cl`: what the induction over an expression carries from a node's
operands to the node. -/
def IsGrid {α} (cl : Layout) (a : Arr α) (child : List Nat → Arr α) : Prop :=
  ∀ b, validBid cl b → Arr.Equiv (child b) (restrict a (extent cl b))

theorem assemble_of_blocks {α} (a : Arr α) (l : Layout) (blocks : List Nat → Arr α)
    (h : l.map List.sum = a.shape) (hb : IsGrid l a blocks) : Arr.Equiv (assemble l blocks) a := by
  refine ⟨h, ?_⟩
  intro g hg
  obtain ⟨r1, r2, r3⟩ := locate_spec (l := l) (g := g) hg
  have hE := hb _ r1
  simp only [assemble]
  have hsh : (blocks (bidOf l g)).shape = blockShape l (bidOf l g) := hE.1
  rw [hE.2 _ (hsh ▸ r2)]
  simp only [restrict, extent]
  rw [r3]

theorem restrict_congr (sh : List Nat) (f f' : List Nat → Int) (l : Layout) (bid : List Nat)
    (hsum : l.map List.sum = sh) (hb : validBid l bid)
    (h : ∀ g, InB g sh → f g = f' g) :
    Arr.Equiv (restrict ⟨sh, f⟩ (extent l bid)) (restrict ⟨sh, f'⟩ (extent l bid)) := by
  refine ⟨rfl, ?_⟩
  intro i hi
  simp only [restrict, extent] at hi ⊢
  exact h _ (hsum ▸ InB_vadd_origin hb hi)

theorem block_get {a : Arr Int} {cl : Layout} {child : List Nat → Arr Int} (ih : IsGrid cl a child)
    {b i : List Nat} (hb : validBid cl b) (hi : InB i (blockShape cl b)) :
    (child b).get i = a.get (vadd (origin cl b) i) :=
  (ih b hb).2 i ((ih b hb).1 ▸ hi)

/-- `i` need only be in bounds off the axis: `hi` allows any extent `m` on `ax` -/
theorem line_get {a : Arr Int} {cl : Layout} {child : List Nat → Arr Int} (ih : IsGrid cl a child)
    {bid i : List Nat} {ax j t m : Nat} (hb : validBid cl bid) (hj : j < (cl.getD ax []).length)
    (hi : InB i ((blockShape cl bid).set ax m)) (ht : t < (cl.getD ax []).getD j 0) :
    (child (bid.set ax j)).get (i.set ax t)
      = a.get ((vadd (origin cl bid) i).set ax (((cl.getD ax []).take j).sum + t)) := by
  have hin : InB (i.set ax t) (blockShape cl (bid.set ax j)) := by
    have := hi.set (ax := ax) ht
    rwa [List.set_set, ← blockShape_set] at this
  rw [block_get ih (validBid.set (oc := cl.getD ax []) (by rwa [Dask.Py.set_getD_same]) hj) hin, origin_set, vadd_set]

/-- **Ops that act along one axis.**  `blk` is computed from reads `(child (bid.set ax j)).get (i.set ax t)`
along the axis line through `i` by a kernel `KB` (output block, local position on the axis); the
spec `o` is computed from the line `x ↦ a.get (g.set ax x)` by a kernel `KS` (global position).  If the
two kernels agree on every 1-d line `F` cut into the chunks `cs` of the axis (`h1d`: the reads of block `j'`
at `t` are `F (start_j' + t)`), every block is the block of `o` under the layout with chunks `oc` on the axis. -/
theorem alongAxis_grid {a : Arr Int} {cl : Layout} {child : List Nat → Arr Int} (ih : IsGrid cl a child)
    {ax : Nat} (hax : ax < cl.length) {oc : List Nat} (hlen : oc.length ≤ (cl.getD ax []).length)
    (KB : Nat → Nat → (Nat → Nat → Int) → Int) (KS : Nat → (Nat → Int) → Int)
    (h1d : ∀ (F : Nat → Int) (rd : Nat → Nat → Int) (j x : Nat), j < oc.length → x < oc.getD j 0 →
      (∀ j' t, j' < (cl.getD ax []).length → t < (cl.getD ax []).getD j' 0 →
        rd j' t = F (((cl.getD ax []).take j').sum + t)) →
      KB j x rd = KS ((oc.take j).sum + x) F)
    (blk : List Nat → Arr Int) (o : Arr Int)
    (hshape : ∀ bid, validBid cl bid → bid.getD ax 0 < oc.length →
      (blk bid).shape = (blockShape cl bid).set ax (oc.getD (bid.getD ax 0) 0))
    (hblk : ∀ bid i, (blk bid).get i
      = KB (bid.getD ax 0) (i.getD ax 0) (fun j t => (child (bid.set ax j)).get (i.set ax t)))
    (hget : ∀ g, o.get g = KS (g.getD ax 0) (fun x => a.get (g.set ax x))) :
    IsGrid (cl.set ax oc) o blk := by
  intro bid hb
  have hj : bid.getD ax 0 < oc.length := by
    have := hb.getD_lt ax (by simpa using hax)
    rwa [Dask.Py.getD_set_eq _ _ _ _ hax] at this
  have hbc : validBid cl bid := by
    have := hb.set (j := bid.getD ax 0) (Nat.lt_of_lt_of_le hj hlen)
    rwa [Dask.Py.set_getD_same] at this
  have hbl : bid.length = cl.length := hbc.length_eq
  have hsh := hshape bid hbc hj
  refine ⟨by rw [hsh]; simp only [restrict, extent]; rw [blockShape_set_layout], ?_⟩
  intro i hi
  rw [hsh] at hi
  have hil : i.length = cl.length := by rw [hi.length_eq, List.length_set, blockShape_length hbl]
  have hx : i.getD ax 0 < oc.getD (bid.getD ax 0) 0 := by
    have := hi.getD_lt ax (by rw [List.length_set, blockShape_length hbl]; exact hax)
    rwa [Dask.Py.getD_set_eq _ _ _ _ (by rw [blockShape_length hbl]; exact hax)] at this
  have hvl : ax < (vadd (origin cl bid) i).length := by
    rw [vadd_length (by rw [origin_length hbl, hil]), origin_length hbl]; exact hax
  simp only [restrict, extent]
  rw [hblk, hget, origin_set_layout, vadd_set_left, Dask.Py.getD_set_eq _ _ _ _ hvl,
    h1d (fun x => a.get ((vadd (origin cl bid) i).set ax x)) _ _ _ hj hx
      (fun j' t hj' ht => line_get ih hbc hj' hi ht)]
  simp only [List.set_set]

end Dask.ND
