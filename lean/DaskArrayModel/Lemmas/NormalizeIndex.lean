/-
`normalize_index` against NumPy's meaning of an index tuple (`npIndex`, Model/Indexing.lean).  The expansion of the
`Ellipsis` and the padding agree with `npExpand` by counting items of each kind.  `Norm` lists, kind by kind, what
an item may be, what the passes `check_index` / `normalize_slice` / `posify_index` make of it and what NumPy
selects with it: the passes succeed exactly on its derivations and `npAxes` returns one or refuses, so the facts
about an accepted index, here and in Lemmas/Getitem, are rule inductions.  Which exception a refusal raises depends
on the order of Dask's passes, not on the items alone: that part walks `checkAll` and `normSlices` themselves.
-/
import DaskArrayModel.Lemmas.IndexingTake
import DaskArrayModel.Lemmas.SliceAlgebra
namespace Dask.Lemmas.Indexing
open Dask.Py Dask.Py.PySlice Dask.Slicing Dask.Indexing

theorem one_kind_per_item (x : Ix) :
    (if x.consumes then 1 else 0) + (if x.isNone then 1 else 0) + (if x.isEllipsis then 1 else 0) = 1 := by
  cases x <;> rfl

theorem length_eq_count_kinds (l : List Ix) :
    l.length = l.countP Ix.consumes + l.countP Ix.isNone + l.countP Ix.isEllipsis := by
  induction l with
  | nil => rfl
  | cons x l ih =>
    rw [List.countP_cons, List.countP_cons, List.countP_cons, List.length_cons, ih]
    have := one_kind_per_item x
    omega

theorem countP_notNone (l : List Ix) :
    l.countP (fun i => !i.isNone) = l.countP Ix.consumes + l.countP Ix.isEllipsis := by
  induction l with
  | nil => rfl
  | cons x l ih =>
    rw [List.countP_cons, List.countP_cons, List.countP_cons, ih]
    have : (if (!x.isNone) = true then 1 else 0) =
        (if x.consumes = true then 1 else 0) + (if x.isEllipsis = true then 1 else 0) := by
      cases x <;> rfl
    omega

theorem any_isEllipsis_iff (l : List Ix) : l.any Ix.isEllipsis = true ↔ 0 < l.countP Ix.isEllipsis := by
  rw [List.countP_pos_iff, List.any_eq_true]

theorem replaceFirst_cons (fill : List Ix) (x : Ix) (l : List Ix) :
    replaceFirst fill (x :: l) = if x.isEllipsis then fill ++ l else x :: replaceFirst fill l := by
  cases x <;> rfl

theorem replaceFirst_of_not_any (fill : List Ix) : ∀ l : List Ix,
    l.any Ix.isEllipsis = false → replaceFirst fill l = l
  | [], _ => rfl
  | x :: l, h => by
    rw [List.any_cons, Bool.or_eq_false_iff] at h
    rw [replaceFirst_cons, if_neg (Bool.eq_false_iff.mp h.1), replaceFirst_of_not_any fill l h.2]

theorem replaceFirst_split (l : List Ix) (h : l.any Ix.isEllipsis = true) :
    ∃ a b, l = a ++ .ellipsis :: b ∧ ∀ fill, replaceFirst fill l = a ++ (fill ++ b) := by
  induction l with
  | nil => cases h
  | cons x l ih =>
    by_cases hx : x.isEllipsis = true
    · refine ⟨[], l, ?_, fun fill => ?_⟩
      · cases x <;> first | rfl | cases hx
      · rw [replaceFirst_cons, if_pos hx]; rfl
    · rw [List.any_cons, Bool.or_eq_true] at h
      rcases ih (h.resolve_left hx) with ⟨a, b, rfl, hr⟩
      exact ⟨x :: a, b, rfl, fun fill => by rw [replaceFirst_cons, if_neg hx, hr]; rfl⟩

theorem countP_replaceFirst (P : Ix → Bool) (hP : P .ellipsis = false) (fill l : List Ix)
    (h : l.any Ix.isEllipsis = true) :
    (replaceFirst fill l).countP P = l.countP P + fill.countP P := by
  rcases replaceFirst_split l h with ⟨a, b, rfl, hr⟩
  rw [hr, List.countP_append, List.countP_append, List.countP_append,
    List.countP_cons_of_neg (Bool.eq_false_iff.mp hP)]
  omega

theorem countP_isEllipsis_replaceFirst (fill l : List Ix) (h : l.any Ix.isEllipsis = true) :
    (replaceFirst fill l).countP Ix.isEllipsis + 1 = l.countP Ix.isEllipsis + fill.countP Ix.isEllipsis := by
  rcases replaceFirst_split l h with ⟨a, b, rfl, hr⟩
  rw [hr, List.countP_append, List.countP_append, List.countP_append, List.countP_cons_of_pos rfl]
  omega

/-- `replace_ellipsis` followed by the padding with full slices. -/
def expand (n : Nat) (idx : List Ix) : List Ix :=
  replaceEllipsis n idx ++
    List.replicate (n - (replaceEllipsis n idx).countP (fun i => !i.isNone)) (Ix.slc colon)

/-- the three passes of `normalize_index` after the expansion. -/
def passes (l : List Ix) (shape : List Int) : Except Err (List Ix) :=
  match checkAll (noneShape l shape) with
  | .error e => .error e
  | .ok _ =>
    match normSlices (noneShape l shape) with
    | .error e => .error e
    | .ok al' => .ok (al'.map posifyItem)

theorem normalizeIndex_eq (idx : List Ix) (shape : List Int) :
    normalizeIndex idx shape =
      if (expand shape.length idx).countP (fun i => !i.isNone) > shape.length then .error .indexError
      else passes (expand shape.length idx) shape := by
  rw [List.countP_eq_length_filter]; rfl

theorem countP_colons (P : Ix → Bool) (hP : P (.slc colon) = false) (m : Nat) :
    (List.replicate m (Ix.slc colon)).countP P = 0 := by
  rw [List.countP_replicate, hP]; rfl

theorem replaceEllipsis_any (n : Nat) (idx : List Ix) (ha : idx.any Ix.isEllipsis = true) :
    replaceEllipsis n idx = replaceFirst (List.replicate
      ((n : Int) - ((idx.length : Int) - (idx.countP Ix.isNone : Int) - 1)).toNat (Ix.slc colon)) idx :=
  if_pos ha

structure ExpandCounts (n : Nat) (idx : List Ix) : Prop where
  nones : (expand n idx).countP Ix.isNone = idx.countP Ix.isNone
  ellipses : (expand n idx).countP Ix.isEllipsis = idx.countP Ix.isEllipsis - 1
  consumes_le : idx.countP Ix.consumes ≤ (expand n idx).countP Ix.consumes
  lsts : (expand n idx).countP Ix.isLst = idx.countP Ix.isLst

theorem expand_counts (n : Nat) (idx : List Ix) : ExpandCounts n idx := by
  by_cases ha : idx.any Ix.isEllipsis = true
  · have hx := replaceEllipsis_any n idx ha
    generalize Int.toNat _ = m at hx
    have hE := countP_isEllipsis_replaceFirst (List.replicate m (Ix.slc colon)) idx ha
    rw [countP_colons _ rfl] at hE
    refine ⟨?_, ?_, ?_, ?_⟩ <;> rw [expand, hx]
    · rw [List.countP_append, countP_replaceFirst _ rfl _ _ ha, countP_colons _ rfl, countP_colons _ rfl]; rfl
    · rw [List.countP_append, countP_colons _ rfl]; omega
    · rw [List.countP_append, countP_replaceFirst _ rfl _ _ ha]; omega
    · rw [List.countP_append, countP_replaceFirst _ rfl _ _ ha, countP_colons _ rfl, countP_colons _ rfl]; rfl
  · have hx : replaceEllipsis n idx = idx := if_neg ha
    have h0 : idx.countP Ix.isEllipsis = 0 :=
      Nat.eq_zero_of_not_pos (fun hp => ha ((any_isEllipsis_iff idx).mpr hp))
    refine ⟨?_, ?_, ?_, ?_⟩ <;> rw [expand, hx]
    · rw [List.countP_append, countP_colons _ rfl]; rfl
    · rw [List.countP_append, countP_colons _ rfl, h0]
    · rw [List.countP_append]; omega
    · rw [List.countP_append, countP_colons _ rfl]; rfl

theorem npExpand_ok (n : Nat) (idx : List Ix)
    (he : idx.countP Ix.isEllipsis ≤ 1) (hk : idx.countP Ix.consumes ≤ n) :
    npExpand n idx = .ok (if idx.any Ix.isEllipsis
      then replaceFirst (List.replicate (n - idx.countP Ix.consumes) (Ix.slc colon)) idx
      else idx ++ List.replicate (n - idx.countP Ix.consumes) (Ix.slc colon)) := by
  unfold npExpand
  rw [if_neg (Nat.not_lt.mpr he), if_neg (Nat.not_lt.mpr hk)]

/-- `extra_dimensions` of `replace_ellipsis` for a tuple of `len` items, `k` consuming, `m` `None`
and one `Ellipsis`: the axes not yet consumed. -/
theorem extra_toNat (n : Nat) {len k m e : Nat} (h : len = k + m + e) (he : e = 1) :
    ((n : Int) - ((len : Int) - (m : Int) - 1)).toNat = n - k := by
  omega

theorem expand_eq_npExpand (n : Nat) (idx : List Ix)
    (he : idx.countP Ix.isEllipsis ≤ 1) (hk : idx.countP Ix.consumes ≤ n) :
    npExpand n idx = .ok (expand n idx) ∧ (expand n idx).countP Ix.consumes = n := by
  have hcol : ∀ m, (List.replicate m (Ix.slc colon)).countP Ix.consumes = m :=
    fun m => List.countP_replicate.trans (if_pos rfl)
  rw [npExpand_ok n idx he hk]
  unfold expand
  by_cases ha : idx.any Ix.isEllipsis = true
  · have hpos := (any_isEllipsis_iff idx).mp ha
    rw [replaceEllipsis_any n idx ha, extra_toNat n (length_eq_count_kinds idx) (by omega), if_pos ha]
    have hc := countP_replaceFirst Ix.consumes rfl (List.replicate (n - idx.countP Ix.consumes) (Ix.slc colon)) idx ha
    have he' := countP_isEllipsis_replaceFirst (List.replicate (n - idx.countP Ix.consumes) (Ix.slc colon)) idx ha
    rw [countP_colons _ rfl] at he'
    rw [hcol] at hc
    generalize replaceFirst (List.replicate (n - idx.countP Ix.consumes) (Ix.slc colon)) idx = full at hc he' ⊢
    have hpad : n - full.countP (fun i => !i.isNone) = 0 := by rw [countP_notNone]; omega
    rw [hpad, List.replicate_zero, List.append_nil]
    exact ⟨rfl, by omega⟩
  · have h0 : idx.countP Ix.isEllipsis = 0 :=
      Nat.eq_zero_of_not_pos (fun hp => ha ((any_isEllipsis_iff idx).mpr hp))
    rw [show replaceEllipsis n idx = idx from if_neg ha, if_neg ha, countP_notNone, h0, Nat.add_zero]
    exact ⟨rfl, by rw [List.countP_append, hcol]; omega⟩

theorem checkItem_int {i d : Int} : checkItem (.int i, some d) = .ok () ↔ -d ≤ i ∧ i < d := by
  simp only [checkItem]
  split
  · exact ⟨fun h => (nomatch h), fun h => by omega⟩
  · exact ⟨fun _ => by omega, fun _ => rfl⟩

theorem normSlice1_slc {s : PySlice} {d : Int} {q : Ix × Option Int} :
    normSlice1 (.slc s, some d) = .ok q ↔ s.stp ≠ 0 ∧ q = (.slc (normalizeSlice s d), some d) := by
  simp only [normSlice1]
  split
  · rename_i hz; exact ⟨fun h => (nomatch h), fun h => absurd hz h.1⟩
  · rename_i hz; exact ⟨fun h => ⟨hz, by cases h; rfl⟩, fun h => by rw [h.2]⟩

theorem noneShape_none (rest : List Ix) (shape : List Int) :
    noneShape (.none_ :: rest) shape = (.none_, none) :: noneShape rest shape := by
  cases shape <;> rfl

theorem noneShape_cons (x : Ix) (hx : x.isNone = false) (rest : List Ix) (d : Int) (shape : List Int) :
    noneShape (x :: rest) (d :: shape) = (x, some d) :: noneShape rest shape := by
  cases x <;> first | rfl | cases hx

theorem checkAll_cons (p : Ix × Option Int) (rest : List (Ix × Option Int)) :
    checkAll (p :: rest) = match checkItem p with | .ok _ => checkAll rest | .error e => .error e := rfl

theorem normSlices_cons (p : Ix × Option Int) (rest : List (Ix × Option Int)) :
    normSlices (p :: rest) = match normSlice1 p with
      | .error e => .error e
      | .ok q => match normSlices rest with | .ok r => .ok (q :: r) | .error e => .error e := rfl

theorem passes_cons_ok {x : Ix} {rest : List Ix} {shape shape' : List Int} {od : Option Int}
    (h : noneShape (x :: rest) shape = (x, od) :: noneShape rest shape') (idx' : List Ix) :
    passes (x :: rest) shape = .ok idx' ↔
      ∃ q r, checkItem (x, od) = .ok () ∧ normSlice1 (x, od) = .ok q ∧
        passes rest shape' = .ok r ∧ idx' = posifyItem q :: r := by
  unfold passes
  rw [h]
  rw [checkAll_cons, normSlices_cons]
  cases checkItem (x, od) with
  | error e => simp
  | ok u =>
    cases normSlice1 (x, od) with
    | error e => cases checkAll (noneShape rest shape') <;> simp
    | ok q =>
      cases checkAll (noneShape rest shape') with
      | error e => simp
      | ok u' =>
        cases normSlices (noneShape rest shape') with
        | error e => simp
        | ok al => simp [eq_comm]

theorem shape_cons_of_fit {γ : Type} {x : Ix} {rest : List Ix} {cs : List γ} (hx : x.isNone = false)
    (h : (x :: rest).countP (fun i => !i.isNone) ≤ cs.length) :
    ∃ c cs', cs = c :: cs' ∧ rest.countP (fun i => !i.isNone) ≤ cs'.length := by
  rw [List.countP_cons_of_pos (by rw [hx]; rfl)] at h
  cases cs with
  | nil => exact absurd h (Nat.not_succ_le_zero _)
  | cons c cs' => exact ⟨c, cs', rfl, Nat.le_of_succ_le_succ h⟩

/-- `idx'` is the normal form of the expanded tuple `l` on the axes `cs` (axis `c` has length `f c`), and `r` is
what NumPy selects with `l` there (the positions per consumed axis, the output shape): per item, what
`check_index`, `normalize_slice` and `posify_index` together accept and return, beside `npAxes`'s own clause for
the item.  An axis is whatever describes it to the user (its length, its chunks), so that Lemmas/Getitem inducts
on `Norm` itself. -/
inductive Norm {γ : Type} (f : γ → Int) : List Ix → List γ → List Ix → List (List Int) × List Nat → Prop
  | nil (cs) : Norm f [] cs [] ([], [])
  | none {l cs l' r} : Norm f l cs l' r → Norm f (.none_ :: l) cs (.none_ :: l') (r.1, 1 :: r.2)
  | int {i c l cs l' r} : -f c ≤ i ∧ i < f c → Norm f l cs l' r →
      Norm f (.int i :: l) (c :: cs) (.int (posifyInt (f c) i) :: l') ([posifyInt (f c) i] :: r.1, r.2)
  | slc {s c l cs l' r} : s.stp ≠ 0 → Norm f l cs l' r →
      Norm f (.slc s :: l) (c :: cs) (.slc (normalizeSlice s (f c)) :: l')
        (sel s (f c) :: r.1, (sel s (f c)).length :: r.2)
  | lst {v c l cs l' r} : (∀ i ∈ v, -f c ≤ i ∧ i < f c) → Norm f l cs l' r →
      Norm f (.lst v :: l) (c :: cs) (.lst (v.map (posifyInt (f c))) :: l')
        (v.map (posifyInt (f c)) :: r.1, v.length :: r.2)

/-- (hypothesis `hfit`: the "Too many indices" test passed.) -/
theorem passes_norm {γ : Type} (f : γ → Int) (l : List Ix) (cs : List γ) (idx' : List Ix)
    (hfit : l.countP (fun i => !i.isNone) ≤ cs.length)
    (h : passes l (cs.map f) = .ok idx') : ∃ r, Norm f l cs idx' r := by
  induction l generalizing cs idx' with
  | nil => cases h; exact ⟨_, .nil cs⟩
  | cons x rest ih =>
    cases x with
    | none_ =>
      rcases (passes_cons_ok (noneShape_none rest _) idx').mp h with ⟨q, r, -, hq, hp, rfl⟩
      cases hq
      exact let ⟨_, n⟩ := ih cs r hfit hp; ⟨_, .none n⟩
    | ellipsis =>
      obtain ⟨c, cs, rfl, hfit'⟩ := shape_cons_of_fit rfl hfit
      rcases (passes_cons_ok (noneShape_cons _ rfl rest _ _) idx').mp h with ⟨q, r, hc, -⟩
      cases hc
    | int i =>
      obtain ⟨c, cs, rfl, hfit'⟩ := shape_cons_of_fit rfl hfit
      rcases (passes_cons_ok (noneShape_cons _ rfl rest _ _) idx').mp h with ⟨q, r, hc, hq, hp, rfl⟩
      cases hq
      exact let ⟨_, n⟩ := ih cs r hfit' hp; ⟨_, .int (checkItem_int.mp hc) n⟩
    | slc s =>
      obtain ⟨c, cs, rfl, hfit'⟩ := shape_cons_of_fit rfl hfit
      rcases (passes_cons_ok (noneShape_cons _ rfl rest _ _) idx').mp h with ⟨q, r, -, hq, hp, rfl⟩
      rcases normSlice1_slc.mp hq with ⟨hz, rfl⟩
      exact let ⟨_, n⟩ := ih cs r hfit' hp; ⟨_, .slc hz n⟩
    | lst v =>
      obtain ⟨c, cs, rfl, hfit'⟩ := shape_cons_of_fit rfl hfit
      rcases (passes_cons_ok (noneShape_cons _ rfl rest _ _) idx').mp h with ⟨q, r, hc, hq, hp, rfl⟩
      cases hq
      exact let ⟨_, n⟩ := ih cs r hfit' hp; ⟨_, .lst (checkItem_lst.mp hc) n⟩

theorem npAxes_spec (l : List Ix) (shape : List Int) :
    match npAxes l shape with
    | .ok r => ∃ idx', Norm id l shape idx' r
    | .error e => e = .indexError ∨ ∃ s, Ix.slc s ∈ l ∧ s.stp = 0 := by
  have tail : ∀ {x : Ix} {rest : List Ix} {e : Err},
      (e = .indexError ∨ ∃ s, Ix.slc s ∈ rest ∧ s.stp = 0) → e = .indexError ∨ ∃ s, Ix.slc s ∈ x :: rest ∧ s.stp = 0 :=
    fun h => h.imp_right fun ⟨s, hs, h0⟩ => ⟨s, List.mem_cons_of_mem _ hs, h0⟩
  fun_induction npAxes l shape with
  | case1 shape => exact ⟨[], .nil shape⟩
  | case2 rest shape r0 hr ih => rw [hr] at ih; exact let ⟨_, n⟩ := ih; ⟨_, .none n⟩
  | case3 rest shape e he ih => rw [he] at ih; exact tail ih
  | case4 => exact .inl rfl
  | case5 => exact .inl rfl
  | case6 i rest d sh c r0 hr ih => rw [hr] at ih; exact let ⟨_, n⟩ := ih; ⟨_, .int c n⟩
  | case7 i rest d sh c e he ih => rw [he] at ih; exact tail ih
  | case8 => exact .inl rfl
  | case9 s rest d sh hs => exact .inr ⟨s, List.mem_cons_self .., hs⟩
  | case10 s rest d sh c r0 hr ih => rw [hr] at ih; exact let ⟨_, n⟩ := ih; ⟨_, .slc c n⟩
  | case11 s rest d sh c e he ih => rw [he] at ih; exact tail ih
  | case12 v rest d sh c r0 hr ih =>
    rw [hr] at ih
    exact let ⟨_, n⟩ := ih; ⟨_, .lst (fun i hi => of_decide_eq_true (List.all_eq_true.mp c i hi)) n⟩
  | case13 v rest d sh c e he ih => rw [he] at ih; exact tail ih
  | case14 => exact .inl rfl

theorem posifyInt_map_bounds {v : List Int} {d : Int} (hv : ∀ i ∈ v, -d ≤ i ∧ i < d) :
    ∀ j ∈ v.map (posifyInt d), 0 ≤ j ∧ j < d := by
  intro j hj
  rcases List.mem_map.mp hj with ⟨i, hi, rfl⟩
  exact posifyInt_bounds (hv i hi)

namespace Norm
variable {γ : Type} {f : γ → Int} {l : List Ix} {cs : List γ} {idx' : List Ix} {r : List (List Int) × List Nat}

theorem passes_ok (h : Norm f l cs idx' r) : passes l (cs.map f) = .ok idx' := by
  induction h with
  | nil cs => rfl
  | none _ ih => exact (passes_cons_ok (noneShape_none _ _) _).mpr ⟨_, _, rfl, rfl, ih, rfl⟩
  | int hb _ ih =>
    exact (passes_cons_ok (noneShape_cons _ rfl _ _ _) _).mpr ⟨_, _, checkItem_int.mpr hb, rfl, ih, rfl⟩
  | slc hz _ ih =>
    exact (passes_cons_ok (noneShape_cons _ rfl _ _ _) _).mpr ⟨_, _, rfl, normSlice1_slc.mpr ⟨hz, rfl⟩, ih, rfl⟩
  | lst hv _ ih =>
    exact (passes_cons_ok (noneShape_cons _ rfl _ _ _) _).mpr ⟨_, _, checkItem_lst.mpr hv, rfl, ih, rfl⟩

theorem reads (h : Norm f l cs idx' r) : npAxes l (cs.map f) = .ok r := by
  induction h with
  | nil cs => rfl
  | none _ ih => rw [npAxes, ih]
  | int hb _ ih => rw [List.map_cons, npAxes, if_pos hb, ih]
  | slc hz _ ih => rw [List.map_cons, npAxes, if_neg hz, ih]
  | lst hv _ ih =>
    rw [List.map_cons, npAxes, if_pos (List.all_eq_true.mpr fun i hi => decide_eq_true (hv i hi)), ih]

theorem reads_normalForm (h : Norm f l cs idx' r) (hd : ∀ c ∈ cs, 0 ≤ f c) : npAxes idx' (cs.map f) = .ok r := by
  have hb : ∀ {d p : Int}, 0 ≤ p ∧ p < d → -d ≤ p ∧ p < d := fun h => ⟨by omega, h.2⟩
  induction h with
  | nil cs => rfl
  | none _ ih => rw [npAxes, ih hd]
  | int hi _ ih =>
    have hp := posifyInt_bounds hi
    rw [List.map_cons, npAxes, if_pos (hb hp), ih (List.forall_mem_cons.mp hd).2, posifyInt_nonneg hp.1]
  | @slc s c _ _ _ _ hz _ ih =>
    have hd := List.forall_mem_cons.mp hd
    rw [List.map_cons, npAxes, if_neg (by rw [SliceAlgebra.normalizeSlice_stp s _]; exact hz), ih hd.2,
      SliceAlgebra.sel_normalizeSlice s _ hd.1 hz]
  | @lst v c _ _ _ _ hv _ ih =>
    have hw := posifyInt_map_bounds hv
    rw [List.map_cons, npAxes, if_pos (List.all_eq_true.mpr fun j hj => decide_eq_true (hb (hw j hj))),
      ih (List.forall_mem_cons.mp hd).2,
      (List.map_congr_left fun j hj => posifyInt_nonneg (hw j hj).1 :
        (v.map (posifyInt (f c))).map (posifyInt (f c)) = (v.map (posifyInt (f c))).map id),
      List.map_id, List.length_map]

theorem normal (h : Norm f l cs idx' r) : NormalFor idx' (cs.map f) := by
  induction h with
  | nil cs => trivial
  | none _ ih => exact ih
  | int hb _ ih => exact ⟨posifyInt_bounds hb, ih⟩
  | slc hz _ ih => exact ⟨⟨_, hz, rfl⟩, ih⟩
  | lst hv _ ih => exact ⟨posifyInt_map_bounds hv, ih⟩

theorem countP_eq (h : Norm f l cs idx' r) (P : Ix → Bool) (hi : ∀ i j, P (.int i) = P (.int j))
    (hs : ∀ s t, P (.slc s) = P (.slc t)) (hl : ∀ v w, P (.lst v) = P (.lst w)) :
    idx'.countP P = l.countP P := by
  induction h with
  | nil cs => rfl
  | none _ ih => rw [List.countP_cons, List.countP_cons, ih]
  | int _ _ ih => rw [List.countP_cons, List.countP_cons, ih, hi]
  | slc _ _ ih => rw [List.countP_cons, List.countP_cons, ih, hs]
  | lst _ _ ih => rw [List.countP_cons, List.countP_cons, ih, hl]

theorem input_noEllipsis (h : Norm f l cs idx' r) : l.countP Ix.isEllipsis = 0 := by
  induction h with
  | nil cs => rfl
  | none _ ih | int _ _ ih | slc _ _ ih | lst _ _ ih => exact ih

end Norm

theorem npExpand_fullRank (n : Nat) (l : List Ix) (he : l.countP Ix.isEllipsis = 0)
    (hk : l.countP Ix.consumes = n) : npExpand n l = .ok l := by
  have ha : ¬ l.any Ix.isEllipsis = true := fun h => by have := (any_isEllipsis_iff l).mp h; omega
  rw [npExpand_ok n l (by omega) (by omega), if_neg ha, hk, Nat.sub_self, List.replicate_zero, List.append_nil]

/-- what an accepted `normalize_index idx = idx'` gives; `idx'` is the normal form (`norm`) of the EXPANDED tuple
`expand cs.length idx`, not of `idx` -/
structure Normalized {γ : Type} (f : γ → Int) (idx : List Ix) (cs : List γ) (idx' : List Ix)
    (r : List (List Int) × List Nat) : Prop where
  npIndex_eq : npIndex idx (cs.map f) = .ok r
  norm : Norm f (expand cs.length idx) cs idx' r
  consumes : idx'.countP Ix.consumes = cs.length
  noEllipsis : idx'.countP Ix.isEllipsis = 0
  nones : idx'.countP Ix.isNone = idx.countP Ix.isNone
  lsts : idx'.countP Ix.isLst = idx.countP Ix.isLst

theorem normalizeIndex_normalized {γ : Type} (f : γ → Int) (idx idx' : List Ix) (cs : List γ)
    (h : normalizeIndex idx (cs.map f) = .ok idx') : ∃ r, Normalized f idx cs idx' r := by
  rw [normalizeIndex_eq, List.length_map] at h
  split at h
  · cases h
  rename_i hfit
  have hfit := Nat.le_of_not_gt hfit
  obtain ⟨r, nm⟩ := passes_norm f _ cs idx' hfit h
  have pc := fun P => nm.countP_eq P
  have ec := expand_counts cs.length idx
  have hk : idx.countP Ix.consumes ≤ cs.length := by
    have := ec.consumes_le
    rw [countP_notNone] at hfit; omega
  have hell := ec.ellipses.symm.trans nm.input_noEllipsis
  have ee := expand_eq_npExpand cs.length idx (by omega) hk
  refine ⟨r, ?_, nm, ?_, ?_, ?_, ?_⟩
  · rw [npIndex, List.length_map, ee.1]
    exact nm.reads
  · rw [pc Ix.consumes (fun _ _ => rfl) (fun _ _ => rfl) (fun _ _ => rfl), ee.2]
  · rw [pc Ix.isEllipsis (fun _ _ => rfl) (fun _ _ => rfl) (fun _ _ => rfl), nm.input_noEllipsis]
  · rw [pc Ix.isNone (fun _ _ => rfl) (fun _ _ => rfl) (fun _ _ => rfl), ec.nones]
  · rw [pc Ix.isLst (fun _ _ => rfl) (fun _ _ => rfl) (fun _ _ => rfl), ec.lsts]

theorem noneShape_fst (l : List Ix) (shape : List Int) : (noneShape l shape).map Prod.fst = l := by
  induction l generalizing shape with
  | nil => rfl
  | cons x rest ih =>
    cases shape with
    | nil => cases x <;> exact congrArg (List.cons _) (ih _)
    | cons d shape => cases x <;> exact congrArg (List.cons _) (ih _)

theorem mem_of_mem_noneShape {l : List Ix} {shape : List Int} {p : Ix × Option Int}
    (hp : p ∈ noneShape l shape) : p.1 ∈ l := by
  have := List.mem_map_of_mem (f := Prod.fst) hp
  rwa [noneShape_fst] at this

theorem checkItem_error_class {x : Ix} {od : Option Int} {e : Err} (hx : ¬ x.isEllipsis = true)
    (h : checkItem (x, od) = .error e) : e = .indexError := by
  cases od with
  | none => cases x <;> cases h
  | some d =>
    cases x with
    | int _ | lst _ =>
      simp only [checkItem] at h
      split at h
      · cases h; rfl
      · cases h
    | slc _ | none_ => cases h
    | ellipsis => exact absurd rfl hx

theorem checkAll_error_class (al : List (Ix × Option Int)) (e : Err)
    (hp : ∀ p ∈ al, ¬ p.1.isEllipsis = true) (h : checkAll al = .error e) : e = .indexError := by
  induction al with
  | nil => cases h
  | cons p rest ih =>
    cases hc : checkItem p with
    | error e' =>
      rw [checkAll_cons, hc] at h; cases h
      exact checkItem_error_class (hp p (List.mem_cons_self ..)) hc
    | ok u =>
      rw [checkAll_cons, hc] at h
      exact ih (fun q hq => hp q (List.mem_cons_of_mem _ hq)) h

theorem normSlices_ok_of_nozero (al : List (Ix × Option Int))
    (hz : ∀ p ∈ al, ∀ s, p.1 = .slc s → s.stp ≠ 0) : ∃ r, normSlices al = .ok r := by
  induction al with
  | nil => exact ⟨[], rfl⟩
  | cons p rest ih =>
    rcases ih (fun q hq => hz q (List.mem_cons_of_mem _ hq)) with ⟨r, hr⟩
    obtain ⟨q, hq⟩ : ∃ q, normSlice1 p = .ok q := by
      rcases p with ⟨x, od⟩
      cases x with
      | slc s =>
        cases od with
        | none => exact ⟨_, rfl⟩
        | some d => exact ⟨_, normSlice1_slc.mpr ⟨hz _ (List.mem_cons_self ..) s rfl, rfl⟩⟩
      | _ => exact ⟨_, rfl⟩
    exact ⟨q :: r, by rw [normSlices_cons, hq, hr]⟩

theorem expand_nozero (n : Nat) (idx : List Ix) (hz : ∀ s, Ix.slc s ∈ idx → s.stp ≠ 0) :
    ∀ s, Ix.slc s ∈ expand n idx → s.stp ≠ 0 := by
  intro s hs
  unfold expand at hs
  rcases List.mem_append.mp hs with hs | hs
  · unfold replaceEllipsis at hs
    by_cases ha : idx.any Ix.isEllipsis = true
    · rw [if_pos ha] at hs
      rcases replaceFirst_split idx ha with ⟨a, b, rfl, hr⟩
      rw [hr] at hs
      rcases List.mem_append.mp hs with h | h
      · exact hz s (List.mem_append_left _ h)
      · rcases List.mem_append.mp h with h | h
        · have := (List.mem_replicate.mp h).2
          cases this; decide
        · exact hz s (List.mem_append_right _ (List.mem_cons_of_mem _ h))
    · rw [if_neg ha] at hs; exact hz s hs
  · have := (List.mem_replicate.mp hs).2
    cases this; decide

theorem normalizeIndex_error_class (idx : List Ix) (shape : List Int)
    (hz : ∀ s, Ix.slc s ∈ idx → s.stp ≠ 0) (he : idx.countP Ix.isEllipsis ≤ 1)
    (e : Err) (h : normalizeIndex idx shape = .error e) : e = .indexError := by
  rw [normalizeIndex_eq] at h
  by_cases too : (expand shape.length idx).countP (fun i => !i.isNone) > shape.length
  · rw [if_pos too] at h; cases h; rfl
  · rw [if_neg too] at h
    have he0 : (expand shape.length idx).countP Ix.isEllipsis = 0 := by
      rw [(expand_counts shape.length idx).ellipses]; omega
    unfold passes at h
    cases hc : checkAll (noneShape (expand shape.length idx) shape) with
    | error e' =>
      rw [hc] at h; cases h
      exact checkAll_error_class _ e
        (fun p hp => List.countP_eq_zero.mp he0 p.1 (mem_of_mem_noneShape hp)) hc
    | ok u =>
      rw [hc] at h
      rcases normSlices_ok_of_nozero (noneShape (expand shape.length idx) shape)
        (fun p hp s hs => expand_nozero _ idx hz s (hs ▸ mem_of_mem_noneShape hp)) with ⟨r, hr⟩
      rw [hr] at h; cases h

theorem npIndex_error_class (idx : List Ix) (shape : List Int)
    (hz : ∀ s, Ix.slc s ∈ idx → s.stp ≠ 0) (he : idx.countP Ix.isEllipsis ≤ 1)
    (e : Err) (h : npIndex idx shape = .error e) : e = .indexError := by
  unfold npIndex at h
  by_cases hk : idx.countP Ix.consumes ≤ shape.length
  · have ee := expand_eq_npExpand shape.length idx he hk
    rw [ee.1] at h
    have sp := npAxes_spec (expand shape.length idx) shape
    rw [show npAxes _ shape = .error e from h] at sp
    exact sp.resolve_right fun ⟨s, hs, h0⟩ => expand_nozero _ idx hz s hs h0
  · unfold npExpand at h
    rw [if_neg (show ¬ idx.countP Ix.isEllipsis > 1 from by omega), if_pos (show idx.countP Ix.consumes > shape.length from by omega)] at h
    cases h; rfl

end Dask.Lemmas.Indexing
