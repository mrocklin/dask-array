/-
Chunk normalisation (model: Model/Chunks.lean).  Whatever is proved of `auto_chunks` is proved along its own recursion
(`autoNoPrev_run`); its last level cannot fail.  A successful `normalize_chunks` is taken apart into its stages, each
check by `passed`; specs and shape are walked together by `zipRec`.  Under a byte limit one invariant, `Fits`, is kept
by every stage.  The property statements are assembled from these in Props/C16.lean.
-/
import DaskArrayModel.Model.ChunksSpec
import DaskArrayModel.Lemmas.PyBasic
namespace Dask.Lemmas.Chunks
open Dask.Py Dask.Chunks

theorem blockdim_pos (n c : Int) (hn : 0 < n) (hc : 1 ≤ c) :
    blockdim n c = .ok (List.replicate (n / c).toNat c ++ (if n % c ≠ 0 then [n % c] else [])) := by
  unfold blockdim
  have h1 : n ≠ 0 := by omega
  have h2 : c ≠ 0 := by omega
  simp only [h1, h2, if_false, pyDiv_pos n c (by omega), pyMod_pos n c (by omega)]

theorem uniform_shape (n c : Int) (hn : 0 < n) (hc : 1 ≤ c) :
    ∃ (k : Nat) (r : Int), blockdim n c = .ok (List.replicate k c ++ [r]) ∧ 0 < r ∧ r ≤ c ∧ (k : Int) * c + r = n := by
  have hq : ((n / c).toNat : Int) = n / c := Int.toNat_of_nonneg (Int.ediv_nonneg (by omega) (by omega))
  have hm0 : 0 ≤ n % c := Int.emod_nonneg n (by omega)
  have hm1 : n % c < c := Int.emod_lt_of_pos n (by omega)
  have hdm : ((n / c).toNat : Int) * c + n % c = n := by
    rw [hq, Int.mul_comm]
    exact Int.mul_ediv_add_emod n c
  rw [blockdim_pos n c hn hc]
  by_cases hm : n % c = 0
  · have h1 : (n / c).toNat ≠ 0 := by
      intro hz
      rw [hz, hm] at hdm
      omega
    obtain ⟨k, hk⟩ := Nat.exists_eq_succ_of_ne_zero h1
    rw [hk, Int.natCast_succ, Int.add_mul] at hdm
    exact ⟨k, c, by rw [if_neg (fun h => h hm), List.append_nil, hk, List.replicate_succ'], by omega, by omega,
      by omega⟩
  · exact ⟨(n / c).toNat, n % c, by rw [if_pos hm], by omega, by omega, hdm⟩

theorem blockdim_sum (s c : Int) (hs : 0 ≤ s) (hc : s = 0 ∨ 1 ≤ c) (l : List Int) (h : blockdim s c = .ok l) :
    isum l = s := by
  by_cases h0 : s = 0
  · subst h0; simp [blockdim] at h; subst h; simp [isum]
  · obtain ⟨k, r, e, _, _, hsum⟩ := uniform_shape s c (by omega) (hc.resolve_left h0)
    rw [h] at e
    cases e
    rw [isum_append, isum_replicate]
    simpa [isum] using hsum

theorem floorMul_spec (c s : Int) (hs : 1 ≤ s) (h : s ≤ c) :
    s ≤ c / s * s ∧ c / s * s ≤ c ∧ c < c / s * s + s := by
  have h1 : c / s * s ≤ c := Int.ediv_mul_le c (by omega)
  have h2 : c < (c / s + 1) * s := Int.lt_ediv_add_one_mul_self c (by omega)
  have h3 : 1 ≤ c / s := by
    by_cases hq : c / s < 1
    · have : (c / s + 1) * s ≤ 1 * s := Int.mul_le_mul_of_nonneg_right (by omega) (by omega)
      omega
    · omega
  have h4 : 1 * s ≤ c / s * s := Int.mul_le_mul_of_nonneg_right h3 (by omega)
  rw [Int.add_mul] at h2
  exact ⟨by omega, h1, by omega⟩

theorem leF_true_iff (cf : Nat) (exact : Bool) (s : Int) :
    leF cf exact s = true ↔ ((cf : Int) < s ∨ ((cf : Int) = s ∧ exact = true)) := by
  unfold leF; simp

/-- against a positive int the float form of `round_to` is the int form at `floor c`: whether `c` is an integer
only decides the branch when `floor c = s`, and there both branches return `s` -/
theorem roundToF_eq_roundTo (cf : Nat) (exact : Bool) (s : Int) (hs : 1 ≤ s) :
    roundToF cf exact s = roundTo (cf : Int) s := by
  have hl := leF_true_iff cf exact s
  have hp : 0 < s := Int.lt_of_lt_of_le Int.zero_lt_one hs
  unfold roundToF roundTo
  by_cases h : leF cf exact s = true
  · rw [if_pos h, if_pos ((hl.mp h).elim Int.le_of_lt (fun h1 => Int.le_of_eq h1.1))]
  · rw [if_neg h]
    by_cases hle : (cf : Int) ≤ s
    · have he : (cf : Int) = s := Int.le_antisymm hle (Int.not_lt.mp (fun hlt => h (hl.mpr (Or.inl hlt))))
      rw [if_pos hle, if_neg (Int.ne_of_gt hp), he, pyDiv_pos s s hp, Int.ediv_self (Int.ne_of_gt hp), Int.one_mul,
        Int.max_eq_right hs]
    · rw [if_neg hle]

theorem uniform_entries (n c : Int) (hn : 0 < n) (hc : 1 ≤ c) (l : List Int)
    (h : blockdim n c = .ok l) : ∀ x ∈ l, 0 < x ∧ x ≤ c := by
  obtain ⟨k, r, e, hr0, hrc, _⟩ := uniform_shape n c hn hc
  rw [h] at e
  cases e
  intro x hx
  rcases List.mem_append.mp hx with hx | hx
  · have := (List.mem_replicate.mp hx).2; omega
  · simp at hx; omega

theorem blockdim_zero_mem (s c : Int) (hc : s = 0 ∨ 1 ≤ c) (hs : 0 ≤ s) (l : List Int) (h : blockdim s c = .ok l)
    (h0 : 0 ∈ l) : s = 0 := by
  rcases hc with hc | hc
  · exact hc
  · by_cases hs0 : s = 0
    · exact hs0
    · have := (uniform_entries s c (by omega) hc l h 0 h0).1
      omega

/-- whatever the block size (0, negative, …): if `blockdims_from_blockshape` returns a non-empty tuple of
non-negative sizes for an axis of length `s ≥ 0`, the axis is empty or the block size was `≥ 1` (a zero block
size raises, a negative one returns `()` or one negative block). -/
theorem blockdim_ok_size (s c : Int) (hs : 0 ≤ s) (l : List Int) (h : blockdim s c = .ok l)
    (hne : l ≠ []) (hnn : ∀ x ∈ l, 0 ≤ x) : s = 0 ∨ 1 ≤ c := by
  by_cases h0 : s = 0
  · exact Or.inl h0
  · by_cases hc : 1 ≤ c
    · exact Or.inr hc
    · exfalso
      by_cases hc0 : c = 0
      · subst hc0; simp [blockdim, h0] at h
      · have hneg : c < 0 := by omega
        have hd : pyDiv s c = (-s) / (-c) := by
          unfold pyDiv; simp [hneg, show ¬ (0 < c) by omega]
        have hm : pyMod s c = -((-s) % (-c)) := by
          unfold pyMod; simp [hneg, show ¬ (0 < c) by omega]
        have hdn : (-s) / (-c) < 0 := Int.ediv_neg_of_neg_of_pos (by omega) (by omega)
        have hmn : 0 ≤ (-s) % (-c) := Int.emod_nonneg _ (by omega)
        unfold blockdim at h
        simp only [h0, hc0, if_false] at h
        rw [hd, hm] at h
        have ht : ((-s) / (-c)).toNat = 0 := by omega
        rw [ht] at h
        simp only [List.replicate_zero, List.nil_append] at h
        by_cases hz : -((-s) % (-c)) ≠ 0
        · simp only [hz, ne_eq, not_false_eq_true, if_true] at h
          cases h
          have := hnn _ (List.mem_singleton.mpr rfl)
          omega
        · simp only [hz, if_false] at h
          cases h; exact hne rfl

/-- the "Chunk sizes must not be negative" test passed -/
theorem nonneg_of_any_neg_false {l : List Int} (h : l.any (· < 0) = false) : ∀ x ∈ l, 0 ≤ x := by
  intro x hx
  have := List.any_eq_false.mp h x hx
  simpa using this

theorem fillFull_tuple (c : Spec) (s : Int) (t : List Int) : fillFull c s = .tuple t ↔ c = .tuple t := by
  constructor
  · intro h
    unfold fillFull at h
    split at h <;> first | exact h | cases h
  · rintro rfl; rfl

theorem convertAxis_ok {c : Spec} {s : Int} {l : List Int} (h : convertAxis c s = .ok l) :
    c = .tuple l ∨ ∃ k, c = .int k ∧ blockdim s k = .ok l := by
  cases c with
  | tuple t => exact Or.inl (congrArg Spec.tuple (Except.ok.inj h))
  | int k => exact Or.inr ⟨k, rfl, h⟩
  | _ => cases h

/-- a check of `normalize_chunks` (`if bad: raise …`) that a successful run has passed -/
theorem passed {ε α} {p : Prop} [Decidable p] {e : ε} {k : Except ε α} {out : α}
    (h : (if p then .error e else k) = .ok out) : ¬ p ∧ k = .ok out := by
  by_cases hp : p
  · rw [if_pos hp] at h; cases h
  · rw [if_neg hp] at h; exact ⟨hp, h⟩

theorem normAxis_ok {ai : Bool} {c : Spec} {s : Int} {l : List Int} (h : normAxis ai c s = .ok l) :
    convertAxis (fillFull c s) s = .ok l ∧ l ≠ [] ∧ l.any (· < 0) = false ∧ (ai = true ∨ isum l = s) := by
  unfold normAxis at h
  split at h
  · cases h
  · rename_i out hout
    obtain ⟨hne, h⟩ := passed h
    obtain ⟨hneg, h⟩ := passed h
    obtain ⟨hs, h⟩ := passed h
    cases h
    refine ⟨hout, hne, Bool.eq_false_iff.mpr hneg, ?_⟩
    cases ai with
    | true => exact Or.inl rfl
    | false => right; simpa using hs

theorem blockdim_self (s : Int) (hs : 0 ≤ s) : blockdim s s = .ok [s] := by
  by_cases h0 : s = 0
  · subst h0; simp [blockdim]
  · have hp : 0 < s := by omega
    rw [blockdim_pos s s hp (by omega)]
    have h1 : s / s = 1 := Int.ediv_self h0
    have h2 : s % s = 0 := Int.emod_self
    simp [h1, h2]

theorem zipRec {α β} {motive : (as : List α) → (bs : List β) → as.length = bs.length → Prop}
    (nil : motive [] [] rfl)
    (cons : ∀ a as b bs (h : as.length = bs.length), motive as bs h →
      motive (a :: as) (b :: bs) (congrArg (· + 1) h)) :
    ∀ as bs h, motive as bs h
  | [], [], _ => nil
  | a :: as, b :: bs, h => cons a as b bs (Nat.succ.inj h) (zipRec nil cons as bs (Nat.succ.inj h))

/-- how many axes `fillSmall` fills at this level (the auto axes shorter than the ideal size) -/
def countSmall (isize : Nat) (exact : Bool) : List Spec → List Int → Nat
  | c :: cs, s :: ss => (if isSmall isize exact c s then 1 else 0) + countSmall isize exact cs ss
  | _, _ => 0

theorem numAutos_cons (c : Spec) (cs : List Spec) :
    numAutos (c :: cs) = (if isAuto c then 1 else 0) + numAutos cs := by
  unfold numAutos
  by_cases h : isAuto c = true <;> simp [h] <;> omega

theorem largestBlock_cons_auto (c : Spec) (cs : List Spec) (h : isAuto c = true) :
    largestBlock (c :: cs) = largestBlock cs :=
  if_pos h

theorem largestBlock_cons_fixed (c : Spec) (cs : List Spec) (h : isAuto c = false) :
    largestBlock (c :: cs) = specMax c * largestBlock cs :=
  if_neg (ne_true_of_eq_false h)

theorem largestBlock_nonneg (chunks : List Spec) (h : FixedNonneg chunks) : 0 ≤ largestBlock chunks := by
  induction chunks with
  | nil => exact Int.le_of_lt Int.one_pos
  | cons c cs ih =>
    have ih' := ih (fun x hx => h x (List.mem_cons_of_mem _ hx))
    cases ha : isAuto c with
    | true => rw [largestBlock_cons_auto _ _ ha]; exact ih'
    | false => rw [largestBlock_cons_fixed _ _ ha]; exact Int.mul_nonneg (h c List.mem_cons_self ha) ih'

/-- also for `i = 0`: a positive power of it is 0 -/
theorem ipow_le (i m k : Nat) (hm : 1 ≤ m) (h : m ≤ k) : (i : Int) ^ m ≤ (i : Int) ^ k := by
  rw [← Int.natCast_pow, ← Int.natCast_pow]
  apply Int.ofNat_le.mpr
  cases i with
  | zero => rw [Nat.zero_pow hm, Nat.zero_pow (Nat.lt_of_lt_of_le hm h)]; exact Nat.le_refl _
  | succ i => exact Nat.pow_le_pow_right (Nat.succ_pos i) h

theorem isSmall_le (i : Nat) (e : Bool) (c : Spec) (s : Int) (h : isSmall i e c s = true) :
    isAuto c = true ∧ s ≤ (i : Int) := by
  unfold isSmall ltSize at h
  simp only [Bool.and_eq_true, Bool.not_eq_true'] at h
  refine ⟨h.1, ?_⟩
  have hh : ¬ ((i : Int) < s ∨ ((i : Int) = s ∧ e = true)) := by
    intro hx
    have := (leF_true_iff i e s).mpr hx
    rw [h.2] at this; cases this
  omega

theorem fillSmall_cons (i : Nat) (e : Bool) (c : Spec) (cs : List Spec) (s : Int) (ss : List Int) :
    fillSmall i e (c :: cs) (s :: ss) = (if isSmall i e c s then Spec.tuple [s] else c) :: fillSmall i e cs ss := rfl
theorem countSmall_cons (i : Nat) (e : Bool) (c : Spec) (cs : List Spec) (s : Int) (ss : List Int) :
    countSmall i e (c :: cs) (s :: ss) = (if isSmall i e c s then 1 else 0) + countSmall i e cs ss := rfl
theorem anySmall_cons (i : Nat) (e : Bool) (c : Spec) (cs : List Spec) (s : Int) (ss : List Int) :
    anySmall i e (c :: cs) (s :: ss) = (isSmall i e c s || anySmall i e cs ss) := rfl
theorem fillRound_cons (i : Nat) (e : Bool) (c : Spec) (cs : List Spec) (s : Int) (ss : List Int) :
    fillRound i e (c :: cs) (s :: ss) = ((if isAuto c then (roundToF i e s).map Spec.int else pure c) >>= fun c' =>
      fillRound i e cs ss >>= fun r => pure (c' :: r)) := rfl

theorem numAutos_fillSmall (i : Nat) (e : Bool) (chunks : List Spec) (shape : List Int) :
    numAutos (fillSmall i e chunks shape) + countSmall i e chunks shape = numAutos chunks ∧
    (anySmall i e chunks shape = true → 1 ≤ countSmall i e chunks shape) := by
  induction chunks generalizing shape with
  | nil => exact ⟨rfl, fun h => absurd h Bool.false_ne_true⟩
  | cons c cs ih =>
    cases shape with
    | nil => exact ⟨rfl, fun h => absurd h Bool.false_ne_true⟩
    | cons s ss =>
      obtain ⟨i1, i2⟩ := ih ss
      simp only [fillSmall_cons, countSmall_cons, anySmall_cons, numAutos_cons]
      cases hsm : isSmall i e c s with
      | true =>
        have ha := (isSmall_le i e c s hsm).1
        have hb : isAuto (Spec.tuple [s]) = false := rfl
        simp only [if_true, ha, hb, Bool.false_eq_true, if_false]
        exact ⟨by omega, fun _ => by omega⟩
      | false =>
        simp only [Bool.false_eq_true, if_false, Bool.false_or]
        exact ⟨by omega, fun h => by have := i2 h; omega⟩

theorem fillSmall_length (i : Nat) (e : Bool) (chunks : List Spec) (shape : List Int) :
    (fillSmall i e chunks shape).length = chunks.length := by
  induction chunks generalizing shape with
  | nil => rfl
  | cons c cs ih =>
    cases shape with
    | nil => rfl
    | cons s ss => exact congrArg Nat.succ (ih ss)

theorem fillSmall_fixed_le (i : Nat) (e : Bool) (chunks : List Spec) (shape : List Int)
    (hlen : chunks.length = shape.length) (hsh : ∀ s ∈ shape, 0 ≤ s) (hf : FixedNonneg chunks) :
    FixedNonneg (fillSmall i e chunks shape) ∧
    largestBlock (fillSmall i e chunks shape) ≤ largestBlock chunks * (i : Int) ^ (countSmall i e chunks shape) := by
  induction chunks, shape, hlen using zipRec with
  | nil => exact ⟨hf, Int.le_of_eq (Int.mul_one _).symm⟩
  | cons c cs s ss hlen ih =>
    have hs0 : 0 ≤ s := hsh s (List.mem_cons_self)
    have hf' : FixedNonneg cs := fun x hx => hf x (List.mem_cons_of_mem _ hx)
    obtain ⟨ihfix, ihle⟩ := ih (fun x hx => hsh x (List.mem_cons_of_mem _ hx)) hf'
    have hlb' : 0 ≤ largestBlock (fillSmall i e cs ss) := largestBlock_nonneg _ ihfix
    have hi0 : (0 : Int) ≤ (i : Int) := by omega
    simp only [fillSmall_cons, countSmall_cons]
    by_cases hsm : isSmall i e c s = true
    · obtain ⟨ha, hle⟩ := isSmall_le i e c s hsm
      simp only [hsm, if_true]
      constructor
      · intro x hx hxa
        rcases List.mem_cons.mp hx with rfl | hx
        · exact hs0
        · exact ihfix x hx hxa
      · rw [largestBlock_cons_fixed (.tuple [s]) _ rfl, largestBlock_cons_auto _ _ ha, Nat.add_comm, Int.pow_succ]
        calc s * largestBlock (fillSmall i e cs ss)
            ≤ (i : Int) * largestBlock (fillSmall i e cs ss) := Int.mul_le_mul_of_nonneg_right hle hlb'
          _ ≤ (i : Int) * (largestBlock cs * (i : Int) ^ countSmall i e cs ss) := Int.mul_le_mul_of_nonneg_left ihle hi0
          _ = largestBlock cs * ((i : Int) ^ countSmall i e cs ss * (i : Int)) := by
              rw [Int.mul_comm, Int.mul_assoc]
    · have hsm' : isSmall i e c s = false := by simpa using hsm
      simp only [hsm', Bool.false_eq_true, if_false, Nat.zero_add]
      constructor
      · intro x hx hxa
        rcases List.mem_cons.mp hx with rfl | hx
        · exact hf x (List.mem_cons_self) hxa
        · exact ihfix x hx hxa
      · cases ha : isAuto c with
        | true =>
          rw [largestBlock_cons_auto _ _ ha, largestBlock_cons_auto _ _ ha]; exact ihle
        | false =>
          rw [largestBlock_cons_fixed _ _ ha, largestBlock_cons_fixed _ _ ha]
          have hc0 : 0 ≤ specMax c := hf c (List.mem_cons_self) ha
          rw [Int.mul_assoc]
          exact Int.mul_le_mul_of_nonneg_left ihle hc0

/-- what the last level returns: every auto axis gets `max 1 isize` -/
def roundAll (i : Nat) (chunks : List Spec) : List Spec :=
  chunks.map (fun c => if isAuto c then Spec.int (max 1 (i : Int)) else c)

/-- with no small axis left `round_to` takes its first branch on every auto axis, so the last level cannot fail -/
theorem fillRound_ok (i : Nat) (e : Bool) (chunks : List Spec) (shape : List Int)
    (hns : anySmall i e chunks shape = false) :
    ∃ r, fillRound i e chunks shape = .ok r ∧ (chunks.length = shape.length → r = roundAll i chunks) := by
  induction chunks generalizing shape with
  | nil => exact ⟨[], rfl, fun _ => rfl⟩
  | cons c cs ih =>
    cases shape with
    | nil => exact ⟨c :: cs, rfl, fun h => by simp at h⟩
    | cons s ss =>
      rw [anySmall_cons, Bool.or_eq_false_iff] at hns
      obtain ⟨r, hr, hrr⟩ := ih ss hns.2
      cases ha : isAuto c with
      | true =>
        have hle : leF i e s = true := by simpa [isSmall, ltSize, ha] using hns.1
        have hf : roundToF i e s = .ok (max 1 (i : Int)) := by unfold roundToF; simp [hle]
        refine ⟨.int (max 1 (i : Int)) :: r, ?_, fun h => ?_⟩
        · simp [fillRound_cons, ha, hf, hr, bind, Except.bind, Except.map, pure, Except.pure]
        · rw [hrr (by simpa using h)]; simp [roundAll, ha]
      | false =>
        refine ⟨c :: r, ?_, fun h => ?_⟩
        · simp [fillRound_cons, ha, hr, bind, Except.bind, pure, Except.pure]
        · rw [hrr (by simpa using h)]; simp [roundAll, ha]

theorem roundAll_fixedNonneg (i : Nat) (chunks : List Spec) (hf : FixedNonneg chunks) :
    FixedNonneg (roundAll i chunks) := by
  intro x hx hxa
  unfold roundAll at hx
  obtain ⟨c, hc, rfl⟩ := List.mem_map.mp hx
  cases ha : isAuto c with
  | true => simp only [if_true, specMax]; omega
  | false => simp only [ha, Bool.false_eq_true, if_false] at hxa ⊢; exact hf c hc ha

theorem roundAll_cons (i : Nat) (c : Spec) (cs : List Spec) :
    roundAll i (c :: cs) = (if isAuto c then Spec.int (max 1 (i : Int)) else c) :: roundAll i cs := rfl

theorem roundAll_numAutos (i : Nat) (chunks : List Spec) : numAutos (roundAll i chunks) = 0 := by
  induction chunks with
  | nil => rfl
  | cons c cs ih =>
    rw [roundAll_cons, numAutos_cons, ih]
    cases ha : isAuto c with
    | true => rfl
    | false => simp [ha]

theorem roundAll_largestBlock (i : Nat) (chunks : List Spec) :
    largestBlock (roundAll i chunks) = largestBlock chunks * (max 1 (i : Int)) ^ (numAutos chunks) := by
  induction chunks with
  | nil => exact (Int.mul_one 1).symm.trans (congrArg (1 * ·) (Int.pow_zero _).symm)
  | cons c cs ih =>
    rw [roundAll_cons, numAutos_cons]
    cases ha : isAuto c with
    | true =>
      rw [if_pos rfl, largestBlock_cons_fixed _ _ rfl, largestBlock_cons_auto _ _ ha, ih]
      simp only [if_true, specMax]
      rw [Nat.add_comm, Int.pow_succ, Int.mul_comm (max 1 (i : Int)), Int.mul_assoc]
    | false =>
      rw [if_neg (by simp), largestBlock_cons_fixed _ _ ha, largestBlock_cons_fixed _ _ ha, ih]
      simp only [Bool.false_eq_true, if_false, Nat.zero_add]
      rw [Int.mul_assoc]

theorem autoNoPrev_eq (orc : List (Nat × Bool)) (c : List Spec) (shape : List Int) :
    autoNoPrev orc c shape = if numAutos c = 0 then .ok c else if hasEmptyTuple c then .error .valueError
      else if largestBlock c = 0 then .error .zeroDivisionError else match orc with
        | [] => .error .oracleExhausted
        | (i, e) :: rest => if anySmall i e c shape then autoNoPrev rest (fillSmall i e c shape) shape
            else fillRound i e c shape := by
  cases orc <;> rfl

/-- Every run of `auto_chunks`, whatever its outcome, along the function's own recursion: `Q` is what holds of the
oracle list and the chunks at the start of a level, `R` what is to hold of the outcome. -/
theorem autoNoPrev_run {Q : List (Nat × Bool) → List Spec → Prop}
    {R : Except Err (List Spec) → Prop} (orc : List (Nat × Bool)) (c : List Spec) (shape : List Int)
    (done : ∀ orc c, Q orc c → numAutos c = 0 → R (.ok c))
    (err : ∀ e, e ≠ .oracleExhausted → R (.error e))
    (out : ∀ c, Q [] c → numAutos c ≠ 0 → R (.error .oracleExhausted))
    (small : ∀ i e rest c, Q ((i, e) :: rest) c → anySmall i e c shape = true → Q rest (fillSmall i e c shape))
    (last : ∀ i e rest c, Q ((i, e) :: rest) c → anySmall i e c shape = false → R (fillRound i e c shape)) :
    Q orc c → R (autoNoPrev orc c shape) := by
  -- the induction generalises `shape`, so `small` and `last` (which mention it) travel with the motive
  induction orc, c, shape using autoNoPrev.induct with
  | case1 orc c shape h0 =>
    intro hQ
    rw [autoNoPrev_eq, if_pos h0]
    exact done _ _ hQ h0
  | case2 orc c shape h0 h1 =>
    intro _
    rw [autoNoPrev_eq, if_neg h0, if_pos h1]
    exact err _ (by simp)
  | case3 orc c shape h0 h1 h2 =>
    intro _
    rw [autoNoPrev_eq, if_neg h0, if_neg h1, if_pos h2]
    exact err _ (by simp)
  | case4 c shape h0 h1 h2 =>
    intro hQ
    rw [autoNoPrev_eq, if_neg h0, if_neg h1, if_neg h2]
    exact out _ hQ h0
  | case5 c shape h0 h1 h2 i e rest hs ih =>
    intro hQ
    rw [autoNoPrev_eq, if_neg h0, if_neg h1, if_neg h2]
    dsimp only
    rw [if_pos hs]
    exact ih small last (small i e rest c hQ hs)
  | case6 c shape h0 h1 h2 i e rest hs =>
    intro hQ
    rw [autoNoPrev_eq, if_neg h0, if_neg h1, if_neg h2]
    dsimp only
    rw [if_neg hs]
    exact last i e rest c hQ (by simpa using hs)

theorem autoNoPrev_length (orc : List (Nat × Bool)) (chunks : List Spec) (shape : List Int) (out : List Spec)
    (hlen : chunks.length = shape.length) (h : autoNoPrev orc chunks shape = .ok out) :
    out.length = shape.length := by
  refine autoNoPrev_run orc chunks shape (Q := fun _ c => c.length = shape.length)
    (R := fun r => ∀ out, r = .ok out → out.length = shape.length) ?_ ?_ ?_ ?_ ?_ hlen out h
  · rintro _ c hl _ _ h
    cases h
    exact hl
  · intro _ _ _ h; cases h
  · intro _ _ _ _ h; cases h
  · intro i e _ c hl _
    rw [fillSmall_length]
    exact hl
  · intro i e _ c hl hns out hr
    obtain ⟨r, hr', hrr⟩ := fillRound_ok i e c shape hns
    rw [hr'] at hr
    cases hr
    rw [hrr hl]
    simpa [roundAll] using hl

theorem prepare_length (chunks : List Spec) (shape : List Int) (out : List Spec)
    (h : prepare chunks shape = .ok out) : out.length = shape.length := by
  unfold prepare at h
  extract_lets c1 w c2 at h
  obtain ⟨_, h⟩ := passed h
  obtain ⟨hl, h⟩ := passed h
  cases h
  rw [List.length_zipWith, Decidable.of_not_not hl, Nat.min_self]

theorem convertAll_cons_ok {c : Spec} {cs : List Spec} {s : Int} {ss : List Int} {out : List (List Int)}
    (h : convertAll (c :: cs) (s :: ss) = .ok out) :
    ∃ a r, out = a :: r ∧ convertAxis c s = .ok a ∧ convertAll cs ss = .ok r := by
  change (convertAxis c s >>= fun a => convertAll cs ss >>= fun r => pure (a :: r)) = .ok out at h
  simp only [bind, Except.bind] at h
  split at h
  · cases h
  · rename_i a ha
    split at h
    · cases h
    · rename_i r hr
      exact ⟨a, r, (Except.ok.inj h).symm, ha, hr⟩

theorem finalize_ok {chunks : List Spec} {shape : List Int} {out : List (List Int)}
    (h : finalize chunks shape = .ok out) :
    convertAll chunks shape = .ok out ∧ out.any (· == []) = false ∧
      out.any (fun c => c.any (· < 0)) = false ∧
      (chunks.all isIntSpec = true ∨ sumsMatch out shape = true) := by
  unfold finalize at h
  extract_lets ai at h
  split at h
  · cases h
  · rename_i out' hconv
    obtain ⟨h1, h⟩ := passed h
    obtain ⟨h2, h⟩ := passed h
    obtain ⟨h3, h⟩ := passed h
    cases h
    refine ⟨hconv, Bool.eq_false_iff.mpr h1, Bool.eq_false_iff.mpr h2, ?_⟩
    cases ha : chunks.all isIntSpec with
    | true => exact Or.inl rfl
    | false =>
      have : ai = false := ha
      cases hs : sumsMatch out shape with
      | true => exact Or.inr rfl
      | false => exact absurd (by rw [this, hs]; rfl) h3

/-- the test `any(c == "auto" for c in chunks)` of `normalize_chunks` repeats the first test of `auto_chunks` -/
theorem resolveAuto_eq (orc : List (Nat × Bool)) (chunks : List Spec) (shape : List Int) :
    resolveAuto orc chunks shape = autoNoPrev orc chunks shape := by
  unfold resolveAuto
  by_cases hany : chunks.any isAuto = true
  · rw [if_pos hany]
  · have h0 : numAutos chunks = 0 := by
      unfold numAutos
      rw [List.length_eq_zero_iff, List.filter_eq_nil_iff]
      exact fun x hx hxa => hany (List.any_eq_true.mpr ⟨x, hx, hxa⟩)
    rw [if_neg hany, autoNoPrev_eq, if_pos h0]

theorem normalizeChunks_ok {orc : List (Nat × Bool)} {limit : Option Int} {chunks : List Spec}
    {shape : List Int} {out : List (List Int)} (hs : shape ≠ [])
    (h : normalizeChunks orc limit chunks shape = .ok out) :
    ∃ c1 c2, prepare chunks shape = .ok c1 ∧ autoNoPrev orc (c1.map bytesToAuto) shape = .ok c2 ∧
      finalize c2 shape = .ok out := by
  unfold normalizeChunks at h
  rw [if_neg hs] at h
  split at h
  · cases h
  · rename_i c1 hp
    split at h
    · cases h
    · split at h
      · cases h
      · rename_i c2 hr
        exact ⟨c1, c2, hp, resolveAuto_eq orc _ shape ▸ hr, h⟩

theorem eq_int_of_isIntSpec {c : Spec} (h : isIntSpec c = true) : ∃ k, c = .int k := by
  cases c with
  | int k => exact ⟨k, rfl⟩
  | _ => cases h

theorem convertAll_wf (chunks : List Spec) (shape : List Int) (out : List (List Int))
    (hlen : chunks.length = shape.length) (hsh : ∀ s ∈ shape, 0 ≤ s)
    (h : convertAll chunks shape = .ok out)
    (hne : out.any (· == []) = false)
    (hneg : out.any (fun c => c.any (· < 0)) = false)
    (hsum : chunks.all isIntSpec = true ∨ sumsMatch out shape = true) :
    AllAxesOK out shape := by
  induction chunks, shape, hlen using zipRec generalizing out with
  | nil => obtain rfl := Except.ok.inj h; exact .nil
  | cons c cs s ss hlen ih =>
    obtain ⟨a, r, rfl, ha, hr⟩ := convertAll_cons_ok h
    simp only [List.any_cons, Bool.or_eq_false_iff] at hne hneg
    have hs0 : 0 ≤ s := hsh s (List.mem_cons_self)
    have hane : a ≠ [] := by
      intro he; have := hne.1; simp [he] at this
    have hann := nonneg_of_any_neg_false hneg.1
    have hsum' : cs.all isIntSpec = true ∨ sumsMatch r ss = true := by
      rcases hsum with h1 | h1
      · left; simp only [List.all_cons, Bool.and_eq_true] at h1; exact h1.2
      · right; exact (Bool.and_eq_true_iff.mp h1).2
    refine .cons ⟨hane, hann, ?_⟩
      (ih r (fun x hx => hsh x (List.mem_cons_of_mem _ hx)) hr hne.2 hneg.2 hsum')
    rcases hsum with h1 | h1
    · simp only [List.all_cons, Bool.and_eq_true] at h1
      obtain ⟨k, rfl⟩ := eq_int_of_isIntSpec h1.1
      exact blockdim_sum s k hs0 (blockdim_ok_size s k hs0 a ha hane hann) a ha
    · exact of_decide_eq_true (Bool.and_eq_true_iff.mp h1).1

theorem imax_mem (l : List Int) (hne : l ≠ []) : imax l ∈ l := by
  induction l with
  | nil => exact absurd rfl hne
  | cons x xs ih =>
    cases xs with
    | nil => exact List.mem_cons_self
    | cons y r =>
      have := ih (by simp)
      show max x (imax (y :: r)) ∈ _
      by_cases hxy : x ≤ imax (y :: r)
      · rw [Int.max_eq_right hxy]; exact List.mem_cons_of_mem _ this
      · rw [Int.max_eq_left (by omega)]; exact List.mem_cons_self

theorem convertAxis_max_le (c : Spec) (s : Int) (l : List Int) (hs : 0 ≤ s) (hc : 0 ≤ specMax c)
    (h : convertAxis c s = .ok l) (hne : l ≠ []) (hnn : ∀ x ∈ l, 0 ≤ x) :
    0 ≤ imax l ∧ imax l ≤ specMax c := by
  have hm := imax_mem l hne
  refine ⟨hnn _ hm, ?_⟩
  rcases convertAxis_ok h with rfl | ⟨k, rfl, hb⟩
  · exact Int.le_refl _
  · simp only [specMax] at hc ⊢
    by_cases h0 : s = 0
    · subst h0; simp [blockdim] at hb; subst hb; exact hc
    · have hk1 : 1 ≤ k := (blockdim_ok_size s k hs l hb hne hnn).resolve_left h0
      exact (uniform_entries s k (by omega) hk1 l hb _ hm).2

theorem convertAll_block_le (chunks : List Spec) (shape : List Int) (out : List (List Int))
    (hlen : chunks.length = shape.length) (hsh : ∀ s ∈ shape, 0 ≤ s) (hf : FixedNonneg chunks)
    (hna : numAutos chunks = 0)
    (h : convertAll chunks shape = .ok out)
    (hne : out.any (· == []) = false)
    (hneg : out.any (fun c => c.any (· < 0)) = false) :
    0 ≤ blockElems out ∧ blockElems out ≤ largestBlock chunks := by
  induction chunks, shape, hlen using zipRec generalizing out with
  | nil => obtain rfl := Except.ok.inj h; exact ⟨Int.le_of_lt Int.one_pos, Int.le_refl 1⟩
  | cons c cs s ss hlen ih =>
    obtain ⟨a, r, rfl, ha, hr⟩ := convertAll_cons_ok h
    simp only [List.any_cons, Bool.or_eq_false_iff] at hne hneg
    rw [numAutos_cons] at hna
    have hca : isAuto c = false := by
      cases hx : isAuto c with
      | true => rw [hx] at hna; simp at hna
      | false => rfl
    have hane : a ≠ [] := by
      intro he; have := hne.1; simp [he] at this
    have hc0 : 0 ≤ specMax c := hf c List.mem_cons_self hca
    obtain ⟨m0, m1⟩ := convertAxis_max_le c s a (hsh s List.mem_cons_self) hc0 ha hane (nonneg_of_any_neg_false hneg.1)
    obtain ⟨b0, b1⟩ := ih r (fun x hx => hsh x (List.mem_cons_of_mem _ hx))
      (fun x hx => hf x (List.mem_cons_of_mem _ hx)) (by omega) hr hne.2 hneg.2
    rw [largestBlock_cons_fixed _ _ hca]
    exact ⟨Int.mul_nonneg m0 b0, Int.mul_le_mul m1 b1 b0 hc0⟩

/-- the specs resolved so far are within the byte limit: the largest block over the non-auto axes, times
`itemsize`, is `≤ limit` -/
structure Fits (limit itemsize : Int) (shape : List Int) (chunks : List Spec) : Prop where
  len : chunks.length = shape.length
  fixed : FixedNonneg chunks
  fit : largestBlock chunks * itemsize ≤ limit

section
variable {limit itemsize : Int} {shape : List Int} {chunks : List Spec}

theorem Fits.small (hi : 0 ≤ itemsize) (hsh : ∀ s ∈ shape, 0 ≤ s) (F : Fits limit itemsize shape chunks)
    {i : Nat} {e : Bool} (hrel : (i : Int) ^ numAutos chunks * largestBlock chunks * itemsize ≤ limit)
    (hsm : anySmall i e chunks shape = true) : Fits limit itemsize shape (fillSmall i e chunks shape) := by
  obtain ⟨hfix, hle⟩ := fillSmall_fixed_le i e chunks shape F.len hsh F.fixed
  obtain ⟨hcount, hsome⟩ := numAutos_fillSmall i e chunks shape
  have hpw := ipow_le i (countSmall i e chunks shape) (numAutos chunks) (hsome hsm) (by omega)
  refine ⟨by rw [fillSmall_length]; exact F.len, hfix, ?_⟩
  calc largestBlock (fillSmall i e chunks shape) * itemsize
      ≤ (largestBlock chunks * (i : Int) ^ countSmall i e chunks shape) * itemsize :=
        Int.mul_le_mul_of_nonneg_right hle hi
    _ ≤ (largestBlock chunks * (i : Int) ^ numAutos chunks) * itemsize :=
        Int.mul_le_mul_of_nonneg_right (Int.mul_le_mul_of_nonneg_left hpw (largestBlock_nonneg _ F.fixed)) hi
    _ = (i : Int) ^ numAutos chunks * largestBlock chunks * itemsize := by
        rw [Int.mul_comm (largestBlock chunks)]
    _ ≤ limit := hrel

theorem Fits.last (F : Fits limit itemsize shape chunks) {i : Nat}
    (hrel : (i : Int) ^ numAutos chunks * largestBlock chunks * itemsize ≤ limit) :
    Fits limit itemsize shape (roundAll i chunks) ∧ numAutos (roundAll i chunks) = 0 := by
  refine ⟨⟨by simpa [roundAll] using F.len, roundAll_fixedNonneg i chunks F.fixed, ?_⟩,
    roundAll_numAutos i chunks⟩
  rw [roundAll_largestBlock]
  by_cases hi0 : i = 0
  · subst hi0
    have : max (1 : Int) ((0 : Nat) : Int) = 1 := by omega
    rw [this, Int.one_pow, Int.mul_one]; exact F.fit
  · have : max (1 : Int) (i : Int) = (i : Int) := by omega
    rw [this, Int.mul_comm (largestBlock chunks)]; exact hrel

theorem autoNoPrev_fits (hi : 0 ≤ itemsize) (hsh : ∀ s ∈ shape, 0 ≤ s) {orc : List (Nat × Bool)} {out : List Spec}
    (F : Fits limit itemsize shape chunks) (horc : orcOK limit itemsize orc chunks shape = true)
    (h : autoNoPrev orc chunks shape = .ok out) : Fits limit itemsize shape out ∧ numAutos out = 0 := by
  refine autoNoPrev_run orc chunks shape
    (Q := fun orc c => Fits limit itemsize shape c ∧ orcOK limit itemsize orc c shape = true)
    (R := fun r => ∀ out, r = .ok out → Fits limit itemsize shape out ∧ numAutos out = 0)
    ?_ ?_ ?_ ?_ ?_ ⟨F, horc⟩ out h
  · rintro _ c ⟨F, _⟩ h0 _ h
    cases h
    exact ⟨F, h0⟩
  · intro _ _ _ h; cases h
  · intro _ _ _ _ h; cases h
  · rintro i e rest c ⟨F, horc⟩ hsm
    obtain ⟨h1, h2⟩ := Bool.and_eq_true_iff.mp horc
    exact ⟨F.small hi hsh (of_decide_eq_true h1) hsm, by simpa [hsm] using h2⟩
  · rintro i e rest c ⟨F, horc⟩ hns out hr
    obtain ⟨r, hr', hrr⟩ := fillRound_ok i e c shape hns
    rw [hr'] at hr
    cases hr
    rw [hrr F.len]
    exact F.last (of_decide_eq_true (Bool.and_eq_true_iff.mp horc).1)

theorem Fits.finalize (hi : 0 ≤ itemsize) (hsh : ∀ s ∈ shape, 0 ≤ s) (F : Fits limit itemsize shape chunks)
    (hna : numAutos chunks = 0) {out : List (List Int)} (h : finalize chunks shape = .ok out) :
    blockElems out * itemsize ≤ limit := by
  obtain ⟨hconv, h1, h2, _⟩ := finalize_ok h
  obtain ⟨_, b1⟩ := convertAll_block_le chunks shape out F.len hsh F.fixed hna hconv h1 h2
  exact Int.le_trans (Int.mul_le_mul_of_nonneg_right b1 hi) F.fit

end

/-- the block the loop closes (`if new_chunk > 0: dimension_result.append(new_chunk)`) carries the running width
`new` and is within `B` -/
theorem mergeLoop_flush (B new : Int) (hn0 : 0 ≤ new) (hnB : new ≤ B) :
    isum (if new > 0 then [new] else []) = new ∧ ∀ x ∈ (if new > 0 then [new] else []), 0 < x ∧ x ≤ B := by
  by_cases h : new > 0
  · rw [if_pos h]
    exact ⟨by simp [isum], fun x hx => by rw [List.mem_singleton.mp hx]; exact ⟨h, hnB⟩⟩
  · rw [if_neg h]
    exact ⟨by simp only [isum]; omega, fun x hx => nomatch hx⟩

/-- the greedy merge of `previous_chunks` (the integer kernel of that branch of `auto_chunks`) keeps the total and
yields positive blocks within any common bound `B` -/
theorem mergeLoop_spec (pf B : Int) (prev : List Int) (new : Int)
    (hp : ∀ c ∈ prev, 0 ≤ c ∧ c ≤ B) (hn0 : 0 ≤ new) (hnB : new ≤ B) (hpf : pf ≤ B) :
    isum (mergeLoop pf new prev) = new + isum prev ∧
    (∀ x ∈ mergeLoop pf new prev, 0 < x ∧ x ≤ B) := by
  induction prev generalizing new with
  | nil =>
    obtain ⟨c1, c2⟩ := mergeLoop_flush B new hn0 hnB
    exact ⟨c1.trans (Int.add_zero new).symm, c2⟩
  | cons c cs ih =>
    have hc := hp c List.mem_cons_self
    have hp' : ∀ c ∈ cs, 0 ≤ c ∧ c ≤ B := fun x hx => hp x (List.mem_cons_of_mem _ hx)
    simp only [isum]
    by_cases h : c + new ≤ pf
    · rw [show mergeLoop pf new (c :: cs) = mergeLoop pf (new + c) cs from if_pos h]
      obtain ⟨i1, i2⟩ := ih (new + c) hp' (by omega) (by omega)
      exact ⟨by omega, i2⟩
    · rw [show mergeLoop pf new (c :: cs) = (if new > 0 then [new] else []) ++ mergeLoop pf c cs from if_neg h]
      obtain ⟨i1, i2⟩ := ih c hp' hc.1 hc.2
      obtain ⟨c1, c2⟩ := mergeLoop_flush B new hn0 hnB
      rw [isum_append, i1, c1]
      refine ⟨by omega, fun x hx => ?_⟩
      rcases List.mem_append.mp hx with hx | hx
      · exact c2 x hx
      · exact i2 x hx

end Dask.Lemmas.Chunks
