/-
The slice pushdown (`_accept_slice`, exact path): an integer is the size-1 slice followed by the `[0]` extraction
(`extract_eq`), and a slice acts on the node as a re-indexing (`sliceR`).
-/
import DaskArrayModel.Lemmas.BlockwiseGateCore
import DaskArrayModel.Lemmas.ExprIndex
namespace Dask.BWG
open Dask.Py Dask.Py.PySlice Dask.ND Dask.Slicing Dask.Contract

/-- the slice an index item is pushed as -/
def toSl : Ix → PySlice
  | .int k => ⟨some k, some (k + 1), none⟩
  | .slc s => s

theorem intToSlice_eq (ix : Ix) : intToSlice ix = .slc (toSl ix) := by cases ix <;> rfl

theorem toSl_colonIx : toSl colonIx = colon := rfl

theorem isColon_iff (ix : Ix) : isColon ix = true ↔ ix = colonIx := by
  cases ix with
  | int k => simp [isColon, colonIx]
  | slc s => simp [isColon, colonIx]

/-- the index is admissible for the shape: one item per axis, integers in `[0, n)`, steps ≠ 0 -/
def FullOK : List Nat → List Ix → Prop
  | [], [] => True
  | n :: ns, .int v :: r => (0 ≤ v ∧ v < (n : Int)) ∧ FullOK ns r
  | _ :: ns, .slc s :: r => s.stp ≠ 0 ∧ FullOK ns r
  | _, _ => False

theorem FullOK.wfIx : ∀ {sh : List Nat} {full : List Ix}, FullOK sh full → wfIx sh full = true
  | [], [], _ => rfl
  | n :: ns, .int v :: r, h => by
    rw [wfIx_cons_int]; exact ⟨by have := h.1; omega, FullOK.wfIx h.2⟩
  | _ :: ns, .slc s :: r, h => by
    rw [wfIx_cons_slc]; exact ⟨h.1, FullOK.wfIx h.2⟩
  | [], _ :: _, h => h.elim
  | _ :: _, [], h => h.elim

theorem FullOK.length : ∀ {sh : List Nat} {full : List Ix}, FullOK sh full → full.length = sh.length
  | [], [], _ => rfl
  | _ :: _, .int _ :: _, h => congrArg Nat.succ (FullOK.length h.2)
  | _ :: _, .slc _ :: _, h => congrArg Nat.succ (FullOK.length h.2)
  | [], _ :: _, h => h.elim
  | _ :: _, [], h => h.elim

theorem FullOK.of_getD : ∀ {sh : List Nat} {full : List Ix}, full.length = sh.length →
    (∀ k, k < full.length → match full.getD k colonIx with
      | .int v => 0 ≤ v ∧ v < (sh.getD k 0 : Int)
      | .slc s => s.stp ≠ 0) → FullOK sh full
  | [], [], _, _ => trivial
  | _ :: _, .int _ :: _, hl, h =>
    ⟨h 0 (Nat.succ_pos _), FullOK.of_getD (Nat.succ.inj hl) fun k hk => h (k + 1) (Nat.succ_lt_succ hk)⟩
  | _ :: _, .slc _ :: _, hl, h =>
    ⟨h 0 (Nat.succ_pos _), FullOK.of_getD (Nat.succ.inj hl) fun k hk => h (k + 1) (Nat.succ_lt_succ hk)⟩
  | [], _ :: _, hl, _ => absurd hl (Nat.succ_ne_zero _)
  | _ :: _, [], hl, _ => absurd hl.symm (Nat.succ_ne_zero _)

theorem intsToSlices_eq : ∀ (sh : List Nat) (full : List Ix), FullOK sh full →
    intsToSlices sh full = full.map intToSlice
  | [], [], _ => rfl
  | n :: ns, .int v :: r, h => by
    show Ix.slc ⟨some (posifyInt n v), some (posifyInt n v + 1), none⟩ :: intsToSlices ns r = _
    rw [intsToSlices_eq ns r h.2, posifyInt, if_neg (Int.not_lt.mpr h.1.1)]
    rfl
  | _ :: ns, .slc s :: r, h => congrArg (Ix.slc s :: ·) (intsToSlices_eq ns r h.2)
  | [], _ :: _, h => h.elim
  | _ :: _, [], h => h.elim

theorem extractIx_eq_map : ∀ (full : List Ix), Dask.ND.extractIx full = full.map extractIx
  | [] => rfl
  | .int _ :: r => congrArg (Ix.int 0 :: ·) (extractIx_eq_map r)
  | .slc _ :: r => congrArg (colonIx :: ·) (extractIx_eq_map r)

theorem sliceArr_congr (a a' : Arr Int) (ixs : List Ix) (hE : Arr.Equiv a a') (hw : wfIx a.shape ixs = true) :
    Arr.Equiv (sliceArr a ixs) (sliceArr a' ixs) := by
  refine ⟨by simp [sliceArr, hE.1], ?_⟩
  intro i hi
  simp only [sliceArr] at hi ⊢
  rw [← hE.1]
  exact hE.2 _ (sliceIdx_inB a.shape ixs i hw hi)

/-- an integer is the size-1 slice followed by the `[0]` extraction: read off `splitInts_sound` -/
theorem extract_eq (y : Arr Int) (full : List Ix) (h : FullOK y.shape full) :
    wfIx (sliceShape y.shape (full.map intToSlice)) (full.map extractIx) = true ∧
    Arr.Equiv (sliceArr (sliceArr y (full.map intToSlice)) (full.map extractIx)) (sliceArr y full) := by
  obtain ⟨_, i2, i3, i4⟩ := splitInts_sound y.shape full h.wfIx
  rw [intsToSlices_eq _ _ h, extractIx_eq_map] at i2 i3 i4
  exact ⟨i2, i3, fun i hi => congrArg y.get (i4 i (i3 ▸ hi))⟩

theorem map_intToSlice_noInt : ∀ (full : List Ix), full.any isInt = false → full.map intToSlice = full
  | [], _ => rfl
  | .int _ :: _, h => by simp [isInt] at h
  | .slc s :: r, h => by
    simp only [List.any_cons, isInt, Bool.false_or] at h
    simp only [List.map_cons, intToSlice, map_intToSlice_noInt r h]

theorem takeArr_congr (a a' : Arr Int) (axis : Nat) (flat : List Nat) (hE : Arr.Equiv a a')
    (hax : axis < a.shape.length) (hf : ∀ p ∈ flat, p < a.shape.getD axis 0) :
    Arr.Equiv (takeArr a axis flat) (takeArr a' axis flat) :=
  ⟨congrArg (·.set axis flat.length) hE.1, fun i hi => hE.2 _ (InB_set_of hi (hf _ (getD_mem _ _ _ (by
    have := InB.getD_lt hi axis (Nat.lt_of_lt_of_eq hax (List.length_set ..).symm)
    rwa [show (takeArr a axis flat).shape = a.shape.set axis flat.length from rfl,
      getD_set_eq _ _ _ _ hax] at this))))⟩

def sliceR (bw : BW) (full : List Ix) : Reix :=
  { act := fun l => bw.outInd.contains l && !isColon (full.getD (bw.outInd.idxOf l) colonIx)
    len := fun l => (sel (toSl (full.getD (bw.outInd.idxOf l) colonIx)) (labLen bw l : Nat)).length
    map := fun l x => ((sel (toSl (full.getD (bw.outInd.idxOf l) colonIx)) (labLen bw l : Nat)).getD x 0).toNat }

/-- what `_accept_slice` (exact path) makes of one `(arg, ind)` pair: sliced by `argSlices`, a literal left alone -/
def pushedOpd (bw : BW) (full : List Ix) (o : Opd) : Opd :=
  match o.ind with
  | none => o
  | some ind => sliceOpd o (some (argSlices bw full ind))

theorem sliceArg_isSome (U : Nat → List Nat) (bw : BW) (full : List Ix) (o : Opd)
    (h : (sliceArg {} U bw full o).isSome = true) :
    sliceOpd o ((sliceArg {} U bw full o).getD none) = pushedOpd bw full o ∧
    ∀ pos, pos < o.labels.length → sliceAxisOK {} U bw full o pos (o.labels.getD pos 0) = true := by
  unfold sliceArg pushedOpd Opd.labels at *
  cases hind : o.ind with
  | none => exact ⟨rfl, fun _ h => absurd h (Nat.not_lt_zero _)⟩
  | some ind =>
    rw [hind] at h
    dsimp only at h ⊢
    have ha := (isSome_ite_none_left.mp h).1
    rw [if_neg ha] at h ⊢
    rw [if_pos (isSome_ite_none_right.mp h).1]
    exact ⟨rfl, fun pos hpos =>
      List.all_eq_true.mp (isSome_ite_none_right.mp h).1 pos (List.mem_range.mpr hpos)⟩

theorem acceptSlice_exact (U : Nat → List Nat) (bw : BW) (index : List (Option Ix))
    (args : List (Option (List Ix))) (ex : Option (List Ix))
    (h : acceptSliceG {} U bw index = .exact args ex) :
    (∀ l ∈ slicedLabels bw (fullIndex bw (index.filterMap id)), bw.newAxes.lookup l = none) ∧
    (∀ o ∈ bw.ops, (sliceArg {} U bw (fullIndex bw (index.filterMap id)) o).isSome = true) ∧
    args = bw.ops.map (fun o => (sliceArg {} U bw (fullIndex bw (index.filterMap id)) o).getD none) ∧
    ex = (if (fullIndex bw (index.filterMap id)).any isInt
      then some ((fullIndex bw (index.filterMap id)).map extractIx) else none) := by
  unfold acceptSliceG at h
  obtain ⟨_, h⟩ := of_ite_eq h nofun
  obtain ⟨_, h⟩ := of_ite_eq h nofun
  dsimp only at h
  obtain ⟨hnew, h⟩ := of_ite_eq h nofun
  obtain ⟨_, h⟩ := of_ite_eq h nofun
  obtain ⟨hall, h⟩ := of_ite_eq' h nofun
  obtain ⟨h1, h2⟩ := Route.exact.inj h
  exact ⟨fun l hl => newFree_of_gate hnew fun hs => List.any_eq_true.mpr ⟨l, hl, hs⟩,
    List.all_eq_true.mp hall, h1.symm, h2.symm⟩

theorem slicedAxes_contains (full : List Ix) (a : Nat) :
    (slicedAxes full).contains a = !isColon (full.getD a colonIx) := by
  unfold slicedAxes
  rw [Bool.eq_iff_iff]
  simp only [List.contains_eq_mem, List.mem_filter, List.mem_range, decide_eq_true_eq]
  constructor
  · exact fun h => h.2
  · intro h
    refine ⟨?_, h⟩
    by_cases hlt : a < full.length
    · exact hlt
    · rw [getD_of_ge _ _ _ (by omega)] at h
      simp [isColon, colonIx] at h

theorem mem_slicedLabels (bw : BW) (full : List Ix) (l : Nat) (hl : l ∈ bw.outInd)
    (h : isColon (full.getD (bw.outInd.idxOf l) colonIx) = false) : l ∈ slicedLabels bw full := by
  unfold slicedLabels
  apply List.mem_map.mpr
  have hk : bw.outInd.idxOf l < bw.outInd.length := List.idxOf_lt_length_of_mem hl
  refine ⟨bw.outInd.idxOf l, ?_, getD_idxOf _ _ hl⟩
  apply List.mem_filter.mpr
  refine ⟨?_, by simpa using hk⟩
  have := slicedAxes_contains full (bw.outInd.idxOf l)
  rw [h] at this
  simpa using this

theorem sliceR_act (bw : BW) (full : List Ix) (l : Nat) :
    (sliceR bw full).act l = true ↔ l ∈ bw.outInd ∧ isColon (full.getD (bw.outInd.idxOf l) colonIx) = false := by
  simp [sliceR]

/-- the test of one operand axis in the exact path, read on an axis that carries a sliced output label: the axis is
not broadcast (`Gates.broadcast`) and, on an unaligned node, has the node's chunks (`Gates.unaligned`) -/
theorem sliceAxisOK_sliced (U : Nat → List Nat) (bw : BW) (full : List Ix) (o : Opd) (pos l : Nat)
    (hin : l ∈ bw.outInd) (hcol : isColon (full.getD (bw.outInd.idxOf l) colonIx) = false)
    (h : sliceAxisOK {} U bw full o pos l = true) :
    o.arr.shape.getD pos 0 = (outShape U bw).getD (bw.outInd.idxOf l) 0 ∧
    (bw.align = false → o.chunks.getD pos [] = (outChunks U bw).getD (bw.outInd.idxOf l) []) := by
  have hsl : (slicedAxes full).contains (bw.outInd.idxOf l) = true := by
    rw [slicedAxes_contains, hcol]; rfl
  have hc : bw.outInd.contains l = true := by simpa using hin
  simp only [sliceAxisOK, hc, if_true, hsl, Bool.and_true, Bool.true_and, Bool.and_eq_true,
    Bool.not_eq_true', decide_eq_false_iff_not, ne_eq, Decidable.not_not] at h
  refine ⟨h.1, fun hna => ?_⟩
  have h2 := h.2
  rw [hna] at h2
  simpa using h2

theorem push_basic_unpack (U : Nat → List Nat) (bw : BW) (index : List (Option Ix)) (p : Pushed)
    (hp : push U bw (.basic index) = some p) :
    (∀ l, (sliceR bw (fullIndex bw (index.filterMap id))).act l = true → Indexable U bw l) ∧
    p.bw = { bw with ops := bw.ops.map (pushedOpd bw (fullIndex bw (index.filterMap id))) } ∧
    p.extract = (if (fullIndex bw (index.filterMap id)).any isInt
      then some ((fullIndex bw (index.filterMap id)).map extractIx) else none) := by
  simp only [push, pushG] at hp
  split at hp
  · rename_i args ex heq
    obtain ⟨hnew, hall, hargs, hex⟩ := acceptSlice_exact U bw index args ex heq
    cases hp
    refine ⟨fun l hact => ?_, ?_, hex⟩
    · obtain ⟨hin, hcol⟩ := (sliceR_act bw _ l).mp hact
      exact ⟨hin, hnew l (mem_slicedLabels bw _ l hin hcol), fun o ho k hk hl =>
        sliceAxisOK_sliced U bw _ o k l hin hcol (hl ▸ (sliceArg_isSome U bw _ o (hall o ho)).2 k hk)⟩
    · show { bw with ops := List.zipWith sliceOpd bw.ops args } = _
      rw [hargs, List.zipWith_map_right, List.zipWith_self]
      exact congrArg (fun ops => { bw with ops := ops })
        (List.map_congr_left fun o ho => (sliceArg_isSome U bw _ o (hall o ho)).1)
  · simp at hp

theorem sliceR_ok (bw : BW) (hS : SOK bw) (full : List Ix) {U : Nat → List Nat}
    (hG : ∀ l, (sliceR bw full).act l = true → Indexable U bw l) : ReixOK (sliceR bw full) bw := by
  refine ⟨fun l hact => (hG l hact).point hS, ?_⟩
  intro l _ x hx
  simp only [sliceR] at hx ⊢
  have := sel_getD_bounds (toSl (full.getD (bw.outInd.idxOf l) colonIx)) (labLen bw l : Nat)
    (Int.natCast_nonneg _) x hx
  omega

def argSl (bw : BW) (full : List Ix) (ind : List Nat) : List PySlice :=
  ind.map (fun l => if bw.outInd.contains l then toSl (full.getD (bw.outInd.idxOf l) colonIx) else colon)

theorem argSlices_eq (bw : BW) (full : List Ix) (ind : List Nat) :
    argSlices bw full ind = (argSl bw full ind).map Ix.slc := by
  unfold argSlices argSl
  rw [List.map_map]
  apply List.map_congr_left
  intro l _
  simp only [Function.comp]
  split
  · exact intToSlice_eq _
  · rfl

theorem argSl_getD (bw : BW) (full : List Ix) (ind : List Nat) (k : Nat) (hk : k < ind.length) :
    (argSl bw full ind).getD k colon =
      if bw.outInd.contains (ind.getD k 0) then toSl (full.getD (bw.outInd.idxOf (ind.getD k 0)) colonIx) else colon := by
  unfold argSl
  rw [getD_map _ ind k 0 colon hk]

/-- For any array no acted axis of which is broadcast: the operands (by the gate) and the node's own result (labelled
`outInd`). -/
theorem slice_reix (bw : BW) (full : List Ix) (ind : List Nat) (a : Arr Int) (hr : ind.length = a.shape.length)
    (hub : ∀ k, k < ind.length → (sliceR bw full).act (ind.getD k 0) = true →
      a.shape.getD k 0 = labLen bw (ind.getD k 0)) :
    Arr.Equiv (sliceArr a (argSlices bw full ind)) (reix (sliceR bw full) (labLen bw) ind a) := by
  rw [argSlices_eq]
  have hsl : (argSl bw full ind).length = a.shape.length := (List.length_map _).trans hr
  have hrank : (sliceShape a.shape ((argSl bw full ind).map Ix.slc)).length = ind.length := by
    rw [sliceShape_slc_length, hsl, Nat.min_self, hr]
  have hil : ∀ i, InB i (sliceShape a.shape ((argSl bw full ind).map Ix.slc)) → i.length = a.shape.length :=
    fun i hi => hi.length_eq.trans (hrank.trans hr)
  refine equiv_reix _ _ ind a _ (sliceIdx a.shape ((argSl bw full ind).map Ix.slc)) (fun _ _ => rfl) hrank
    (fun i hi => by rw [sliceIdx_slc_length, hsl, hil i hi, Nat.min_self, Nat.min_self, hr]) fun k hk => ?_
  have hka : k < a.shape.length := hr ▸ hk
  have hsh := sliceShape_slc_getD a.shape (argSl bw full ind) k hka (hsl ▸ hka)
  have hix := fun i (hi : InB i (sliceShape a.shape ((argSl bw full ind).map Ix.slc))) =>
    sliceIdx_slc_getD a.shape (argSl bw full ind) i k hka (hsl ▸ hka) (hil i hi ▸ hka)
  rw [argSl_getD _ _ _ _ hk] at hsh hix
  cases ho : (sliceR bw full).on (labLen bw) (ind.getD k 0) (a.shape.getD k 0) with
  | true =>
    obtain ⟨hact, hn⟩ := Reix.on_iff.mp ho
    rw [if_pos (List.contains_iff_mem.mpr ((sliceR_act bw full _).mp hact).1), hn] at hsh hix
    exact ⟨hsh, hix⟩
  | false =>
    have hcol : (if bw.outInd.contains (ind.getD k 0) then
        toSl (full.getD (bw.outInd.idxOf (ind.getD k 0)) colonIx) else colon) = colon := by
      by_cases hin : ind.getD k 0 ∈ bw.outInd
      · rw [if_pos (List.contains_iff_mem.mpr hin)]
        by_cases hcol : isColon (full.getD (bw.outInd.idxOf (ind.getD k 0)) colonIx) = true
        · rw [(isColon_iff _).mp hcol]; rfl
        · have hact : (sliceR bw full).act (ind.getD k 0) = true :=
            (sliceR_act bw full _).mpr ⟨hin, Bool.eq_false_iff.mpr hcol⟩
          exact absurd (ho.symm.trans (Reix.on_iff.mpr ⟨hact, hub k hk hact⟩)) Bool.false_ne_true
      · rw [if_neg (fun h => hin (List.contains_iff_mem.mp h))]
    rw [hcol, sel_colon_length] at hsh
    refine ⟨hsh, fun i hi => (hix i hi).trans ?_⟩
    rw [hcol, sel_colon_getD _ _ (hsh ▸ hi.getD_lt k (hrank ▸ hk))]
    rfl

theorem argSlices_outInd (bw : BW) (hnd : bw.outInd.Nodup) (full : List Ix) (hfl : full.length = bw.outInd.length) :
    argSlices bw full bw.outInd = full.map intToSlice := by
  refine ext_getD colonIx (by simp [argSlices, hfl]) fun k hk => ?_
  have hk' : k < bw.outInd.length := by simpa [argSlices] using hk
  unfold argSlices
  rw [getD_map _ bw.outInd k 0 colonIx hk', getD_map intToSlice full k colonIx colonIx (hfl ▸ hk'),
    if_pos (List.contains_iff_mem.mpr (getD_mem _ _ _ hk')), idxOf_getD_of_nodup _ hnd k hk']

theorem pushedOpd_ind (bw : BW) (full : List Ix) (o : Opd) : (pushedOpd bw full o).ind = o.ind := by
  unfold pushedOpd
  cases hind : o.ind with
  | none => exact hind
  | some ind => exact hind

theorem pushedOpd_labels (bw : BW) (full : List Ix) (o : Opd) : (pushedOpd bw full o).labels = o.labels := by
  unfold Opd.labels; rw [pushedOpd_ind]

theorem pushed_reindexed (U : Nat → List Nat) (bw : BW) (hS : SOK bw) (hL : LOK U bw) (full : List Ix)
    (hG : ∀ l, (sliceR bw full).act l = true → Indexable U bw l) :
    Reindexed (sliceR bw full) bw { bw with ops := bw.ops.map (pushedOpd bw full) } := by
  apply Reindexed.of_map _ (pushedOpd_ind bw full)
  · intro o; unfold pushedOpd; cases o.ind <;> rfl
  · intro o; unfold pushedOpd; cases o.ind <;> rfl
  · intro o ho
    have hc := hS.chunks_length ho
    unfold pushedOpd
    cases hind : o.ind with
    | none => exact hc
    | some ind =>
      have hlabs : o.labels = ind := by unfold Opd.labels; rw [hind]; rfl
      show (sliceChunks o.arr.shape o.chunks (argSlices bw full ind)).length = _
      have hal : (argSl bw full ind).length = o.arr.shape.length := by
        rw [← hS.labels_length ho, hlabs]; exact List.length_map _
      rw [argSlices_eq, sliceChunks_slc_length, hc, hal, Nat.min_self, Nat.min_self]
  · intro o ho
    have hr := hS.labels_length ho
    unfold pushedOpd
    cases hind : o.ind with
    | none =>
      have hlabs : o.labels = [] := by unfold Opd.labels; rw [hind]; rfl
      exact reix_off _ _ _ _ hr fun k hk => absurd (hlabs ▸ hk) (Nat.not_lt_zero _)
    | some ind =>
      have hlabs : o.labels = ind := by unfold Opd.labels; rw [hind]; rfl
      rw [← hlabs]
      exact slice_reix bw full o.labels o.arr hr fun k hk hact => (hG _ hact).len hS hL ho hk rfl

/-- with `align_arrays=False` every operand axis that carries a sliced label gets the same new chunks: the
slice of the NODE's chunks of that label -/
theorem slice_pairing (U : Nat → List Nat) (bw : BW) (hS : SOK bw) (full : List Ix) {l : Nat}
    (hG : Indexable U bw l) (hna : bw.align = false) (o : Opd) (ho : o ∈ bw.ops) (k : Nat)
    (hk : k < o.labels.length) (hl : o.labels.getD k 0 = l) :
    (pushedOpd bw full o).chunks.getD k [] =
      sliceChunks1 ((outShape U bw).getD (bw.outInd.idxOf l) 0) ((outChunks U bw).getD (bw.outInd.idxOf l) [])
        (toSl (full.getD (bw.outInd.idxOf l) colonIx)) := by
  have hr1 := hS.labels_length ho
  have hr2 := hS.chunks_length ho
  obtain ⟨h1, h2⟩ := hG.axes o ho k hk hl
  unfold pushedOpd
  rw [Opd.ind_of_lt hk]
  simp only [sliceOpd]
  rw [argSlices_eq, sliceChunks_slc_getD _ _ _ _ (by omega) (by omega) (by simp [argSl]; exact hk),
    argSl_getD _ _ _ _ hk, hl, if_pos (List.contains_iff_mem.mpr hG.mem), h1, h2 hna]

theorem act_of_mem_slicedLabels (bw : BW) (hnd : bw.outInd.Nodup) (full : List Ix) (l : Nat)
    (h : l ∈ slicedLabels bw full) : (sliceR bw full).act l = true := by
  unfold slicedLabels at h
  obtain ⟨a, ha, e⟩ := List.mem_map.mp h
  obtain ⟨ha1, ha2⟩ := List.mem_filter.mp ha
  have halt : a < bw.outInd.length := by simpa using ha2
  have hc := slicedAxes_contains full a
  have hm : (slicedAxes full).contains a = true := by simpa using ha1
  rw [hm] at hc
  subst e
  apply (sliceR_act bw full _).mpr
  refine ⟨getD_mem _ _ _ halt, ?_⟩
  rw [idxOf_getD_of_nodup _ hnd a halt]
  simpa using hc.symm

theorem fullIndex_getD (bw : BW) (ix : List Ix) (k : Nat) :
    (fullIndex bw ix).getD k colonIx = ix.getD k colonIx := by
  unfold fullIndex
  simp only [List.getD_eq_getElem?_getD]
  by_cases hk : k < ix.length
  · rw [List.getElem?_append_left hk]
  · rw [List.getElem?_append_right (Nat.le_of_not_lt hk), List.getElem?_eq_none (Nat.le_of_not_lt hk),
      List.getElem?_replicate]
    split <;> rfl

theorem fullOK_of_indexOK (U : Nat → List Nat) (bw : BW) (index : List (Option Ix))
    (h : indexOK (outShape U bw) (.basic index) = true) :
    FullOK (outShape U bw) (fullIndex bw (index.filterMap id)) := by
  simp only [indexOK, Bool.and_eq_true, Bool.not_eq_true', decide_eq_true_eq, List.all_eq_true,
    List.mem_range] at h
  obtain ⟨⟨_, hlen⟩, hall⟩ := h
  rw [outShape_length] at hlen
  apply FullOK.of_getD
  · simp [fullIndex, outShape_length]; omega
  · intro k _
    rw [fullIndex_getD]
    by_cases hk' : k < (index.filterMap id).length
    · have := hall k hk'
      split <;> rename_i e <;> rw [e] at this <;> simpa using this
    · rw [getD_of_ge _ _ _ (Nat.le_of_not_lt hk')]
      show colon.stp ≠ 0
      decide

theorem push_sound_basic (U U' : Nat → List Nat) (bw : BW) (hS : SOK bw) (hL : LOK U bw)
    (hf : LabelLocal bw.sig bw.f) (index : List (Option Ix))
    (hI : indexOK (outShape U bw) (.basic index) = true) (p : Pushed)
    (hp : push U bw (.basic index) = some p) (hL' : LOK U' p.bw) :
    SOK p.bw ∧ Arr.Equiv (denPushed U' p) (applyIndex bw.outInd.length (den U bw) (.basic index)) := by
  obtain ⟨hG, hbw, hex⟩ := push_basic_unpack U bw index p hp
  have hFull := fullOK_of_indexOK U bw index hI
  have hfl : (fullIndex bw (index.filterMap id)).length = bw.outInd.length := by
    rw [hFull.length, outShape_length]
  have hRe := pushed_reindexed U bw hS hL _ hG
  rw [← hbw] at hRe
  refine ⟨sok_reindexed hS hRe, ?_⟩
  have hO := slice_reix bw (fullIndex bw (index.filterMap id)) bw.outInd (den U bw) (outShape_length U bw).symm
    fun k hk hact => (hG _ hact).out hS hL hk
  rw [argSlices_outInd bw hS.nodup _ hfl] at hO
  have hD' : Arr.Equiv (den U' p.bw) (sliceArr (den U bw) ((fullIndex bw (index.filterMap id)).map intToSlice)) :=
    (den_reindexed U U' hS hL hf (sliceR_ok bw hS _ hG) hRe hL').trans hO.symm
  simp only [applyIndex]
  show Arr.Equiv (denPushed U' p) (sliceArr (den U bw) (fullIndex bw (index.filterMap id)))
  unfold denPushed
  rw [hex]
  by_cases hint : (fullIndex bw (index.filterMap id)).any isInt = true
  · rw [if_pos hint]
    simp only
    obtain ⟨hw, he⟩ := extract_eq (den U bw) _ hFull
    exact (sliceArr_congr _ _ ((fullIndex bw (index.filterMap id)).map extractIx) hD'.symm hw).symm.trans he
  · rw [if_neg hint]
    simp only
    rw [map_intToSlice_noInt _ (by simpa using hint)] at hD'
    exact hD'

end Dask.BWG
