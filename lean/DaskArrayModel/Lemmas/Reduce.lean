/-
Lemmas for the tree reduction model (Model/Reduce.lean).  `partitionAll` regroups a list into
groups of at most `k`; a `(chunk, combine, aggregate)` `Triple` computes `g` compositionally, so a combine round
on the partials of a chunking leaves the partials of the regrouped chunking of the same data (`partialReduce_chunk`,
`regroup_rechunks`), and induction on the depth over all chunkings gives `g` of the whole (`treeReduce_triple`);
list homomorphisms and associative folds are instances.  Also the per-layer block counts, the parts of one n-D layer,
and the index bookkeeping of `_accept_slice_impl` (`inputIndexLoop_spec`).  Core Lean only.
-/
import DaskArrayModel.Model.Reduce
import DaskArrayModel.Model.Indexing
import DaskArrayModel.Lemmas.PyBasic
namespace Dask.Lemmas.Reduce
open Dask.Py Dask.Reduce

theorem partitionAll_zero {α} (xs : List α) : partitionAll 0 xs = [] := by
  rw [partitionAll]; simp

theorem ceilDiv_le_pow {n k d : Nat} (hk : 0 < k) (h : n ≤ k ^ (d + 1)) :
    (n + k - 1) / k ≤ k ^ d := by
  rw [Nat.div_le_iff_le_mul_add_pred hk, Nat.mul_comm, ← Nat.pow_add_one, Nat.add_sub_assoc hk]
  exact Nat.add_le_add_right h _

theorem depthGo_spec (n k fuel d : Nat) (h : n ≤ k ^ (d + fuel)) : n ≤ k ^ depthGo n k fuel d := by
  fun_induction depthGo n k fuel d with
  | case1 d => exact h
  | case2 fuel d hd => exact hd
  | case3 fuel d _ ih => exact ih (Nat.add_right_comm d 1 fuel ▸ h)

theorem depthGo_ge (n k fuel d : Nat) : d ≤ depthGo n k fuel d := by
  fun_induction depthGo n k fuel d with
  | case1 d => exact Nat.le_refl d
  | case2 fuel d _ => exact Nat.le_refl d
  | case3 fuel d _ ih => exact Nat.le_of_succ_le ih

theorem depthGo_min (n k fuel d d' : Nat) (hle : d ≤ d') (hd' : n ≤ k ^ d') : depthGo n k fuel d ≤ d' := by
  fun_induction depthGo n k fuel d with
  | case1 d => exact hle
  | case2 fuel d _ => exact hle
  | case3 fuel d hnot ih => exact ih (Nat.lt_of_le_of_ne hle fun e => hnot (e ▸ hd'))

theorem depthOf_spec {n k : Nat} (hk : 2 ≤ k) : n ≤ k ^ depthOf n k := by
  unfold depthOf
  exact depthGo_spec n k n 1 (Nat.le_of_lt (Nat.lt_trans (Nat.lt_add_of_pos_left Nat.one_pos) (Nat.lt_pow_self hk)))

/-- every depth from the code's value upwards suffices (the float value is an oracle, see Model/Reduce.lean) -/
theorem le_pow_of_depthOf_le {n k d : Nat} (hk : 2 ≤ k) (hd : depthOf n k ≤ d) : n ≤ k ^ d :=
  Nat.le_trans (depthOf_spec hk) (Nat.pow_le_pow_right (Nat.lt_of_lt_of_le Nat.zero_lt_two hk) hd)

theorem depthOf_pos (n k : Nat) : 1 ≤ depthOf n k := depthGo_ge n k n 1

theorem fold1_cons_cons {β} (op : β → β → β) (d x y : β) (r : List β) :
    fold1 op d (x :: y :: r) = op x (fold1 op d (y :: r)) := rfl

theorem fold1_singleton {β} (op : β → β → β) (d x : β) : fold1 op d [x] = x := rfl

theorem fold1_cons {β} (op : β → β → β) (d x : β) {r : List β} (hr : r ≠ []) :
    fold1 op d (x :: r) = op x (fold1 op d r) := by
  cases r with
  | nil => exact absurd rfl hr
  | cons y r => rfl

theorem fold1_append {β} (op : β → β → β) (hassoc : ∀ a b c, op (op a b) c = op a (op b c)) (d : β)
    {xs ys : List β} (hx : xs ≠ []) (hy : ys ≠ []) :
    fold1 op d (xs ++ ys) = op (fold1 op d xs) (fold1 op d ys) := by
  fun_induction fold1 op d xs with
  | case1 => exact absurd rfl hx
  | case2 x => exact fold1_cons op d x hy
  | case3 x y r ih =>
    rw [List.cons_append, List.cons_append, fold1_cons_cons, ← List.cons_append, ih (List.cons_ne_nil y r), hassoc]

/-- a list homomorphism away from the empty list -/
def IsHom {α β} (op : β → β → β) (h : List α → β) : Prop :=
  ∀ xs ys, xs ≠ [] → ys ≠ [] → h (xs ++ ys) = op (h xs) (h ys)

theorem flatten_ne_nil {α} {ps : List (List α)} (hps : ps ≠ []) (hne : ∀ p ∈ ps, p ≠ []) :
    ps.flatten ≠ [] := by
  obtain ⟨p, hp⟩ := List.exists_mem_of_ne_nil ps hps
  exact List.flatten_ne_nil_iff.mpr ⟨p, hp, hne p hp⟩

theorem fold1_map_hom {α β} (op : β → β → β) (d : β) (h : List α → β) (hh : IsHom op h)
    (ps : List (List α)) (hps : ps ≠ []) (hne : ∀ p ∈ ps, p ≠ []) : fold1 op d (ps.map h) = h ps.flatten := by
  induction ps using fold1.induct with
  | case1 => exact absurd rfl hps
  | case2 p => rw [List.flatten_singleton]; rfl
  | case3 p q r ih =>
    have hne' : ∀ s ∈ q :: r, s ≠ [] := fun s hs => hne s (List.mem_cons_of_mem _ hs)
    rw [List.map_cons, List.map_cons, fold1_cons_cons, ← List.map_cons, ih (List.cons_ne_nil q r) hne']
    exact (hh p _ (hne p List.mem_cons_self) (flatten_ne_nil (List.cons_ne_nil q r) hne')).symm

/-- `(chunk, combine, aggregate)` computes `g` compositionally:
combining the chunk-partials of a regrouping gives the chunk-partial of the concatenation, and
aggregating them gives `g` of the concatenation. -/
structure Triple {α β γ} (chunk : List α → β) (combine : List β → β) (aggregate : List β → γ)
    (g : List α → γ) : Prop where
  combine_ok : ∀ ps : List (List α), ps ≠ [] → (∀ p ∈ ps, p ≠ []) →
    combine (ps.map chunk) = chunk ps.flatten
  aggregate_ok : ∀ ps : List (List α), ps ≠ [] → (∀ p ∈ ps, p ≠ []) →
    aggregate (ps.map chunk) = g ps.flatten

theorem mem_of_mem_group {α} {k : Nat} (hk : 0 < k) {xs grp : List α} (hg : grp ∈ partitionAll k xs)
    {x : α} (hx : x ∈ grp) : x ∈ xs := by
  rw [← partitionAll_flatten hk xs]
  exact List.mem_flatten.mpr ⟨grp, hg, hx⟩

theorem regroup_rechunks {α} {k : Nat} (hk : 0 < k) {ps : List (List α)} (hps : ps ≠ [])
    (hne : ∀ p ∈ ps, p ≠ []) :
    (partitionAll k ps).map List.flatten ≠ [] ∧ (∀ q ∈ (partitionAll k ps).map List.flatten, q ≠ []) ∧
      ((partitionAll k ps).map List.flatten).flatten = ps.flatten := by
  refine ⟨by simpa using partitionAll_ne_nil hk hps, fun q hq => ?_, by rw [← List.flatten_flatten, partitionAll_flatten hk]⟩
  obtain ⟨grp, hg, rfl⟩ := List.mem_map.mp hq
  exact flatten_ne_nil (partitionAll_parts hk ps grp hg).1 fun p hp => hne p (mem_of_mem_group hk hg hp)

theorem partialReduce_chunk {α β γ} {chunk : List α → β} {combine : List β → β} {aggregate : List β → γ}
    {g : List α → γ} (T : Triple chunk combine aggregate g) {k : Nat} (hk : 0 < k) {ps : List (List α)}
    (hne : ∀ p ∈ ps, p ≠ []) :
    partialReduce k combine (ps.map chunk) = ((partitionAll k ps).map List.flatten).map chunk := by
  unfold partialReduce
  rw [partitionAll_map hk, List.map_map, List.map_map]
  apply List.map_congr_left
  intro grp hg
  exact T.combine_ok grp (partitionAll_parts hk ps grp hg).1 fun p hp => hne p (mem_of_mem_group hk hg hp)

/-- **Tree theorem.** For every chunking `ps` of a non-empty list (non-empty blocks), every fan-in `k ≥ 1`
and every `depth ≥ 1` with `#blocks ≤ k ^ depth`, the tree over the chunk partials yields exactly one
block, `g` of the whole.  (`k ≥ 2` is needed only for such a depth to exist, `depthOf_spec`.)
Induction on the depth over ALL chunkings: a combine round leaves the partials of the regrouped chunking
(`partialReduce_chunk`, `regroup_rechunks`), which has at most `k ^ (depth - 1)` blocks. -/
theorem treeReduce_triple {α β γ} {chunk : List α → β} {combine : List β → β}
    {aggregate : List β → γ} {g : List α → γ} (T : Triple chunk combine aggregate g)
    {k depth : Nat} (hk : 0 < k) (hd : 1 ≤ depth) {ps : List (List α)} (hps : ps ≠ [])
    (hne : ∀ p ∈ ps, p ≠ []) (hl : ps.length ≤ k ^ depth) :
    treeReduce k depth combine aggregate (ps.map chunk) = [g ps.flatten] := by
  obtain ⟨d, rfl⟩ : ∃ d, depth = d + 1 := ⟨depth - 1, (Nat.sub_add_cancel hd).symm⟩
  show partialReduce k aggregate (combineRounds k combine d (ps.map chunk)) = _
  clear hd
  induction d generalizing ps with
  | zero =>
    show (partitionAll k (ps.map chunk)).map aggregate = _
    rw [partitionAll_short (by simpa using hps) (by simpa using hl), List.map_singleton, T.aggregate_ok ps hps hne]
  | succ d ih =>
    obtain ⟨hqs, hqne, hflat⟩ := regroup_rechunks hk hps hne
    show partialReduce k aggregate (combineRounds k combine d (partialReduce k combine (ps.map chunk))) = _
    rw [partialReduce_chunk T hk hne, ih hqs hqne
      (by rw [List.length_map, partitionAll_length hk]; exact ceilDiv_le_pow hk hl), hflat]

theorem fold1_isHom {β} (op : β → β → β) (hassoc : ∀ a b c, op (op a b) c = op a (op b c)) (d : β) :
    IsHom op (fold1 op d) := fun _ _ hx hy => fold1_append op hassoc d hx hy

theorem treeReduce_hom {α β γ} (op : β → β → β) (d : β) (h : List α → β) (hh : IsHom op h) (fin : β → γ)
    {k depth : Nat} (hk : 0 < k) (hd : 1 ≤ depth) {ps : List (List α)} (hps : ps ≠ [])
    (hne : ∀ p ∈ ps, p ≠ []) (hl : ps.length ≤ k ^ depth) :
    treeReduce k depth (fold1 op d) (fun bs => fin (fold1 op d bs)) (ps.map h) = [fin (h ps.flatten)] :=
  -- a homomorphism, folded, is a `Triple` for `fin ∘ h`
  treeReduce_triple (g := fun xs => fin (h xs))
    ⟨fold1_map_hom op d h hh, fun ps h1 h2 => congrArg fin (fold1_map_hom op d h hh ps h1 h2)⟩ hk hd hps hne hl

theorem partialReduce_one {β} (f : List β → β) (hf : ∀ x, f [x] = x) (bs : List β) :
    partialReduce 1 f bs = bs := by
  unfold partialReduce
  rw [partitionAll_one, List.map_map]
  have : (f ∘ fun x => [x]) = id := by funext x; exact hf x
  rw [this, List.map_id]

theorem treeReduce_eq_fold {β γ} (op : β → β → β) (hassoc : ∀ a b c, op (op a b) c = op a (op b c))
    (d : β) (fin : β → γ) {k depth : Nat} (hk : 0 < k) (hd : 1 ≤ depth) {bs : List β} (hbs : bs ≠ [])
    (hl : bs.length ≤ k ^ depth) :
    treeReduce k depth (fold1 op d) (fun l => fin (fold1 op d l)) bs = [fin (fold1 op d bs)] := by
  -- the partials are their own chunk partials under the chunking into singletons, `partitionAll 1 bs`
  have h := treeReduce_hom op d (fold1 op d) (fold1_isHom op hassoc d) fin hk hd (ps := partitionAll 1 bs)
    (partitionAll_ne_nil Nat.one_pos hbs) (fun p hp => (partitionAll_parts Nat.one_pos bs p hp).1)
    (by rw [partitionAll_one, List.length_map]; exact hl)
  rwa [show (partitionAll 1 bs).map (fold1 op d) = bs from partialReduce_one _ (fun _ => rfl) bs,
    partitionAll_flatten Nat.one_pos] at h

theorem meanOp_assoc : ∀ a b c, meanOp (meanOp a b) c = meanOp a (meanOp b c) := by
  intro a b c; simp only [meanOp, Prod.mk.injEq]; omega

/-- Selecting by a strict weak order `r` on keys, the left operand kept on ties, is associative:
`c` beats `b` beats `a` gives `c` beats `a`; `c` loses to `b` loses to `a` gives `c` loses to `a`. -/
theorem select_assoc {α} {r : α → α → Prop} [DecidableRel r] (tr : ∀ {a b c}, r c b → r b a → r c a)
    (ntr : ∀ {a b c}, ¬ r c b → ¬ r b a → ¬ r c a) (a b c : α) :
    (if r c (if r b a then b else a) then c else if r b a then b else a)
      = if r (if r c b then c else b) a then (if r c b then c else b) else a := by
  by_cases h1 : r b a
  · by_cases h2 : r c b
    · rw [if_pos h1, if_pos h2, if_pos (tr h2 h1)]
    · rw [if_pos h1, if_neg h2, if_pos h1]
  · by_cases h2 : r c b
    · rw [if_neg h1, if_pos h2]
    · rw [if_neg h1, if_neg h2, if_neg (ntr h2 h1), if_neg h1]

theorem argminOp_assoc : ∀ a b c, argminOp (argminOp a b) c = argminOp a (argminOp b c) :=
  select_assoc (r := fun x y : Nat × Int => x.2 < y.2) Int.lt_trans
    fun h2 h1 => Int.not_lt.mpr (Int.le_trans (Int.not_lt.mp h1) (Int.not_lt.mp h2))

theorem argmaxOp_assoc : ∀ a b c, argmaxOp (argmaxOp a b) c = argmaxOp a (argmaxOp b c) :=
  select_assoc (r := fun x y : Nat × Int => y.2 < x.2) (fun h2 h1 => Int.lt_trans h1 h2)
    fun h2 h1 => Int.not_lt.mpr (Int.le_trans (Int.not_lt.mp h2) (Int.not_lt.mp h1))

theorem meanChunk_isHom : IsHom meanOp meanChunk := by
  intro xs ys _ _
  simp only [meanChunk, meanOp, List.length_append, List.foldl_append, Prod.mk.injEq, true_and]
  -- the fold over `ys` starts from the sum `a` of `xs`: write `a` as `a + 0` and pull it out of the fold
  exact (congrArg (ys.foldl _) (Int.add_zero _).symm).trans List.foldl_assoc

theorem numBlocksAfter_eq {k : Nat} (hk : 0 < k) (n : Nat) : numBlocksAfter k n = (n + k - 1) / k := by
  unfold numBlocksAfter; rw [partitionAll_length hk, List.length_range]

def blocksAfterLayers (k : Nat) : Nat → Nat → Nat
  | 0, n => n
  | d + 1, n => blocksAfterLayers k d (numBlocksAfter k n)

theorem blocksAfterLayers_le_one {k : Nat} (hk : 0 < k) (d n : Nat) (h : n ≤ k ^ d) :
    blocksAfterLayers k d n ≤ 1 := by
  induction d generalizing n with
  | zero => exact h
  | succ d ih => exact ih _ (numBlocksAfter_eq hk n ▸ ceilDiv_le_pow hk h)

/-- the two models' products are one function -/
theorem cart_eq {α} : ∀ ls : List (List α), cart ls = Dask.Indexing.cart ls
  | [] => rfl
  | l :: ls => congrArg (fun c : List (List α) => l.flatMap fun a => c.map (a :: ·)) (cart_eq ls)

theorem layerParts_flatten : ∀ (numblocks split : List Nat), numblocks.length = split.length →
    (layerParts numblocks split).map List.flatten = numblocks.map List.range := by
  intro nb
  induction nb with
  | nil => intro sp _; cases sp <;> rfl
  | cons n nb ih =>
    intro sp h
    cases sp with
    | nil => simp at h
    | cons s sp =>
      have h' : nb.length = sp.length := by simpa using h
      have hk : 0 < (if s = 0 then 1 else s) := by split <;> omega
      show (partitionAll _ (List.range n)).flatten :: (layerParts nb sp).map List.flatten = _
      rw [partitionAll_flatten hk, ih sp h']
      rfl

def selRows {α} (I : List Nat) (rows : List α) : List α := I.filterMap (fun i => rows[i]?)

/-- `index + (slice(None),) * (n - len(index))` has `n` entries. -/
theorem length_append_replicate_sub {α} {l : List α} {n : Nat} (h : l.length ≤ n) (x : α) :
    (l ++ List.replicate (n - l.length) x).length = n := by
  rw [List.length_append, List.length_replicate, Nat.add_sub_cancel' h]

/-- `[f i x for i, x in enumerate(l)]`, entry by entry. -/
theorem getElem?_zipWith_range {α β} (f : Nat → α → β) (l : List α) (j : Nat) :
    (List.zipWith f (List.range l.length) l)[j]? = l[j]?.map (f j) := by
  rw [List.getElem?_zipWith']
  by_cases hj : j < l.length
  · rw [List.getElem?_range hj]; rfl
  · rw [List.getElem?_eq_none (Nat.le_of_not_lt hj)]; exact Option.bind_fun_none _

theorem toSliceIdx_of_slice (s : PySlice) : toSliceIdx (.slice s) = .slice s := rfl

def keptCount (reduced : List Nat) (axes : List Nat) : Nat :=
  (axes.filter (fun a => !reduced.contains a)).length

theorem keptCount_cons_red {reduced : List Nat} {ax : Nat} (axes : List Nat)
    (h : reduced.contains ax = true) : keptCount reduced (ax :: axes) = keptCount reduced axes := by
  have hm : ax ∈ reduced := by simpa using h
  simp [keptCount, hm]

theorem keptCount_cons_kept {reduced : List Nat} {ax : Nat} (axes : List Nat)
    (h : ¬ reduced.contains ax = true) : keptCount reduced (ax :: axes) = keptCount reduced axes + 1 := by
  have hm : ¬ ax ∈ reduced := by simpa using h
  simp [keptCount, hm]

theorem keptCount_nil (reduced : List Nat) : keptCount reduced [] = 0 := rfl

/-- One entry of `input_index` per input axis: reduced axes get `slice(None)`, the `p`-th kept axis gets
`slice_index[p]`.  The index list is re-based at every kept axis, so the running position needs no name. -/
theorem inputIndexLoop_spec (reduced axes : List Nat) (sl : List Idx) (h : keptCount reduced axes ≤ sl.length) :
    (inputIndexLoop reduced axes sl).length = axes.length ∧
    ∀ j (hj : j < axes.length), (inputIndexLoop reduced axes sl)[j]? =
      if reduced.contains axes[j] = true then some fullSlice
      else sl[keptCount reduced (axes.take j)]? := by
  fun_induction inputIndexLoop reduced axes sl with
  | case1 sl => exact ⟨rfl, fun j hj => absurd hj (Nat.not_lt_zero j)⟩
  | case2 ax axes sl hr ih =>
    rw [keptCount_cons_red axes hr] at h
    obtain ⟨hlen, hget⟩ := ih h
    refine ⟨congrArg (· + 1) hlen, fun j hj => ?_⟩
    cases j with
    | zero => exact (if_pos hr).symm
    | succ j =>
      rw [List.getElem?_cons_succ, hget j (Nat.lt_of_succ_lt_succ hj), List.take_succ_cons,
        keptCount_cons_red _ hr]
      rfl
  | case3 ax axes hr => exact absurd (keptCount_cons_kept axes hr ▸ h) (Nat.not_succ_le_zero _)
  | case4 ax axes hr i rest ih =>
    rw [keptCount_cons_kept axes hr] at h
    obtain ⟨hlen, hget⟩ := ih (Nat.le_of_succ_le_succ h)
    refine ⟨congrArg (· + 1) hlen, fun j hj => ?_⟩
    cases j with
    | zero => exact (if_neg hr).symm
    | succ j =>
      rw [List.getElem?_cons_succ, hget j (Nat.lt_of_succ_lt_succ hj), List.take_succ_cons,
        keptCount_cons_kept _ hr, List.getElem?_cons_succ]
      rfl

end Dask.Lemmas.Reduce
