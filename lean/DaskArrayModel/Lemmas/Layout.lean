/-
A one-dimensional block layout: a list `cs` of chunk lengths.  Block `k` starts at `start cs k`, position `p` lies in
block `k` when `InBlock cs p k`; `bisect_right` on the running sums finds that block, it is the only one when no chunk
is negative (zero-width chunks are allowed: they hold no position), and the blocks cut from a list by `cs` put the
list together again.  The model's own start functions (`Window.blockStart`, `Slicing.blockStart`, `oldStart`) unfold
to `start` by `rfl`.  The last section is the same for chunks in `List Nat` (`nstart`, to which `OverlapPipe.lo`
unfolds), carried to the `Int` layout by `ofNat`.
-/
import DaskArrayModel.Lemmas.PyBasic
namespace Dask.Layout
open Dask.Py

abbrev Nonneg (cs : List Int) : Prop := ∀ c ∈ cs, 0 ≤ c

theorem Nonneg.of_pos {cs : List Int} (h : ∀ c ∈ cs, 0 < c) : Nonneg cs := fun c hc => Int.le_of_lt (h c hc)

def start (cs : List Int) (k : Nat) : Int := isum (cs.take k)

theorem start_zero (cs : List Int) : start cs 0 = 0 := rfl

theorem start_succ (cs : List Int) (k : Nat) : start cs (k + 1) = start cs k + cs.getD k 0 := isum_take_succ cs k

theorem start_cons_succ (c : Int) (cs : List Int) (k : Nat) : start (c :: cs) (k + 1) = c + start cs k := rfl

theorem start_of_length_le (cs : List Int) {k : Nat} (hk : cs.length ≤ k) : start cs k = isum cs :=
  congrArg isum (List.take_of_length_le hk)

theorem start_length (cs : List Int) : start cs cs.length = isum cs := start_of_length_le cs (Nat.le_refl _)

theorem start_add (cs : List Int) (i k : Nat) : start cs (i + k) = start cs i + isum ((cs.drop i).take k) := by
  unfold start
  rw [List.take_add, isum_append]

theorem start_mono {cs : List Int} (h : Nonneg cs) {i j : Nat} (hij : i ≤ j) : start cs i ≤ start cs j :=
  isum_take_le cs h hij

theorem start_nonneg {cs : List Int} (h : Nonneg cs) (k : Nat) : 0 ≤ start cs k := start_mono h (Nat.zero_le k)

theorem start_le_sum {cs : List Int} (h : Nonneg cs) (k : Nat) : start cs k ≤ isum cs := by
  rcases Nat.le_total k cs.length with hk | hk
  · exact start_length cs ▸ start_mono h hk
  · exact Int.le_of_eq (start_of_length_le cs hk)

theorem lt_of_start_lt {cs : List Int} (h : Nonneg cs) {i j : Nat} (hij : start cs i < start cs j) : i < j :=
  Nat.lt_of_not_le fun hn => Int.lt_irrefl _ (Int.lt_of_lt_of_le hij (start_mono h hn))

theorem start_lt_start {cs : List Int} (h : ∀ c ∈ cs, 0 < c) {i j : Nat} (hij : i < j) (hj : j ≤ cs.length) :
    start cs i < start cs j := by
  have h1 := start_mono (Nonneg.of_pos h) (show i + 1 ≤ j from hij)
  have h2 := start_succ cs i
  have h3 := h _ (getD_mem cs i 0 (Nat.lt_of_lt_of_le hij hj))
  omega

theorem cumsum_getD (cs : List Int) {j : Nat} (h : j < cs.length) : (cumsum cs).getD j 0 = start cs (j + 1) :=
  (cumsumFrom_getD cs 0 j h).trans (Int.zero_add _)

theorem cumsum0_getD (cs : List Int) {k : Nat} (hk : k ≤ cs.length) : (0 :: cumsum cs).getD k 0 = start cs k := by
  cases k with
  | zero => rfl
  | succ k => exact cumsum_getD cs hk

theorem cumsum_pred (cs : List Int) {k : Nat} (hk : k ≤ cs.length) :
    (if k > 0 then (cumsum cs).getD (k - 1) 0 else 0) = start cs k := by
  cases k with
  | zero => rfl
  | succ k => exact (if_pos (Nat.succ_pos k)).trans (cumsum_getD cs hk)

theorem bisectRight_cumsum0 (cs : List Int) {p : Int} (h0 : 0 ≤ p) :
    bisectRight (0 :: cumsum cs) p = bisectRight (cumsum cs) p + 1 := by
  rw [bisectRight, if_neg (Int.not_lt.mpr h0)]

structure InBlock (cs : List Int) (p : Int) (k : Nat) : Prop where
  lt : k < cs.length
  start_le : start cs k ≤ p
  lt_next : p < start cs (k + 1)

namespace InBlock
variable {cs : List Int} {p : Int} {k : Nat}

theorem off_nonneg (h : InBlock cs p k) : 0 ≤ p - start cs k := Int.sub_nonneg_of_le h.start_le

theorem off_lt (h : InBlock cs p k) : p - start cs k < cs.getD k 0 := by
  have := h.lt_next
  rw [start_succ] at this
  omega

theorem lt_end (h : InBlock cs p k) : p < start cs k + cs.getD k 0 := start_succ cs k ▸ h.lt_next

/-- `k < cs.length` comes for free: past the end the chunk is `0` -/
theorem of_bounds (h0 : start cs k ≤ p) (h1 : p < start cs k + cs.getD k 0) : InBlock cs p k := by
  refine ⟨Nat.lt_of_not_le fun hk => ?_, h0, start_succ cs k ▸ h1⟩
  rw [List.getD_eq_getElem?_getD, List.getElem?_eq_none hk, Option.getD_none, Int.add_zero] at h1
  exact Int.lt_irrefl _ (Int.lt_of_le_of_lt h0 h1)

theorem nonneg (hc : Nonneg cs) (h : InBlock cs p k) : 0 ≤ p := Int.le_trans (start_nonneg hc k) h.start_le

theorem mono (hc : Nonneg cs) {q : Int} {l : Nat} (h : InBlock cs p k) (h' : InBlock cs q l) (hpq : p ≤ q) :
    k ≤ l :=
  Nat.le_of_lt_succ (lt_of_start_lt hc (Int.lt_of_le_of_lt (Int.le_trans h.start_le hpq) h'.lt_next))

theorem unique (hc : Nonneg cs) {l : Nat} (h : InBlock cs p k) (h' : InBlock cs p l) : k = l :=
  Nat.le_antisymm (h.mono hc h' (Int.le_refl p)) (h'.mono hc h (Int.le_refl p))

theorem bisect_eq (hc : Nonneg cs) (h : InBlock cs p k) : bisectRight (cumsum cs) p = k := by
  apply bisectRight_unique
  · rw [cumsum_length]; exact Nat.le_of_lt h.lt
  · intro j hj
    rw [cumsum_getD cs (Nat.lt_trans hj h.lt)]
    exact Int.le_trans (start_mono hc (Nat.succ_le_of_lt hj)) h.start_le
  · intro _
    rw [cumsum_getD cs h.lt]
    exact h.lt_next

end InBlock

/-- no sign condition on the chunks: the search stops at the first running sum above `p`, and the last one is
`isum cs` -/
theorem inBlock_bisect (cs : List Int) {p : Int} (h0 : 0 ≤ p) (h1 : p < isum cs) :
    InBlock cs p (bisectRight (cumsum cs) p) := by
  have hle := bisectRight_le (cumsum cs) p
  rw [cumsum_length] at hle
  have hlow : start cs (bisectRight (cumsum cs) p) ≤ p := by
    rw [← cumsum_pred cs hle]
    split
    · exact bisectRight_spec (cumsum cs) p _ (by omega)
    · exact h0
  have hlt : bisectRight (cumsum cs) p < cs.length := by
    refine Nat.lt_of_le_of_ne hle fun hb => ?_
    rw [hb, start_length] at hlow
    omega
  have hgt := bisectRight_gt (cumsum cs) p (by rw [cumsum_length]; exact hlt)
  rw [cumsum_getD cs hlt] at hgt
  exact ⟨hlt, hlow, hgt⟩

theorem exists_inBlock (cs : List Int) {p : Int} (h0 : 0 ≤ p) (h1 : p < isum cs) : ∃ k, InBlock cs p k :=
  ⟨_, inBlock_bisect cs h0 h1⟩

theorem start_drop_take (cs : List Int) (f n j : Nat) (hj : j ≤ n) :
    start ((cs.drop f).take n) j = start cs (f + j) - start cs f := by
  unfold start
  rw [List.take_take, Nat.min_eq_left hj, List.take_add, isum_append]
  omega

theorem InBlock.drop_take {cs : List Int} {p : Int} {k f n : Nat} (h : InBlock cs p k) (hfk : f ≤ k)
    (hkn : k < f + n) : InBlock ((cs.drop f).take n) (p - start cs f) (k - f) := by
  obtain ⟨j, rfl⟩ := Nat.exists_eq_add_of_le hfk
  have hl := h.lt
  rw [Nat.add_sub_cancel_left]
  refine ⟨by rw [List.length_take, List.length_drop]; omega, ?_, ?_⟩
  · rw [start_drop_take cs f n j (by omega)]
    exact Int.sub_le_sub_right h.start_le _
  · rw [start_drop_take cs f n (j + 1) (by omega), ← Nat.add_assoc]
    exact Int.sub_lt_sub_right h.lt_next _

variable {β : Type}

def block (cs : List Int) (xs : List β) (k : Nat) : List β := (xs.drop (start cs k).toNat).take (cs.getD k 0).toNat

def lens (blocks : List (List β)) : List Int := blocks.map (fun b => (b.length : Int))

theorem lens_cons (b : List β) (bs : List (List β)) : lens (b :: bs) = (b.length : Int) :: lens bs := rfl

theorem lens_nonneg (blocks : List (List β)) : Nonneg (lens blocks) := by
  intro c hc
  obtain ⟨b, _, rfl⟩ := List.mem_map.mp hc
  exact Int.natCast_nonneg _

theorem flatten_get : ∀ (blocks : List (List β)) (k n : Nat), InBlock (lens blocks) n k →
    (blocks.flatten)[n]? = (blocks.getD k [])[((n : Int) - start (lens blocks) k).toNat]?
  | [], _, _, h => nomatch h.lt
  | b :: bs, 0, n, ⟨_, _, h1⟩ => by
    rw [lens_cons, start_cons_succ, start_zero, Int.add_zero] at h1
    rw [start_zero, Int.sub_zero, Int.toNat_natCast, List.flatten_cons,
      List.getElem?_append_left (Int.ofNat_lt.mp h1)]
    rfl
  | b :: bs, k + 1, n, ⟨hk, h0, h1⟩ => by
    rw [lens_cons, start_cons_succ] at h0 h1 ⊢
    have hnn := start_nonneg (lens_nonneg bs) k
    obtain ⟨m, rfl⟩ := Nat.exists_eq_add_of_le
      (Int.ofNat_le.mp (Int.le_trans (Int.le_add_of_nonneg_right hnn) h0))
    rw [Int.natCast_add] at h0 h1 ⊢
    rw [List.flatten_cons, List.getElem?_append_right (Nat.le_add_right _ _), Nat.add_sub_cancel_left,
      flatten_get bs k m ⟨Nat.lt_of_succ_lt_succ hk, Int.le_of_add_le_add_left h0, Int.lt_of_add_lt_add_left h1⟩,
      Int.add_sub_add_left]
    rfl

theorem blocks_flatten {cs : List Int} (hc : Nonneg cs) (xs : List β) (i n : Nat) :
    ((List.range' i n).map (block cs xs)).flatten
      = (xs.drop (start cs i).toNat).take (start cs (i + n) - start cs i).toNat := by
  induction n generalizing i with
  | zero => rw [Nat.add_zero, Int.sub_self]; rfl
  | succ n ih =>
    have h2 := getD_nonneg cs hc i
    have e1 : (start cs (i + 1)).toNat = (start cs i).toNat + (cs.getD i 0).toNat := by
      rw [start_succ, Int.toNat_add (start_nonneg hc i) h2]
    have e2 : (start cs (i + (n + 1)) - start cs i).toNat
        = (cs.getD i 0).toNat + (start cs (i + 1 + n) - start cs (i + 1)).toNat := by
      have h1 := start_succ cs i
      rw [Nat.add_left_comm i n 1, Nat.add_comm n (i + 1),
        show start cs (i + 1 + n) - start cs i = cs.getD i 0 + (start cs (i + 1 + n) - start cs (i + 1)) by omega,
        Int.toNat_add h2 (Int.sub_nonneg_of_le (start_mono hc (Nat.le_add_right (i + 1) n)))]
    rw [List.range'_succ, List.map_cons, List.flatten_cons, ih, block, e1, e2, List.take_add, List.drop_drop]

theorem blocks_cover {cs : List Int} (hc : Nonneg cs) (xs : List β) (hx : isum cs = xs.length) :
    ((List.range cs.length).map (block cs xs)).flatten = xs := by
  rw [List.range_eq_range', blocks_flatten hc xs 0 cs.length, Nat.zero_add, start_length, start_zero, hx]
  simp

/-! Where the chunks are `List Nat` the start is a `Nat` prefix sum and no sign condition is needed.  `ofNat` carries a
`Nat` layout to the `Int` one (`start_ofNat`, `inBlock_ofNat`), so existence, uniqueness and `bisect_right` are not
proved again. -/

def nstart (cs : List Nat) (k : Nat) : Nat := (cs.take k).sum

theorem nstart_cons_succ (c : Nat) (cs : List Nat) (k : Nat) : nstart (c :: cs) (k + 1) = c + nstart cs k := by
  rw [nstart, List.take_succ_cons, List.sum_cons]; rfl

theorem nstart_succ : ∀ (cs : List Nat) (k : Nat), nstart cs (k + 1) = nstart cs k + cs.getD k 0
  | [], _ => by simp [nstart]
  | c :: cs, 0 => by simp [nstart]
  | c :: cs, k + 1 => by
    rw [nstart_cons_succ, nstart_cons_succ, nstart_succ cs k, List.getD_cons_succ, Nat.add_assoc]

theorem nstart_length (cs : List Nat) : nstart cs cs.length = cs.sum := by rw [nstart, List.take_length]

def ofNat (cs : List Nat) : List Int := cs.map Int.ofNat

theorem ofNat_length (cs : List Nat) : (ofNat cs).length = cs.length := List.length_map _

theorem ofNat_nonneg (cs : List Nat) : Nonneg (ofNat cs) := by
  intro c hc
  obtain ⟨x, _, rfl⟩ := List.mem_map.mp hc
  exact Int.natCast_nonneg x

theorem ofNat_getD (cs : List Nat) (k : Nat) : (ofNat cs).getD k 0 = ((cs.getD k 0 : Nat) : Int) := by
  simp only [ofNat, List.getD_eq_getElem?_getD, List.getElem?_map]
  cases cs[k]? <;> rfl

theorem isum_ofNat : ∀ cs : List Nat, isum (ofNat cs) = ((cs.sum : Nat) : Int)
  | [] => rfl
  | c :: cs => by
    rw [ofNat, List.map_cons, isum, ← ofNat, isum_ofNat cs, List.sum_cons, Int.natCast_add]; rfl

theorem start_ofNat (cs : List Nat) (k : Nat) : start (ofNat cs) k = ((nstart cs k : Nat) : Int) := by
  rw [start, ofNat, ← List.map_take, ← ofNat, isum_ofNat]; rfl

theorem inBlock_ofNat {cs : List Nat} {p k : Nat} :
    InBlock (ofNat cs) (p : Int) k ↔ k < cs.length ∧ nstart cs k ≤ p ∧ p < nstart cs k + cs.getD k 0 := by
  have e := start_succ (ofNat cs) k
  rw [start_ofNat, start_ofNat, ofNat_getD] at e
  constructor
  · rintro ⟨h1, h2, h3⟩
    rw [start_ofNat] at h2 h3
    rw [ofNat_length] at h1
    exact ⟨h1, by omega, by omega⟩
  · rintro ⟨h1, h2, h3⟩
    exact ⟨by rw [ofNat_length]; exact h1, by rw [start_ofNat]; omega, by rw [start_ofNat]; omega⟩

theorem nstart_end_le (cs : List Nat) (k : Nat) : nstart cs k + cs.getD k 0 ≤ cs.sum := by
  have := start_le_sum (ofNat_nonneg cs) (k + 1)
  rw [start_ofNat, isum_ofNat, nstart_succ] at this
  omega

theorem nstart_block_unique {cs : List Nat} {p k l : Nat} (hk : nstart cs k ≤ p ∧ p < nstart cs k + cs.getD k 0)
    (hl : nstart cs l ≤ p ∧ p < nstart cs l + cs.getD l 0) : k = l := by
  have of : ∀ {k}, nstart cs k ≤ p ∧ p < nstart cs k + cs.getD k 0 → InBlock (ofNat cs) (p : Int) k := fun h =>
    InBlock.of_bounds (by rw [start_ofNat]; exact Int.ofNat_le.mpr h.1)
      (by rw [start_ofNat, ofNat_getD, ← Int.natCast_add]; exact Int.ofNat_lt.mpr h.2)
  exact (of hk).unique (ofNat_nonneg cs) (of hl)

end Dask.Layout
