/-
Per-axis lemmas for the coarse slice pushdown (Model/CoarseSlice.lean): `find_block_range` against the block
boundaries, and "locating a position in the kept blocks".  That locating a position is the meaning of a chunked array
(`C02c_den_is_assemble_1d`) is `Layout.flatten_get`; `lens` is the layout it is stated on.
-/
import DaskArrayModel.Model.CoarseSlice
import DaskArrayModel.Lemmas.Slice1dPos
namespace Dask.Lemmas.Coarse
open Dask.Py Dask.Py.PySlice Dask.Slicing Dask.Coarse
open Dask.Lemmas.Slice1dPos
open Dask.Layout (InBlock)

theorem cum0_tail (cs : List Int) : (cum0 cs).tail = cumsum cs := rfl

theorem cum0_length (cs : List Int) : (cum0 cs).length - 1 = cs.length := by
  simp [cum0, cumsum_length]

theorem cum0_getD (cs : List Int) (k : Nat) (hk : k ≤ cs.length) : (cum0 cs).getD k 0 = blockStart cs k :=
  Layout.cumsum0_getD cs hk

theorem blockStart_length (cs : List Int) : blockStart cs cs.length = isum cs := Layout.start_length cs

theorem blockStart_ge_length (cs : List Int) {k : Nat} (hk : cs.length ≤ k) : blockStart cs k = isum cs :=
  Layout.start_of_length_le cs hk

theorem keptChunks_nonneg (cs : List Int) (h : ∀ c ∈ cs, 0 ≤ c) (f l : Nat) : ∀ c ∈ keptChunks cs f l, 0 ≤ c :=
  fun c hc => h c (List.mem_of_mem_drop (List.mem_of_mem_take hc))

theorem keptChunks_length (cs : List Int) (f l : Nat) (hl : l < cs.length) (hfl : f ≤ l) :
    (keptChunks cs f l).length = l + 1 - f := by
  unfold keptChunks
  rw [List.length_take, List.length_drop]
  omega

theorem isum_take_drop (cs : List Int) (f j : Nat) :
    isum ((cs.drop f).take j) = blockStart cs (f + j) - blockStart cs f :=
  by
  have := Layout.start_add cs f j
  rw [blockStart_eq, blockStart_eq]; omega

theorem blockStart_kept (cs : List Int) (f l j : Nat) (hj : j ≤ l + 1 - f) :
    blockStart (keptChunks cs f l) j = blockStart cs (f + j) - blockStart cs f :=
  Layout.start_drop_take cs f (l + 1 - f) j hj

theorem isum_kept (cs : List Int) (f l : Nat) (hfl : f ≤ l) :
    isum (keptChunks cs f l) = blockStart cs (l + 1) - blockStart cs f := by
  unfold keptChunks
  rw [isum_take_drop, show f + (l + 1 - f) = l + 1 by omega]

theorem getD_kept (cs : List Int) (f l j : Nat) (hj : j < l + 1 - f) :
    (keptChunks cs f l).getD j 0 = cs.getD (f + j) 0 := by
  unfold keptChunks
  rw [List.getD_eq_getElem?_getD, List.getD_eq_getElem?_getD, List.getElem?_take, if_pos hj, List.getElem?_drop]

theorem slice1dInt_of_block (cs : List Int) (h : ∀ c ∈ cs, 0 ≤ c) {p : Int} {k : Nat} (ib : InBlock cs p k) :
    slice1dInt cs p = (k, p - blockStart cs k) := by
  rw [slice1dInt_eq, ib.bisect_eq h]

theorem locate_kept (cs : List Int) (h : ∀ c ∈ cs, 0 ≤ c) (f l : Nat) (hfl : f ≤ l) (p : Int)
    (h0 : blockStart cs f ≤ p) (h1 : p < blockStart cs (l + 1)) :
    (slice1dInt cs p).1 = (slice1dInt (keptChunks cs f l) (p - blockStart cs f)).1 + f ∧
    (slice1dInt cs p).2 = (slice1dInt (keptChunks cs f l) (p - blockStart cs f)).2 ∧
    (slice1dInt (keptChunks cs f l) (p - blockStart cs f)).1 ≤ l - f := by
  have ib := Layout.inBlock_bisect cs (Int.le_trans (Layout.start_nonneg h f) h0)
    (Int.lt_of_lt_of_le h1 (Layout.start_le_sum h (l + 1)))
  generalize bisectRight (cumsum cs) p = k at ib
  have hfk : f ≤ k := Nat.le_of_lt_succ (Layout.lt_of_start_lt h (Int.lt_of_le_of_lt h0 ib.lt_next))
  have hkl : k ≤ l := Nat.le_of_lt_succ (Layout.lt_of_start_lt h (Int.lt_of_le_of_lt ib.start_le h1))
  rw [slice1dInt_of_block cs h ib, slice1dInt_of_block _ (keptChunks_nonneg cs h f l) (show InBlock (keptChunks cs f l) (p - blockStart cs f) (k - f) from ib.drop_take hfk (by omega)),
    blockStart_kept cs f l (k - f) (by omega), Nat.add_sub_cancel' hfk]
  exact ⟨(Nat.sub_add_cancel hfk).symm, by omega, Nat.sub_le_sub_right hkl f⟩

/-- what `find_block_range` answers for a non-empty `[start, stop)` inside the axis -/
structure BlockRange (cs : List Int) (start stop : Int) (f l : Nat) : Prop where
  first : InBlock cs start f
  last : InBlock cs (stop - 1) l
  le : f ≤ l

theorem findBlockRange_inside (cs : List Int) (h : ∀ c ∈ cs, 0 ≤ c) (start stop : Int)
    (h0 : 0 ≤ start) (h1 : start < stop) (h2 : stop ≤ isum cs) :
    ∃ f l : Nat, findBlockRange (cum0 cs) start stop = some (f, (l : Int)) ∧ BlockRange cs start stop f l := by
  have hs1 := Int.le_sub_one_of_lt h1
  have a := Layout.inBlock_bisect cs h0 (Int.lt_of_lt_of_le h1 h2)
  have b := Layout.inBlock_bisect cs (Int.le_trans h0 hs1) (Int.sub_one_lt_of_le h2)
  refine ⟨_, _, ?_, a, b, a.mono h b hs1⟩
  unfold findBlockRange
  simp only [cum0_tail, cum0_length]
  rw [if_neg (Nat.not_le_of_lt a.lt), if_pos h1]

theorem findBlockRange_of_empty (cs : List Int) (start stop : Int) (h1 : stop ≤ start) :
    findBlockRange (cum0 cs) start stop
      = if bisectRight (cumsum cs) start ≥ cs.length then none
        else some (bisectRight (cumsum cs) start, (bisectRight (cumsum cs) start : Int) - 1) := by
  unfold findBlockRange
  simp only [cum0_tail, cum0_length]
  rw [if_neg (show ¬ stop > start by omega)]

theorem findBlockRange_none_iff (cs : List Int) (h : ∀ c ∈ cs, 0 ≤ c) (start stop : Int) (h0 : 0 ≤ start) :
    findBlockRange (cum0 cs) start stop = none ↔ isum cs ≤ start := by
  have hle := bisectRight_le (cumsum cs) start
  rw [cumsum_length] at hle
  have key : bisectRight (cumsum cs) start ≥ cs.length ↔ isum cs ≤ start := by
    constructor
    · intro hge
      apply Classical.byContradiction
      intro hlt
      have := (Layout.inBlock_bisect cs h0 (show start < isum cs by omega)).lt
      omega
    · intro hge
      apply Classical.byContradiction
      intro hlt
      have := bisectRight_gt (cumsum cs) start (by rw [cumsum_length]; omega)
      rw [Layout.cumsum_getD cs (by omega)] at this
      have h3 := Layout.start_mono h (show bisectRight (cumsum cs) start + 1 ≤ cs.length by omega)
      rw [Layout.start_length] at h3
      omega
  unfold findBlockRange
  simp only [cum0_tail, cum0_length]
  by_cases hge : bisectRight (cumsum cs) start ≥ cs.length
  · rw [if_pos hge]
    exact ⟨fun _ => key.mp hge, fun _ => rfl⟩
  · rw [if_neg hge]
    exact ⟨fun hn => (nomatch hn), fun hs => absurd (key.mpr hs) hge⟩

theorem range_iff_intersects {cs : List Int} (h : ∀ c ∈ cs, 0 ≤ c) {start stop : Int} {f l : Nat}
    (r : BlockRange cs start stop f l) (k : Nat) :
    (f ≤ k ∧ k ≤ l) ↔ (blockStart cs k < stop ∧ start < blockStart cs (k + 1)) := by
  constructor
  · rintro ⟨h1, h2⟩
    exact ⟨Int.lt_of_le_of_lt (Int.le_trans (Layout.start_mono h h2) r.last.start_le) (Int.sub_one_lt_of_le (Int.le_refl stop)),
      Int.lt_of_lt_of_le r.first.lt_next (Layout.start_mono h (Nat.succ_le_succ h1))⟩
  · rintro ⟨h1, h2⟩
    exact ⟨Nat.le_of_lt_succ (Layout.lt_of_start_lt h (Int.lt_of_le_of_lt r.first.start_le h2)),
      Nat.le_of_lt_succ (Layout.lt_of_start_lt h (Int.lt_of_lt_of_le h1 (Int.le_of_sub_one_lt r.last.lt_next)))⟩

def lens {β : Type} (blocks : List (List β)) : List Int := blocks.map (fun b => (b.length : Int))

theorem lens_eq {β : Type} (blocks : List (List β)) : lens blocks = Layout.lens blocks := rfl

end Dask.Lemmas.Coarse
