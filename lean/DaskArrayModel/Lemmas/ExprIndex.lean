/-
Facts about the index-tuple operations of Model/Expr.lean, free of rewrite rules.  `sliceIdx` stays
inside the sliced array; an index with ONE axis set, inserted or erased stays in bounds.  For an index
made of slices only: `sliceShape` / `sliceIdx` / `sliceChunks` are `zipWith`s along the axes, so setting
the extent and the slice of one axis sets one entry (`zipWith_set_set`).  The full slice on
every axis changes nothing; an integer index is a size-1 slice followed by `[0]` (`splitInts_sound`,
on the index helpers of Model/Rules.lean).
-/
import DaskArrayModel.Model.Rules
import DaskArrayModel.Lemmas.ExprSlice
import DaskArrayModel.Lemmas.SliceWindow
namespace Dask.ND
open Dask.Py Dask.Py.PySlice Dask.Slicing Dask.Lemmas.SliceAlgebra

theorem sel_getD_toNat_lt (s : PySlice) (n : Nat) (x : Nat) (hx : x < (sel s n).length) :
    ((sel s n).getD x 0).toNat < n := by
  have := sel_getD_bounds s n (Int.natCast_nonneg n) x hx
  omega

theorem sliceIdx_inB (sh : List Nat) (idx : List Ix) (i : List Nat) (hwf : wfIx sh idx = true)
    (hi : InB i (sliceShape sh idx)) : InB (sliceIdx sh idx i) sh := by
  induction sh generalizing idx i with
  | nil =>
    cases idx with
    | nil => cases i with
      | nil => trivial
      | cons _ _ => exact hi.elim
    | cons _ _ => exact nomatch hwf
  | cons n ns ih =>
    cases idx with
    | nil => exact nomatch hwf
    | cons it r =>
      cases it with
      | int k =>
        rw [wfIx_cons_int] at hwf
        have := posifyInt_bounds n k hwf.1
        exact ⟨by omega, ih r i hwf.2 hi⟩
      | slc s =>
        rw [wfIx_cons_slc] at hwf
        cases i with
        | nil => exact hi.elim
        | cons x i =>
          exact ⟨sel_getD_toNat_lt s n x hi.1, ih r i hwf.2 hi.2⟩

theorem InB_set_of {sh i : List Nat} {ax v t : Nat} (hi : InB i (sh.set ax v)) (ht : t < sh.getD ax 0) :
    InB (i.set ax t) sh := by
  have := hi.set (ax := ax) ht
  rwa [List.set_set, set_getD_same] at this

theorem InB_set_le {sh i : List Nat} {ax t : Nat} (hi : InB i sh) (hax : ax < sh.length)
    (ht : t ≤ i.getD ax 0) : InB (i.set ax t) sh :=
  InB_set_of (v := sh.getD ax 0) (by rw [set_getD_same]; exact hi) (Nat.lt_of_le_of_lt ht (hi.getD_lt ax hax))

theorem InB_of_set {sh i : List Nat} {ax v : Nat} (hi : InB i (sh.set ax v))
    (ht : i.getD ax 0 < sh.getD ax 0) : InB i sh := by
  have := InB_set_of hi ht
  rwa [set_getD_same] at this

theorem InB_concat_right {sa sb i : List Nat} {ax : Nat} (hax : ax < sa.length)
    (hs : sa.set ax 0 = sb.set ax 0)
    (hi : InB i (sa.set ax (sa.getD ax 0 + sb.getD ax 0))) (hge : ¬ i.getD ax 0 < sa.getD ax 0) :
    InB (i.set ax (i.getD ax 0 - sa.getD ax 0)) sb := by
  have hlt := hi.getD_lt ax (by rw [List.length_set]; exact hax)
  rw [getD_set_eq _ _ _ _ hax] at hlt
  have := hi.set (ax := ax) (t := i.getD ax 0 - sa.getD ax 0) (n := sb.getD ax 0) (by omega)
  rwa [List.set_set, ← eq_set_of_set_eq 0 hs] at this

theorem InB_eraseIdx_insertIdx (ax : Nat) (sh i : List Nat) (v : Nat) (h : ax ≤ sh.length)
    (hi : InB i (sh.insertIdx ax v)) : InB (i.eraseIdx ax) sh := by
  induction ax generalizing sh i with
  | zero => cases i with
    | nil => exact hi.elim
    | cons x i => exact hi.2
  | succ ax ih =>
    cases sh with
    | nil => exact nomatch h
    | cons n sh => cases i with
      | nil => exact hi.elim
      | cons x i => exact ⟨hi.1, ih sh i (Nat.le_of_succ_le_succ h) hi.2⟩

theorem InB_insertIdx_eraseIdx (ax : Nat) (sh i : List Nat) (h : ax < sh.length) (h0 : 0 < sh.getD ax 0)
    (hi : InB i (sh.eraseIdx ax)) : InB (i.insertIdx ax 0) sh := by
  induction ax generalizing sh i with
  | zero => cases sh with
    | nil => exact nomatch h
    | cons n sh => exact ⟨h0, hi⟩
  | succ ax ih =>
    cases sh with
    | nil => exact nomatch h
    | cons n sh => cases i with
      | nil => exact hi.elim
      | cons x i => exact ⟨hi.1, ih sh i (Nat.lt_of_succ_lt_succ h) h0 hi.2⟩

theorem sel_colon_length (n : Nat) : (sel colon n).length = n := (Window.full n).length

theorem sel_colon_getD (n x : Nat) (hx : x < n) : (sel colon n).getD x 0 = x :=
  ((Window.full n).getD x hx).trans (by omega)

theorem sliceShape_colons : ∀ (sh : List Nat), sliceShape sh (List.replicate sh.length colonIx) = sh
  | [] => rfl
  | n :: ns => by
    show (sel colon n).length :: sliceShape ns (List.replicate ns.length colonIx) = n :: ns
    rw [sel_colon_length, sliceShape_colons ns]

theorem sliceIdx_colons : ∀ (sh i : List Nat), InB i sh →
    sliceIdx sh (List.replicate sh.length colonIx) i = i
  | [], [], _ => rfl
  | n :: ns, x :: i, h => by
    show ((sel colon n).getD x 0).toNat :: sliceIdx ns (List.replicate ns.length colonIx) i = x :: i
    rw [sel_colon_getD n x h.1, sliceIdx_colons ns i h.2]
    rfl
  | [], _ :: _, h => h.elim
  | _ :: _, [], h => h.elim

/-- `x[idx] = x[idx with k ↦ k:k+1][0 at the integers]` -/
theorem splitInts_sound (sh : List Nat) (idx : List Ix) (hwf : wfIx sh idx = true) :
    wfIx sh (intsToSlices sh idx) = true ∧
    wfIx (sliceShape sh (intsToSlices sh idx)) (extractIx idx) = true ∧
    sliceShape (sliceShape sh (intsToSlices sh idx)) (extractIx idx) = sliceShape sh idx ∧
    ∀ i, InB i (sliceShape sh idx) →
      sliceIdx sh (intsToSlices sh idx) (sliceIdx (sliceShape sh (intsToSlices sh idx)) (extractIx idx) i)
        = sliceIdx sh idx i := by
  induction sh generalizing idx with
  | nil =>
    cases idx with
    | nil =>
      refine ⟨rfl, rfl, rfl, fun i hi => ?_⟩
      cases i with
      | nil => rfl
      | cons _ _ => exact hi.elim
    | cons _ _ => exact nomatch hwf
  | cons n ns ih =>
    cases idx with
    | nil => exact nomatch hwf
    | cons it r =>
      cases it with
      | int k =>
        rw [wfIx_cons_int] at hwf
        obtain ⟨i1, i2, i3, i4⟩ := ih r hwf.2
        obtain ⟨hp0, hp1⟩ := posifyInt_bounds n k hwf.1
        have hsel := sel_point (posifyInt n k) n hp0 hp1
        have hsh : sliceShape (n :: ns) (intsToSlices (n :: ns) (Ix.int k :: r))
            = 1 :: sliceShape ns (intsToSlices ns r) :=
          congrArg (fun l => List.length l :: sliceShape ns (intsToSlices ns r)) hsel
        rw [hsh]
        refine ⟨?_, ?_, i3, fun i hi => ?_⟩
        · exact (wfIx_cons_slc ..).mpr ⟨Int.one_ne_zero, i1⟩
        · exact (wfIx_cons_int ..).mpr ⟨by omega, i2⟩
        · show ((sel _ n).getD (posifyInt 1 0).toNat 0).toNat :: _ = _ :: _
          rw [hsel, i4 i hi]
          rfl
      | slc s =>
        rw [wfIx_cons_slc] at hwf
        obtain ⟨i1, i2, i3, i4⟩ := ih r hwf.2
        have hsh : sliceShape (n :: ns) (intsToSlices (n :: ns) (Ix.slc s :: r))
            = (sel s n).length :: sliceShape ns (intsToSlices ns r) := rfl
        rw [hsh]
        refine ⟨(wfIx_cons_slc ..).mpr ⟨hwf.1, i1⟩, (wfIx_cons_slc ..).mpr ⟨Int.one_ne_zero, i2⟩, ?_, fun i hi => ?_⟩
        · show (sel colon _).length :: _ = _ :: _
          rw [sel_colon_length, i3]
        · cases i with
          | nil => exact hi.elim
          | cons x i =>
            show ((sel s n).getD ((sel colon _).getD x 0).toNat 0).toNat :: _ = _ :: _
            rw [sel_colon_getD _ x hi.1, i4 i hi.2]
            rfl
theorem sliceShape_slc : ∀ (sh : List Nat) (ss : List PySlice),
    sliceShape sh (ss.map Ix.slc) = List.zipWith (fun n s => (sel s (n : Nat)).length) sh ss
  | [], ss => by cases ss <;> simp [sliceShape]
  | _ :: _, [] => by simp [sliceShape]
  | n :: ns, s :: ss => by
    simp only [List.map_cons, sliceShape, List.zipWith_cons_cons]
    rw [sliceShape_slc ns ss]

theorem sliceShape_slc_length (sh : List Nat) (ss : List PySlice) :
    (sliceShape sh (ss.map Ix.slc)).length = min sh.length ss.length := by
  rw [sliceShape_slc]; simp

theorem sliceShape_slc_getD (sh : List Nat) (ss : List PySlice) (k : Nat) (h1 : k < sh.length)
    (h2 : k < ss.length) :
    (sliceShape sh (ss.map Ix.slc)).getD k 0 = (sel (ss.getD k colon) (sh.getD k 0 : Nat)).length := by
  rw [sliceShape_slc, getD_zipWith _ sh ss k 0 colon 0 h1 h2]

theorem wfIx_slc (sh : List Nat) (ss : List PySlice) :
    wfIx sh (ss.map Ix.slc) = true ↔ ss.length = sh.length ∧ ∀ s ∈ ss, s.stp ≠ 0 := by
  induction sh generalizing ss with
  | nil => cases ss <;> simp [wfIx]
  | cons n ns ih =>
    cases ss with
    | nil => simp [wfIx]
    | cons s ss =>
      rw [List.map_cons, wfIx_cons_slc, ih ss, List.forall_mem_cons, List.length_cons, List.length_cons,
        Nat.add_right_cancel_iff]
      exact and_left_comm

theorem sliceIdx_slc : ∀ (sh : List Nat) (ss : List PySlice) (i : List Nat),
    sliceIdx sh (ss.map Ix.slc) i = List.zipWith (fun (g : Nat → Nat) x => g x)
      (List.zipWith (fun (n : Nat) s x => ((sel s n).getD x 0).toNat) sh ss) i
  | [], ss, _ => by cases ss <;> rfl
  | _ :: _, [], _ => rfl
  | _ :: _, _ :: _, [] => rfl
  | n :: ns, s :: ss, x :: i => congrArg (_ :: ·) (sliceIdx_slc ns ss i)

theorem sliceIdx_slc_length (sh : List Nat) (ss : List PySlice) (i : List Nat) :
    (sliceIdx sh (ss.map Ix.slc) i).length = min sh.length (min ss.length i.length) := by
  rw [sliceIdx_slc, List.length_zipWith, List.length_zipWith, Nat.min_assoc]

theorem sliceIdx_slc_getD (sh : List Nat) (ss : List PySlice) (i : List Nat) (k : Nat)
    (h1 : k < sh.length) (h2 : k < ss.length) (h3 : k < i.length) :
    (sliceIdx sh (ss.map Ix.slc) i).getD k 0
      = ((sel (ss.getD k colon) (sh.getD k 0 : Nat)).getD (i.getD k 0) 0).toNat := by
  rw [sliceIdx_slc, getD_zipWith _ _ i k (fun _ => 0) 0 0 (by rw [List.length_zipWith]; omega) h3,
    getD_zipWith _ sh ss k 0 colon _ h1 h2]

theorem sliceChunks_slc : ∀ (sh : List Nat) (cl : Layout) (ss : List PySlice),
    sliceChunks sh cl (ss.map Ix.slc) = List.zipWith (fun (g : PySlice → List Nat) s => g s)
      (List.zipWith sliceChunks1 sh cl) ss
  | [], _, _ => rfl
  | _ :: _, [], _ => rfl
  | _ :: _, _ :: _, [] => rfl
  | _ :: ns, _ :: cl, _ :: ss => congrArg (_ :: ·) (sliceChunks_slc ns cl ss)

theorem sliceChunks_slc_length (sh : List Nat) (cl : Layout) (ss : List PySlice) :
    (sliceChunks sh cl (ss.map Ix.slc)).length = min sh.length (min cl.length ss.length) := by
  rw [sliceChunks_slc, List.length_zipWith, List.length_zipWith, Nat.min_assoc]

theorem sliceChunks_slc_getD (sh : List Nat) (cl : Layout) (ss : List PySlice) (k : Nat)
    (h1 : k < sh.length) (h2 : k < cl.length) (h3 : k < ss.length) :
    (sliceChunks sh cl (ss.map Ix.slc)).getD k []
      = sliceChunks1 (sh.getD k 0) (cl.getD k []) (ss.getD k colon) := by
  rw [sliceChunks_slc, getD_zipWith _ _ ss k (fun _ => []) colon [] (by rw [List.length_zipWith]; omega) h3,
    getD_zipWith _ sh cl k 0 [] _ h1 h2]

theorem sliceShape_set_axis {ax n : Nat} {sh sh' : List Nat} (hs : sh' = sh.set ax n) (ss : List PySlice)
    (s' : PySlice) :
    sliceShape sh' ((ss.set ax s').map Ix.slc) = (sliceShape sh (ss.map Ix.slc)).set ax (sel s' n).length := by
  rw [hs, sliceShape_slc, sliceShape_slc, zipWith_set_set]

theorem sliceIdx_set_axis {ax n : Nat} {sh sh' : List Nat} (hs : sh' = sh.set ax n) (ss : List PySlice)
    (s' : PySlice) (i : List Nat) :
    sliceIdx sh' ((ss.set ax s').map Ix.slc) i
      = (sliceIdx sh (ss.map Ix.slc) i).set ax ((sel s' n).getD (i.getD ax 0) 0).toNat := by
  rw [hs, sliceIdx_slc, sliceIdx_slc, zipWith_set_set, zipWith_set_left _ 0]

theorem sliceChunks_set_axis {ax n : Nat} {sh sh' : List Nat} {cl cl' : Layout} (hs : sh' = sh.set ax n)
    (hc : cl.set ax [] = cl'.set ax []) (ss : List PySlice) (s' s'' : PySlice) :
    (sliceChunks sh' cl' ((ss.set ax s').map Ix.slc)).set ax []
      = (sliceChunks sh cl ((ss.set ax s'').map Ix.slc)).set ax [] := by
  rw [hs, eq_set_of_set_eq [] hc, sliceChunks_slc, sliceChunks_slc, zipWith_set_set, zipWith_set_set,
    zipWith_set_right _ (fun _ => []), List.set_set, List.set_set]

end Dask.ND
