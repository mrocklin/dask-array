/-
Proofs for the windowed-operation planners (Model/Window.lean).
`ensure_minimum_chunksize` preserves the sum and makes every chunk at least `size` (loop invariant
`EInv`).  A plan row of `SlidingWindowReduction._block_plan` / `MovingWindowReduction._block_plan`
locates two positions `v ≤ w` of the axis by `bisect_right(starts, ·) - 1`; these are the blocks `k ≤ l` that hold
them (`Layout.InBlock`, `starts_bisect`), and everything else about a row (`PlanOK`, `MPlanOK`) is linear
arithmetic over block starts.  The data-level theorems then glue three consecutive slices
(`slice_append3`), whole runs of blocks being slices themselves (`blocksRange_flatten`); their folds follow by
`ofold_pieces` (Lemmas/OFold.lean).  At the end, the boundary maps of `map_overlap`: the source position of a
padded position for each boundary kind (`boundarySrc_*`, in range by `pad*_range`) and the chunk sizes with and
without the overlap (`overlapInternalChunks_concat`, `trimInternalChunks_length`).
Core Lean only.
-/
import DaskArrayModel.Model.WindowSpec
import DaskArrayModel.Lemmas.OFold
import DaskArrayModel.Lemmas.Layout
namespace Dask.Lemmas.Window
open Dask.Py Dask.Window Dask.Scan
open Dask.Layout (InBlock Nonneg)
variable {α : Type}

theorem lmin_le (l : List Int) : ∀ c ∈ l, lmin l ≤ c := by
  cases l with
  | nil => exact fun _ h => nomatch h
  | cons x xs =>
    have h := foldl_bound min (· ≤ ·) Int.le_trans Int.le_refl (fun a b => ⟨Int.min_le_left a b, Int.min_le_right a b⟩) xs x
    intro c hc
    rcases List.mem_cons.mp hc with rfl | hc
    · exact h.1
    · exact h.2 c hc

theorem le_lmax (l : List Int) : ∀ c ∈ l, c ≤ lmax l := by
  cases l with
  | nil => exact fun _ h => nomatch h
  | cons x xs =>
    have h := foldl_max_ge xs x
    intro c hc
    rcases List.mem_cons.mp hc with rfl | hc
    · exact h.1
    · exact h.2 c hc

/-- loop invariant of `for c in chunks:` in `ensure_minimum_chunksize`: `done` is the sum of the
chunks consumed so far. -/
structure EInv (size : Int) (st : EState) (done : Int) : Prop where
  sum : isum st.output + st.new = done
  big : ∀ c ∈ st.output, size ≤ c
  nonneg : 0 ≤ st.new

/-- `new += c` -/
theorem EInv.add {size : Int} {out : List Int} {new done : Int} (h : EInv size ⟨out, new⟩ done)
    {c : Int} (hc : 0 ≤ c) : EInv size ⟨out, new + c⟩ (done + c) :=
  ⟨by have := h.sum; dsimp only at this ⊢; omega, h.big, by have := h.nonneg; dsimp only at this ⊢; omega⟩

/-- `output.append(v)` with `w` left in `new` -/
theorem EInv.push {size : Int} {out : List Int} {new done : Int} (h : EInv size ⟨out, new⟩ done)
    {v w : Int} (hv : size ≤ v) (hw : 0 ≤ w) (e : v + w = new) : EInv size ⟨out ++ [v], w⟩ done := by
  refine ⟨?_, fun x hx => ?_, hw⟩
  · have := h.sum
    simp only [isum_append, isum] at this ⊢
    omega
  · rcases List.mem_append.mp hx with hx | hx
    · exact h.big x hx
    · rw [List.mem_singleton.mp hx]; exact hv

theorem emcStep_inv (size : Int) (st : EState) (done c : Int) (hc : 0 ≤ c)
    (h : EInv size st done) : EInv size (emcStep size st c) (done + c) := by
  obtain ⟨out, new⟩ := st
  have hn := h.nonneg
  have ha := h.add hc
  unfold emcStep
  dsimp only at hn ⊢
  by_cases hcs : c < size
  · have hcs' : ¬ c ≥ size := Int.not_le.mpr hcs
    simp only [if_pos hcs, if_neg hcs']
    by_cases hbig : new > size + (size - c)
    · simp only [if_pos hbig, if_pos (Int.le_refl size)]
      exact (ha.push (v := new - (size - c)) (w := size) (by omega) (by omega) (by omega)).push
        (Int.le_refl _) (Int.le_refl _) (Int.add_zero _)
    · simp only [if_neg hbig]
      by_cases hge : new + c ≥ size
      · simp only [if_pos hge]
        exact ha.push hge (Int.le_refl _) (Int.add_zero _)
      · simp only [if_neg hge]
        exact ha
  · have hcs' : c ≥ size := Int.not_lt.mp hcs
    simp only [if_neg hcs, if_pos hcs']
    by_cases hge : new ≥ size
    · simp only [if_pos hge]
      exact (h.push hge (Int.le_refl _) (Int.add_zero _)).add hc
    · simp only [if_neg hge]
      exact ha

theorem emcLoop_inv (size : Int) (cs : List Int) (hcs : ∀ c ∈ cs, 0 ≤ c)
    (st : EState) (done : Int) (h : EInv size st done) :
    EInv size (cs.foldl (emcStep size) st) (done + isum cs) := by
  induction cs generalizing st done with
  | nil => simpa [isum] using h
  | cons c cs ih =>
    have := ih (fun x hx => hcs x (List.mem_cons_of_mem c hx)) _ _
      (emcStep_inv size st done c (hcs c List.mem_cons_self) h)
    rw [Int.add_assoc] at this
    exact this

/-- `ensure_minimum_chunksize(size, chunks)` for non-negative chunks: the sum is preserved and
every output chunk is at least `size`; it raises exactly when the whole axis is shorter than `size`. -/
theorem ensureMinimumChunksize_spec (size : Int) (chunks : List Int) (hne : chunks ≠ [])
    (hpos : ∀ c ∈ chunks, 0 ≤ c) :
    match ensureMinimumChunksize size chunks with
    | some out => isum out = isum chunks ∧ (∀ c ∈ out, size ≤ c) ∧ out ≠ []
    | none => isum chunks < size := by
  unfold ensureMinimumChunksize
  by_cases h0 : size ≤ lmin chunks
  · rw [if_pos h0]
    exact ⟨rfl, fun c hc => Int.le_trans h0 (lmin_le chunks c hc), hne⟩
  · rw [if_neg h0]
    have inv := emcLoop_inv size chunks hpos ⟨[], 0⟩ 0 ⟨rfl, fun _ h => (nomatch h), Int.le_refl 0⟩
    rw [Int.zero_add] at inv
    generalize chunks.foldl (emcStep size) ⟨[], 0⟩ = st at inv
    obtain ⟨out, new⟩ := st
    dsimp only
    by_cases hge : new ≥ size
    · rw [if_pos hge]
      have := inv.push hge (Int.le_refl 0) (Int.add_zero new)
      exact ⟨(Int.add_zero _).symm.trans this.sum, this.big, List.append_ne_nil_of_right_ne_nil _ (List.cons_ne_nil _ _)⟩
    · rw [if_neg hge]
      rcases List.eq_nil_or_concat out with h | ⟨init, last, h⟩
      · subst h
        have := inv.sum
        simp only [isum] at this
        rw [if_neg (show ¬ ([] : List Int).length ≥ 1 from Nat.not_succ_le_zero 0)]
        dsimp only
        omega
      · -- the leftover is merged into the last output chunk
        rw [List.concat_eq_append] at h
        subst h
        rw [if_pos (by rw [List.length_append]; exact Nat.le_add_left _ _), List.dropLast_concat,
          List.getLastD_concat]
        have hs := inv.sum
        have hl := inv.big last (List.mem_append_right _ (List.mem_singleton.mpr rfl))
        have hn := inv.nonneg
        simp only [isum_append, isum] at hs ⊢
        refine ⟨by omega, fun x hx => ?_, List.append_ne_nil_of_right_ne_nil _ (List.cons_ne_nil _ _)⟩
        rcases List.mem_append.mp hx with hx | hx
        · exact inv.big x (List.mem_append_left _ hx)
        · rw [List.mem_singleton.mp hx]; dsimp only at hn; omega

theorem blockStart_eq (chunks : List Int) (k : Nat) : blockStart chunks k = Layout.start chunks k := rfl

theorem blockStart_succ (chunks : List Int) (k : Nat) (hk : k < chunks.length) :
    blockStart chunks (k + 1) = blockStart chunks k + chunks[k] :=
  (Layout.start_succ chunks k).trans (congrArg _ (getD_eq_getElem chunks _ 0 hk))

theorem starts_getD (chunks : List Int) (k : Nat) (hk : k ≤ chunks.length) :
    (starts chunks).getD k 0 = blockStart chunks k :=
  Layout.cumsum0_getD chunks hk

theorem pyGet_nonneg (l : List Int) (b : Int) (hb : 0 ≤ b) : pyGet l b = l.getD b.toNat 0 := by
  unfold pyGet
  rw [if_neg (Int.not_lt.mpr hb)]

theorem starts_pyGet (chunks : List Int) (k : Nat) (hk : k ≤ chunks.length) :
    pyGet (starts chunks) (k : Int) = blockStart chunks k := by
  rw [pyGet_nonneg _ _ (Int.natCast_nonneg k), Int.toNat_natCast, starts_getD chunks k hk]

theorem starts_bisect {chunks : List Int} (hc : Layout.Nonneg chunks) {v : Int} {k : Nat} (h : InBlock chunks v k) :
    ((bisectRight (starts chunks) v : Nat) : Int) - 1 = k := by
  rw [starts, Layout.bisectRight_cumsum0 chunks (h.nonneg hc), h.bisect_eq hc, Int.natCast_add_one,
    Int.add_sub_cancel]


theorem of_ite_false {p : Prop} [Decidable p] {b : Bool} (h : (if p then false else b) = true) :
    ¬ p ∧ b = true := by
  by_cases hp : p
  · rw [if_pos hp] at h; exact absurd h Bool.false_ne_true
  · rw [if_neg hp] at h; exact ⟨hp, h⟩

theorem nativeLoop_spec (depth outLen : Int) (cs : List Int) (hcs : ∀ c ∈ cs, 0 ≤ c) (start : Int)
    (h : nativeLoop depth outLen start cs = true) (i : Nat) (hi : i < cs.length)
    (hlt : start + isum (cs.take i) < outLen) : cs[i] ≤ depth := by
  induction cs generalizing start i with
  | nil => exact absurd hi (Nat.not_lt_zero i)
  | cons c cs ih =>
    change ite _ _ _ = true at h
    have hnn := isum_nonneg ((c :: cs).take i) (fun x hx => hcs x (List.mem_of_mem_take hx))
    rw [if_neg (by omega)] at h
    obtain ⟨h2, h⟩ := of_ite_false h
    cases i with
    | zero => exact Int.not_lt.mp h2
    | succ i =>
      rw [List.take_succ_cons, isum, ← Int.add_assoc] at hlt
      exact ih (fun x hx => hcs x (List.mem_cons_of_mem c hx)) (start + c) h i (Nat.lt_of_succ_lt_succ hi) hlt

theorem supportsSliding_facts (chunks : List Int) (window : Int)
    (h : supportsNativeSliding chunks window = true) :
    1 < window ∧ (∀ c ∈ chunks, 0 < c) ∧ window ≤ isum chunks ∧
      ∀ i (hi : i < chunks.length), blockStart chunks i < isum chunks - window + 1 → chunks[i] ≤ window - 1 := by
  unfold supportsNativeSliding at h
  dsimp only at h
  obtain ⟨h1, h⟩ := of_ite_false h
  obtain ⟨h2, h⟩ := of_ite_false h
  obtain ⟨h3, h⟩ := of_ite_false h
  obtain ⟨-, h⟩ := of_ite_false h
  have hpos : ∀ c ∈ chunks, 0 < c := fun c hc => by
    have := lmin_le chunks c hc; omega
  exact ⟨by omega, hpos, by omega, fun i hi hlt => nativeLoop_spec (window - 1) (isum chunks - (window - 1)) chunks
    (fun c hc => Int.le_of_lt (hpos c hc)) 0 h i hi (by unfold blockStart at hlt; omega)⟩

theorem outLenOf_nonpos (c : Int) {r : Int} (hr : r ≤ 0) : outLenOf c r = 0 := by
  unfold outLenOf; omega

theorem outLenOf_bounds {c r : Int} (hc : 0 < c) (hr : 0 < r) :
    0 < outLenOf c r ∧ outLenOf c r ≤ c ∧ outLenOf c r ≤ r :=
  ⟨Int.lt_of_lt_of_le (Int.lt_min.mpr ⟨hc, hr⟩) (Int.le_max_right _ _),
    Int.max_le.mpr ⟨Int.le_of_lt hc, Int.min_le_left _ _⟩, Int.max_le.mpr ⟨Int.le_of_lt hr, Int.min_le_right _ _⟩⟩

/-- the loop body reads `remaining` only through `out_len = max(0, min(c, remaining))` -/
theorem outLenOf_max (c r : Int) : outLenOf c (max r 0) = outLenOf c r := by
  by_cases hr : 0 ≤ r
  · rw [Int.max_eq_left hr]
  · rw [Int.max_eq_right (Int.le_of_not_le hr), outLenOf_nonpos c (Int.le_refl 0),
      outLenOf_nonpos c (Int.le_of_not_le hr)]

theorem remaining_step {c : Int} (hc : 0 ≤ c) (r : Int) :
    max r 0 - outLenOf c (max r 0) = max (r - c) 0 := by
  rw [outLenOf_max]
  by_cases hr : r ≤ 0
  · rw [Int.max_eq_right hr, outLenOf_nonpos c hr, Int.max_eq_right (Int.le_trans (Int.sub_le_self r hc) hr)]
    rfl
  · have hr' := Int.le_of_lt (Int.not_le.mp hr)
    unfold outLenOf
    rw [Int.max_eq_left hr', Int.max_eq_right (Int.le_min.mpr ⟨hc, hr'⟩)]
    omega

/-- `remaining` is `max(r - start_k, 0)` when the loop reaches block `k` (started with `max(r, 0)`),
and the clipping at `0` does not change the row. -/
theorem slidingLoop_get (sts : List Int) (window : Int) (cs : List Int) (hcs : ∀ c ∈ cs, 0 ≤ c)
    (i0 : Nat) (r : Int) (k : Nat) :
    (slidingPlanLoop sts window i0 (max r 0) cs)[k]? =
      cs[k]?.map (fun c => slidingEntry sts window (i0 + k) c (r - isum (cs.take k))) := by
  induction cs generalizing i0 r k with
  | nil => rfl
  | cons c cs ih =>
    have hc := hcs c List.mem_cons_self
    cases k with
    | zero =>
      show some (slidingEntry sts window i0 c (max r 0)) = some (slidingEntry sts window i0 c (r - 0))
      unfold slidingEntry
      rw [Int.sub_zero, outLenOf_max]
    | succ k =>
      show (slidingPlanLoop sts window (i0 + 1) (max r 0 - outLenOf c (max r 0)) cs)[k]? = _
      rw [remaining_step hc, ih (fun x hx => hcs x (List.mem_cons_of_mem c hx)), List.getElem?_cons_succ,
        List.take_succ_cons, isum, Int.sub_sub, Nat.add_right_comm, Nat.add_assoc]

/-- the facts that make the banded decomposition valid, for a plan row with positive `out_len`
whose band is the blocks `b … e`. -/
structure PlanOK (chunks : List Int) (window : Int) (i : Nat) (p : SPlan) (b e : Nat) : Prop where
  b_eq : p.b = b
  e_eq : p.e = e
  i_lt_b : i < b
  b_le_e : b ≤ e
  e_lt : e < chunks.length
  off_nonneg : 0 ≤ p.bandOffset
  band_start : blockStart chunks b + p.bandOffset = blockStart chunks i + window - 1
  band_fits : blockStart chunks b + p.bandOffset + p.outLen ≤ blockStart chunks (e + 1)
  in_array : blockStart chunks i + p.outLen + window - 1 ≤ isum chunks
  own_le : p.outLen ≤ chunks.getD i 0

theorem slidingEntry_outLen (sts : List Int) (window : Int) (i : Nat) (c r : Int) :
    (slidingEntry sts window i c r).outLen = outLenOf c r := by
  unfold slidingEntry
  dsimp only
  split
  · have : 0 ≤ outLenOf c r := Int.le_max_left 0 _
    exact Int.le_antisymm this ‹_›
  · rfl

/-- a row computed with any positive `remaining` that still fits in the array is valid (`c_i ≤ W - 1`
is what the guard checks for such rows). -/
theorem slidingEntry_ok (chunks : List Int) (hpos : ∀ c ∈ chunks, 0 < c) (window : Int) (i : Nat)
    (hi : i < chunks.length) (hdepth : chunks[i] ≤ window - 1) (r : Int) (hr0 : 0 < r)
    (hr : blockStart chunks i + r + window - 1 ≤ isum chunks) :
    ∃ b e, PlanOK chunks window i (slidingEntry (starts chunks) window i chunks[i] r) b e := by
  have hc := hpos _ (List.getElem_mem hi)
  have hS := blockStart_succ chunks i hi
  have hnn := Nonneg.of_pos hpos
  have hS0 : 0 ≤ blockStart chunks i := Layout.start_nonneg hnn i
  unfold slidingEntry
  dsimp only
  obtain ⟨h0, hoc, hor⟩ := outLenOf_bounds hc hr0
  generalize outLenOf chunks[i] r = ol at *
  rw [if_neg (Int.not_le.mpr h0), starts_pyGet chunks i (Nat.le_of_lt hi)]
  obtain ⟨a1, a2, a3, a4⟩ : 0 ≤ blockStart chunks i + window - 1 ∧
      blockStart chunks i + window - 1 ≤ blockStart chunks i + window - 1 + ol - 1 ∧
      blockStart chunks i + window - 1 + ol - 1 < isum chunks ∧
      blockStart chunks (i + 1) ≤ blockStart chunks i + window - 1 := by omega
  obtain ⟨b, hB⟩ := Layout.exists_inBlock chunks a1 (Int.lt_of_le_of_lt a2 a3)
  obtain ⟨e, hE⟩ := Layout.exists_inBlock chunks (Int.le_trans a1 a2) a3
  have hbe := hB.mono hnn hE a2
  have hel := hE.lt
  have he2 : _ < blockStart chunks (e + 1) := hE.lt_next
  rw [starts_bisect hnn hB, starts_bisect hnn hE, starts_pyGet chunks b (Nat.le_of_lt (Nat.lt_of_le_of_lt hbe hel))]
  have hib := Layout.lt_of_start_lt hnn (Int.lt_of_le_of_lt a4 hB.lt_next)
  refine ⟨b, e, rfl, rfl, Nat.lt_of_succ_lt_succ hib, hbe, hel, Int.sub_nonneg_of_le hB.start_le,
    by dsimp only; rw [Int.add_comm, Int.sub_add_cancel], ?_, ?_,
    by rw [getD_eq_getElem chunks _ 0 hi]; exact hoc⟩ <;> dsimp only <;> omega

theorem slidingPlan_ok (chunks : List Int) (window : Int)
    (hsup : supportsNativeSliding chunks window = true) (i : Nat) (hi : i < chunks.length) :
    ∃ p, (slidingBlockPlan chunks window)[i]? = some p ∧
      p.outLen = max 0 (min (chunks.getD i 0) (isum chunks - window + 1 - blockStart chunks i)) ∧
      (0 < p.outLen → ∃ b e, PlanOK chunks window i p b e) := by
  obtain ⟨hw, hpos, hn, hguard⟩ := supportsSliding_facts chunks window hsup
  have hO : isum chunks - window + 1 = max (isum chunks - window + 1) 0 := (Int.max_eq_left (by omega)).symm
  unfold slidingBlockPlan
  rw [hO, slidingLoop_get _ _ _ (fun c hc => Int.le_of_lt (hpos c hc)), List.getElem?_eq_getElem hi, ← hO,
    Option.map_some, Nat.zero_add]
  refine ⟨_, rfl, ?_⟩
  rw [slidingEntry_outLen, getD_eq_getElem chunks _ 0 hi]
  refine ⟨rfl, fun h => ?_⟩
  have hr : 0 < isum chunks - window + 1 - isum (chunks.take i) := Int.not_le.mp fun hr => by
    rw [outLenOf_nonpos _ hr] at h; exact Int.lt_irrefl 0 h
  exact slidingEntry_ok chunks hpos window i hi (hguard i hi (Int.lt_of_sub_pos hr)) _ hr
    (by unfold blockStart; omega)

theorem toNat_add_sub {a b : Int} (h0 : 0 ≤ a) (hab : a ≤ b) : a.toNat + (b - a).toNat = b.toNat := by
  rw [← Int.toNat_add h0 (Int.sub_nonneg_of_le hab)]
  congr 1; omega

theorem slice_append (x : List α) {a b c : Int} (h0 : 0 ≤ a) (hab : a ≤ b) (hbc : b ≤ c) :
    slice x a b ++ slice x b c = slice x a c := by
  have e : c - a - (b - a) = c - b := by omega
  unfold slice
  rw [← toNat_add_sub (Int.sub_nonneg_of_le hab) (Int.sub_le_sub_right hbc a), List.take_add, List.drop_drop,
    toNat_add_sub h0 hab, e]

theorem slice_append3 (x : List α) {a b c d : Int} (h0 : 0 ≤ a) (hab : a ≤ b) (hbc : b ≤ c) (hcd : c ≤ d) :
    slice x a b ++ slice x b c ++ slice x c d = slice x a d := by
  rw [slice_append x h0 hab hbc, slice_append x h0 (Int.le_trans hab hbc) hcd]

theorem slice_take (x : List α) {a b k : Int} (hkb : a + k ≤ b) :
    (slice x a b).take k.toNat = slice x a (a + k) := by
  unfold slice
  rw [List.take_take, Int.add_comm a k, Int.add_sub_cancel, Nat.min_eq_left (Int.toNat_le_toNat (by omega))]

theorem slice_drop (x : List α) {a b k : Int} (ha : 0 ≤ a) (hk : 0 ≤ k) :
    (slice x a b).drop k.toNat = slice x (a + k) b := by
  obtain ⟨n, rfl⟩ := Int.eq_ofNat_of_zero_le hk
  unfold slice
  rw [List.drop_take, List.drop_drop, Int.toNat_add ha hk, Int.toNat_natCast, ← Int.sub_sub, Int.toNat_sub']

theorem block_eq (chunks : List Int) (x : List α) : block chunks x = Layout.block chunks x := by
  funext k
  unfold block slice Layout.block
  rw [blockStart_eq, blockStart_eq, Layout.start_succ, Int.add_comm, Int.add_sub_cancel]

theorem blocksRange_flatten (chunks : List Int) (hpos : ∀ c ∈ chunks, 0 < c) (x : List α)
    {lo hi : Nat} (h : lo ≤ hi) :
    (blocksRange chunks x lo hi).flatten = slice x (blockStart chunks lo) (blockStart chunks hi) := by
  unfold blocksRange slice
  rw [block_eq, Layout.blocks_flatten (Nonneg.of_pos hpos), Nat.add_sub_cancel' h]
  rfl

theorem slidingPlan_tiles (chunks : List Int) (window : Int)
    (hsup : supportsNativeSliding chunks window = true) (x : List α)
    (i : Nat) (hi : i < chunks.length) (p : SPlan)
    (hp : (slidingBlockPlan chunks window)[i]? = some p) (t : Int) (ht0 : 0 ≤ t) (ht : t < p.outLen) :
    slice x (blockStart chunks i + t) (blockStart chunks (i + 1))
        ++ (blocksRange chunks x (i + 1) p.b.toNat).flatten
        ++ ((blocksRange chunks x p.b.toNat (p.e.toNat + 1)).flatten).take (p.bandOffset + t + 1).toNat
      = slice x (blockStart chunks i + t) (blockStart chunks i + t + window)
    ∧ blockStart chunks i + t + window ≤ isum chunks := by
  obtain ⟨p', hp', -, ok⟩ := slidingPlan_ok chunks window hsup i hi
  rw [hp] at hp'
  cases hp'
  obtain ⟨b, e, ok⟩ := ok (Int.lt_of_le_of_lt ht0 ht)
  obtain ⟨-, hpos, -, -⟩ := supportsSliding_facts chunks window hsup
  have hib := ok.i_lt_b
  have hbe := ok.b_le_e
  have hel := ok.e_lt
  have hoff := ok.off_nonneg
  have hstart := ok.band_start
  have hfits := ok.band_fits
  have harr := ok.in_array
  have hown := ok.own_le
  rw [getD_eq_getElem chunks _ 0 hi] at hown
  have hSs := blockStart_succ chunks i hi
  have hbl : b ≤ chunks.length := Nat.le_of_lt (Nat.lt_of_le_of_lt hbe hel)
  obtain ⟨e1, e2, e3, e4, e5⟩ :
      blockStart chunks b + (p.bandOffset + t + 1) = blockStart chunks i + t + window ∧
      blockStart chunks b + (p.bandOffset + t + 1) ≤ blockStart chunks (e + 1) ∧
      blockStart chunks i + t ≤ blockStart chunks (i + 1) ∧
      blockStart chunks b ≤ blockStart chunks i + t + window ∧
      blockStart chunks i + t + window ≤ isum chunks := by omega
  have hbe' : b ≤ e + 1 := Nat.le_succ_of_le hbe
  rw [ok.b_eq, ok.e_eq, Int.toNat_natCast, Int.toNat_natCast, blocksRange_flatten chunks hpos x hib,
    blocksRange_flatten chunks hpos x hbe', slice_take x e2, e1]
  exact ⟨slice_append3 x (Int.add_nonneg (Layout.start_nonneg (Nonneg.of_pos hpos) i) ht0) e3
    (Layout.start_mono (Nonneg.of_pos hpos) hib) e4, e5⟩

/-- `_sliding_window_banded_reduce`, position `t`: `suffix_scan[t] ⊕ total_{i+1} ⊕ … ⊕ total_{b-1} ⊕ prefix[band_offset + t]`
is the reduction of the window. -/
theorem slidingPlan_correct {op : α → α → α} (hop : Assoc op) (chunks : List Int) (window : Int)
    (hsup : supportsNativeSliding chunks window = true) (x : List α)
    (i : Nat) (hi : i < chunks.length) (p : SPlan)
    (hp : (slidingBlockPlan chunks window)[i]? = some p) (t : Int) (ht0 : 0 ≤ t) (ht : t < p.outLen) :
    oop op
      ((blocksRange chunks x (i + 1) p.b.toNat).foldl (fun a blk => oop op a (ofold op blk))
        (ofold op (slice x (blockStart chunks i + t) (blockStart chunks (i + 1)))))
      (ofold op (((blocksRange chunks x p.b.toNat (p.e.toNat + 1)).flatten).take (p.bandOffset + t + 1).toNat))
    = ofold op (slice x (blockStart chunks i + t) (blockStart chunks i + t + window)) := by
  rw [Dask.Lemmas.Scan.ofold_pieces hop, (slidingPlan_tiles chunks window hsup x i hi p hp t ht0 ht).1]

theorem trimLoop_sum (cs : List Int) (hcs : ∀ c ∈ cs, 0 ≤ c) (r : Int) (h0 : 0 ≤ r) (hr : r ≤ isum cs) :
    isum (trimLoop r cs) = r := by
  induction cs generalizing r with
  | nil => exact Int.le_antisymm h0 hr
  | cons c cs ih =>
    have hc := hcs c List.mem_cons_self
    have hcs' := fun x hx => hcs x (List.mem_cons_of_mem c hx)
    have hs := isum_nonneg cs hcs'
    show isum (ite _ _ _) = r
    by_cases hr0 : r ≤ 0
    · rw [if_pos hr0]; exact Int.le_antisymm h0 hr0
    · rw [if_neg hr0, isum, ih hcs' _ (by omega) (by rw [isum] at hr; omega)]
      omega

theorem outChunks_eq_planLoop (sts : List Int) (window : Int) (cs : List Int) (hcs : ∀ c ∈ cs, 0 < c)
    (i0 : Nat) (r : Int) :
    trimLoop r cs = ((slidingPlanLoop sts window i0 r cs).map (·.outLen)).takeWhile (fun v => decide (0 < v)) := by
  induction cs generalizing i0 r with
  | nil => rfl
  | cons c cs ih =>
    have hc := hcs c List.mem_cons_self
    show (if r ≤ 0 then [] else min c r :: trimLoop (r - min c r) cs) = ((slidingEntry sts window i0 c r ::
      slidingPlanLoop sts window (i0 + 1) (r - outLenOf c r) cs).map (·.outLen)).takeWhile _
    simp only [List.map_cons, slidingEntry_outLen]
    by_cases hr : r ≤ 0
    · have : ¬ (0 < outLenOf c r) := by unfold outLenOf; omega
      simp [hr, this]
    · have h1 : 0 < outLenOf c r := by unfold outLenOf; omega
      have h2 : outLenOf c r = min c r := by unfold outLenOf; omega
      simp only [hr, if_false, List.takeWhile_cons, h1, decide_true, if_true]
      rw [← h2, ih (fun x hx => hcs x (List.mem_cons_of_mem c hx))]

theorem supportsMoving_facts (chunks : List Int) (window : Int)
    (h : supportsNativeMoving chunks window = true) :
    1 < window ∧ (∀ c ∈ chunks, 0 < c) ∧ 2 ≤ chunks.length ∧ window ≤ isum chunks ∧
      ∀ c ∈ chunks, c ≤ window - 1 := by
  unfold supportsNativeMoving at h
  obtain ⟨h1, h⟩ := of_ite_false h
  obtain ⟨h2, h⟩ := of_ite_false h
  obtain ⟨h3, h⟩ := of_ite_false h
  rw [decide_eq_true_eq] at h
  exact ⟨by omega, fun c hc => by have := lmin_le chunks c hc; omega, by omega, by omega,
    fun c hc => Int.le_trans (le_lmax chunks c hc) h⟩

theorem movingLoop_get (sts : List Int) (window : Int) (cs : List Int) (i0 k : Nat) :
    (movingPlanLoop sts window i0 cs)[k]? = cs[k]?.map (fun c => movingEntry sts window (i0 + k) c) := by
  induction cs generalizing i0 k with
  | nil => rfl
  | cons c cs ih =>
    cases k with
    | zero => rfl
    | succ k => exact (ih (i0 + 1) k).trans (by rw [Nat.add_right_comm, Nat.add_assoc, List.getElem?_cons_succ])

/-- the clipped left edge `max(0, s + t - W + 1)` of offset `t < c` in a block starting at `s`, in
terms of `band_first`, `n_trunc` and `band_last`. -/
theorem leftEdge_band {s c W t : Int} (ht0 : 0 ≤ t) (ht : t < c) :
    max 0 (s + t - W + 1) = max 0 (s - W + 1) + max 0 (t - max 0 (min c (W - 1 - s))) ∧
    max 0 (s + t - W + 1) ≤ max (max 0 (s - W + 1)) (s + c - W) := by
  refine ⟨?_, Int.max_le.mpr ⟨Int.le_trans (Int.le_max_left 0 _) (Int.le_max_left _ _),
    Int.le_trans (by omega) (Int.le_max_right _ _)⟩⟩
  by_cases h : s - W + 1 ≤ 0
  · -- the block starts inside the first window: the first `n_trunc` left edges are clipped to `0`
    have hc0 : 0 ≤ c := Int.le_of_lt (Int.lt_of_le_of_lt ht0 ht)
    rw [Int.max_eq_left h, Int.zero_add, Int.max_eq_right (Int.le_min.mpr ⟨hc0, by omega⟩)]
    by_cases hc : c ≤ W - 1 - s
    · rw [Int.min_eq_left hc, Int.max_eq_left (by omega), Int.max_eq_left (by omega)]
    · rw [Int.min_eq_right (Int.le_of_not_le hc)]; congr 1; omega
  · rw [Int.max_eq_right (Int.le_of_not_le h), Int.max_eq_left (Int.le_trans (Int.min_le_right c _) (by omega)),
      Int.sub_zero, Int.max_eq_right ht0, Int.max_eq_right (by omega)]
    omega

/-- the first block has no band and no middle run: every left edge is clipped to `0` -/
structure MFirstOK (chunks : List Int) (window : Int) (i : Nat) (m : MPlan) : Prop where
  g_none : m.g = none
  h_none : m.h = none
  midLo_eq : m.midLo = 0
  midHi_eq : m.midHi = 0
  edge : ∀ t, 0 ≤ t → t < m.c → leftEdge chunks window i t = 0

/-- a later block whose band is the blocks `g … h`: the left edge of offset `t` is band position
`band_offset + max(0, t - n_trunc)`, inside the band -/
structure MBandOK (chunks : List Int) (window : Int) (i : Nat) (m : MPlan) (g h : Nat) : Prop where
  g_eq : m.g = some (g : Int)
  h_eq : m.h = some (h : Int)
  g_le_h : g ≤ h
  h_lt_i : h < i
  midLo_eq : m.midLo = h + 1
  midHi_eq : m.midHi = i
  off_nonneg : 0 ≤ m.bandOffset
  trunc_nonneg : 0 ≤ m.nTrunc
  trunc_le : m.nTrunc ≤ m.c
  edge : ∀ t, 0 ≤ t → t < m.c →
    leftEdge chunks window i t = blockStart chunks g + m.bandOffset + max 0 (t - m.nTrunc)
  edge_lt : ∀ t, 0 ≤ t → t < m.c → leftEdge chunks window i t < blockStart chunks (h + 1)

/-- a row of the moving-window plan for block `i`: the block itself, and the band of earlier blocks that holds its left edges -/
structure MPlanOK (chunks : List Int) (window : Int) (i : Nat) (m : MPlan) : Prop where
  start_eq : m.start = blockStart chunks i
  c_eq : m.c = chunks.getD i 0
  first : i = 0 → MFirstOK chunks window i m
  rest : 0 < i → ∃ g h : Nat, MBandOK chunks window i m g h

theorem movingPlan_ok (chunks : List Int) (window : Int)
    (hsup : supportsNativeMoving chunks window = true) (i : Nat) (hi : i < chunks.length) :
    ∃ m, (movingBlockPlan chunks window)[i]? = some m ∧ MPlanOK chunks window i m := by
  obtain ⟨hw, hpos, hlen, hn, hmax⟩ := supportsMoving_facts chunks window hsup
  unfold movingBlockPlan
  rw [movingLoop_get, List.getElem?_eq_getElem hi, Option.map_some, Nat.zero_add]
  refine ⟨_, rfl, ?_⟩
  have hci := (getD_eq_getElem chunks _ 0 hi).symm
  have hcpos := hpos _ (List.getElem_mem hi)
  have hcmax := hmax _ (List.getElem_mem hi)
  unfold movingEntry
  dsimp only
  rw [starts_pyGet chunks i (Nat.le_of_lt hi)]
  by_cases hi0 : i = 0
  · subst hi0
    rw [blockStart_eq, Layout.start_zero, if_pos rfl]
    refine ⟨rfl, hci, fun _ => ⟨rfl, rfl, rfl, rfl, fun t ht0 ht => ?_⟩, fun h => absurd h (Nat.lt_irrefl 0)⟩
    unfold leftEdge
    rw [blockStart_eq, Layout.start_zero]
    dsimp only at ht
    exact Int.max_eq_left (by omega)
  · have hipos := Nat.pos_of_ne_zero hi0
    have hnn := Nonneg.of_pos hpos
    have hSpos : 0 < blockStart chunks i := Layout.start_lt_start hpos hipos (Nat.le_of_lt hi)
    rw [if_neg (Int.ne_of_gt hSpos)]
    -- `band_last` lies before block `i` because `c_i ≤ W - 1`
    have hlast : max (max 0 (blockStart chunks i - window + 1)) (blockStart chunks i + chunks[i] - window)
        < blockStart chunks i := Int.max_lt.mpr ⟨Int.max_lt.mpr ⟨hSpos, by omega⟩, by omega⟩
    have hsum := Int.lt_of_lt_of_le hlast (Layout.start_le_sum hnn i)
    obtain ⟨g, hG⟩ := Layout.exists_inBlock chunks (Int.le_max_left _ _) (Int.lt_of_le_of_lt (Int.le_max_left _ _) hsum)
    obtain ⟨h, hH⟩ := Layout.exists_inBlock chunks (Int.le_trans (Int.le_max_left _ _) (Int.le_max_left _ _)) hsum
    have hgh := hG.mono hnn hH (Int.le_max_left _ _)
    have hhl := hH.lt
    rw [starts_bisect hnn hG, starts_bisect hnn hH, starts_pyGet chunks g (Nat.le_of_lt (Nat.lt_of_le_of_lt hgh hhl))]
    have hhi : h < i := Layout.lt_of_start_lt hnn (Int.lt_of_le_of_lt hH.start_le hlast)
    refine ⟨rfl, hci, fun h0 => absurd h0 hi0, fun _ => ⟨g, h, rfl, rfl, hgh, hhi, rfl, rfl,
      Int.sub_nonneg_of_le hG.start_le, Int.le_max_left _ _,
      Int.max_le.mpr ⟨Int.le_of_lt hcpos, Int.min_le_left _ _⟩, fun t ht0 ht => ?_, fun t ht0 ht => ?_⟩⟩
    · unfold leftEdge
      rw [(leftEdge_band (s := blockStart chunks i) (W := window) ht0 ht).1, Int.add_comm (blockStart chunks g),
        Int.sub_add_cancel]
    · exact Int.lt_of_le_of_lt (leftEdge_band (s := blockStart chunks i) (W := window) ht0 ht).2 hH.lt_next

theorem movingPlan_tiles (chunks : List Int) (window : Int)
    (hsup : supportsNativeMoving chunks window = true) (x : List α)
    (i : Nat) (hi : i < chunks.length) (m : MPlan)
    (hm : (movingBlockPlan chunks window)[i]? = some m) (t : Int) (ht0 : 0 ≤ t) (ht : t < m.c) :
    (movingBand chunks x m).drop (m.bandOffset + max 0 (t - m.nTrunc)).toNat
        ++ (blocksRange chunks x m.midLo.toNat m.midHi.toNat).flatten
        ++ slice x (blockStart chunks i) (blockStart chunks i + t + 1)
      = slice x (leftEdge chunks window i t) (blockStart chunks i + t + 1)
    ∧ blockStart chunks i + t + 1 ≤ isum chunks := by
  obtain ⟨m', hm', ok⟩ := movingPlan_ok chunks window hsup i hi
  rw [hm] at hm'
  cases hm'
  obtain ⟨-, hpos, -, -, -⟩ := supportsMoving_facts chunks window hsup
  have hnn := Nonneg.of_pos hpos
  have hSle : blockStart chunks (i + 1) ≤ isum chunks := Layout.start_le_sum hnn (i + 1)
  rw [blockStart_succ chunks i hi, ← getD_eq_getElem chunks _ 0 hi, ← ok.c_eq] at hSle
  refine ⟨?_, by omega⟩
  by_cases hi0 : i = 0
  · have first := ok.first hi0
    rw [first.edge t ht0 ht]
    subst hi0
    simp only [movingBand, first.g_none, first.h_none, first.midLo_eq, first.midHi_eq, blocksRange, blockStart_eq, Layout.start_zero, List.drop_nil, Int.toNat_zero, Nat.sub_self,
      List.range'_zero, List.map_nil, List.flatten_nil, List.append_nil, List.nil_append]
  · obtain ⟨g, h, band⟩ := ok.rest (Nat.pos_of_ne_zero hi0)
    have hL1 := band.edge t ht0 ht
    have hL2 := band.edge_lt t ht0 ht
    have hhi := band.h_lt_i
    have hil := Nat.le_of_lt hi
    have hhl : h + 1 ≤ chunks.length := Nat.le_trans hhi hil
    have hgh' : g ≤ h + 1 := Nat.le_succ_of_le band.g_le_h
    have hL0 : 0 ≤ leftEdge chunks window i t := Int.le_max_left _ _
    have hhi1 : h + 1 ≤ i := hhi
    rw [band.midLo_eq, band.midHi_eq, ← Int.natCast_add_one]
    simp only [movingBand, band.g_eq, band.h_eq, Int.toNat_natCast]
    rw [blocksRange_flatten chunks hpos x hgh', blocksRange_flatten chunks hpos x hhi1,
      slice_drop x (a := blockStart chunks g) (Layout.start_nonneg hnn g) (Int.add_nonneg band.off_nonneg (Int.le_max_left _ _)), ← Int.add_assoc, ← hL1]
    exact slice_append3 x hL0 (Int.le_of_lt hL2) (Layout.start_mono hnn hhi1)
      (Int.le_add_one (Int.le_add_of_nonneg_right ht0))

/-- `_moving_window_banded_reduce`, position `t`, for an associative `op` (the ufunc on values,
`+` on the valid-counts plane): `prefix_scan[t] ⊕ totals(middle) ⊕ band_suffix[…]`, written in
window order, is the reduction of the clipped trailing window. -/
theorem movingPlan_correct {op : α → α → α} (hop : Assoc op) (chunks : List Int) (window : Int)
    (hsup : supportsNativeMoving chunks window = true) (x : List α)
    (i : Nat) (hi : i < chunks.length) (m : MPlan)
    (hm : (movingBlockPlan chunks window)[i]? = some m) (t : Int) (ht0 : 0 ≤ t) (ht : t < m.c) :
    oop op
      ((blocksRange chunks x m.midLo.toNat m.midHi.toNat).foldl (fun a blk => oop op a (ofold op blk))
        (ofold op ((movingBand chunks x m).drop (m.bandOffset + max 0 (t - m.nTrunc)).toNat)))
      (ofold op (slice x (blockStart chunks i) (blockStart chunks i + t + 1)))
    = ofold op (slice x (leftEdge chunks window i t) (blockStart chunks i + t + 1)) := by
  rw [Dask.Lemmas.Scan.ofold_pieces hop, (movingPlan_tiles chunks window hsup x i hi m hm t ht0 ht).1]

theorem padWrap_range {n q : Int} (h1 : -n ≤ q) (h2 : q < 2 * n) : 0 ≤ padWrap n q ∧ padWrap n q < n := by
  unfold padWrap
  by_cases hq : q < 0
  · rw [if_pos hq]; omega
  · rw [if_neg hq]; by_cases hn : q ≥ n
    · rw [if_pos hn]; omega
    · rw [if_neg hn]; omega

theorem padSymmetric_range {n q : Int} (h1 : -n ≤ q) (h2 : q < 2 * n) :
    0 ≤ padSymmetric n q ∧ padSymmetric n q < n := by
  unfold padSymmetric
  by_cases hq : q < 0
  · rw [if_pos hq]; omega
  · rw [if_neg hq]; by_cases hn : q ≥ n
    · rw [if_pos hn]; omega
    · rw [if_neg hn]; omega

theorem padEdge_range {n : Int} (hn : 0 < n) (q : Int) : 0 ≤ padEdge n q ∧ padEdge n q < n :=
  ⟨Int.le_max_left _ _, Int.max_lt.mpr ⟨hn, by have := Int.min_le_left (n - 1) q; omega⟩⟩

theorem boundarySrc_regions (kind : Boundary) (n depth p : Int) :
    (0 ≤ p - depth ∧ p - depth < n ∧ boundarySrc kind n depth p = some (p - depth)) ∨
    (p - depth < 0 ∧ boundarySrc kind n depth p = match kind with
      | .periodic => some (n - depth + p) | .reflect => some (depth - 1 - p) | .nearest => some 0 | .constant => none) ∨
    (0 ≤ p - depth ∧ p - depth ≥ n ∧ boundarySrc kind n depth p = match kind with
      | .periodic => some (p - depth - n) | .reflect => some (n - 1 - (p - depth - n)) | .nearest => some (n - 1)
      | .constant => none) := by
  unfold boundarySrc
  by_cases h1 : depth ≤ p ∧ p < depth + n
  · rw [if_pos h1]; exact .inl ⟨by omega, by omega, rfl⟩
  · rw [if_neg h1]
    by_cases h2 : p < depth
    · rw [if_pos h2]; exact .inr (.inl ⟨by omega, rfl⟩)
    · rw [if_neg h2]; exact .inr (.inr ⟨by omega, by omega, rfl⟩)

theorem boundarySrc_periodic (n depth p : Int) :
    boundarySrc .periodic n depth p = some (padWrap n (p - depth)) := by
  unfold padWrap
  rcases boundarySrc_regions .periodic n depth p with ⟨h1, h2, e⟩ | ⟨h1, e⟩ | ⟨h1, h2, e⟩
  · rw [e, if_neg (Int.not_lt.mpr h1), if_neg (Int.not_le.mpr h2)]
  · rw [e, if_pos h1]; dsimp only; congr 1; omega
  · rw [e, if_neg (Int.not_lt.mpr h1), if_pos h2]

theorem boundarySrc_reflect (n depth p : Int) :
    boundarySrc .reflect n depth p = some (padSymmetric n (p - depth)) := by
  unfold padSymmetric
  rcases boundarySrc_regions .reflect n depth p with ⟨h1, h2, e⟩ | ⟨h1, e⟩ | ⟨h1, h2, e⟩
  · rw [e, if_neg (Int.not_lt.mpr h1), if_neg (Int.not_le.mpr h2)]
  · rw [e, if_pos h1]; dsimp only; congr 1; omega
  · rw [e, if_neg (Int.not_lt.mpr h1), if_pos h2]; dsimp only; congr 1; omega

theorem boundarySrc_nearest (n depth p : Int) (hn : 0 < n) :
    boundarySrc .nearest n depth p = some (padEdge n (p - depth)) := by
  unfold padEdge
  rcases boundarySrc_regions .nearest n depth p with ⟨h1, h2, e⟩ | ⟨h1, e⟩ | ⟨h1, h2, e⟩
  · rw [e, Int.min_eq_right (by omega), Int.max_eq_right h1]
  · rw [e, Int.min_eq_right (by omega), Int.max_eq_left (Int.le_of_lt h1)]
  · rw [e, Int.min_eq_left (by omega), Int.max_eq_right (by omega)]

theorem boundarySrc_constant (n depth p : Int) :
    boundarySrc .constant n depth p = (if 0 ≤ p - depth ∧ p - depth < n then some (p - depth) else none) := by
  rcases boundarySrc_regions .constant n depth p with ⟨h1, h2, e⟩ | ⟨h1, e⟩ | ⟨h1, h2, e⟩
  · rw [e, if_pos ⟨h1, h2⟩]
  · rw [e, if_neg (fun h => Int.not_lt.mpr h.1 h1)]
  · rw [e, if_neg (fun h => Int.not_lt.mpr h2 h.2)]

theorem trimInternalChunks_length (bd : List Int) (l r : Int) (bn : Bool) :
    (trimInternalChunks bd l r bn).length = bd.length := by
  simp [trimInternalChunks]

theorem overlapInternalChunks_concat (b0 : Int) (mid : List Int) (last l r : Int) :
    overlapInternalChunks (b0 :: (mid ++ [last])) l r
      = (b0 + r) :: (mid.map (· + l + r) ++ [last + l]) := by
  unfold overlapInternalChunks
  cases hm : mid ++ [last] with
  | nil => simp at hm
  | cons a as =>
    simp only []
    rw [← hm, List.dropLast_concat, List.getLastD_concat]
    rfl

end Dask.Lemmas.Window
