/-
Lemmas for Model/RecordKeys.lean, part 1: `_norm_key` (canonical, `==`-preserving, the identity on canonical
keys; idempotent on a component, `Comp.norm_idem` — for whole keys that is `C21k_normalize_idem` in
Props/C21Keys.lean); a canonical key is read back from its Python value (`ofVal_val`), so `==` is `=` there;
and `str(key)`, injective on canonical keys whose strings are made of name characters: a rendered component
then contains no `,`, space or parenthesis (`tokC`), so a rendered tuple splits at its separators in one way
only (`split_unique`).
-/
import DaskArrayModel.Model.RecordKeys
namespace Dask.Lemmas.RecordKeys
open Dask.RecordKeys

namespace Comp

theorem canon_cases {c : Comp} (h : c.canon = true) :
    (∃ v, c = .int .py v) ∨ ∃ s, c = .str false s := by
  cases c with
  | int k v =>
    cases k with
    | py => exact Or.inl ⟨v, rfl⟩
    | np nm => cases h
  | bool np b => cases h
  | str np s =>
    cases np with
    | false => exact Or.inr ⟨s, rfl⟩
    | true => cases h

theorem norm_cases (c : Comp) :
    (∃ v, c.norm = .int .py v) ∨ (c.norm = c ∧ c.isIntegral = false) := by
  cases c with
  | int k v => left; exact ⟨v, by simp [Comp.norm, Comp.isIntegral, Comp.toInt]⟩
  | bool np b => cases np <;> simp [Comp.norm, Comp.isIntegral]
  | str np s => right; simp [Comp.norm, Comp.isIntegral]

theorem norm_idem (c : Comp) : c.norm.norm = c.norm := by
  rcases norm_cases c with ⟨v, h⟩ | ⟨h, _⟩
  · rw [h]; rfl
  · rw [h, h]

theorem canon_norm (c : Comp) (h : c.canon = true) : c.norm = c := by
  rcases canon_cases h with ⟨v, rfl⟩ | ⟨s, rfl⟩
  · rfl
  · rfl

theorem norm_val (c : Comp) : c.norm.val = c.val := by
  cases c with
  | int k v => simp [Comp.norm, Comp.isIntegral, Comp.toInt, Comp.val]
  | bool np b => cases np <;> simp [Comp.norm, Comp.isIntegral, Comp.toInt, Comp.val]
  | str np s => simp [Comp.norm, Comp.isIntegral]

theorem norm_canon (c : Comp) (h : c.normalizable = true) : c.norm.canon = true := by
  cases c with
  | int k v => simp [Comp.norm, Comp.isIntegral, Comp.canon]
  | bool np b => cases np <;> simp_all [Comp.norm, Comp.isIntegral, Comp.canon, Comp.normalizable]
  | str np s => cases np <;> simp_all [Comp.norm, Comp.isIntegral, Comp.canon, Comp.normalizable]

/-- the canonical component with a given Python value -/
def ofVal : Int ⊕ String → Comp
  | .inl v => .int .py v
  | .inr s => .str false s

theorem ofVal_val {c : Comp} (h : c.canon = true) : ofVal c.val = c := by
  rcases canon_cases h with ⟨v, rfl⟩ | ⟨s, rfl⟩
  · rfl
  · rfl

end Comp

theorem normalize_val (k : PKey) : (normalize k).val = k.val := by
  cases k with
  | bare np s => rfl
  | tup cs => simp [normalize, PKey.val, List.map_map, Function.comp_def, Comp.norm_val]

theorem normalize_canon (k : PKey) (h : k.normalizable = true) : (normalize k).canon = true := by
  cases k with
  | bare np s => simpa [normalize, PKey.canon, PKey.normalizable] using h
  | tup cs =>
    simp only [PKey.normalizable, List.all_eq_true] at h
    simp only [normalize, PKey.canon, List.all_eq_true, List.mem_map]
    rintro c ⟨d, hd, rfl⟩
    exact Comp.norm_canon d (h d hd)

theorem canon_normalize (k : PKey) (h : k.canon = true) : normalize k = k := by
  cases k with
  | bare np s => rfl
  | tup cs =>
    simp only [PKey.canon, List.all_eq_true] at h
    exact congrArg PKey.tup ((List.map_congr_left fun c hc => Comp.canon_norm c (h c hc)).trans (List.map_id cs))

/-- the canonical key with a given Python value -/
def ofVal : String ⊕ List (Int ⊕ String) → PKey
  | .inl s => .bare false s
  | .inr vs => .tup (vs.map Comp.ofVal)

theorem ofVal_val {k : PKey} (h : k.canon = true) : ofVal k.val = k := by
  cases k with
  | bare np s =>
    cases np with
    | false => rfl
    | true => cases h
  | tup cs =>
    simp only [PKey.canon, List.all_eq_true] at h
    exact congrArg PKey.tup ((List.map_map ..).trans
      ((List.map_congr_left fun c hc => Comp.ofVal_val (h c hc)).trans (List.map_id cs)))

theorem val_inj {a b : PKey} (ha : a.canon = true) (hb : b.canon = true) (h : a.val = b.val) : a = b := by
  rw [← ofVal_val ha, h, ofVal_val hb]

theorem natChars_inj {a b : Nat} (h : natChars a = natChars b) : a = b := by
  have ha := @Nat.ofDigitChars_ten_toDigits a
  have hb := @Nat.ofDigitChars_ten_toDigits b
  simp only [natChars] at h
  rw [h] at ha
  omega

theorem natChars_ne_nil (a : Nat) : natChars a ≠ [] := Nat.toDigits_ne_nil

theorem natChars_digit {a : Nat} {c : Char} (h : c ∈ natChars a) : c.isDigit = true :=
  Nat.isDigit_of_mem_toDigits (by decide) (by decide) h

theorem intChars_inj {a b : Int} (h : intChars a = intChars b) : a = b := by
  cases a with
  | ofNat m =>
    cases b with
    | ofNat n => simp only [intChars] at h; rw [natChars_inj h]
    | negSucc n =>
      simp only [intChars] at h
      have : '-' ∈ natChars m := by rw [h]; simp
      exact absurd (natChars_digit this) (by decide)
  | negSucc m =>
    cases b with
    | ofNat n =>
      simp only [intChars] at h
      have : '-' ∈ natChars n := by rw [← h]; simp
      exact absurd (natChars_digit this) (by decide)
    | negSucc n =>
      simp only [intChars, List.cons.injEq, true_and] at h
      have := natChars_inj h
      have : m = n := by omega
      rw [this]

/-- characters of a rendered canonical component -/
def tokC (c : Char) : Bool := isNameChar c || c = '\''

theorem digit_name {c : Char} (h : c.isDigit = true) : isNameChar c = true := by
  simp only [isNameChar, Char.isAlphanum, h, Bool.or_true, Bool.true_or]

theorem intChars_mem {a : Int} {c : Char} (h : c ∈ intChars a) : c.isDigit = true ∨ c = '-' := by
  cases a with
  | ofNat m => exact Or.inl (natChars_digit h)
  | negSucc m => exact (List.mem_cons.mp h).symm.imp natChars_digit id

theorem intChars_tok {a : Int} {c : Char} (h : c ∈ intChars a) : tokC c = true := by
  rcases intChars_mem h with h | rfl
  · simp [tokC, digit_name h]
  · decide

theorem intChars_no_quote (a : Int) : '\'' ∉ intChars a := fun h => by
  rcases intChars_mem h with h | h
  · exact absurd h (by decide)
  · exact absurd h (by decide)

namespace Comp

theorem chars_tok {c : Comp} (hc : c.canon = true) (hp : c.plain = true) :
    ∀ x ∈ c.chars, tokC x = true := by
  rcases Comp.canon_cases hc with ⟨v, rfl⟩ | ⟨s, rfl⟩
  · exact fun x hx => intChars_tok hx
  · simp only [Comp.plain, List.all_eq_true] at hp
    intro x hx
    simp only [Comp.chars, List.mem_cons, List.mem_append, List.mem_nil_iff, or_false] at hx
    rcases hx with rfl | hx | rfl
    · decide
    · simp [tokC, hp x hx]
    · decide

theorem chars_inj {c d : Comp} (hc : c.canon = true) (hd : d.canon = true)
    (h : c.chars = d.chars) : c = d := by
  rcases Comp.canon_cases hc with ⟨v, rfl⟩ | ⟨s, rfl⟩ <;> rcases Comp.canon_cases hd with ⟨w, rfl⟩ | ⟨t, rfl⟩
  · rw [intChars_inj h]
  · -- a rendered string starts with a quote, a rendered int has none
    have h' : intChars v = '\'' :: (t.toList ++ ['\'']) := h
    exact (intChars_no_quote v (h' ▸ List.mem_cons_self)).elim
  · have h' : '\'' :: (s.toList ++ ['\'']) = intChars w := h
    exact (intChars_no_quote w (h' ▸ List.mem_cons_self)).elim
  · simp only [Comp.chars, List.cons.injEq, true_and] at h
    rw [String.toList_inj.mp (List.append_cancel_right h)]

end Comp

/-- `a` is the longest prefix of token characters, so a rendered component ends where its separator stands -/
theorem split_unique {a b r r' : List Char} {s s' : Char}
    (ha : ∀ x ∈ a, tokC x = true) (hb : ∀ x ∈ b, tokC x = true)
    (hs : tokC s = false) (hs' : tokC s' = false)
    (h : a ++ s :: r = b ++ s' :: r') : a = b ∧ s = s' ∧ r = r' := by
  have ht := congrArg (List.takeWhile tokC) h
  have hd := congrArg (List.dropWhile tokC) h
  rw [List.takeWhile_append_of_pos ha, List.takeWhile_append_of_pos hb,
    List.takeWhile_cons_of_neg (Bool.eq_false_iff.mp hs), List.takeWhile_cons_of_neg (Bool.eq_false_iff.mp hs'),
    List.append_nil, List.append_nil] at ht
  rw [List.dropWhile_append_of_pos ha, List.dropWhile_append_of_pos hb,
    List.dropWhile_cons_of_neg (Bool.eq_false_iff.mp hs), List.dropWhile_cons_of_neg (Bool.eq_false_iff.mp hs')] at hd
  exact ⟨ht, List.cons.inj hd⟩

theorem tailChars_head (cs : List Comp) : ∃ s r, tailChars cs = s :: r ∧ tokC s = false := by
  cases cs with
  | nil => exact ⟨')', [], rfl, by decide⟩
  | cons c cs => exact ⟨',', _, rfl, by decide⟩

theorem tailChars_inj {cs ds : List Comp}
    (hc : ∀ c ∈ cs, c.canon = true ∧ c.plain = true) (hd : ∀ c ∈ ds, c.canon = true ∧ c.plain = true)
    (h : tailChars cs = tailChars ds) : cs = ds := by
  induction cs generalizing ds with
  | nil =>
    cases ds with
    | nil => rfl
    | cons d ds => simp [tailChars] at h
  | cons c cs ih =>
    cases ds with
    | nil => simp [tailChars] at h
    | cons d ds =>
      simp only [tailChars, List.cons_append, List.nil_append, List.cons.injEq, true_and] at h
      obtain ⟨s, r, e1, hs⟩ := tailChars_head cs
      obtain ⟨s', r', e2, hs'⟩ := tailChars_head ds
      rw [e1, e2] at h
      obtain ⟨h1, h2, h3⟩ := split_unique (Comp.chars_tok (hc c (by simp)).1 (hc c (by simp)).2)
        (Comp.chars_tok (hd d (by simp)).1 (hd d (by simp)).2) hs hs' h
      have ht : tailChars cs = tailChars ds := by rw [e1, e2, h2, h3]
      rw [Comp.chars_inj (hc c (by simp)).1 (hd d (by simp)).1 h1,
        ih (fun x hx => hc x (by simp [hx])) (fun x hx => hd x (by simp [hx])) ht]

/-- what follows `first component,` in a tuple key: `)` for a 1-tuple, else ` second, …)` -/
def afterFirst : List Comp → List Char
  | [] => [')']
  | d :: ds => ' ' :: (d.chars ++ tailChars ds)

theorem tupChars_eq (c : Comp) (cs : List Comp) :
    keyChars (.tup (c :: cs)) = '(' :: (c.chars ++ ',' :: afterFirst cs) := by
  cases cs with
  | nil => simp [keyChars, afterFirst]
  | cons d ds => simp [keyChars, tailChars, afterFirst]

theorem tailChars_of_afterFirst {cs ds : List Comp} (h : afterFirst cs = afterFirst ds) :
    tailChars cs = tailChars ds := by
  cases cs with
  | nil =>
    cases ds with
    | nil => rfl
    | cons d ds => exact absurd (List.cons.inj h).1 (by decide)
  | cons c cs =>
    cases ds with
    | nil => exact absurd (List.cons.inj h).1 (by decide)
    | cons d ds => exact congrArg (',' :: ·) h

theorem paren_mem (cs : List Comp) : '(' ∈ keyChars (.tup cs) := by
  cases cs with
  | nil => exact List.mem_cons_self
  | cons c cs => rw [tupChars_eq]; exact List.mem_cons_self

theorem bare_ne_tup {s : String} (hs : s.toList.all isNameChar = true) (ds : List Comp) :
    s.toList ≠ keyChars (.tup ds) :=
  fun h => absurd (List.all_eq_true.mp hs _ (h ▸ paren_mem ds)) (by decide)

theorem tup_nil_ne_cons {d : Comp} (ds : List Comp) (hd : d.canon = true) (pd : d.plain = true) :
    keyChars (.tup []) ≠ keyChars (.tup (d :: ds)) := by
  intro h
  rw [tupChars_eq] at h
  simp only [keyChars, List.cons.injEq, true_and] at h
  obtain ⟨_, hsep, _⟩ := split_unique (a := []) (by simp) (Comp.chars_tok hd pd) (by decide) (by decide) h
  exact absurd hsep (by decide)

theorem keyChars_inj {a b : PKey} (ha : a.canon = true) (hb : b.canon = true)
    (pa : a.plain = true) (pb : b.plain = true) (h : keyChars a = keyChars b) : a = b := by
  cases a with
  | bare np s =>
    cases b with
    | bare np' t =>
      cases np <;> cases np' <;> simp_all [PKey.canon, keyChars, String.toList_inj]
    | tup ds => exact absurd h (bare_ne_tup pa ds)
  | tup cs =>
    cases b with
    | bare np' t => exact absurd h.symm (bare_ne_tup pb cs)
    | tup ds =>
      simp only [PKey.canon, PKey.plain, List.all_eq_true] at ha hb pa pb
      cases cs with
      | nil =>
        cases ds with
        | nil => rfl
        | cons d ds => exact absurd h (tup_nil_ne_cons ds (hb d (by simp)) (pb d (by simp)))
      | cons c cs =>
        cases ds with
        | nil => exact absurd h.symm (tup_nil_ne_cons cs (ha c (by simp)) (pa c (by simp)))
        | cons d ds =>
          rw [tupChars_eq, tupChars_eq] at h
          simp only [List.cons.injEq, true_and] at h
          obtain ⟨h1, _, h3⟩ := split_unique (Comp.chars_tok (ha c (by simp)) (pa c (by simp)))
            (Comp.chars_tok (hb d (by simp)) (pb d (by simp))) (by decide) (by decide) h
          have hcd := Comp.chars_inj (ha c (by simp)) (hb d (by simp)) h1
          have := tailChars_inj (fun x hx => ⟨ha x (by simp [hx]), pa x (by simp [hx])⟩)
            (fun x hx => ⟨hb x (by simp [hx]), pb x (by simp [hx])⟩) (tailChars_of_afterFirst h3)
          rw [hcd, this]

theorem keyStr_inj {a b : PKey} (ha : a.canon = true) (hb : b.canon = true)
    (pa : a.plain = true) (pb : b.plain = true) (h : keyStr a = keyStr b) : a = b :=
  keyChars_inj ha hb pa pb (String.ofList_injective h)

theorem keyStr_bare (np : Bool) (s : String) : keyStr (.bare np s) = s := by
  simp [keyStr, keyChars]

end Dask.Lemmas.RecordKeys
