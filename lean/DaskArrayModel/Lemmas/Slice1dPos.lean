/-
Positive-step half of the `_slice_1d` partition property: the per-block plan reads, block by block in ascending block
order, exactly the positions selected by the slice.  `selIn S E c lo len` is what `S : E : c` selects inside the
interval `[lo, lo + len)`; intervals concatenate, and the blocks outside the two `bisect` positions select nothing
(`region`).  The loop is right from the head of any block and from any running start at or after that head
(`loopPos_spec`, as `loopNeg_spec` on the other side): what it has still to read is the progression that begins at the
running start, and a block that emits hands over the first entry after it.

`RawPlan` is the statement each half proves about the entries its loop emits (put to use at the end of Slice1dNeg).
Its `entries` field carries the `new_blockdim` half: `entryLen` is what `new_blockdim` computes for one entry, the loop
proof shows that it measures the entry rightly, and `RawPlan.lengths` / `newBlockdim_eq_planLengths_pos` assemble it.

Also here, for either sign of the step: the bridge from `blockStart` to `Layout.start`, the integer index
(`slice1dInt_eq`, `slice1dInt_inBlock`), and `sel` of `slice(None)` and of the two written-out slices `finish` knows.
-/
import DaskArrayModel.Model.SliceSpec
import DaskArrayModel.Lemmas.SliceRange
import DaskArrayModel.Lemmas.Progression
import DaskArrayModel.Lemmas.Layout
import DaskArrayModel.Lemmas.ListBasic
namespace Dask.Lemmas.Slice1dPos
open Dask.Py Dask.Py.PySlice Dask.Slicing Dask.Lemmas.Progression
open Dask.Lemmas.SliceAlgebra (normalizeSlice_stp normalizeSlice_start_pos normalizeSlice_stop_pos
  normalizeSlice_step_pos istart_pos_bounds istop_pos_bounds sel_inside)

theorem mult_in_window {q s c : Int} (hq : 0 ≤ q) (hs : s < c) (h : (q - s) % c = 0) :
    s ≤ q := by
  apply Classical.byContradiction
  intro hlt
  have hlt : q < s := by omega
  have h1 : (q - s + c) % c = (q - s) % c := by simp
  have h2 : (q - s + c) % c = q - s + c := Int.emod_eq_of_lt (by omega) (by omega)
  omega

def selIn (S E c lo len : Int) : List Int :=
  ((List.range len.toNat).map (fun k : Nat => lo + (k : Int))).filter
    (fun p => decide (S ≤ p) && decide (p < E) && decide ((p - S) % c = 0))

theorem mem_selIn {S E c lo len p : Int} :
    p ∈ selIn S E c lo len ↔ lo ≤ p ∧ p < lo + len ∧ S ≤ p ∧ p < E ∧ (p - S) % c = 0 := by
  unfold selIn
  simp only [List.mem_filter, List.mem_map, List.mem_range, Bool.and_eq_true, decide_eq_true_eq]
  constructor
  · rintro ⟨⟨k, hk, rfl⟩, ⟨h1, h2⟩, h3⟩
    exact ⟨by omega, by omega, h1, h2, h3⟩
  · rintro ⟨h1, h2, h3, h4, h5⟩
    exact ⟨⟨(p - lo).toNat, by omega, by omega⟩, ⟨h3, h4⟩, h5⟩

theorem selIn_sorted (S E c lo len : Int) : (selIn S E c lo len).Pairwise (· < ·) := by
  unfold selIn
  apply List.Pairwise.filter
  rw [List.pairwise_map]
  exact List.Pairwise.imp (fun {a b} hab => by omega) List.pairwise_lt_range

theorem selIn_eq_nil {S E c lo len : Int}
    (h : ∀ p, lo ≤ p → p < lo + len → S ≤ p → p < E → (p - S) % c ≠ 0) :
    selIn S E c lo len = [] := by
  apply List.eq_nil_iff_forall_not_mem.2
  intro p hp
  rw [mem_selIn] at hp
  exact h p hp.1 hp.2.1 hp.2.2.1 hp.2.2.2.1 hp.2.2.2.2

theorem selIn_nil_below {S E c lo len : Int} (h : lo + len ≤ S) : selIn S E c lo len = [] :=
  selIn_eq_nil (fun p _ _ _ _ => by omega)

theorem selIn_nil_above {S E c lo len : Int} (h : E ≤ lo ∨ E ≤ S ∨ len ≤ 0) : selIn S E c lo len = [] :=
  selIn_eq_nil (fun p _ _ _ _ => by omega)

theorem selIn_append (S E c lo l1 l2 : Int) (h1 : 0 ≤ l1) (h2 : 0 ≤ l2) :
    selIn S E c lo (l1 + l2) = selIn S E c lo l1 ++ selIn S E c (lo + l1) l2 := by
  apply eq_of_sorted_of_mem_iff
  · exact selIn_sorted ..
  · rw [List.pairwise_append]
    refine ⟨selIn_sorted .., selIn_sorted .., ?_⟩
    intro a ha b hb
    rw [mem_selIn] at ha hb
    omega
  · intro x
    rw [List.mem_append, mem_selIn, mem_selIn, mem_selIn]
    omega

/-- Re-basing the progression at its first entry at or after `lo` changes nothing inside an interval that begins at `lo`:
this and `relStart_next` are what the loop proof turns on. -/
theorem selIn_relStart {S E c lo len : Int} (hc : 0 < c) :
    selIn (relStart S lo c + lo) E c lo len = selIn S E c lo len := by
  unfold relStart
  split
  · rw [Int.sub_add_cancel]
  · have hlt : (S - lo) % c < c := Int.emod_lt_of_pos _ hc
    apply eq_of_sorted_of_mem_iff _ _ (selIn_sorted ..) (selIn_sorted ..)
    intro x
    have e0 : x - ((S - lo) % c + lo) = x - lo - (S - lo) % c := by omega
    have e : (x - lo - (S - lo) % c) % c = (x - S) % c := by
      rw [Int.sub_emod_emod]; congr 1; omega
    rw [mem_selIn, mem_selIn, e0, e]
    constructor
    · intro h; omega
    · rintro ⟨a1, a2, a3, a4, a5⟩
      have := mult_in_window (c := c) (show 0 ≤ x - lo by omega) hlt (e.trans a5)
      exact ⟨a1, a2, by omega, a4, a5⟩

/-- the running start after a block that emits -/
theorem relStart_next {S base len c : Int} (hc : 0 < c) (h : S - base < len) :
    pyMod (S - base - len) c = relStart S (base + len) c := by
  rw [pyMod_pos _ _ hc, relStart, if_neg (by omega), Int.sub_sub]

/-- the entry for the block `[base, base + len)` when the running start `S - base` lies in it: what it reads, and that
`new_blockdim` measures it -/
theorem block_entry {S E c base len : Int} (hc : 0 < c) (h0 : base ≤ S) (h1 : S - base < len)
    (h2 : E - base > 0) (h3 : S ≤ E ∨ S - base < c) :
    (sel ⟨some (S - base), some (min (E - base) len), some c⟩ len).map (· + base) = selIn S E c base len ∧
    ceilDiv (min (E - base) len - (S - base)) c
      = ((sel ⟨some (S - base), some (min (E - base) len), some c⟩ len).length : Int) := by
  rw [sel_inside hc (by omega) (Int.le_min.mpr ⟨by omega, by omega⟩) (Int.min_le_right _ _)]
  refine ⟨?_, ?_⟩
  · apply eq_of_sorted_of_mem_iff
    · exact sorted_map_add _ _ (rangeList_sorted hc)
    · exact selIn_sorted ..
    · intro x
      have e : x - base - (S - base) = x - S := by omega
      rw [mem_map_add, mem_rangeList_pos hc, mem_selIn, e]
      omega
  · rw [length_rangeList]
    exact ceilDiv_rangeLen hc (by omega)

theorem planPositions_nil (L : List Int) : planPositions L [] = [] := rfl

theorem planPositions_cons (L : List Int) (p : Nat × PySlice) (ps : List (Nat × PySlice)) :
    planPositions L (p :: ps)
      = (sel p.2 (L.getD p.1 0)).map (· + blockStart L p.1) ++ planPositions L ps := by
  simp [planPositions]

theorem isum_planLengths (L : List Int) (d : List (Nat × PySlice)) :
    isum (planLengths L d) = ((planPositions L d).length : Int) := by
  induction d with
  | nil => simp [planLengths, planPositions, isum]
  | cons p ps ih =>
    rw [planPositions_cons]
    simp only [planLengths, List.map_cons, isum, List.length_append, List.length_map,
      Int.natCast_add] at ih ⊢
    rw [ih]

/-- the bridge to `Layout`: its `start_*`, `cumsum_*` and `InBlock` lemmas apply to `blockStart` after this rewrite;
the three equations below are the ones used without it -/
theorem blockStart_eq (L : List Int) (k : Nat) : blockStart L k = Layout.start L k := rfl

theorem blockStart_zero (L : List Int) : blockStart L 0 = 0 := rfl

theorem blockStart_succ (L : List Int) (k : Nat) :
    blockStart L (k + 1) = blockStart L k + L.getD k 0 :=
  Layout.start_succ L k

theorem blockStart_cons_succ (x : Int) (xs : List Int) (k : Nat) :
    blockStart (x :: xs) (k + 1) = x + blockStart xs k := rfl

theorem drop_cons_facts {L : List Int} {i : Nat} {len : Int} {rest : List Int}
    (h : L.drop i = len :: rest) :
    L.getD i 0 = len ∧ L.drop (i + 1) = rest ∧ blockStart L (i + 1) = blockStart L i + len := by
  have hget : L[i]? = some len := by
    have := List.getElem?_drop (xs := L) (i := i) (j := 0)
    rw [h] at this
    simpa using this.symm
  have hg : L.getD i 0 = len := by rw [List.getD_eq_getElem?_getD, hget]; rfl
  refine ⟨hg, ?_, hg ▸ blockStart_succ L i⟩
  have : L.drop (i + 1) = (L.drop i).drop 1 := by simp [List.drop_drop]
  rw [this, h]; rfl

theorem bisectLeft_le : ∀ (l : List Int) (x : Int), bisectLeft l x ≤ l.length
  | [], _ => by simp [bisectLeft]
  | y :: ys, x => by
    unfold bisectLeft
    split
    · omega
    · have := bisectLeft_le ys x; simp; omega

theorem sel_colon (n : Int) : sel colon n = rangeList 0 n 1 := by
  simp [sel, colon, istart, istop, stp]

theorem sel_full {n : Int} (hn : 0 ≤ n) : sel ⟨some 0, some n, some 1⟩ n = sel colon n :=
  (sel_inside Int.one_pos (Int.le_refl 0) hn (Int.le_refl n)).trans (sel_colon n).symm

theorem sel_empty {n : Int} (hn : 0 ≤ n) : sel ⟨some 0, some 0, some 1⟩ n = [] :=
  (sel_inside Int.one_pos (Int.le_refl 0) (Int.le_refl 0) hn).trans (rangeList_self 0)

/-- the rewriting step of `finish` on one entry. -/
def fin1 (L : List Int) (p : Nat × PySlice) : Nat × PySlice :=
  if p.2 = ⟨some 0, some (L.getD p.1 0), some 1⟩ then (p.1, colon) else p

theorem finish_nil (L : List Int) : finish L [] = [(0, ⟨some 0, some 0, some 1⟩)] := by
  simp [finish]

theorem finish_ne_nil (L : List Int) (d : List (Nat × PySlice)) (h : d ≠ []) :
    finish L d = d.map (fin1 L) := by
  unfold finish
  have hf : (fun (x : Nat × PySlice) => match x with
      | (k, v) => if v = ⟨some 0, some (L.getD k 0), some 1⟩ then (k, colon) else (k, v))
      = fin1 L := by
    funext ⟨k, v⟩; simp [fin1]
  simp only [hf]
  rw [if_neg]
  simpa using h

theorem fin1_fst (L : List Int) (p : Nat × PySlice) : (fin1 L p).1 = p.1 := by
  unfold fin1; split <;> rfl

theorem fin1_sel {L : List Int} (hl : ∀ c ∈ L, 0 ≤ c) (p : Nat × PySlice) :
    sel (fin1 L p).2 (L.getD p.1 0) = sel p.2 (L.getD p.1 0) := by
  unfold fin1
  split
  · rename_i h
    rw [h]; exact (sel_full (getD_nonneg _ hl _)).symm
  · rfl

theorem planPositions_map_fin1 {L : List Int} (hl : ∀ c ∈ L, 0 ≤ c) :
    ∀ d : List (Nat × PySlice), planPositions L (d.map (fin1 L)) = planPositions L d
  | [] => rfl
  | p :: ps => by
    rw [List.map_cons, planPositions_cons, planPositions_cons, planPositions_map_fin1 hl ps,
      fin1_fst, fin1_sel hl]

theorem planPositions_finish {L : List Int} (hl : ∀ c ∈ L, 0 ≤ c) (d : List (Nat × PySlice)) :
    planPositions L (finish L d) = planPositions L d := by
  by_cases h : d = []
  · subst h
    rw [finish_nil, planPositions_cons, planPositions_nil, sel_empty (getD_nonneg _ hl 0)]
    rfl
  · rw [finish_ne_nil L d h, planPositions_map_fin1 hl]

theorem planLengths_finish {L : List Int} (hl : ∀ c ∈ L, 0 ≤ c) (d : List (Nat × PySlice))
    (h : d ≠ []) : planLengths L (finish L d) = planLengths L d := by
  rw [finish_ne_nil L d h]
  unfold planLengths
  rw [List.map_map]
  apply List.map_congr_left
  intro p _
  simp only [Function.comp, fin1_fst, fin1_sel hl]

theorem map_fst_finish (L : List Int) (d : List (Nat × PySlice)) :
    (finish L d).map (·.1) = if d = [] then [0] else d.map (·.1) := by
  by_cases h : d = []
  · subst h; simp [finish_nil]
  · rw [finish_ne_nil L d h, if_neg h, List.map_map]
    apply List.map_congr_left
    intro p _
    simp [fin1_fst]

theorem sortByKey_of_sorted (l : List (Nat × PySlice)) (h : (l.map (·.1)).Pairwise (· < ·)) : sortByKey l = l :=
  Dask.Py.foldr_ins_sorted (ins := insertByKey) (r := fun p q => p.1 ≤ q.1) (fun _ => rfl) (fun _ _ _ => rfl) l
    ((List.pairwise_map.mp h).imp Nat.le_of_lt)

theorem loopPos_keys (c : Int) : ∀ (lens : List Int) (i : Nat) (start stop : Int),
    ((loopPos c lens i start stop).map (·.1)).Sublist (List.range' i lens.length)
  | [], _, _, _ => by simp [loopPos]
  | len :: rest, i, start, stop => by
    unfold loopPos
    rw [List.length_cons, List.range'_succ]
    split
    · exact (loopPos_keys c rest (i + 1) _ _).cons_cons _
    · exact (loopPos_keys c rest (i + 1) _ _).cons _

theorem slice1d_pos_eq (dim : Int) (L : List Int) (index : PySlice) (c : Int)
    (hcol : index ≠ colon) (hc : 0 < c)
    (hstep : index.step = if c = 1 then none else some c)
    (ha : 0 ≤ index.start.getD 0) (he : 0 ≤ index.stop.getD dim) :
    slice1d dim L index =
      finish L (loopPos c
        ((L.drop (bisectRight (cumsum L) (index.start.getD 0))).take
          (min (bisectLeft (cumsum L) (index.stop.getD dim) + 1) L.length
            - bisectRight (cumsum L) (index.start.getD 0)))
        (bisectRight (cumsum L) (index.start.getD 0))
        (index.start.getD 0 - (if bisectRight (cumsum L) (index.start.getD 0) > 0
          then (cumsum L).getD (bisectRight (cumsum L) (index.start.getD 0) - 1) 0 else 0))
        (index.stop.getD dim - (if bisectRight (cumsum L) (index.start.getD 0) > 0
          then (cumsum L).getD (bisectRight (cumsum L) (index.start.getD 0) - 1) 0 else 0))) := by
  unfold slice1d
  rw [if_neg hcol]
  obtain ⟨st, sp, stp⟩ := index
  simp only at hstep ha he
  subst hstep
  have hc0 : ¬ c = 0 := by omega
  have ha' := Int.not_lt.mpr ha
  have he' := Int.not_lt.mpr he
  -- first the step (`hc0` rules out the `some 0` pattern), then start and stop
  by_cases h1 : c = 1
  · simp only [h1, if_true, Int.zero_lt_one, gt_iff_lt]
    cases st <;> cases sp <;> simp only [Option.getD_some, Option.getD_none] at ha' he' ⊢ <;>
      rw [if_neg ha', if_neg he']
  · simp only [h1, if_false, hc, if_true, gt_iff_lt]
    cases st <;> cases sp <;> simp only [Option.getD_some, Option.getD_none] at ha' he' ⊢ <;>
      rw [if_neg ha', if_neg he']

theorem isum_split (L : List Int) (i k : Nat) :
    isum L = blockStart L i + isum ((L.drop i).take k) + isum ((L.drop i).drop k) := by
  unfold blockStart
  conv => lhs; rw [← List.take_append_drop i L, isum_append,
    ← List.take_append_drop k (L.drop i), isum_append]
  omega

theorem blockStart_istart_le (L : List Int) (a : Int) (ha : 0 ≤ a) :
    blockStart L (bisectRight (cumsum L) a) ≤ a := by
  have hle := bisectRight_le (cumsum L) a
  rw [cumsum_length] at hle
  rw [blockStart_eq, ← Layout.cumsum_pred L hle]
  split
  · exact bisectRight_spec (cumsum L) a _ (by omega)
  · exact ha

theorem slice1dInt_eq (cs : List Int) (p : Int) :
    slice1dInt cs p = (bisectRight (cumsum cs) p, p - blockStart cs (bisectRight (cumsum cs) p)) := by
  have hle := bisectRight_le (cumsum cs) p
  rw [cumsum_length] at hle
  rw [blockStart_eq, ← Layout.cumsum_pred cs hle]
  unfold slice1dInt
  simp only
  congr 1
  split
  · rfl
  · exact (Int.sub_zero p).symm

theorem slice1dInt_inBlock (cs : List Int) {p : Int} (h0 : 0 ≤ p) (h1 : p < isum cs) :
    Layout.InBlock cs p (slice1dInt cs p).1 ∧ (slice1dInt cs p).2 = p - blockStart cs (slice1dInt cs p).1 := by
  rw [slice1dInt_eq]
  exact ⟨Layout.inBlock_bisect cs h0 h1, rfl⟩

/-- The blocks the `step > 0` branch visits for `[a, e)` — from `bisect_right(cum, a)` up to the cut
`bisect_left(cum, e) + 1`, `k` of them — reach `e` or the end of the axis, unless `e ≤ a`. -/
theorem visited_reach (L : List Int) (a e : Int) (k : Nat)
    (hk : min (bisectLeft (cumsum L) e + 1) L.length - bisectRight (cumsum L) a = k) :
    e ≤ blockStart L (bisectRight (cumsum L) a + k) ∨ e ≤ a ∨ L.length ≤ bisectRight (cumsum L) a + k := by
  by_cases hbl : bisectLeft (cumsum L) e + 1 < L.length
  · have hspec := bisectLeft_ge (cumsum L) e (by rw [cumsum_length]; omega)
    rw [Layout.cumsum_getD L (by omega), ← blockStart_eq] at hspec
    by_cases hcase : bisectRight (cumsum L) a ≤ bisectLeft (cumsum L) e + 1
    · rw [show bisectRight (cumsum L) a + k = bisectLeft (cumsum L) e + 1 by omega]
      exact Or.inl hspec
    · -- `bisect_right` beyond the cut: `e ≤ cum[bisect_left] ≤ a`
      have hle := bisectRight_spec (cumsum L) a (bisectLeft (cumsum L) e) (by omega)
      rw [Layout.cumsum_getD L (by omega), ← blockStart_eq] at hle
      exact Or.inr (Or.inl (Int.le_trans hspec hle))
  · exact Or.inr (Or.inr (by omega))

/-- on the whole axis `a : e : c` selects what it selects on the blocks the `step > 0` branch visits -/
theorem region (L : List Int) (a e c : Int) (hl : ∀ x ∈ L, 0 ≤ x) (ha : 0 ≤ a) :
    selIn a e c 0 (isum L)
      = selIn a e c (blockStart L (bisectRight (cumsum L) a))
          (isum ((L.drop (bisectRight (cumsum L) a)).take
            (min (bisectLeft (cumsum L) e + 1) L.length - bisectRight (cumsum L) a))) := by
  have hb0 := blockStart_istart_le L a ha
  have hreach := visited_reach L a e _ rfl
  generalize bisectRight (cumsum L) a = i0 at *
  generalize min (bisectLeft (cumsum L) e + 1) L.length - i0 = k at *
  have hpre : 0 ≤ blockStart L i0 :=
    isum_nonneg _ (fun x hx => hl x (List.mem_of_mem_take hx))
  have hmid : 0 ≤ isum ((L.drop i0).take k) :=
    isum_nonneg _ (fun x hx => hl x (List.mem_of_mem_drop (List.mem_of_mem_take hx)))
  have htail : 0 ≤ isum ((L.drop i0).drop k) :=
    isum_nonneg _ (fun x hx => hl x (List.mem_of_mem_drop (List.mem_of_mem_drop hx)))
  have hnone : e ≤ blockStart L (i0 + k) ∨ e ≤ a ∨ isum ((L.drop i0).drop k) ≤ 0 :=
    hreach.imp_right (Or.imp_right fun hlen => by
      rw [List.drop_drop, List.drop_eq_nil_of_le (by omega)]
      exact Int.le_refl 0)
  have hadd : blockStart L (i0 + k) = blockStart L i0 + isum ((L.drop i0).take k) := Layout.start_add L i0 k
  rw [isum_split L i0 k, selIn_append _ _ _ _ _ _ (by omega) htail,
    selIn_append _ _ _ _ _ _ hpre hmid, selIn_nil_below (by omega), List.nil_append,
    Int.zero_add, ← hadd, Int.zero_add, selIn_nil_above hnone, List.append_nil]

theorem sel_eq_selIn (s : PySlice) (dim : Int) (hd : 0 ≤ dim) (hs : 0 < s.stp) :
    sel s dim = selIn (s.istart dim) (max (s.istart dim) (s.istop dim)) s.stp 0 dim := by
  obtain ⟨a0, a1⟩ := istart_pos_bounds s dim hd hs
  obtain ⟨b0, b1⟩ := istop_pos_bounds s dim hd hs
  unfold sel
  apply eq_of_sorted_of_mem_iff
  · exact rangeList_sorted hs
  · exact selIn_sorted ..
  · intro x
    rw [mem_rangeList_pos hs, mem_selIn]
    omega

theorem colon_block {E base len : Int} (h0 : 0 ≤ base) (h1 : base + len ≤ E) :
    (sel colon len).map (· + base) = selIn 0 E 1 base len := by
  rw [sel_colon]
  apply eq_of_sorted_of_mem_iff
  · exact sorted_map_add _ _ (rangeList_sorted (by omega))
  · exact selIn_sorted ..
  · intro x
    rw [mem_map_add, mem_rangeList_pos (by omega), mem_selIn]
    omega

/-- entries `(j, slice(None))` for consecutive blocks read those blocks whole -/
theorem colon_reads (L : List Int) (E : Int) :
    ∀ (lens : List Int) (i : Nat) (tail : List Int),
      L.drop i = lens ++ tail → (∀ x ∈ lens, 0 ≤ x) → 0 ≤ blockStart L i →
      blockStart L i + isum lens ≤ E →
      planPositions L ((List.range' i lens.length).map (fun j => (j, colon)))
        = selIn 0 E 1 (blockStart L i) (isum lens)
  | [], i, tail, _, _, _, _ => by
    simp [planPositions_nil, isum, selIn]
  | len :: rest, i, tail, hd, hnn, h0, hE => by
    obtain ⟨hg, hd', hb⟩ := drop_cons_facts (rest := rest ++ tail) (by simpa using hd)
    have hlen : 0 ≤ len := hnn len (by simp)
    have hrest : ∀ x ∈ rest, 0 ≤ x := fun x hx => hnn x (by simp [hx])
    have hsum : 0 ≤ isum rest := isum_nonneg _ hrest
    simp only [isum] at hE ⊢
    have ih := colon_reads L E rest (i + 1) tail hd' hrest (by omega) (by omega)
    rw [selIn_append _ _ _ _ _ _ hlen hsum, List.length_cons, List.range'_succ, List.map_cons,
      planPositions_cons, ih, hb]
    simp only [hg]
    rw [colon_block (E := E) h0 (by omega)]

theorem finish_keys (L : List Int) (d : List (Nat × PySlice)) {R : Nat → Nat → Prop}
    (h : (d.map (·.1)).Pairwise R) : ((finish L d).map (·.1)).Pairwise R := by
  rw [map_fst_finish]
  split
  · exact List.pairwise_singleton R 0
  · exact h

theorem colon_facts (s : PySlice) (dim : Int) (hd : 0 ≤ dim) (hs : 0 < s.stp)
    (hcol : normalizeSlice s dim = colon) :
    s.istart dim = 0 ∧ s.istop dim = dim ∧ s.stp = 1 := by
  have h1 := normalizeSlice_stp s dim
  have h2 := normalizeSlice_start_pos s dim hs
  have h3 := normalizeSlice_stop_pos s dim hd hs
  rw [hcol] at h1 h2 h3
  have h1 : (1 : Int) = s.stp := h1
  simp only [colon, Option.getD_none] at h2 h3
  have hb := istop_pos_bounds s dim hd hs
  exact ⟨h2.symm, by omega, h1.symm⟩

/-- the entries the `step > 0` branch emits for the normalized `s`, before `finish`: the loop over the blocks between
the two `bisect` positions. -/
def posPlan (L : List Int) (s : PySlice) : List (Nat × PySlice) :=
  loopPos s.stp
    ((L.drop (bisectRight (cumsum L) (s.istart (isum L)))).take
      (min (bisectLeft (cumsum L) (max (s.istart (isum L)) (s.istop (isum L))) + 1) L.length
        - bisectRight (cumsum L) (s.istart (isum L))))
    (bisectRight (cumsum L) (s.istart (isum L)))
    (s.istart (isum L) - blockStart L (bisectRight (cumsum L) (s.istart (isum L))))
    (max (s.istart (isum L)) (s.istop (isum L)) - blockStart L (bisectRight (cumsum L) (s.istart (isum L))))

theorem slice1d_norm_pos (L : List Int) (s : PySlice) (hl : ∀ c ∈ L, 0 ≤ c) (hs : 0 < s.stp)
    (hcol : normalizeSlice s (isum L) ≠ colon) :
    slice1d (isum L) L (normalizeSlice s (isum L)) = finish L (posPlan L s) := by
  have hd : 0 ≤ isum L := isum_nonneg L hl
  obtain ⟨a0, a1⟩ := istart_pos_bounds s _ hd hs
  have hst := normalizeSlice_start_pos s (isum L) hs
  have hsp := normalizeSlice_stop_pos s (isum L) hd hs
  have hi0 := bisectRight_le (cumsum L) (s.istart (isum L))
  rw [cumsum_length] at hi0
  rw [slice1d_pos_eq (isum L) L _ s.stp hcol hs (normalizeSlice_step_pos s _ hs) (by omega) (by omega), hst, hsp,
    Layout.cumsum_pred L hi0]
  rfl

/-- what `new_blockdim` computes for one plan entry. -/
def entryLen (p : Nat × PySlice) : Int :=
  ceilDiv (p.2.stop.getD 0 - p.2.start.getD 0) (p.2.step.getD 1)

/-- From the head of block `i`, with running variables `S - base` and `E - base`, the loop reads the selected
positions of the blocks it is given, and `new_blockdim` measures each entry rightly.  No closed form of the running
start is carried along: a step that emits re-bases the progression at its first entry after the block
(`selIn_relStart`).  The invariant has three cases: the stop is already passed (`E ≤ blockStart L i`: nothing is left
to read and no block emits), or the running start is at or after the head of block `i` and lies less than one step
after the stop, which is true of `S` itself (`S ≤ E`) and of every re-based start (`relStart_le`); `new_blockdim`
needs the last to measure an entry rightly. -/
theorem loopPos_spec (L : List Int) (c : Int) (hc : 0 < c) :
    ∀ (lens : List Int) (i : Nat) (tail : List Int) (S E : Int),
      L.drop i = lens ++ tail → (∀ x ∈ lens, 0 ≤ x) →
      (E ≤ blockStart L i ∨ (blockStart L i ≤ S ∧ (S ≤ E ∨ S - blockStart L i < c))) →
      planPositions L (loopPos c lens i (S - blockStart L i) (E - blockStart L i))
          = selIn S E c (blockStart L i) (isum lens) ∧
        ∀ p ∈ loopPos c lens i (S - blockStart L i) (E - blockStart L i),
          p.2 ≠ colon ∧ entryLen p = ((sel p.2 (L.getD p.1 0)).length : Int)
  | [], i, tail, S, E, _, _, _ => by
    simp [loopPos, planPositions_nil, isum, selIn]
  | len :: rest, i, tail, S, E, hd, hnn, h => by
    obtain ⟨hg, hd', hb⟩ := drop_cons_facts (rest := rest ++ tail) hd
    have hlen : 0 ≤ len := hnn len List.mem_cons_self
    have hrest : ∀ x ∈ rest, 0 ≤ x := fun x hx => hnn x (List.mem_cons_of_mem _ hx)
    have happ : selIn S E c (blockStart L i) (isum (len :: rest))
        = selIn S E c (blockStart L i) len ++ selIn S E c (blockStart L (i + 1)) (isum rest) := by
      rw [hb]; exact selIn_append _ _ _ _ _ _ hlen (isum_nonneg _ hrest)
    rw [happ]
    unfold loopPos
    by_cases hcond : S - blockStart L i < len ∧ E - blockStart L i > 0
    · obtain ⟨h0, h3⟩ := h.resolve_left (by omega)
      have hle := relStart_le (S := S) (base := blockStart L (i + 1)) hc
      obtain ⟨ih1, ih2⟩ := loopPos_spec L c hc rest (i + 1) tail
        (relStart S (blockStart L (i + 1)) c + blockStart L (i + 1)) E hd' hrest
        (Or.inr ⟨Int.le_add_of_nonneg_left (relStart_nonneg hc), Or.inr (by omega)⟩)
      rw [Int.add_sub_cancel] at ih1 ih2
      rw [selIn_relStart hc] at ih1
      rw [if_pos hcond, relStart_next hc hcond.1, Int.sub_sub, ← hb]
      refine ⟨?_, fun p hp => ?_⟩
      · rw [planPositions_cons, ih1]
        simp only [hg]
        rw [(block_entry hc h0 hcond.1 hcond.2 h3).1]
      · rw [List.mem_cons] at hp
        rcases hp with rfl | hp
        · refine ⟨by simp [colon], ?_⟩
          simp only [entryLen, Option.getD_some, hg]
          exact (block_entry hc h0 hcond.1 hcond.2 h3).2
        · exact ih2 p hp
    · -- a block that does not emit ends at or before `S`, or begins at or after `E`: it holds no selected position,
      -- and `S`, `E` are handed on unchanged, so the invariant at block `i + 1` is the one at block `i`
      rw [if_neg hcond, Int.sub_sub, Int.sub_sub, ← hb,
        selIn_eq_nil (lo := blockStart L i) (len := len) (fun p _ _ _ _ => by omega)]
      exact loopPos_spec L c hc rest (i + 1) tail S E hd' hrest (by omega)

/-- `new_blockdim` on an index other than `slice(None)`: un-rewrite and measure each entry of the plan in output-block
order (the `reverse` of the Python code is the one of `orderedPlan`). -/
theorem newBlockdim_ne_colon (dim : Int) (L : List Int) (idx : PySlice) (h : idx ≠ colon) :
    newBlockdim dim L idx = (orderedPlan idx.stp (slice1d dim L idx)).map (fun p =>
      entryLen (p.1, if p.2 = colon then (⟨some 0, some (L.getD p.1 0), some 1⟩ : PySlice) else p.2)) := by
  unfold newBlockdim orderedPlan PySlice.stp
  rw [if_neg h]
  cases idx.step with
  | none =>
    simp only [Option.getD_none, List.map_map]
    rfl
  | some c =>
    simp only [Option.getD_some]
    by_cases hc : c < 0
    · rw [if_pos ⟨by omega, hc⟩, if_pos hc, ← List.map_reverse, List.map_map]
      rfl
    · rw [if_neg (fun h' => hc h'.2), if_neg hc, List.map_map]
      rfl

/-- What each half proves about the entries `d` its loop emits (before `finish`).  `ordered` says that `_slice_1d`
emits them in output-block order: ascending keys for a positive step, descending keys for a negative one. -/
structure RawPlan (L : List Int) (s : PySlice) (d : List (Nat × PySlice)) : Prop where
  eq : slice1d (isum L) L (normalizeSlice s (isum L)) = finish L d
  reads : planPositions L d = sel s (isum L)
  ordered : orderedPlan s.stp (finish L d) = finish L d
  bound : ∀ p ∈ d, p.1 < L.length
  entries : ∀ p ∈ d, p.2 ≠ colon ∧ entryLen p = ((sel p.2 (L.getD p.1 0)).length : Int)

/-- the un-rewriting step of `new_blockdim` undoes the rewriting step of `finish`. -/
theorem unrewrite_fin1 (L : List Int) (p : Nat × PySlice) (hp : p.2 ≠ colon) :
    (if (fin1 L p).2 = colon then (⟨some 0, some (L.getD (fin1 L p).1 0), some 1⟩ : PySlice)
      else (fin1 L p).2) = p.2 := by
  unfold fin1
  by_cases h : p.2 = ⟨some 0, some (L.getD p.1 0), some 1⟩
  · rw [if_pos h]; simp [h]
  · rw [if_neg h, if_neg hp]

section
variable {L : List Int} {s : PySlice} {d : List (Nat × PySlice)}

theorem RawPlan.plan (h : RawPlan L s d) :
    orderedPlan s.stp (slice1d (isum L) L (normalizeSlice s (isum L))) = finish L d := by
  rw [h.eq, h.ordered]

theorem RawPlan.positions (h : RawPlan L s d) (hl : ∀ c ∈ L, 0 ≤ c) :
    planPositions L (orderedPlan s.stp (slice1d (isum L) L (normalizeSlice s (isum L)))) = sel s (isum L) := by
  rw [h.plan, planPositions_finish hl, h.reads]

/-- `max 1`: for `L = []` the plan is the default entry `(0, slice(0, 0, 1))` of `finish` -/
theorem RawPlan.keys (h : RawPlan L s d) :
    ∀ p ∈ slice1d (isum L) L (normalizeSlice s (isum L)), p.1 < max 1 L.length := by
  intro p hp
  have hp' : p.1 ∈ (finish L d).map (·.1) := List.mem_map_of_mem (h.eq ▸ hp)
  rw [map_fst_finish] at hp'
  split at hp'
  · simp at hp'; omega
  · obtain ⟨q, hq, hqe⟩ := List.mem_map.mp hp'
    have := h.bound q hq
    omega

theorem RawPlan.lengths (h : RawPlan L s d) (hl : ∀ c ∈ L, 0 ≤ c)
    (hcol : normalizeSlice s (isum L) ≠ colon) :
    newBlockdim (isum L) L (normalizeSlice s (isum L))
      = planLengths L (orderedPlan s.stp (slice1d (isum L) L (normalizeSlice s (isum L)))) := by
  rw [newBlockdim_ne_colon _ _ _ hcol, normalizeSlice_stp, h.plan]
  by_cases hdn : d = []
  · -- the default entry `(0, slice(0, 0, 1))`: both sides are `[0]`
    subst hdn
    rw [finish_nil]
    simp only [planLengths, List.map_cons, List.map_nil, sel_empty (getD_nonneg _ hl 0)]
    simp [entryLen, colon, ceilDiv, pyDiv]
  · rw [planLengths_finish hl d hdn, finish_ne_nil L d hdn]
    unfold planLengths
    rw [List.map_map]
    apply List.map_congr_left
    intro p hp
    obtain ⟨hp1, hp2⟩ := h.entries p hp
    simp only [Function.comp]
    rw [unrewrite_fin1 L p hp1, ← hp2, fin1_fst]

end

theorem plan_pos (L : List Int) (s : PySlice) (hl : ∀ c ∈ L, 0 ≤ c) (hs : 0 < s.stp)
    (hcol : normalizeSlice s (isum L) ≠ colon) :
    RawPlan L s (posPlan L s) ∧ ((posPlan L s).map (·.1)).Pairwise (· < ·) := by
  have hd : 0 ≤ isum L := isum_nonneg L hl
  obtain ⟨a0, a1⟩ := istart_pos_bounds s _ hd hs
  have hplan := slice1d_norm_pos L s hl hs hcol
  have hreg := region L (s.istart (isum L)) (max (s.istart (isum L)) (s.istop (isum L))) s.stp hl a0
  have hi0 := bisectRight_le (cumsum L) (s.istart (isum L))
  rw [cumsum_length] at hi0
  have hb0 := blockStart_istart_le L _ a0
  unfold posPlan at hplan ⊢
  generalize bisectRight (cumsum L) (s.istart (isum L)) = i0 at *
  generalize min (bisectLeft (cumsum L) (max (s.istart (isum L)) (s.istop (isum L))) + 1) L.length
    - i0 = k at *
  have hsplit : L.drop i0 = (L.drop i0).take k ++ (L.drop i0).drop k :=
    (List.take_append_drop _ _).symm
  have hnn : ∀ x ∈ (L.drop i0).take k, 0 ≤ x :=
    fun x hx => hl x (List.mem_of_mem_drop (List.mem_of_mem_take hx))
  have hsub := loopPos_keys s.stp ((L.drop i0).take k) i0
    (s.istart (isum L) - blockStart L i0)
    (max (s.istart (isum L)) (s.istop (isum L)) - blockStart L i0)
  have hk := List.Pairwise.sublist hsub List.pairwise_lt_range'
  obtain ⟨hreads, hentries⟩ := loopPos_spec L s.stp hs _ i0 _ (s.istart (isum L))
    (max (s.istart (isum L)) (s.istop (isum L))) hsplit hnn (Or.inr ⟨hb0, Or.inl (Int.le_max_left _ _)⟩)
  refine ⟨⟨hplan, ?_, ?_, ?_, hentries⟩, hk⟩
  · rw [hreads, sel_eq_selIn s _ hd hs, hreg]
  · unfold orderedPlan
    rw [if_neg (by omega), sortByKey_of_sorted _ (finish_keys _ _ hk)]
  · intro p hp
    have := List.mem_range'_1.mp (hsub.subset (List.mem_map_of_mem hp))
    rw [List.length_take, List.length_drop] at this
    omega

theorem slice1d_colon (dim : Int) (L : List Int) :
    slice1d dim L colon = (List.range' 0 L.length).map (fun j => (j, colon)) := by
  simp [slice1d, List.range_eq_range']

theorem colon_keys_sorted (i n : Nat) :
    (((List.range' i n).map (fun j => (j, colon))).map (·.1)).Pairwise (· < ·) := by
  rw [List.map_map]
  have : ((fun (p : Nat × PySlice) => p.1) ∘ fun j => (j, colon)) = id := rfl
  rw [this, List.map_id]
  exact List.pairwise_lt_range'

theorem slice1d_partition_pos (lengths : List Int) (s : PySlice)
    (hl : ∀ c ∈ lengths, 0 ≤ c) (hs : 0 < s.stp) :
    planPositions lengths (sortByKey (slice1d (isum lengths) lengths (normalizeSlice s (isum lengths))))
      = sel s (isum lengths) := by
  have hd : 0 ≤ isum lengths := isum_nonneg lengths hl
  by_cases hcol : normalizeSlice s (isum lengths) = colon
  · obtain ⟨ha, hb, hc⟩ := colon_facts s _ hd hs hcol
    rw [hcol, sel_eq_selIn s _ hd hs, ha, hb, hc]
    rw [slice1d_colon, sortByKey_of_sorted _ (colon_keys_sorted _ _)]
    have := colon_reads lengths (isum lengths) lengths 0 [] (by simp) hl
      (by simp [blockStart_zero]) (by simp [blockStart_zero])
    rw [this, blockStart_zero]
    congr 1; omega
  · obtain ⟨h, _⟩ := plan_pos lengths s hl hs hcol
    have := h.positions hl
    unfold orderedPlan at this
    rwa [if_neg (by omega)] at this

example : planPositions [15,14,13] (sortByKey (slice1d 42 [15,14,13]
    (normalizeSlice ⟨some 10, some 41, some 3⟩ 42))) = sel ⟨some 10, some 41, some 3⟩ 42 := by
  decide

example : sel ⟨some 10, some 41, some 3⟩ 42 = [10, 13, 16, 19, 22, 25, 28, 31, 34, 37, 40] := by
  decide

theorem slice1d_keys_pos (lengths : List Int) (s : PySlice)
    (hl : ∀ c ∈ lengths, 0 ≤ c) (hs : 0 < s.stp) :
    let plan := slice1d (isum lengths) lengths (normalizeSlice s (isum lengths))
    List.Pairwise (· < ·) (plan.map (·.1)) ∧ ∀ p ∈ plan, p.1 < max 1 lengths.length := by
  intro plan
  by_cases hcol : normalizeSlice s (isum lengths) = colon
  · have hplan : plan = (List.range' 0 lengths.length).map (fun j => (j, colon)) := by
      simp only [plan, hcol, slice1d_colon]
    rw [hplan]
    refine ⟨colon_keys_sorted _ _, ?_⟩
    · intro p hp
      rw [List.mem_map] at hp
      obtain ⟨j, hj, rfl⟩ := hp
      rw [List.mem_range'_1] at hj
      simp only; omega
  · obtain ⟨h, hk⟩ := plan_pos lengths s hl hs hcol
    refine ⟨?_, h.keys⟩
    simp only [plan]
    rw [h.eq]
    exact finish_keys _ _ hk

theorem sel_colon_length {n : Int} (hn : 0 ≤ n) : ((sel colon n).length : Int) = n := by
  rw [sel_colon, length_rangeList_one, Int.sub_zero, Int.toNat_of_nonneg hn]

theorem colon_lengths (L : List Int) :
    ∀ (lens : List Int) (i : Nat) (tail : List Int),
      L.drop i = lens ++ tail → (∀ x ∈ lens, 0 ≤ x) →
      planLengths L ((List.range' i lens.length).map (fun j => (j, colon))) = lens
  | [], i, tail, _, _ => by simp [planLengths]
  | len :: rest, i, tail, hd, hnn => by
    obtain ⟨hg, hd', hb⟩ := drop_cons_facts (rest := rest ++ tail) (by simpa using hd)
    have hlen : 0 ≤ len := hnn len (by simp)
    have hrest : ∀ x ∈ rest, 0 ≤ x := fun x hx => hnn x (by simp [hx])
    have ih := colon_lengths L rest (i + 1) tail hd' hrest
    unfold planLengths at ih ⊢
    rw [List.length_cons, List.range'_succ, List.map_cons, List.map_cons, ih]
    simp only [hg, sel_colon_length hlen]

theorem newBlockdim_eq_planLengths_pos (lengths : List Int) (s : PySlice)
    (hl : ∀ c ∈ lengths, 0 ≤ c) (hs : 0 < s.stp) :
    newBlockdim (isum lengths) lengths (normalizeSlice s (isum lengths))
      = planLengths lengths
          (sortByKey (slice1d (isum lengths) lengths (normalizeSlice s (isum lengths)))) := by
  by_cases hcol : normalizeSlice s (isum lengths) = colon
  · unfold newBlockdim
    rw [if_pos hcol, hcol]
    rw [slice1d_colon, sortByKey_of_sorted _ (colon_keys_sorted _ _)]
    exact (colon_lengths lengths lengths 0 [] (by simp) hl).symm
  · obtain ⟨h, _⟩ := plan_pos lengths s hl hs hcol
    have := h.lengths hl hcol
    unfold orderedPlan at this
    rwa [if_neg (by omega)] at this

theorem newBlockdim_pos (lengths : List Int) (s : PySlice)
    (hl : ∀ c ∈ lengths, 0 ≤ c) (hs : 0 < s.stp) :
    let dim := isum lengths
    let idx := normalizeSlice s dim
    isum (newBlockdim dim lengths idx) = ((sel s dim).length : Int) ∧
    ((sel s dim) ≠ [] → newBlockdim dim lengths idx
      = planLengths lengths (sortByKey (slice1d dim lengths idx))) := by
  intro dim idx
  have h := newBlockdim_eq_planLengths_pos lengths s hl hs
  refine ⟨?_, fun _ => h⟩
  rw [h, ← slice1d_partition_pos lengths s hl hs, isum_planLengths]

example : newBlockdim 42 [15,14,13] (normalizeSlice ⟨some 10, some 41, some 3⟩ 42) = [2, 5, 4] := by
  decide

end Dask.Lemmas.Slice1dPos
