/-
A graph (Model/Graph.lean) read as a system of equations, one per key.  Running the tasks along a topological
order produces a solution, and two solutions agree key by key along such an order: so every order gives the
same values (C10).  The graph of an expression is the `toolz.merge` of its nodes' layers.  A layer refers only to
its own keys and to block grids of declared dependencies (`LayerContract`), which makes the union closed; it owns
its keys and has an order over those grids, so the per-layer orders, concatenated in dependency order of the nodes,
are a topological order of the union (C04).
-/
import DaskArrayModel.Model.Graph
import DaskArrayModel.Lemmas.ExprArr
import DaskArrayModel.Lemmas.Assoc

-- a few statements take a section instance (`[DecidableEq κ]`, `[Inhabited ν]`) they do not use
set_option linter.unusedSectionVars false

namespace Dask.Lemmas.Graph
open Dask.Graph

section eval
variable {κ ν : Type} [DecidableEq κ]

theorem mem_keys_of_mem {g : Graph κ ν} {k : κ} {t : Task κ ν} (h : (k, t) ∈ g) : k ∈ keys g :=
  List.mem_map.mpr ⟨(k, t), h, rfl⟩

theorem getTask_eq_lookup (g : Graph κ ν) (k : κ) : getTask g k = g.lookup k :=
  Dask.Assoc.eq_lookup getTask (fun _ => rfl) (fun _ _ _ _ => rfl) g k

theorem getTask_of_mem {g : Graph κ ν} (hwf : WF g) {k : κ} {t : Task κ ν} (h : (k, t) ∈ g) :
    getTask g k = some t :=
  (getTask_eq_lookup g k).trans (Dask.Assoc.lookup_of_mem_nodup hwf h)

theorem getTask_mem {g : Graph κ ν} {k : κ} {t : Task κ ν} (h : getTask g k = some t) : (k, t) ∈ g :=
  Dask.Assoc.mem_of_lookup ((getTask_eq_lookup g k).symm.trans h)

theorem lookupAll_cons (e : Env κ ν) (d : κ) (ds : List κ) :
    lookupAll e (d :: ds) = match e d, lookupAll e ds with
      | some v, some vs => some (v :: vs)
      | _, _ => none := rfl

theorem lookupAll_congr {e1 e2 : Env κ ν} {ds : List κ} (h : ∀ d ∈ ds, e1 d = e2 d) :
    lookupAll e1 ds = lookupAll e2 ds := by
  induction ds with
  | nil => rfl
  | cons d ds ih =>
    rw [lookupAll_cons, lookupAll_cons, h d List.mem_cons_self, ih (fun x hx => h x (List.mem_cons_of_mem _ hx))]

theorem evalTask_congr {e1 e2 : Env κ ν} {t : Task κ ν} (h : ∀ d ∈ t.deps, e1 d = e2 d) :
    evalTask e1 t = evalTask e2 t := by
  simp only [evalTask, lookupAll_congr h]

theorem lookupAll_isSome {e : Env κ ν} {ds : List κ} (h : ∀ d ∈ ds, (e d).isSome) :
    (lookupAll e ds).isSome := by
  induction ds with
  | nil => rfl
  | cons d ds ih =>
    obtain ⟨v, hv⟩ := Option.isSome_iff_exists.mp (h d List.mem_cons_self)
    obtain ⟨vs, hvs⟩ := Option.isSome_iff_exists.mp (ih (fun x hx => h x (List.mem_cons_of_mem _ hx)))
    rw [lookupAll_cons, hv, hvs]
    rfl

theorem evalTask_isSome {e : Env κ ν} {t : Task κ ν} (h : ∀ d ∈ t.deps, (e d).isSome) :
    (evalTask e t).isSome := by
  rw [evalTask, Option.isSome_map]
  exact lookupAll_isSome h

theorem TopoFrom_mem {g : Graph κ ν} : ∀ {order done : List κ}, TopoFrom g done order →
    ∀ x ∈ order, x ∉ done ∧ ∃ t, (x, t) ∈ g := by
  intro order
  induction order with
  | nil => intro _ _ x hx; cases hx
  | cons k rest ih =>
    intro done h x hx
    obtain ⟨hk, ⟨t, ht, _⟩, hrest⟩ := h
    rcases List.mem_cons.mp hx with rfl | hin
    · exact ⟨hk, t, ht⟩
    · exact ⟨fun hd => (ih hrest x hin).1 (List.mem_cons_of_mem _ hd), (ih hrest x hin).2⟩

theorem TopoFrom_append {g : Graph κ ν} : ∀ (a : List κ) {done b : List κ},
    TopoFrom g done a → TopoFrom g (a.reverse ++ done) b → TopoFrom g done (a ++ b) := by
  intro a
  induction a with
  | nil => intro done b _ h; simpa using h
  | cons x a ih =>
    intro done b ha hb
    obtain ⟨h1, h2, h3⟩ := ha
    refine ⟨h1, h2, ih h3 ?_⟩
    simpa [List.reverse_cons, List.append_assoc] using hb

theorem TopoFrom_lift {l g : Graph κ ν} (hsub : ∀ p ∈ l, p ∈ g) :
    ∀ (a : List κ) {ext done : List κ}, TopoFrom l ext a → (∀ x ∈ ext, x ∈ done) →
      (∀ x ∈ a, x ∉ done) → TopoFrom g done a := by
  intro a
  induction a with
  | nil => intro _ _ _ _ _; trivial
  | cons k rest ih =>
    intro ext done h hext hnot
    obtain ⟨_, ⟨t, ht, hdeps⟩, hrest⟩ := h
    refine ⟨hnot k List.mem_cons_self, ⟨t, hsub _ ht, fun d hd => hext d (hdeps d hd)⟩, ?_⟩
    refine ih hrest ?_ ?_
    · intro x hx
      rcases List.mem_cons.mp hx with e | h
      · subst e; exact List.mem_cons_self
      · exact List.mem_cons_of_mem _ (hext x h)
    · intro x hx hxd
      rcases List.mem_cons.mp hxd with e | h
      · subst e; exact (TopoFrom_mem hrest x hx).1 List.mem_cons_self
      · exact hnot x (List.mem_cons_of_mem _ hx) h

theorem topo_of_external {l : Graph κ ν} {ext : List κ} (hwf : WF l)
    (hdeps : ∀ p ∈ l, ∀ d ∈ p.2.deps, d ∈ ext) (hnot : ∀ k ∈ keys l, k ∉ ext) :
    TopoFrom l ext (keys l) := by
  have key : ∀ (sub : Graph κ ν) (done : List κ), (∀ p ∈ sub, p ∈ l) → (keys sub).Nodup →
      (∀ x ∈ ext, x ∈ done) → (∀ k ∈ keys sub, k ∉ done) → TopoFrom l done (keys sub) := by
    intro sub
    induction sub with
    | nil => intro _ _ _ _ _; trivial
    | cons p rest ih =>
      intro done hsub hnd hext hno
      have hnd' : (p.1 :: keys rest).Nodup := hnd
      rw [List.nodup_cons] at hnd'
      refine ⟨hno p.1 List.mem_cons_self, ⟨p.2, hsub p List.mem_cons_self, fun d hd =>
        hext d (hdeps p (hsub p List.mem_cons_self) d hd)⟩, ?_⟩
      apply ih (p.1 :: done) (fun q hq => hsub q (List.mem_cons_of_mem _ hq)) hnd'.2
        (fun x hx => List.mem_cons_of_mem _ (hext x hx))
      intro k hk hkd
      rcases List.mem_cons.mp hkd with e | h
      · subst e; exact hnd'.1 hk
      · exact hno k (List.mem_cons_of_mem _ hk) h
  exact key l ext (fun p hp => hp) hwf (fun x hx => hx) hnot

theorem TopoFrom_deps_mem {g : Graph κ ν} (hwf : WF g) {k d : κ} {t : Task κ ν} (hp : (k, t) ∈ g)
    (hd : d ∈ t.deps) : ∀ (order done : List κ), TopoFrom g done order → (∀ x ∈ done, x ∈ keys g) →
      k ∈ order → d ∈ keys g := by
  intro order
  induction order with
  | nil => intro _ _ _ hk; cases hk
  | cons a rest ih =>
    intro done htopo hdone hk
    obtain ⟨_, ⟨t', ht', hdeps⟩, hrest⟩ := htopo
    rcases List.mem_cons.mp hk with rfl | hin
    · have : t' = t := Option.some.inj ((getTask_of_mem hwf ht').symm.trans (getTask_of_mem hwf hp))
      exact hdone d (hdeps d (this ▸ hd))
    · refine ih (a :: done) hrest (fun x hx => ?_) hin
      exact (List.mem_cons.mp hx).elim (fun e => e ▸ mem_keys_of_mem ht') (hdone x)

def SolvesOn (g : Graph κ ν) (env : Env κ ν) (order : List κ) : Prop :=
  ∀ k ∈ order, ∀ t, (k, t) ∈ g → env k = evalTask env t ∧ (env k).isSome

theorem Env.set_self (e : Env κ ν) (k : κ) (v : ν) : e.set k v k = some v := if_pos rfl

theorem Env.set_of_ne (e : Env κ ν) {k x : κ} (v : ν) (h : x ≠ k) : e.set k v x = e x := if_neg h

theorem evalOrder_cons (g : Graph κ ν) (k : κ) (rest : List κ) (e : Env κ ν) :
    evalOrder g (k :: rest) e = match getTask g k with
      | none => none
      | some t => match evalTask e t with
        | none => none
        | some v => evalOrder g rest (e.set k v) := rfl

theorem evalOrder_spec {g : Graph κ ν} (hwf : WF g) :
    ∀ (order done : List κ) (env : Env κ ν), TopoFrom g done order →
      (∀ d ∈ done, (env d).isSome) →
      ∃ env', evalOrder g order env = some env' ∧
        (∀ k, k ∉ order → env' k = env k) ∧ SolvesOn g env' order := by
  intro order
  induction order with
  | nil =>
    intro done env _ _
    exact ⟨env, rfl, fun _ _ => rfl, fun k hk => by cases hk⟩
  | cons k rest ih =>
    intro done env htopo hdone
    obtain ⟨hk, ⟨t, ht, hdeps⟩, hrest⟩ := htopo
    have hget : getTask g k = some t := getTask_of_mem hwf ht
    obtain ⟨v, hv⟩ := Option.isSome_iff_exists.mp
      (evalTask_isSome (fun d hd => hdone d (hdeps d hd)) : (evalTask env t).isSome)
    have hne : ∀ d ∈ done, d ≠ k := fun d hd e => hk (e ▸ hd)
    obtain ⟨env', hrun, hframe, hsol⟩ := ih (k :: done) (env.set k v) hrest (fun d hd =>
      (List.mem_cons.mp hd).elim (fun e => by rw [e, Env.set_self]; rfl)
        (fun h => by rw [Env.set_of_ne env v (hne d h)]; exact hdone d h))
    -- a key of `done` is neither `k` nor run later, so it keeps its value to the end
    have hkeep : ∀ d ∈ done, env' d = env d := fun d hd => by
      rw [hframe d (fun h => (TopoFrom_mem hrest d h).1 (List.mem_cons_of_mem _ hd)),
        Env.set_of_ne env v (hne d hd)]
    have hx' : env' k = some v := by
      rw [hframe k (fun h => (TopoFrom_mem hrest k h).1 List.mem_cons_self), Env.set_self]
    refine ⟨env', by simp only [evalOrder_cons, hget, hv]; exact hrun, fun x hx => ?_, fun x hx t' ht' => ?_⟩
    · rw [hframe x (fun h => hx (List.mem_cons_of_mem _ h)),
        Env.set_of_ne env v (fun h : x = k => hx (h ▸ List.mem_cons_self))]
    · rcases List.mem_cons.mp hx with rfl | hin
      · have htt : t' = t := Option.some.inj ((getTask_of_mem hwf ht').symm.trans hget)
        rw [htt, hx', evalTask_congr (fun d hd => hkeep d (hdeps d hd)), hv]
        exact ⟨rfl, rfl⟩
      · exact hsol x hin t' ht'

theorem solutions_agree {g : Graph κ ν} {e1 e2 : Env κ ν} :
    ∀ (order done : List κ), TopoFrom g done order →
      (∀ d ∈ done, e1 d = e2 d) → SolvesOn g e1 order → SolvesOn g e2 order →
      ∀ k ∈ order, e1 k = e2 k := by
  intro order
  induction order with
  | nil => intro _ _ _ _ _ k hk; cases hk
  | cons k rest ih =>
    intro done htopo hdone h1 h2 x hx
    obtain ⟨_, ⟨t, ht, hdeps⟩, hrest⟩ := htopo
    have hk : e1 k = e2 k := by
      rw [(h1 k List.mem_cons_self t ht).1, (h2 k List.mem_cons_self t ht).1]
      exact evalTask_congr (fun d hd => hdone d (hdeps d hd))
    rcases List.mem_cons.mp hx with e | hin
    · subst e; exact hk
    · refine ih (k :: done) hrest ?_ (fun y hy => h1 y (List.mem_cons_of_mem _ hy))
        (fun y hy => h2 y (List.mem_cons_of_mem _ hy)) x hin
      intro d hd
      rcases List.mem_cons.mp hd with e | h
      · subst e; exact hk
      · exact hdone d h

theorem IsTopo_mem_iff {g : Graph κ ν} {order : List κ} (h : IsTopo g order) (k : κ) :
    k ∈ order ↔ k ∈ keys g :=
  ⟨fun hk => by obtain ⟨t, ht⟩ := (TopoFrom_mem h.1 k hk).2; exact mem_keys_of_mem ht, h.2 k⟩

theorem topo_eval_defined {g : Graph κ ν} (hwf : WF g) {order : List κ} (h : IsTopo g order) :
    ∃ env, evalOrder g order Env.empty = some env ∧
      (∀ k, (env k).isSome ↔ k ∈ keys g) ∧ SolvesOn g env order := by
  obtain ⟨env, hrun, hframe, hsol⟩ := evalOrder_spec hwf order [] Env.empty h.1 (fun d hd => by cases hd)
  refine ⟨env, hrun, ?_, hsol⟩
  intro k
  constructor
  · intro hs
    by_cases hk : k ∈ order
    · exact (IsTopo_mem_iff h k).mp hk
    · rw [hframe k hk] at hs; cases hs
  · intro hk
    have hko := h.2 k hk
    obtain ⟨t, ht⟩ := (TopoFrom_mem h.1 k hko).2
    exact (hsol k hko t ht).2

theorem topo_eval_unique {g : Graph κ ν} (hwf : WF g) {o1 o2 : List κ}
    (h1 : IsTopo g o1) (h2 : IsTopo g o2) :
    ∃ env, evalOrder g o1 Env.empty = some env ∧ evalOrder g o2 Env.empty = some env := by
  obtain ⟨e1, hr1, hd1, hs1⟩ := topo_eval_defined hwf h1
  obtain ⟨e2, hr2, hd2, hs2⟩ := topo_eval_defined hwf h2
  have hs2' : SolvesOn g e2 o1 := fun k hk t ht =>
    hs2 k ((IsTopo_mem_iff h2 k).mpr ((IsTopo_mem_iff h1 k).mp hk)) t ht
  have hagree := solutions_agree o1 [] h1.1 (fun d hd => by cases hd) hs1 hs2'
  have heq : e1 = e2 := by
    funext k
    by_cases hk : k ∈ o1
    · exact hagree k hk
    · have n1 : ¬ (e1 k).isSome := fun h => hk ((IsTopo_mem_iff h1 k).mpr ((hd1 k).mp h))
      have n2 : ¬ (e2 k).isSome := fun h => hk ((IsTopo_mem_iff h1 k).mpr ((hd2 k).mp h))
      rw [Option.not_isSome_iff_eq_none.mp n1, Option.not_isSome_iff_eq_none.mp n2]
  exact ⟨e1, hr1, heq ▸ hr2⟩

theorem lookup_skeleton {g : Graph κ ν} {k : κ} {ds : List κ} (h : (skeleton g).lookup k = some ds) :
    ∃ t, (k, t) ∈ g ∧ t.deps = ds := by
  rw [skeleton, Dask.Assoc.lookup_map_snd Task.deps] at h
  obtain ⟨t, ht, hd⟩ := Option.map_eq_some_iff.mp h
  exact ⟨t, Dask.Assoc.mem_of_lookup ht, hd⟩

theorem topoFromB_sound {g : Graph κ ν} : ∀ (order done : List κ),
    topoFromB (skeleton g) done order = true → TopoFrom g done order := by
  intro order
  induction order with
  | nil => intro _ _; trivial
  | cons k rest ih =>
    intro done h
    obtain ⟨h12, h3⟩ := Bool.and_eq_true_iff.mp h
    obtain ⟨h1, h2⟩ := Bool.and_eq_true_iff.mp h12
    refine ⟨by simpa using h1, ?_, ih _ h3⟩
    cases hl : (skeleton g).lookup k with
    | none => simp [hl] at h2
    | some ds =>
      simp only [hl, List.all_eq_true, List.contains_eq_mem, decide_eq_true_eq] at h2
      obtain ⟨t, ht, hd⟩ := lookup_skeleton hl
      exact ⟨t, ht, fun d hdm => h2 d (hd ▸ hdm)⟩

end eval

section merge
variable {κ ν : Type} [DecidableEq κ]

theorem mem_merge {g h : Graph κ ν} {p : κ × Task κ ν} (hp : p ∈ merge g h) : p ∈ g ∨ p ∈ h := by
  rcases List.mem_append.mp hp with h1 | h1
  · exact Or.inl (List.mem_filter.mp h1).1
  · exact Or.inr h1

theorem mem_merge_right {g h : Graph κ ν} {p : κ × Task κ ν} (hp : p ∈ h) : p ∈ merge g h :=
  List.mem_append.mpr (Or.inr hp)

theorem mem_merge_left {g h : Graph κ ν} {p : κ × Task κ ν} (hp : p ∈ g) (hk : p.1 ∉ keys h) :
    p ∈ merge g h :=
  List.mem_append.mpr (Or.inl (List.mem_filter.mpr ⟨hp, by simpa using hk⟩))

theorem keys_merge {g h : Graph κ ν} {k : κ} : k ∈ keys (merge g h) ↔ k ∈ keys g ∨ k ∈ keys h := by
  constructor
  · intro hk
    obtain ⟨p, hp, rfl⟩ := List.mem_map.mp hk
    exact (mem_merge hp).imp mem_keys_of_mem mem_keys_of_mem
  · intro hk
    by_cases hh : k ∈ keys h
    · obtain ⟨p, hp, rfl⟩ := List.mem_map.mp hh
      exact mem_keys_of_mem (mem_merge_right hp)
    · obtain ⟨p, hp, rfl⟩ := List.mem_map.mp (hk.resolve_right hh)
      exact mem_keys_of_mem (mem_merge_left hp hh)

theorem WF_merge {g h : Graph κ ν} (hg : WF g) (hh : WF h) : WF (merge g h) := by
  unfold WF keys merge
  rw [List.map_append, List.nodup_append]
  refine ⟨?_, hh, ?_⟩
  · exact List.Nodup.sublist (List.Sublist.map _ List.filter_sublist) hg
  · intro a ha b hb hab
    obtain ⟨p, hp, rfl⟩ := List.mem_map.mp ha
    exact of_decide_eq_true (List.mem_filter.mp hp).2 (hab ▸ hb)

end merge

section layers
variable {ν : Type}

theorem mem_unionLayers {nodes : List (ENode ν)} {p : Key × Task Key ν} (hp : p ∈ unionLayers nodes) :
    ∃ n ∈ nodes, p ∈ n.layer := by
  induction nodes with
  | nil => cases hp
  | cons n rest ih =>
    rcases mem_merge hp with h | h
    · exact ⟨n, List.mem_cons_self, h⟩
    · obtain ⟨m, hm, hpm⟩ := ih h
      exact ⟨m, List.mem_cons_of_mem _ hm, hpm⟩

theorem keys_unionLayers {nodes : List (ENode ν)} {k : Key} :
    k ∈ keys (unionLayers nodes) ↔ ∃ n ∈ nodes, k ∈ keys n.layer := by
  induction nodes with
  | nil => exact ⟨fun h => (nomatch h), fun ⟨_, h, _⟩ => nomatch h⟩
  | cons n rest ih => exact keys_merge.trans (by simp only [ih, List.mem_cons, exists_eq_or_imp])

theorem WF_unionLayers {nodes : List (ENode ν)} (h : ∀ n ∈ nodes, (keys n.layer).Nodup) :
    WF (unionLayers nodes) := by
  induction nodes with
  | nil => exact List.nodup_nil
  | cons n rest ih =>
    exact WF_merge (h n List.mem_cons_self) (ih (fun m hm => h m (List.mem_cons_of_mem _ hm)))

theorem mem_depGrid {n : ENode ν} {d : Key} (h : d ∈ depGrid n) :
    ∃ dep ∈ n.deps, ∃ i ∈ grid dep.2, d = blockKey dep.1 i := by
  obtain ⟨dep, hdep, hd⟩ := List.mem_flatMap.mp h
  obtain ⟨i, hi, rfl⟩ := List.mem_map.mp hd
  exact ⟨dep, hdep, i, hi, rfl⟩

theorem depGrid_mem {n : ENode ν} {dep : String × List Nat} (hdep : dep ∈ n.deps) {i : List Nat}
    (hi : i ∈ grid dep.2) : blockKey dep.1 i ∈ depGrid n :=
  List.mem_flatMap.mpr ⟨dep, hdep, List.mem_map.mpr ⟨i, hi, rfl⟩⟩

/-- holds for ARBITRARY (also overlapping) layers -/
theorem layers_closed {nodes : List (ENode ν)} (hc : ∀ n ∈ nodes, LayerContract n)
    (hw : WalkClosed nodes) : closed (unionLayers nodes) := by
  intro p hp d hd
  obtain ⟨n, hn, hpn⟩ := mem_unionLayers hp
  rcases (hc n hn).refs p hpn d hd with h | h
  · exact keys_unionLayers.mpr ⟨n, hn, h⟩
  · obtain ⟨dep, hdep, i, hi, rfl⟩ := mem_depGrid h
    obtain ⟨m, hm, hname, hnb⟩ := hw n hn dep hdep
    exact keys_unionLayers.mpr ⟨m, hm, hname ▸ (hc m hm).grid_defined i (hnb ▸ hi)⟩

theorem DagFrom_names {pre rest : List (ENode ν)} (h : DagFrom pre rest) :
    ∀ n ∈ rest, n.name ∉ pre.map (·.name) := by
  induction rest generalizing pre with
  | nil => intro n hn; cases hn
  | cons a rest ih =>
    intro n hn
    obtain ⟨_, h2, h3⟩ := h
    rcases List.mem_cons.mp hn with e | hin
    · subst e; exact h2
    · intro hmem
      exact ih h3 n hin (List.mem_cons_of_mem _ hmem)

theorem DagFrom_append {pre a b : List (ENode ν)} (ha : DagFrom pre a) (hb : DagFrom (a.reverse ++ pre) b) :
    DagFrom pre (a ++ b) := by
  induction a generalizing pre with
  | nil => simpa using hb
  | cons x a ih =>
    obtain ⟨h1, h2, h3⟩ := ha
    refine ⟨h1, h2, ih h3 ?_⟩
    simpa [List.reverse_cons, List.append_assoc] using hb

theorem DagFrom_deps {pre rest : List (ENode ν)} (h : DagFrom pre rest) :
    ∀ n ∈ rest, ∀ d ∈ n.deps, ∃ m, (m ∈ pre ∨ m ∈ rest) ∧ m.name = d.1 ∧ m.numblocks = d.2 := by
  induction rest generalizing pre with
  | nil => intro n hn; cases hn
  | cons a rest ih =>
    intro n hn d hd
    obtain ⟨h1, _, h3⟩ := h
    rcases List.mem_cons.mp hn with rfl | hin
    · obtain ⟨m, hm, hmm⟩ := h1 d hd
      exact ⟨m, Or.inl hm, hmm⟩
    · obtain ⟨m, hm, hmm⟩ := ih h3 n hin d hd
      refine ⟨m, hm.elim (fun h => ?_) (fun h => Or.inr (List.mem_cons_of_mem _ h)), hmm⟩
      exact (List.mem_cons.mp h).elim (fun e => Or.inr (e ▸ List.mem_cons_self)) Or.inl

theorem walkClosed_of_dag {nodes : List (ENode ν)} (h : DagFrom [] nodes) : WalkClosed nodes := by
  intro n hn d hd
  obtain ⟨m, hm, hmm⟩ := DagFrom_deps h n hn d hd
  rcases hm with hm | hm
  · cases hm
  · exact ⟨m, hm, hmm⟩

theorem mem_unionLayers_of_owned {pre rest : List (ENode ν)} (hd : DagFrom pre rest)
    (ho : ∀ n ∈ rest, OwnedLayer n) :
    ∀ n ∈ rest, ∀ p ∈ n.layer, p ∈ unionLayers rest := by
  induction rest generalizing pre with
  | nil => intro n hn; cases hn
  | cons a rest ih =>
    intro n hn p hp
    obtain ⟨_, _, h3⟩ := hd
    rcases List.mem_cons.mp hn with e | hin
    · subst e
      apply mem_merge_left hp
      intro hk
      obtain ⟨m, hm, hkm⟩ := keys_unionLayers.mp hk
      have h1 : p.1.owner = n.name := (ho n List.mem_cons_self).owned _ (List.mem_map.mpr ⟨p, hp, rfl⟩)
      have h2 : p.1.owner = m.name := (ho m (List.mem_cons_of_mem _ hm)).owned _ hkm
      apply DagFrom_names h3 m hm
      rw [← h2, h1]; exact List.mem_map.mpr ⟨n, List.mem_cons_self, rfl⟩
    · exact mem_merge_right (ih h3 (fun m hm => ho m (List.mem_cons_of_mem _ hm)) n hin p hp)

/-- Concatenating the per-layer orders of the nodes still to come (`rest`, in dependency order after
`pre`) continues a topological order of `g` whose `done` keys satisfy THE LOOP INVARIANT (the last
two hypotheses): `done` holds the whole block grid of every earlier node, and every key in `done` is
owned by an earlier node. -/
theorem topo_union_aux {g : Graph Key ν} (ord : ENode ν → List Key) :
    ∀ (rest pre : List (ENode ν)) (done : List Key), DagFrom pre rest →
      (∀ n ∈ rest, LayerContract n ∧ OwnedLayer n) →
      (∀ n ∈ rest, TopoFrom n.layer (depGrid n) (ord n) ∧ ∀ k ∈ keys n.layer, k ∈ ord n) →
      (∀ n ∈ rest, ∀ p ∈ n.layer, p ∈ g) →
      (∀ m ∈ pre, ∀ i ∈ grid m.numblocks, blockKey m.name i ∈ done) →
      (∀ k ∈ done, k.owner ∈ pre.map (·.name)) →
      TopoFrom g done (rest.flatMap ord) := by
  intro rest
  induction rest with
  | nil => intro _ _ _ _ _ _ _ _; trivial
  | cons n rest ih =>
    intro pre done hd hc hord hg hI1 hI2
    obtain ⟨hdeps, hname, hd'⟩ := hd
    obtain ⟨hcn, hon⟩ := hc n List.mem_cons_self
    obtain ⟨htn, hcov⟩ := hord n List.mem_cons_self
    simp only [List.flatMap_cons]
    have hown : ∀ x ∈ ord n, x.owner = n.name := by
      intro x hx
      obtain ⟨t, ht⟩ := (TopoFrom_mem htn x hx).2
      exact hon.owned x (List.mem_map.mpr ⟨(x, t), ht, rfl⟩)
    apply TopoFrom_append
    · apply TopoFrom_lift (hg n List.mem_cons_self) (ord n) htn
      · intro x hx
        obtain ⟨dep, hdep, i, hi, rfl⟩ := mem_depGrid hx
        obtain ⟨m, hm, hmn, hmb⟩ := hdeps dep hdep
        exact hmn ▸ hI1 m hm i (hmb ▸ hi)
      · intro x hx hxd
        apply hname
        rw [← hown x hx]; exact hI2 x hxd
    · apply ih (n :: pre) ((ord n).reverse ++ done) hd'
        (fun m hm => hc m (List.mem_cons_of_mem _ hm))
        (fun m hm => hord m (List.mem_cons_of_mem _ hm))
        (fun m hm => hg m (List.mem_cons_of_mem _ hm))
      · intro m hm i hi
        rcases List.mem_cons.mp hm with e | h
        · subst e
          exact List.mem_append.mpr (Or.inl (List.mem_reverse.mpr (hcov _ (hcn.grid_defined i hi))))
        · exact List.mem_append.mpr (Or.inr (hI1 m h i hi))
      · intro k hk
        rcases List.mem_append.mp hk with h | h
        · rw [hown k (List.mem_reverse.mp h)]; exact List.mem_cons_self
        · exact List.mem_cons_of_mem _ (hI2 k h)

theorem union_acyclic {nodes : List (ENode ν)} (ord : ENode ν → List Key)
    (hd : DagFrom [] nodes) (hc : ∀ n ∈ nodes, LayerContract n ∧ OwnedLayer n)
    (hord : ∀ n ∈ nodes, TopoFrom n.layer (depGrid n) (ord n) ∧ ∀ k ∈ keys n.layer, k ∈ ord n) :
    IsTopo (unionLayers nodes) (nodes.flatMap ord) := by
  constructor
  · exact topo_union_aux ord nodes [] [] hd hc hord
      (mem_unionLayers_of_owned hd (fun n hn => (hc n hn).2))
      (fun m hm => by cases hm) (fun k hk => by cases hk)
  · intro k hk
    obtain ⟨n, hn, hkn⟩ := keys_unionLayers.mp hk
    exact List.mem_flatMap.mpr ⟨n, hn, (hord n hn).2 k hkn⟩

theorem grid_eq_allIdx (nb : List Nat) : grid nb = Dask.ND.allIdx nb := by
  induction nb with
  | nil => rfl
  | cons n ns ih => exact congrArg (fun g => (List.range n).flatMap fun i => g.map (i :: ·)) ih

theorem grid_nodup (nb : List Nat) : (grid nb).Nodup := grid_eq_allIdx nb ▸ Dask.ND.nodup_allIdx nb

variable [Inhabited ν]

theorem keys_rootAlias (raw : String) (opt : ENode ν) :
    keys (rootAlias raw opt).layer = (grid opt.numblocks).map (blockKey raw) := by
  simp [rootAlias, keys, List.map_map, Function.comp_def]

theorem rootAlias_deps (raw : String) (opt : ENode ν) :
    ∀ p ∈ (rootAlias raw opt).layer, ∀ d ∈ p.2.deps, d ∈ depGrid (rootAlias raw opt) := by
  intro p hp d hd
  obtain ⟨i, hi, rfl⟩ := List.mem_map.mp hp
  have : d = blockKey opt.name i := by simpa [aliasTask] using hd
  subst this
  exact depGrid_mem (n := rootAlias raw opt) (dep := (opt.name, opt.numblocks)) List.mem_cons_self hi

theorem rootAlias_contract (raw : String) (opt : ENode ν) : LayerContract (rootAlias raw opt) :=
  ⟨fun i hi => by rw [keys_rootAlias]; exact List.mem_map.mpr ⟨i, hi, rfl⟩,
   fun p hp d hd => Or.inr (rootAlias_deps raw opt p hp d hd)⟩

theorem rootAlias_owned (raw : String) (opt : ENode ν) : OwnedLayer (rootAlias raw opt) := by
  constructor
  · rw [keys_rootAlias, List.nodup_iff_pairwise_ne, List.pairwise_map]
    exact List.Pairwise.imp (fun h e => h (by simpa [blockKey] using e)) (grid_nodup opt.numblocks)
  · intro k hk
    rw [keys_rootAlias] at hk
    obtain ⟨i, _, rfl⟩ := List.mem_map.mp hk
    rfl
  · intro k hk _
    rw [keys_rootAlias] at hk
    obtain ⟨i, hi, rfl⟩ := List.mem_map.mp hk
    exact hi

theorem rootAlias_topo (raw : String) (opt : ENode ν) (hne : raw ≠ opt.name) :
    TopoFrom (rootAlias raw opt).layer (depGrid (rootAlias raw opt)) (keys (rootAlias raw opt).layer) := by
  refine topo_of_external (rootAlias_owned raw opt).nodup (rootAlias_deps raw opt) ?_
  intro k hk hkd
  have h1 : k.owner = raw := (rootAlias_owned raw opt).owned k hk
  obtain ⟨dep, hdep, i, _, rfl⟩ := mem_depGrid hkd
  have : dep = (opt.name, opt.numblocks) := by simpa [rootAlias] using hdep
  subst this
  exact hne h1.symm

theorem DagFrom_names_all {pre rest : List (ENode ν)} (h : DagFrom pre rest) :
    (rest.map (·.name)).Nodup := by
  induction rest generalizing pre with
  | nil => exact List.nodup_nil
  | cons a rest ih =>
    obtain ⟨_, _, h3⟩ := h
    rw [List.map_cons, List.nodup_cons]
    refine ⟨?_, ih h3⟩
    intro hmem
    obtain ⟨m, hm, hmn⟩ := List.mem_map.mp hmem
    exact DagFrom_names h3 m hm (by rw [hmn]; exact List.mem_cons_self)

/-- `_materialize`'s tail: when the optimized tree (in dependency order, root last) does not
contain the raw name (the embedded-root guard), appending the alias layer keeps the dependency
order with distinct names. -/
theorem materialize_ok {raw : String} {pre : List (ENode ν)} {root : ENode ν} {nodes : List (ENode ν)}
    (hm : materialize raw pre root = .ok nodes) (hd : DagFrom [] (pre ++ [root])) :
    DagFrom [] nodes ∧
    (nodes = pre ++ [root] ∧ root.name = raw ∨
      nodes = pre ++ [root] ++ [rootAlias raw root] ∧ raw ∉ (pre ++ [root]).map (·.name)) := by
  unfold materialize at hm
  by_cases h1 : root.name = raw
  · rw [if_pos h1] at hm
    cases hm
    exact ⟨hd, Or.inl ⟨rfl, h1⟩⟩
  · rw [if_neg h1] at hm
    by_cases h2 : raw ∈ (pre ++ [root]).map (·.name)
    · rw [if_pos h2] at hm; cases hm
    · rw [if_neg h2] at hm
      cases hm
      rw [show pre ++ [root, rootAlias raw root] = pre ++ [root] ++ [rootAlias raw root] from
        (List.append_assoc pre [root] [rootAlias raw root]).symm]
      refine ⟨DagFrom_append hd ⟨fun d hdm => ?_, fun hmem => h2 ?_, trivial⟩, Or.inr ⟨rfl, h2⟩⟩
      · have : d = (root.name, root.numblocks) := List.mem_singleton.mp hdm
        subst this
        exact ⟨root, List.mem_append_left _ (List.mem_reverse.mpr (List.mem_append_right _ List.mem_cons_self)),
          rfl, rfl⟩
      · obtain ⟨m, hm1, hm2⟩ := List.mem_map.mp hmem
        exact List.mem_map.mpr
          ⟨m, List.mem_reverse.mp ((List.mem_append.mp hm1).resolve_right List.not_mem_nil), hm2⟩

theorem dag_union {nodes : List (ENode ν)} (ord : ENode ν → List Key) (hd : DagFrom [] nodes)
    (hc : ∀ n ∈ nodes, LayerContract n ∧ OwnedLayer n)
    (hord : ∀ n ∈ nodes, TopoFrom n.layer (depGrid n) (ord n) ∧ ∀ k ∈ keys n.layer, k ∈ ord n) :
    WF (unionLayers nodes) ∧ closed (unionLayers nodes) ∧ acyclic (unionLayers nodes) :=
  ⟨WF_unionLayers (fun n hn => (hc n hn).2.nodup),
   layers_closed (fun n hn => (hc n hn).1) (walkClosed_of_dag hd), _, union_acyclic ord hd hc hord⟩

end layers

end Dask.Lemmas.Graph
