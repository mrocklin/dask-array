/-
`moveaxis` with sequences of axes: the `sorted(zip(destination, source))` insertions produce the permutation with
`p[dst[j]] = src[j]` and the remaining axes in increasing order on the remaining positions.  Core Lean only.
-/
import DaskArrayModel.Lemmas.PermBuilders
import DaskArrayModel.Lemmas.ListBasic
namespace Dask.Perm
open Dask.Py Dask.Slicing Dask.ND

/-- the fold of `order.insert(dest, src)` read from the LAST pair backwards -/
def buildR (base : List Nat) (R : List (Nat × Nat)) : List Nat := R.foldr (fun p o => pyInsert o p.1 p.2) base

def DescBelow : Nat → List (Nat × Nat) → Prop
  | _, [] => True
  | B, p :: rest => p.1 < B ∧ DescBelow p.1 rest

theorem DescBelow.mono {B B' : Nat} (h : B ≤ B') : ∀ {R}, DescBelow B R → DescBelow B' R
  | [], _ => trivial
  | _ :: _, hd => ⟨Nat.lt_of_lt_of_le hd.1 h, hd.2⟩

theorem DescBelow.lt_of_mem {B : Nat} {R : List (Nat × Nat)} (hd : DescBelow B R) (q : Nat × Nat) (hq : q ∈ R) :
    q.1 < B := by
  induction R generalizing B with
  | nil => exact nomatch hq
  | cons p rest ih =>
    rcases List.mem_cons.mp hq with h | h
    · exact h ▸ hd.1
    · exact Nat.lt_trans (ih hd.2 h) hd.1

theorem insertIdx_increasing_off {L : List Nat} {D : Nat} (v : Nat) (hD : D ≤ L.length) (S : Nat → Prop)
    (hS : ∀ k, S k → k < D)
    (hL : ∀ i j, i < j → j < L.length → ¬ S i → ¬ S j → L.getD i 0 < L.getD j 0)
    (i j : Nat) (hij : i < j) (hj : j < L.length + 1) (hiD : i ≠ D) (hjD : j ≠ D) (hi : ¬ S i) (hj' : ¬ S j) :
    (L.insertIdx D v).getD i 0 < (L.insertIdx D v).getD j 0 := by
  by_cases h1 : j < D
  · rw [getD_insertIdx_lt v (Nat.lt_trans hij h1), getD_insertIdx_lt v h1]
    exact hL i j hij (Nat.lt_of_lt_of_le h1 hD) hi hj'
  · have hS' : ∀ k, D ≤ k → ¬ S k := fun k hk h => Nat.lt_irrefl _ (Nat.lt_of_lt_of_le (hS k h) hk)
    have hDj : D < j := Nat.lt_of_le_of_ne (Nat.le_of_not_lt h1) (Ne.symm hjD)
    have hDj1 : D ≤ j - 1 := Nat.le_sub_one_of_lt hDj
    have hj1 : j - 1 < L.length := by omega
    rw [getD_insertIdx_gt v hDj]
    by_cases h2 : i < D
    · rw [getD_insertIdx_lt v h2]
      exact hL i (j - 1) (Nat.lt_of_lt_of_le h2 hDj1) hj1 hi (hS' _ hDj1)
    · have hDi : D < i := Nat.lt_of_le_of_ne (Nat.le_of_not_lt h2) (Ne.symm hiD)
      rw [getD_insertIdx_gt v hDi]
      exact hL (i - 1) (j - 1) (by omega) hj1 (hS' _ (Nat.le_sub_one_of_lt hDi)) (hS' _ hDj1)

/-- One induction: each insertion lands inside the list built so far (the length) and behind all the earlier
destinations (`DescBelow`). -/
theorem buildR_spec (base : List Nat) (hbase : ∀ i j, i < j → j < base.length → base.getD i 0 < base.getD j 0)
    (R : List (Nat × Nat)) (B : Nat) (hd : DescBelow B R) (hB : B ≤ base.length + R.length) :
    (buildR base R).length = base.length + R.length ∧
    (buildR base R).Perm (R.map (fun q => q.2) ++ base) ∧
    (∀ q ∈ R, (buildR base R).getD q.1 0 = q.2) ∧
    ∀ i j, i < j → j < (buildR base R).length → i ∉ R.map Prod.fst → j ∉ R.map Prod.fst →
      (buildR base R).getD i 0 < (buildR base R).getD j 0 := by
  induction R generalizing B with
  | nil => exact ⟨rfl, List.Perm.refl _, fun _ hq => (List.not_mem_nil hq).elim, fun i j hij hj _ _ => hbase i j hij hj⟩
  | cons p rest ih =>
    have hD : p.1 ≤ base.length + rest.length := Nat.le_of_lt_succ (Nat.lt_of_lt_of_le hd.1 hB)
    obtain ⟨hlen, hperm, hget, hmono⟩ := ih p.1 hd.2 hD
    have hle : p.1 ≤ (buildR base rest).length := hlen ▸ hD
    have he : buildR base (p :: rest) = (buildR base rest).insertIdx p.1 p.2 := pyInsert_eq _ _ _ hle
    rw [he, List.length_insertIdx, if_pos hle]
    refine ⟨by rw [hlen]; rfl, (List.perm_insertIdx p.2 _ hle).trans (List.Perm.cons _ hperm), fun q hq => ?_,
      fun i j hij hj hi hj' => ?_⟩
    · rcases List.mem_cons.mp hq with h | h
      · rw [h]
        exact getD_insertIdx_self _ _ _ _ hle
      · rw [getD_insertIdx_lt _ (DescBelow.lt_of_mem hd.2 q h)]
        exact hget q h
    · refine insertIdx_increasing_off p.2 hle (· ∈ rest.map Prod.fst) (fun k hk => ?_) hmono
        i j hij hj (fun h => hi (h ▸ List.mem_cons_self)) (fun h => hj' (h ▸ List.mem_cons_self))
        (fun h => hi (List.mem_cons_of_mem _ h)) (fun h => hj' (List.mem_cons_of_mem _ h))
      obtain ⟨q, hq, rfl⟩ := List.mem_map.mp hk
      exact DescBelow.lt_of_mem hd.2 q hq

theorem sortPairs_eq_foldr : ∀ l, sortPairs l = l.foldr insertPair []
  | [] => rfl
  | p :: r => congrArg (insertPair p) (sortPairs_eq_foldr r)

/-- only the order of the destinations matters: the lexicographic comparison refines it -/
theorem sortPairs_spec (l : List (Nat × Nat)) :
    (sortPairs l).Perm l ∧ List.Pairwise (fun a b => a.1 ≤ b.1) (sortPairs l) :=
  sortPairs_eq_foldr l ▸ foldr_ins_spec (ins := insertPair) (R := fun a b => a.1 ≤ b.1)
    (r := fun p q : Nat × Nat => p.1 < q.1 ∨ (p.1 = q.1 ∧ p.2 ≤ q.2)) (fun _ => rfl) (fun _ _ _ => rfl)
    (fun _ _ _ => Nat.le_trans) (fun _ _ h => h.elim Nat.le_of_lt (fun e => Nat.le_of_eq e.1))
    (fun _ _ h => Nat.le_of_not_lt (fun hlt => h (.inl hlt))) l

theorem sortPairs_strict (l : List (Nat × Nat)) (hne : List.Pairwise (fun a b => a.1 ≠ b.1) l) :
    List.Pairwise (fun a b => a.1 < b.1) (sortPairs l) :=
  ((sortPairs_spec l).2.and ((List.Perm.pairwise_iff (fun h => Ne.symm h) (sortPairs_spec l).1).mpr hne)).imp
    (fun h => Nat.lt_of_le_of_ne h.1 h.2)

theorem descBelow_of_pairwise (B : Nat) (R : List (Nat × Nat)) (h : List.Pairwise (fun a b => b.1 < a.1) R)
    (hB : ∀ q ∈ R, q.1 < B) : DescBelow B R := by
  induction R generalizing B with
  | nil => trivial
  | cons p rest ih =>
    have hp := List.pairwise_cons.mp h
    exact ⟨hB p List.mem_cons_self, ih p.1 hp.2 hp.1⟩

theorem sortPairs_reverse_desc (n : Nat) (s d : List Nat) (hd : ∀ x ∈ d, x < n) (hdn : d.Nodup)
    (hlen : d.length ≤ s.length) :
    (sortPairs (d.zip s)).reverse.Perm (d.zip s) ∧ DescBelow n (sortPairs (d.zip s)).reverse := by
  have hperm : (sortPairs (d.zip s)).reverse.Perm (d.zip s) := (List.reverse_perm _).trans (sortPairs_spec _).1
  refine ⟨hperm, descBelow_of_pairwise n _ (List.pairwise_reverse.mpr (sortPairs_strict _ ?_)) ?_⟩
  · apply List.pairwise_map.mp
    rw [List.map_fst_zip hlen]
    exact hdn
  · intro q hq
    exact hd _ (List.of_mem_zip (hperm.mem_iff.mp hq)).1

theorem sources_append_rest_perm (n : Nat) (s : List Nat) (hs : s.Nodup) (hlt : ∀ x ∈ s, x < n) :
    (s ++ (List.range n).filter (fun k => !s.contains k)).Perm (List.range n) := by
  have h1 := List.filter_append_perm (fun k => s.contains k) (List.range n)
  have h2 : ((List.range n).filter (fun k => s.contains k)).Perm s := by
    rw [List.perm_ext_iff_of_nodup (List.Pairwise.filter _ List.nodup_range) hs]
    intro a
    rw [List.mem_filter, List.mem_range, List.contains_iff_mem]
    exact ⟨fun h => h.2, fun h => ⟨hlt a h, h⟩⟩
  exact (List.Perm.append_right _ h2.symm).trans h1

theorem moveaxis_order (n : Nat) (s d : List Nat) (hs : ∀ x ∈ s, x < n) (hd : ∀ x ∈ d, x < n)
    (hsn : s.Nodup) (hdn : d.Nodup) (hlen : s.length = d.length) :
    ∃ p, (sortPairs (d.zip s)).foldl (fun o p => pyInsert o p.1 p.2)
        ((List.range n).filter (fun k => !s.contains k)) = p ∧ p.Perm (List.range n) ∧
      (∀ j, j < s.length → p.getD (d.getD j 0) 0 = s.getD j 0) ∧
      (∀ i j, i < j → j < n → i ∉ d → j ∉ d → p.getD i 0 < p.getD j 0) := by
  obtain ⟨hRperm, hdesc⟩ := sortPairs_reverse_desc n s d hd hdn (Nat.le_of_eq hlen.symm)
  have hfst := hRperm.map Prod.fst
  have hsnd := hRperm.map Prod.snd
  rw [List.map_fst_zip (Nat.le_of_eq hlen.symm)] at hfst
  rw [List.map_snd_zip (Nat.le_of_eq hlen)] at hsnd
  have hsrc := sources_append_rest_perm n s hsn hs
  have hB : n ≤ ((List.range n).filter (fun k => !s.contains k)).length + (sortPairs (d.zip s)).reverse.length := by
    have h1 := hsrc.length_eq
    have h2 := hsnd.length_eq
    rw [List.length_append, List.length_range] at h1
    rw [List.length_map] at h2
    omega
  obtain ⟨_, hbperm, hget, hmono⟩ := buildR_spec _ (fun a b hab hb => by
    rw [getD_eq_getElem _ a 0 (Nat.lt_trans hab hb), getD_eq_getElem _ b 0 hb]
    exact List.pairwise_iff_getElem.mp (List.Pairwise.filter _ List.pairwise_lt_range) a b _ hb hab) _ n hdesc hB
  have hperm := hbperm.trans ((List.Perm.append_right _ hsnd).trans hsrc)
  refine ⟨_, List.foldr_reverse.symm, hperm, ?_, ?_⟩
  · intro j hj
    have hjz : j < (d.zip s).length := by
      rw [List.length_zip, ← hlen, Nat.min_self]
      exact hj
    refine hget (d.getD j 0, s.getD j 0) (hRperm.mem_iff.mpr (List.mem_iff_getElem.mpr ⟨j, hjz, ?_⟩))
    rw [List.getElem_zip, getD_eq_getElem d j 0 (hlen ▸ hj), getD_eq_getElem s j 0 hj]
  · intro i j hij hj hi hj'
    refine hmono i j hij ?_ (fun h => hi (hfst.mem_iff.mp h)) (fun h => hj' (hfst.mem_iff.mp h))
    rw [hperm.length_eq, List.length_range]
    exact hj

end Dask.Perm
