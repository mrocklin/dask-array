/-
The n-d store model (Model/StoreND.lean).  Writes that are pairwise disjoint can be applied in any order.  The region's
selection `G` is fixed once; the write index of a block names, axis by axis, the block's piece of `G` (`blockSel`), so
`locate` in the block's selection is `locate` in `G` followed by the test "in this block" and a shift.  The blocks of a
chunking cover every in-range multi-index exactly once.  From these and the facts `Glue` (what fusing the region with any
index of sub-intervals yields, proved for accepted calls in Lemmas/StoreNDGlue.lean): the write of every block as a
function of `G`, the partition of the selected positions, and the final target for any order of the blocks.
-/
import DaskArrayModel.Model.StoreND
import DaskArrayModel.Lemmas.SourceIO
import DaskArrayModel.Lemmas.ExprArr
import DaskArrayModel.Lemmas.Slice1dPos
import DaskArrayModel.Lemmas.ListBasic
namespace Dask.Lemmas.StoreND
open Dask.Py Dask.Py.PySlice Dask.Slicing Dask.SourceIO Dask.StoreND Dask.Lemmas.SourceIO
open Dask.Lemmas.Rank (rank_nodup rank_none)

def Disjoint {α : Type} (a b : Write α) : Prop := ∀ q, a q = none ∨ b q = none

theorem disjoint_symm {α : Type} {a b : Write α} (h : Disjoint a b) : Disjoint b a :=
  fun q => (h q).symm

theorem applyAll_cons {α : Type} (t : α → Int) (w : Write α) (ws : List (Write α)) :
    applyAll t (w :: ws) = applyAll (applyWrite t w) ws := rfl

theorem applyAll_none {α : Type} (t : α → Int) (ws : List (Write α)) (q : α)
    (h : ∀ w ∈ ws, w q = none) : applyAll t ws q = t q := by
  induction ws generalizing t with
  | nil => rfl
  | cons w ws ih =>
    rw [applyAll_cons, ih _ (fun w' hw' => h w' (List.mem_cons_of_mem _ hw'))]
    simp [applyWrite, h w (List.mem_cons_self ..)]

theorem applyAll_some {α : Type} (t : α → Int) (ws : List (Write α)) (q : α) (v : Int)
    (hd : ws.Pairwise Disjoint) (w : Write α) (hw : w ∈ ws) (hv : w q = some v) :
    applyAll t ws q = v := by
  induction ws generalizing t with
  | nil => simp at hw
  | cons a rest ih =>
    rw [List.pairwise_cons] at hd
    rw [applyAll_cons]
    rcases List.mem_cons.mp hw with rfl | hw'
    · rw [applyAll_none]
      · simp [applyWrite, hv]
      · intro w' hw'
        rcases hd.1 w' hw' q with h | h
        · rw [hv] at h; cases h
        · exact h
    · exact ih _ hd.2 hw'

theorem applyAll_perm {ι α : Type} (spec : ι → Write α) (all order : List ι) (hp : order.Perm all)
    (hnd : all.Nodup) (hd : ∀ a ∈ all, ∀ b ∈ all, a ≠ b → Disjoint (spec a) (spec b))
    (t : α → Int) (q : α) :
    (∀ i ∈ all, ∀ v, spec i q = some v → applyAll t (order.map spec) q = v) ∧
    ((∀ i ∈ all, spec i q = none) → applyAll t (order.map spec) q = t q) := by
  have hpw : (order.map spec).Pairwise Disjoint := by
    rw [List.pairwise_map]
    exact (hp.nodup_iff.mpr hnd).imp_of_mem (fun {a b} ha hb hab =>
      hd a (hp.mem_iff.mp ha) b (hp.mem_iff.mp hb) hab)
  constructor
  · intro i hi v hv
    exact applyAll_some t _ q v hpw (spec i) (List.mem_map.mpr ⟨i, hp.mem_iff.mpr hi, rfl⟩) hv
  · intro h
    apply applyAll_none
    intro w hw
    obtain ⟨i, hi, rfl⟩ := List.mem_map.mp hw
    exact h i (hp.mem_iff.mp hi)

theorem findPos_eq_findIdx (q : Int) (l : List Int) : findPos q l = l.findIdx? (· == q) := by
  induction l with
  | nil => rfl
  | cons x xs ih =>
    rw [findPos, List.findIdx?_cons, ih]
    by_cases h : q = x
    · rw [if_pos h, if_pos (beq_iff_eq.mpr h.symm)]
    · rw [if_neg h, if_neg (fun e => h (beq_iff_eq.mp e).symm)]

theorem findPos_nodup (q : Int) (l : List Int) (hl : l.Nodup) (j : Nat) :
    findPos q l = some j ↔ l[j]? = some q := by
  rw [findPos_eq_findIdx, rank_nodup l hl]

theorem findPos_none_iff (q : Int) (l : List Int) : findPos q l = none ↔ q ∉ l := by
  rw [findPos_eq_findIdx, rank_none]

theorem findPos_span_iff (q : Int) (L : List Int) (hL : L.Nodup) (a n j : Nat) :
    findPos q ((L.drop a).take n) = some j ↔ j < n ∧ findPos q L = some (a + j) := by
  rw [findPos_nodup q _ (List.Pairwise.take (List.Pairwise.drop hL)), findPos_nodup q L hL, List.getElem?_take,
    List.getElem?_drop]
  split
  · next h => exact (and_iff_right h).symm
  · next h => exact ⟨fun e => (by cases e), fun e => absurd e.1 h⟩

theorem findPos_span (q : Int) (L : List Int) (hL : L.Nodup) (a n : Nat) :
    findPos q ((L.drop a).take n) =
      match findPos q L with
      | none => none
      | some g => if a ≤ g ∧ g < a + n then some (g - a) else none := by
  cases hg : findPos q L with
  | none =>
    refine Option.eq_none_iff_forall_ne_some.mpr fun j hj => ?_
    rw [findPos_span_iff q L hL, hg] at hj
    cases hj.2
  | some g =>
    simp only
    split
    · next h =>
      rw [findPos_span_iff q L hL, hg, Nat.add_sub_cancel' h.1]
      exact ⟨by omega, rfl⟩
    · next h =>
      refine Option.eq_none_iff_forall_ne_some.mpr fun j hj => ?_
      rw [findPos_span_iff q L hL, hg, Option.some.injEq] at hj
      exact h (by omega)

theorem span_mem_cast (a n g : Nat) : ((a : Int) ≤ g ∧ (g : Int) < (a : Int) + n) ↔ (a ≤ g ∧ g < a + n) := by
  rw [← Int.natCast_add, Int.ofNat_le, Int.ofNat_lt]

/-- the selection of the block with index `idx` (one `(start, stop)` pair of positions IN the selection per `many`
axis; a `pt` axis, an integer of the region, consumes no entry) -/
def blockSel : List AxSel → List (Int × Int) → List AxSel
  | [], _ => []
  | AxSel.pt i :: as, ps => AxSel.pt i :: blockSel as ps
  | AxSel.many L :: as, p :: ps => AxSel.many (piece L p) :: blockSel as ps
  | AxSel.many L :: as, [] => AxSel.many L :: blockSel as []

/-- n-d and on `(start, stop)` pairs: the multi-index `g` lies in the box `idx` (per axis this is `Layout.InBlock`
written with the bounds of the block) -/
def inBlock : List (Int × Int) → List Int → Bool
  | [], [] => true
  | p :: ps, g :: gs => decide (p.1 ≤ g ∧ g < p.2) && inBlock ps gs
  | _, _ => false

def subPos : List Int → List Int → List Int
  | a :: as, b :: bs => (a - b) :: subPos as bs
  | _, _ => []

/-- `idx` is an index of sub-intervals of the selection `G`: one pair per `many` axis (none for a `pt` axis), each an
interval of POSITIONS IN that axis' duplicate-free selection, not of the target -/
def Fits : List AxSel → List (Int × Int) → Prop
  | [], [] => True
  | AxSel.pt _ :: as, ps => Fits as ps
  | AxSel.many L :: as, p :: ps => L.Nodup ∧ 0 ≤ p.1 ∧ p.1 ≤ p.2 ∧ p.2 ≤ (L.length : Int) ∧ Fits as ps
  | _, _ => False

theorem locate_blockSel (G : List AxSel) (idx : List (Int × Int)) (q : Pos) (h : Fits G idx) :
    locate (blockSel G idx) q =
      match locate G q with
      | none => none
      | some g => if inBlock idx g then some (subPos g (idx.map (·.1))) else none := by
  fun_induction blockSel G idx generalizing q with
  | case1 ps =>
    cases ps with
    | nil => cases q <;> rfl
    | cons _ _ => cases h
  | case2 i as ps ih =>
    cases q with
    | nil => rfl
    | cons q0 qs =>
      simp only [locate]
      split
      · exact ih qs h
      · rfl
  | case3 L as p ps ih =>
    obtain ⟨hL, h0, h1, _, hrest⟩ := h
    obtain ⟨a, n, rfl⟩ := span_cast p h0 h1
    cases q with
    | nil => rfl
    | cons q0 qs =>
      simp only [locate]
      rw [piece_span, findPos_span q0 L hL a n, ih qs hrest]
      cases findPos q0 L with
      | none => rfl
      | some g =>
        cases locate as qs with
        | none => by_cases hin : a ≤ g ∧ g < a + n <;> simp [hin]
        | some gs =>
          simp only [inBlock, subPos, List.map_cons, Bool.and_eq_true, decide_eq_true_eq, span_mem_cast]
          by_cases hin : a ≤ g ∧ g < a + n
          · rw [if_pos hin]
            by_cases hb : inBlock ps gs = true
            · rw [if_pos hb, if_pos ⟨hin, hb⟩]
              simp only [Int.ofNat_sub hin.1]
            · rw [if_neg hb, if_neg (fun h' : _ ∧ _ => hb h'.2)]
          · rw [if_neg hin, if_neg (fun h' : _ ∧ _ => hin h'.1)]
  | case4 L as ih => cases h

theorem mem_blockIds_cons (c : List Int) (cs : List (List Int)) (bid : List Nat) :
    bid ∈ blockIds (c :: cs) ↔ ∃ i is, bid = i :: is ∧ i < c.length ∧ is ∈ blockIds cs := by
  simp only [blockIds, mem_consProd, List.mem_range]

def InRange : List (List Int) → List Int → Prop
  | [], [] => True
  | c :: cs, g :: gs => 0 ≤ g ∧ g < isum c ∧ InRange cs gs
  | _, _ => False

def ChunksOK (chunks : List (List Int)) : Prop := ∀ c ∈ chunks, ∀ x ∈ c, 0 ≤ x

theorem nd_cover (chunks : List (List Int)) (g : List Int) (hg : InRange chunks g) :
    ∃ bid ∈ blockIds chunks, inBlock (blockIndex chunks bid) g = true := by
  fun_induction InRange chunks g with
  | case1 => exact ⟨[], List.mem_singleton.mpr rfl, rfl⟩
  | case2 c cs g0 gs ih =>
    obtain ⟨h0, h1, hr⟩ := hg
    obtain ⟨b, ib⟩ := Layout.exists_inBlock c h0 h1
    obtain ⟨is, his, hin⟩ := ih hr
    refine ⟨b :: is, (mem_blockIds_cons ..).mpr ⟨b, is, rfl, ib.lt, his⟩, ?_⟩
    simp only [blockIndex, inBlock, Bool.and_eq_true, decide_eq_true_eq]
    exact ⟨⟨ib.start_le, ib.lt_end⟩, hin⟩
  | case3 => cases hg

theorem nd_unique (chunks : List (List Int)) (hc : ChunksOK chunks) (g : List Int) (bid bid' : List Nat)
    (hb : bid ∈ blockIds chunks) (hb' : bid' ∈ blockIds chunks)
    (h1 : inBlock (blockIndex chunks bid) g = true) (h2 : inBlock (blockIndex chunks bid') g = true) :
    bid = bid' := by
  induction chunks generalizing g bid bid' with
  | nil => simp [blockIds] at hb hb'; rw [hb, hb']
  | cons c cs ih =>
    obtain ⟨i, is, rfl, hi, his⟩ := (mem_blockIds_cons ..).mp hb
    obtain ⟨i', is', rfl, hi', his'⟩ := (mem_blockIds_cons ..).mp hb'
    cases g with
    | nil => cases h1
    | cons g0 gs =>
      simp only [blockIndex, inBlock, Bool.and_eq_true, decide_eq_true_eq] at h1 h2
      have e1 := (Layout.InBlock.of_bounds h1.1.1 h1.1.2).unique (hc c (List.mem_cons_self ..))
        (Layout.InBlock.of_bounds h2.1.1 h2.1.2)
      have e2 := ih (fun c' hc' => hc c' (List.mem_cons_of_mem _ hc')) gs is is' his his' h1.2 h2.2
      rw [e1, e2]

def NodupSel : List AxSel → Prop
  | [] => True
  | AxSel.pt _ :: as => NodupSel as
  | AxSel.many L :: as => L.Nodup ∧ NodupSel as

theorem fits_block (G : List AxSel) (chunks : List (List Int)) (hc : ChunksOK chunks)
    (hn : NodupSel G) (hs : selShape G = srcShape chunks) (bid : List Nat) (hb : bid ∈ blockIds chunks) :
    Fits G (blockIndex chunks bid) := by
  fun_induction selShape G generalizing chunks bid with
  | case1 =>
    cases chunks with
    | nil => obtain rfl : bid = [] := List.mem_singleton.mp hb; trivial
    | cons c cs => cases hs
  | case2 i as ih => exact ih chunks hc hn hs bid hb
  | case3 L as ih =>
    cases chunks with
    | nil => cases hs
    | cons c cs =>
      obtain ⟨i, is, rfl, _, his⟩ := (mem_blockIds_cons ..).mp hb
      injection hs with hs1 hs2
      have hci := hc c (List.mem_cons_self ..)
      have hend : blockStart c i + c.getD i 0 ≤ isum c := Layout.start_succ c i ▸ Layout.start_le_sum hci (i + 1)
      exact ⟨hn.1, Layout.start_nonneg hci i, Int.le_add_of_nonneg_right (getD_nonneg c hci i), hs1 ▸ hend,
        ih cs (fun c' hc' => hc c' (List.mem_cons_of_mem _ hc')) hn.2 hs2 is his⟩

theorem locate_inRange (G : List AxSel) (chunks : List (List Int)) (hs : selShape G = srcShape chunks)
    (q : Pos) (g : List Int) (h : locate G q = some g) : InRange chunks g := by
  fun_induction locate G q generalizing chunks g with
  | case1 =>
    cases h
    cases chunks with
    | nil => trivial
    | cons _ _ => cases hs
  | case2 as i qs ih => exact ih chunks hs g h
  | case3 => cases h
  | case4 ps as q0 qs j js hl hf ih =>
    cases h
    cases chunks with
    | nil => cases hs
    | cons c cs =>
      have hjl : j < ps.length := by
        rw [findPos_eq_findIdx, List.findIdx?_eq_some_iff_getElem] at hf
        exact hf.1
      injection hs with h1 h2
      exact ⟨Int.natCast_nonneg j, h1 ▸ Int.ofNat_lt.mpr hjl, ih cs h2 js hl⟩
  | case5 => cases h
  | case6 => cases h

theorem selShape_blockSel (G : List AxSel) (idx : List (Int × Int)) (h : Fits G idx) :
    selShape (blockSel G idx) = idx.map (fun p => p.2 - p.1) := by
  fun_induction blockSel G idx with
  | case1 ps =>
    cases ps with
    | nil => rfl
    | cons _ _ => cases h
  | case2 i as ps ih => exact ih h
  | case3 L as p ps ih =>
    obtain ⟨_, h0, h1, h2, hr⟩ := h
    simp only [selShape, List.map_cons, ih hr, length_piece L p h0 h1 h2]
  | case4 L as ih => cases h

theorem okZip_self (xs : List Int) : okZip xs xs = true := by
  induction xs with
  | nil => rfl
  | cons x xs ih => simp [okZip, ih]

theorem bcastOk_self (xs : List Int) : bcastOk xs xs = true := by
  simp [bcastOk, okZip_self]

structure LocalIndex (idx : List (Int × Int)) (g : List Int) : Prop where
  rank : (subPos g (idx.map (·.1))).length = idx.length
  no_bcast : idxZip (idx.map (fun p => p.2 - p.1)) (subPos g (idx.map (·.1))) =
    subPos g (idx.map (·.1))
  starts_add : addPos (idx.map (·.1)) (subPos g (idx.map (·.1))) = g
  block_nonempty : 0 < iprod (idx.map (fun p => p.2 - p.1))

/-- inside `[lo, hi)` an extent of one leaves only the offset `0`, so `idxZip` keeps the offset -/
theorem offset_kept {lo hi g : Int} (h : lo ≤ g ∧ g < hi) : (if hi - lo = 1 then 0 else g - lo) = g - lo := by
  split
  · omega
  · rfl

theorem inBlock_local (idx : List (Int × Int)) (g : List Int) (h : inBlock idx g = true) :
    LocalIndex idx g := by
  fun_induction inBlock idx g with
  | case1 => exact ⟨rfl, rfl, rfl, Int.zero_lt_one⟩
  | case2 p ps g0 gs ih =>
    simp only [Bool.and_eq_true, decide_eq_true_eq] at h
    obtain ⟨h1, h2, h3, h4⟩ := ih h.2
    refine ⟨by simp only [List.map_cons, subPos, List.length_cons, h1], ?_, ?_,
      Int.mul_pos (Int.sub_pos_of_lt (Int.lt_of_le_of_lt h.1.1 h.1.2)) h4⟩
    · simp only [List.map_cons, subPos, idxZip, h2, offset_kept h.1]
    · simp only [List.map_cons, subPos, addPos, h3, Int.add_comm p.1, Int.sub_add_cancel]
  | case3 => cases h

theorem bcastIdx_inBlock (idx : List (Int × Int)) (g : List Int) (h : inBlock idx g = true) :
    bcastIdx (idx.map (fun p => p.2 - p.1)) (subPos g (idx.map (·.1))) = subPos g (idx.map (·.1)) := by
  have hl := inBlock_local idx g h
  unfold bcastIdx
  simp only [List.length_map, hl.rank, Nat.sub_self, List.replicate_zero, List.drop_zero,
    List.nil_append]
  exact hl.no_bcast

/-- what the rest of the file needs of an accepted call whose region selects `G` -/
structure Glue (tshape : List Int) (region : Option (List RIdx)) (chunks : List (List Int))
    (G : List AxSel) : Prop where
  sel : regionSel tshape region = .ok G
  nodup : NodupSel G
  shape : selShape G = srcShape chunks
  fuse : ∀ idx, Fits G idx → ∃ widx,
    storeIndex region idx = .ok widx ∧ indexSel tshape widx = .ok (blockSel G idx)

/-- the write of block `bid` as a function of `G`: target position `q`, at multi-index `g` of the selection, gets
`src g` iff `g` lies in the block -/
def blockSpec (G : List AxSel) (chunks : List (List Int)) (src : Pos → Int) (bid : List Nat) : Write Pos :=
  fun q => match locate G q with
    | none => none
    | some g => if inBlock (blockIndex chunks bid) g then some (src g) else none

theorem blockWrite_eq (tshape : List Int) (region : Option (List RIdx)) (chunks : List (List Int))
    (G : List AxSel) (src : Pos → Int) (hc : ChunksOK chunks) (hg : Glue tshape region chunks G)
    (bid : List Nat) (hb : bid ∈ blockIds chunks) :
    blockWrite tshape region chunks src bid = .ok (blockSpec G chunks src bid) := by
  have hfit := fits_block G chunks hc hg.nodup hg.shape bid hb
  obtain ⟨widx, hw, hsel⟩ := hg.fuse _ hfit
  unfold blockWrite
  simp only [hw]
  split
  · rename_i hz
    congr 1
    funext q
    unfold blockSpec
    cases hl : locate G q with
    | none => rfl
    | some g =>
      simp only
      split
      · rename_i hin
        exact absurd hz (Int.ne_of_gt (inBlock_local _ g hin).block_nonempty)
      · rfl
  · simp only [hsel, selShape_blockSel G _ hfit, bcastOk_self, if_true]
    congr 1
    funext q
    unfold blockSpec
    rw [locate_blockSel G _ q hfit]
    cases hl : locate G q with
    | none => rfl
    | some g =>
      simp only
      split
      · rename_i hin
        simp only [Option.map_some, bcastIdx_inBlock _ g hin, (inBlock_local _ g hin).starts_add]
      · rfl

theorem blockSpec_disjoint (G : List AxSel) (chunks : List (List Int)) (src : Pos → Int)
    (hc : ChunksOK chunks) (bid bid' : List Nat) (hb : bid ∈ blockIds chunks) (hb' : bid' ∈ blockIds chunks)
    (hne : bid ≠ bid') : Disjoint (blockSpec G chunks src bid) (blockSpec G chunks src bid') := by
  intro q
  unfold blockSpec
  cases hl : locate G q with
  | none => left; rfl
  | some g =>
    simp only
    by_cases h1 : inBlock (blockIndex chunks bid) g = true
    · by_cases h2 : inBlock (blockIndex chunks bid') g = true
      · exact absurd (nd_unique chunks hc g bid bid' hb hb' h1 h2) hne
      · right; simp [h2]
    · left; simp [h1]

theorem writes_partition (G : List AxSel) (chunks : List (List Int)) (src : Pos → Int)
    (hc : ChunksOK chunks) (hs : selShape G = srcShape chunks) (q : Pos) :
    (∀ g, locate G q = some g →
      ∃ bid ∈ blockIds chunks, blockSpec G chunks src bid q = some (src g) ∧
        ∀ bid' ∈ blockIds chunks, bid' ≠ bid → blockSpec G chunks src bid' q = none) ∧
    (locate G q = none → ∀ bid, blockSpec G chunks src bid q = none) := by
  constructor
  · intro g hl
    obtain ⟨bid, hb, hin⟩ := nd_cover chunks g (locate_inRange G chunks hs q g hl)
    refine ⟨bid, hb, by simp [blockSpec, hl, hin], ?_⟩
    intro bid' hb' hne
    rcases blockSpec_disjoint G chunks src hc bid' bid hb' hb hne q with h | h
    · exact h
    · simp [blockSpec, hl, hin] at h
  · intro hl bid
    simp [blockSpec, hl]

theorem blockIds_eq_allIdx : ∀ chunks : List (List Int), blockIds chunks = Dask.ND.allIdx (chunks.map List.length)
  | [] => rfl
  | c :: cs => by rw [blockIds, List.map_cons, Dask.ND.allIdx, blockIds_eq_allIdx cs]

theorem nodup_blockIds (chunks : List (List Int)) : (blockIds chunks).Nodup :=
  blockIds_eq_allIdx chunks ▸ Dask.ND.nodup_allIdx _

theorem store_correct (tshape : List Int) (region : Option (List RIdx)) (chunks : List (List Int))
    (G : List AxSel) (src tgt : Pos → Int) (hc : ChunksOK chunks) (hg : Glue tshape region chunks G)
    (order : List (List Nat)) (hp : order.Perm (blockIds chunks)) :
    storeEvalOrder tshape region chunks src order tgt = .ok (specTarget G src tgt) := by
  unfold storeEvalOrder
  have hm : mapE (blockWrite tshape region chunks src) order = .ok (order.map (blockSpec G chunks src)) :=
    mapE_eq_map _ _ _ (fun bid hb => blockWrite_eq tshape region chunks G src hc hg bid (hp.mem_iff.mp hb))
  simp only [hm]
  congr 1
  funext q
  have ha := applyAll_perm (blockSpec G chunks src) _ order hp (nodup_blockIds chunks)
    (fun a ha b hb hab => blockSpec_disjoint G chunks src hc a b ha hb hab) tgt q
  have hpart := writes_partition G chunks src hc hg.shape q
  unfold specTarget
  cases hl : locate G q with
  | none => exact ha.2 (fun bid _ => hpart.2 hl bid)
  | some g =>
    obtain ⟨bid, hb, hv, _⟩ := hpart.1 g hl
    exact ha.1 bid hb _ hv

end Dask.Lemmas.StoreND
