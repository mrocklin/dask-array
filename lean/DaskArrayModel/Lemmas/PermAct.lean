/-
A permutation `p` of the axes acts on per-axis data `x` by gathering, `p.map (x.getD · d)` (the shape, the chunks and
the block id of a transpose, `composeAsCode`, `Perm.permute`); `unperm p` / `unpermL p` gather by the positions
`p.idxOf`.  Both commute with whatever is computed axis by axis (`gather_zipWith`, `gather_map` of Lemmas/ListBasic.lean),
and for a valid permutation they are inverse to each other on lists of the rank: a fact about a transposed layout is
the fact about the layout, rewritten by naturality, with the inverse pair cancelled.
-/
import DaskArrayModel.Lemmas.ExprMeta
import DaskArrayModel.Model.Rules
namespace Dask.ND
open Dask.Py

section
variable {α β γ : Type}

theorem unpermL_gather (p : List Nat) (x : List α) (d : α) :
    unpermL p x d = ((List.range p.length).map (fun a => p.idxOf a)).map (fun k => x.getD k d) := by
  rw [List.map_map]; rfl

theorem unpermL_length (p : List Nat) (x : List α) (d : α) : (unpermL p x d).length = p.length := by
  simp [unpermL]

theorem unpermL_getD (p : List Nat) (x : List α) (d : α) (a : Nat) (ha : a < p.length) :
    (unpermL p x d).getD a d = x.getD (p.idxOf a) d :=
  getD_map_range _ _ _ _ ha

theorem unperm_eq (p x : List Nat) : unperm p x = unpermL p x 0 := rfl

theorem unperm_length (p x : List Nat) : (unperm p x).length = p.length := unpermL_length p x 0

theorem unperm_getD (p x : List Nat) (a : Nat) (ha : a < p.length) :
    (unperm p x).getD a 0 = x.getD (p.idxOf a) 0 := unpermL_getD p x 0 a ha

variable {p : List Nat} {n : Nat}

theorem PermOK.idxOf_mem (hp : PermOK p n) {j : Nat} (hj : j ∈ (List.range p.length).map (fun a => p.idxOf a)) :
    j < n := by
  obtain ⟨a, ha, rfl⟩ := List.mem_map.mp hj
  exact hp.idxOf_lt (hp.len ▸ List.mem_range.mp ha)

theorem perm_unpermL (hp : PermOK p n) {x : List α} (hx : x.length = n) (d : α) :
    p.map (fun k => (unpermL p x d).getD k d) = x := by
  refine ext_getD d (by rw [List.length_map, hp.len, hx]) fun k hk => ?_
  rw [List.length_map, hp.len] at hk
  rw [getD_map _ p k 0 d (hp.len ▸ hk), unpermL_getD _ _ _ _ (hp.len ▸ hp.getD_lt hk), hp.idxOf_getD hk]

theorem unpermL_perm (hp : PermOK p n) {x : List α} (hx : x.length = n) (d : α) :
    unpermL p (p.map (fun k => x.getD k d)) d = x := by
  refine ext_getD d (by rw [unpermL_length, hp.len, hx]) fun a ha => ?_
  rw [unpermL_length, hp.len] at ha
  rw [unpermL_getD _ _ _ _ (hp.len ▸ ha), getD_map _ p _ 0 d (hp.len ▸ hp.idxOf_lt ha), hp.getD_idxOf ha]

theorem perm_zipWith (hp : PermOK p n) (f : α → β → γ) {x : List α} {y : List β} (hx : x.length = n)
    (hy : y.length = n) (dx : α) (dy : β) (dz : γ) :
    p.map (fun k => (List.zipWith f x y).getD k dz)
      = List.zipWith f (p.map (fun k => x.getD k dx)) (p.map (fun k => y.getD k dy)) :=
  gather_zipWith f p x y dx dy dz fun j hj => ⟨hx ▸ hp.lt j hj, hy ▸ hp.lt j hj⟩

theorem unpermL_zipWith (hp : PermOK p n) (f : α → β → γ) {x : List α} {y : List β} (hx : x.length = n)
    (hy : y.length = n) (dx : α) (dy : β) (dz : γ) :
    unpermL p (List.zipWith f x y) dz = List.zipWith f (unpermL p x dx) (unpermL p y dy) := by
  rw [unpermL_gather, unpermL_gather, unpermL_gather]
  exact gather_zipWith f _ x y dx dy dz fun j hj => ⟨hx ▸ hp.idxOf_mem hj, hy ▸ hp.idxOf_mem hj⟩

theorem unpermL_map (f : α → β) (p : List Nat) (x : List α) (d : α) :
    (unpermL p x d).map f = unpermL p (x.map f) (f d) := by
  rw [unpermL_gather, unpermL_gather, gather_map f rfl]

theorem mem_unpermL (hp : PermOK p n) {x : List α} (hx : x.length = n) {d v : α} (h : v ∈ unpermL p x d) :
    v ∈ x := by
  obtain ⟨a, ha, rfl⟩ := List.mem_map.mp h
  rw [List.mem_range, hp.len] at ha
  exact getD_mem x _ d (hx ▸ hp.idxOf_lt ha)

end

theorem InB.unperm {p : List Nat} {sh i : List Nat} (hp : PermOK p sh.length)
    (hi : InB i (p.map (fun a => sh.getD a 0))) : InB (unperm p i) sh := by
  apply InB.of_getD (by rw [unperm_length, hp.len])
  intro a ha
  have := hi.getD_lt (p.idxOf a) (by rw [List.length_map, hp.len]; exact hp.idxOf_lt ha)
  rwa [getD_map _ p _ 0 0 (hp.len ▸ hp.idxOf_lt ha), hp.getD_idxOf ha, ← unperm_getD p i a (hp.len ▸ ha)] at this

end Dask.ND
