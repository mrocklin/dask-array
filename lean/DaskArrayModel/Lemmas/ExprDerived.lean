/-
Derived forms (Model/ExprDerived.lean): the facts from which Props/C01Derived.lean shows that each derived
form is well-formed under the obvious conditions and denotes its NumPy-style spec.  `roll` and `diff` slice ONE
axis (`axisIx`) by slices that read a window, which changes the shape and the position read on that axis only
(`axisIx_window`); `stack` is a fold of concatenations, with the invariant `StackInv`.
-/
import DaskArrayModel.Lemmas.ExprCorrect
import DaskArrayModel.Lemmas.ExprIndex
import DaskArrayModel.Model.ExprDerived
namespace Dask.ND
open Dask.Py Dask.Py.PySlice Dask.Slicing Dask.Lemmas.SliceAlgebra

theorem replicate_colon_map (n : Nat) : (List.replicate n colon).map Ix.slc = List.replicate n colonIx :=
  List.map_replicate

theorem axisSlices_length (rank ax : Nat) (s : PySlice) : (axisSlices rank ax s).length = rank := by
  simp [axisSlices]

theorem wfIx_axisIx (sh : List Nat) (ax : Nat) (a b : Option Int) :
    wfIx sh (axisIx sh.length ax ⟨a, b, none⟩) = true := by
  unfold axisIx
  rw [wfIx_slc]
  refine ⟨axisSlices_length _ _ _, ?_⟩
  intro t ht
  unfold axisSlices at ht
  rcases List.mem_or_eq_of_mem_set ht with h | h
  · rw [List.mem_replicate] at h; rw [h.2]; simp [colon, stp]
  · rw [h]; simp [stp]

theorem sliceShape_axisIx (sh : List Nat) (ax : Nat) (s : PySlice) :
    sliceShape sh (axisIx sh.length ax s) = sh.set ax (sel s (sh.getD ax 0 : Nat)).length := by
  unfold axisIx axisSlices
  rw [sliceShape_set_axis (set_getD_same 0 sh ax).symm _ s, replicate_colon_map, sliceShape_colons]

theorem sliceIdx_axisIx (sh : List Nat) (ax : Nat) (s : PySlice) (i : List Nat) {v : Nat}
    (hi : InB i (sh.set ax v)) :
    sliceIdx sh (axisIx sh.length ax s) i
      = i.set ax ((sel s (sh.getD ax 0 : Nat)).getD (i.getD ax 0) 0).toNat := by
  have hc := sliceIdx_colons _ i hi
  rw [List.length_set] at hc
  unfold axisIx axisSlices
  rw [sliceIdx_set_axis (sh := sh.set ax v) (n := sh.getD ax 0) (by rw [List.set_set, set_getD_same]) _ s i,
    replicate_colon_map, hc]

theorem sliceChunks_axisIx_off (sh : List Nat) (cl : Layout) (ax : Nat) (s t : PySlice) :
    (sliceChunks sh cl (axisIx sh.length ax s)).set ax []
      = (sliceChunks sh cl (axisIx sh.length ax t)).set ax [] := by
  unfold axisIx axisSlices
  exact sliceChunks_set_axis (set_getD_same 0 sh ax).symm rfl _ s t

theorem mod_split (x n k : Nat) (hx : x < n) (hkn : k ≤ n) :
    (x + k) % n = if x < n - k then x + k else x - (n - k) := by
  split
  · rename_i h
    exact Nat.mod_eq_of_lt (Nat.add_lt_of_lt_sub h)
  · rename_i h
    obtain ⟨y, rfl⟩ := Nat.exists_eq_add_of_le (Nat.le_of_not_lt h)
    rw [Nat.add_sub_cancel_left, Nat.add_right_comm, Nat.sub_add_cancel hkn, Nat.add_mod_left,
      Nat.mod_eq_of_lt (Nat.lt_of_le_of_lt (Nat.le_add_left _ _) hx)]

/-- the split point of `roll` is a `k ≤ n`, and `(x - shift) mod n` is `x` moved forward by `k`, cyclically:
positions below `n - k` come from the piece `x[k:]`, the others from `x[:k]` -/
theorem rollStart_spec (n : Nat) (shift : Int) : ∃ k : Nat, rollStart n shift = k ∧ k ≤ n ∧
    ∀ x, x < n → (((x : Int) - shift) % (n : Int)).toNat = if x < n - k then x + k else x - (n - k) := by
  by_cases h : n = 0
  · exact ⟨0, if_pos h, Nat.zero_le _, fun x hx => absurd (h ▸ hx) (Nat.not_lt_zero x)⟩
  · have hn : (0 : Int) < n := Int.natCast_pos.mpr (Nat.pos_of_ne_zero h)
    have hs : (-shift) % (n : Int) = ((-shift) % (n : Int)).toNat :=
      (Int.toNat_of_nonneg (Int.emod_nonneg _ (Int.ne_of_gt hn))).symm
    have hkn : ((-shift) % (n : Int)).toNat ≤ n :=
      Nat.le_of_lt (Int.ofNat_lt.mp (hs ▸ Int.emod_lt_of_pos (-shift) hn))
    refine ⟨_, (if_neg h).trans ((pyMod_pos _ _ hn).trans hs), hkn, fun x hx => ?_⟩
    rw [Int.sub_eq_add_neg, ← Int.add_emod_emod, hs, ← Int.natCast_add, ← Int.natCast_emod, Int.toNat_natCast]
    exact mod_split x n _ hx hkn

theorem axisIx_window {sh : List Nat} {ax : Nat} {s : PySlice} {lo len : Nat} (hax : ax < sh.length)
    (W : Window s (sh.getD ax 0 : Nat) lo len) :
    sliceShape sh (axisIx sh.length ax s) = sh.set ax len ∧
    ∀ i, InB i (sh.set ax len) → sliceIdx sh (axisIx sh.length ax s) i = i.set ax (lo + i.getD ax 0) := by
  refine ⟨by rw [sliceShape_axisIx, W.length], fun i hi => ?_⟩
  have hx : i.getD ax 0 < len := by
    have := hi.getD_lt ax (by simpa using hax); rwa [getD_set_eq _ _ _ _ hax] at this
  rw [sliceIdx_axisIx _ _ _ _ hi, W.getD_toNat _ hx]

/-- any expression with the shape and the element function of `bin x[1:] x[:-1]` (on the axis) denotes
`np.diff`; the plain and the rechunked form are both of this kind -/
theorem den_diff_of (env : Env) (f : Nat) (e : Expr) (ax : Nat) (hax : ax < (shape e).length) (d : Expr)
    (hsh : shape d = sliceShape (shape e) (axisIx (shape e).length ax ⟨some 1, none, none⟩))
    (hget : ∀ i, denGet env d i
      = env.bin f (denGet env e (sliceIdx (shape e) (axisIx (shape e).length ax ⟨some 1, none, none⟩) i))
          (denGet env e (sliceIdx (shape e) (axisIx (shape e).length ax ⟨none, some (-1), none⟩) i))) :
    Arr.Equiv (den env d) (diffArr (env.bin f) (den env e) ax) := by
  obtain ⟨s1, g1⟩ := axisIx_window hax (Window.from1 ((shape e).getD ax 0))
  obtain ⟨_, g2⟩ := axisIx_window hax (Window.upto_m1 ((shape e).getD ax 0))
  refine ⟨hsh.trans s1, fun i hi => ?_⟩
  have hi' : InB i ((shape e).set ax ((shape e).getD ax 0 - 1)) := (hsh.trans s1) ▸ hi
  simp only [den, diffArr]
  rw [hget, g1 i hi', g2 i hi', Nat.zero_add, Nat.add_comm, set_getD_same]

/-- what the fold keeps: the accumulated concatenation of the `expand_dims` of `pre` -/
structure StackInv (sh : List Nat) (cl : Layout) (ax : Nat) (pre : List Expr) (acc : Expr) : Prop where
  isWF : WF acc
  shapeEq : shape acc = sh.insertIdx ax pre.length
  chunksOff : (chunks acc).set ax [] = (cl.insertIdx ax [1]).set ax []
  get : ∀ (env : Env) i, i.getD ax 0 < pre.length →
    denGet env acc i = denGet env (pre.getD (i.getD ax 0) (.src 0 [] [])) (i.eraseIdx ax)

theorem stack_fold (sh : List Nat) (cl : Layout) (ax : Nat) (hax : ax ≤ sh.length) :
    ∀ (rest pre : List Expr) (acc : Expr), (∀ e ∈ rest, WF e ∧ shape e = sh ∧ chunks e = cl) →
      StackInv sh cl ax pre acc →
      StackInv sh cl ax (pre ++ rest)
        ((rest.map (fun e => Expr.expandDims e ax)).foldl (fun a x => Expr.concat a x ax) acc) := by
  intro rest
  induction rest with
  | nil => intro pre acc _ h; rw [List.append_nil]; exact h
  | cons x rest ih =>
    intro pre acc hr h
    obtain ⟨hx1, hx2, hx3⟩ := hr x (by simp)
    have hlen : (sh.insertIdx ax pre.length).length = sh.length + 1 := by
      rw [List.length_insertIdx, if_pos hax]
    have hstep : StackInv sh cl ax (pre ++ [x]) (.concat acc (.expandDims x ax) ax) := by
      have hk : (shape acc).getD ax 0 = pre.length := by
        rw [h.shapeEq, getD_insertIdx_self _ _ _ _ hax]
      refine ⟨?_, ?_, ?_, ?_⟩
      · refine WF_concat.2 ⟨h.isWF, WF_expandDims.2 ⟨hx1, by rw [hx2]; exact hax⟩, ?_, ?_, ?_⟩
        · rw [h.shapeEq, hlen]; exact Nat.lt_succ_of_le hax
        · simp only [shape]
          rw [h.shapeEq, hx2, insertIdx_set_self _ _ _ _ hax, insertIdx_set_self _ _ _ _ hax]
        · simp only [chunks]; rw [h.chunksOff, hx3]
      · simp only [shape]
        rw [h.shapeEq, hx2, getD_insertIdx_self _ _ _ _ hax, getD_insertIdx_self _ _ _ _ hax,
          insertIdx_set_self _ _ _ _ hax]
        simp
      · simp only [chunks]; rw [List.set_set, h.chunksOff]
      · intro env i hi
        simp only [denGet, hk]
        by_cases hc : i.getD ax 0 < pre.length
        · rw [if_pos hc, h.get env i hc, getD_append_left _ _ _ _ hc]
        · rw [if_neg hc, List.eraseIdx_set_eq]
          have : i.getD ax 0 = pre.length :=
            Nat.le_antisymm (Nat.le_of_lt_succ (by simpa using hi)) (Nat.le_of_not_lt hc)
          rw [this, getD_append_right _ _ _ _ (Nat.le_refl _), Nat.sub_self]; rfl
    rw [List.append_cons]
    exact ih (pre ++ [x]) _ (fun e he => hr e (List.mem_cons_of_mem _ he)) hstep

theorem stack_first (sh : List Nat) (cl : Layout) (ax : Nat) (hax : ax ≤ sh.length)
    (e : Expr) (h : WF e ∧ shape e = sh ∧ chunks e = cl) :
    StackInv sh cl ax [e] (.expandDims e ax) := by
  obtain ⟨h1, h2, h3⟩ := h
  refine ⟨?_, by simp [shape, h2], by simp [chunks, h3], ?_⟩
  · exact WF_expandDims.2 ⟨h1, by rw [h2]; exact hax⟩
  · intro env i hi
    rw [Nat.lt_one_iff.mp hi]; rfl

theorem stackN_inv (sh : List Nat) (cl : Layout) (ax : Nat) (es : List Expr) (r : Expr)
    (hes : ∀ e ∈ es, WF e ∧ shape e = sh ∧ chunks e = cl) (hax : ax ≤ sh.length)
    (h : Expr.stackN es ax = some r) : StackInv sh cl ax es r := by
  cases es with
  | nil => simp [Expr.stackN, Expr.concatN] at h
  | cons e es =>
    simp only [Expr.stackN, List.map_cons, Expr.concatN, Option.some.injEq] at h
    subst h
    exact stack_fold sh cl ax hax es [e] _ (fun x hx => hes x (List.mem_cons_of_mem _ hx))
      (stack_first sh cl ax hax e (hes e (by simp)))

def swapFn (a b k : Nat) : Nat := if k = a then b else if k = b then a else k

theorem swapFn_invol (a b k : Nat) : swapFn a b (swapFn a b k) = k := by
  unfold swapFn
  by_cases h1 : k = a
  · rw [if_pos h1]
    by_cases h3 : b = a
    · rw [if_pos h3, h3, h1]
    · rw [if_neg h3, if_pos rfl, h1]
  · rw [if_neg h1]
    by_cases h2 : k = b
    · rw [if_pos h2, if_pos rfl, h2]
    · rw [if_neg h2, if_neg h1, if_neg h2]

theorem swapFn_lt {a b k n : Nat} (ha : a < n) (hb : b < n) (hk : k < n) : swapFn a b k < n := by
  unfold swapFn
  split
  · exact hb
  · split
    · exact ha
    · exact hk

theorem swapPerm_eq (rank a b : Nat) : swapPerm rank a b = (List.range rank).map (swapFn a b) := rfl

theorem swapPerm_getD (rank a b k : Nat) (hk : k < rank) : (swapPerm rank a b).getD k 0 = swapFn a b k := by
  rw [swapPerm_eq, getD_map _ _ k 0 0 (by simpa using hk), getD_range _ _ hk]

theorem swapPerm_ok (rank a b : Nat) (ha : a < rank) (hb : b < rank) : PermOK (swapPerm rank a b) rank := by
  refine ⟨by simp [swapPerm], ?_, ?_, ?_⟩
  · intro x hx
    rw [swapPerm_eq, List.mem_map] at hx
    obtain ⟨k, hk, rfl⟩ := hx
    exact swapFn_lt ha hb (List.mem_range.mp hk)
  · intro x hx
    rw [swapPerm_eq, List.mem_map]
    exact ⟨swapFn a b x, List.mem_range.mpr (swapFn_lt ha hb hx), swapFn_invol a b x⟩
  · rw [swapPerm_eq]
    apply List.Pairwise.map (swapFn a b) _ List.nodup_range
    intro x y hxy hs
    apply hxy
    rw [← swapFn_invol a b x, ← swapFn_invol a b y, hs]

theorem isPerm_of_ok {perm : List Nat} {n : Nat} (h : PermOK perm n) : isPerm perm n = true := by
  simp only [isPerm, Bool.and_eq_true, decide_eq_true_eq, List.all_eq_true, List.mem_range,
    List.contains_iff_mem]
  exact ⟨⟨⟨h.len, h.lt⟩, h.mem⟩, h.nodup⟩

theorem isPerm_of_perm {perm : List Nat} {n : Nat} (h : perm.Perm (List.range n)) : isPerm perm n = true :=
  isPerm_of_ok ⟨by simpa using h.length_eq, fun _ ha => List.mem_range.mp (h.mem_iff.mp ha),
    fun _ ha => h.mem_iff.mpr (List.mem_range.mpr ha), h.nodup_iff.mpr List.nodup_range⟩

theorem moveaxisPerm_perm (rank src dst : Nat) (hs : src < rank) (hd : dst < rank) :
    (moveaxisPerm rank src dst).Perm (List.range rank) := by
  unfold moveaxisPerm
  have hmem : src ∈ List.range rank := List.mem_range.mpr hs
  have h1 := List.perm_cons_erase hmem
  rw [List.Nodup.erase_eq_filter List.nodup_range src] at h1
  have hlen : ((List.range rank).filter (fun n => n != src)).length + 1 = rank := by
    rw [← List.length_cons, ← h1.length_eq, List.length_range]
  exact (List.perm_insertIdx src _ (Nat.le_of_lt_succ (Nat.lt_of_lt_of_eq hd hlen.symm))).trans h1.symm

theorem shape_leadingAxes (e : Expr) : ∀ d, shape (e.leadingAxes d) = List.replicate d 1 ++ shape e
  | 0 => rfl
  | d + 1 => by
    simp only [Expr.leadingAxes, shape, shape_leadingAxes e d, List.insertIdx_zero, List.replicate_succ,
      List.cons_append]

theorem chunks_leadingAxes (e : Expr) : ∀ d, chunks (e.leadingAxes d) = List.replicate d [1] ++ chunks e
  | 0 => rfl
  | d + 1 => by
    simp only [Expr.leadingAxes, chunks, chunks_leadingAxes e d, List.insertIdx_zero, List.replicate_succ,
      List.cons_append]

theorem wf_leadingAxes (e : Expr) (hw : WF e) : ∀ d, WF (e.leadingAxes d)
  | 0 => hw
  | d + 1 => by
    simp only [Expr.leadingAxes, WF, wf, Bool.and_eq_true, decide_eq_true_eq]
    exact ⟨wf_leadingAxes e hw d, Nat.zero_le _⟩

theorem denGet_leadingAxes (env : Env) (e : Expr) : ∀ d i, denGet env (e.leadingAxes d) i = denGet env e (i.drop d)
  | 0, i => rfl
  | d + 1, i => by
    simp only [Expr.leadingAxes, denGet]
    rw [denGet_leadingAxes env e d, List.eraseIdx_zero, List.drop_tail]

theorem den_leadingAxes (env : Env) (e : Expr) (d : Nat) :
    Arr.Equiv (den env (e.leadingAxes d)) (leadingArr (den env e) d) :=
  ⟨shape_leadingAxes e d, fun i _ => denGet_leadingAxes env e d i⟩

end Dask.ND
