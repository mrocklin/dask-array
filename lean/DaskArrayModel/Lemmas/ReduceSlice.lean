/-
Proofs for the reduction slice pushdown (`Model/ReduceSlice.lean`).  The pushed and the original form are compared
axis by axis: `CoreFacts` is what holds of a (mask, input shape, index) triple, it is extended by one axis in four
ways (a reduced axis with / without keepdims, a kept axis indexed by a slice / by an integer), and the two index
computations of the model (`inputIndexKd` / `finalKd`, `inputIndexNoKd` / `finalNoKd`) only choose among these.
-/
import DaskArrayModel.Model.ReduceSlice
import DaskArrayModel.Lemmas.ExprIndex
import DaskArrayModel.Lemmas.SliceWindow
namespace Dask.RedSlice
open Dask.Py Dask.Py.PySlice Dask.Slicing Dask.ND Dask.Lemmas.SliceAlgebra

theorem max_lt_max_succ {a : Int} (h : max 0 a < max 0 (a + 1)) : 0 ≤ a := by
  apply Int.not_lt.mp
  intro ha
  rw [Int.max_eq_left (Int.add_one_le_of_lt ha)] at h
  exact Int.lt_irrefl 0 (Int.lt_of_le_of_lt (Int.le_max_left 0 a) h)

theorem min_lt_min_succ {a n : Int} (h : min a n < min (a + 1) n) : a < n := by
  apply Int.not_le.mp
  intro hn
  rw [Int.min_eq_right hn] at h
  exact Int.lt_irrefl n (Int.lt_of_lt_of_le h (Int.min_le_right (a + 1) n))

theorem adjust_succ (k : Int) (n : Nat) (h : adjust k n false < adjust (k + 1) n false) :
    adjust k n false = posifyInt n k ∧ adjust (k + 1) n false = posifyInt n k + 1 := by
  unfold posifyInt
  by_cases h0 : k < 0
  · rw [if_pos h0]
    by_cases h1 : k + 1 < 0
    · rw [adjust_false_eq, if_pos h0, adjust_false_eq, if_pos h1, Int.add_right_comm] at h ⊢
      have hp := max_lt_max_succ h
      rw [Int.max_eq_right hp, Int.max_eq_right (Int.le_add_one hp)]
      exact ⟨rfl, rfl⟩
    · -- `k = -1`: the stop is 0
      have hn : (0 : Int) ≤ n := Int.natCast_nonneg n
      have h10 := Int.add_one_le_of_lt h0
      rw [adjust_false_id (k + 1) n (Int.not_lt.mp h1) (Int.le_trans h10 hn)] at h
      exact absurd (Int.lt_of_lt_of_le h h10) (Int.not_lt.mpr (adjust_false_bounds k n hn).1)
  · have h0' := Int.not_lt.mp h0
    rw [if_neg h0]
    rw [adjust_false_eq_min k n h0', adjust_false_eq_min (k + 1) n (Int.le_add_one h0')] at h ⊢
    have hp := min_lt_min_succ h
    rw [Int.min_eq_left (Int.le_of_lt hp), Int.min_eq_left (Int.add_one_le_of_lt hp)]
    exact ⟨rfl, rfl⟩

/-- `slice(k, k + 1)` with the RAW `k`, as the real code builds it, selects nothing (k = -1, k out of range) or
exactly the position of the integer `k` -/
theorem sel_int_slice_posify (k : Int) (n : Nat) (h : (sel ⟨some k, some (k + 1), none⟩ n).length ≠ 0) :
    sel ⟨some k, some (k + 1), none⟩ n = [posifyInt n k] := by
  have hlt : adjust k n false < adjust (k + 1) n false :=
    Int.sub_pos.mp (Int.not_le.mp fun hle =>
      h ((sel_length_unit _ n rfl).trans (Int.toNat_eq_zero.mpr hle)))
  obtain ⟨e1, e2⟩ := adjust_succ k n hlt
  show rangeList (adjust k n false) (adjust (k + 1) n false) 1 = _
  rw [e1, e2, rangeList_singleton]

/-- what the per-axis induction establishes for one (mask, input shape, full index): `inp` on the input followed by
`fin` on the reduction's output selects the same shape, the same lanes and the same coordinates on the kept reduced
axes as `full` on the output of the unsliced reduction -/
def CoreFacts (α : Type) (osz : Nat) (kd : Bool) (msk : List Bool) (sh : List Nat) (full : List Ix)
    (inp : List PySlice) (fin : List Ix) : Prop :=
  let sh' := sliceShape sh (inp.map Ix.slc)
  fin.length = (redShape osz kd msk sh').length ∧
  sliceShape (redShape osz kd msk sh') fin = sliceShape (redShape osz kd msk sh) full ∧
  ∀ (g : List Nat → α) (j : List Nat), InB j (sliceShape (redShape osz kd msk sh) full) →
    lane kd msk sh' (fun i => g (sliceIdx sh (inp.map Ix.slc) i)) (sliceIdx (redShape osz kd msk sh') fin j)
      = lane kd msk sh g (sliceIdx (redShape osz kd msk sh) full j) ∧
    rcoords kd msk (sliceIdx (redShape osz kd msk sh') fin j)
      = rcoords kd msk (sliceIdx (redShape osz kd msk sh) full j)

variable {α : Type} {osz : Nat} {kd : Bool} {ms : List Bool} {ns : List Nat} {xs : List Ix} {inp : List PySlice}
  {fin : List Ix}

theorem lane_reduced (n : Nat) (g : List Nat → α) (i i' : List Nat)
    (h : ∀ g : List Nat → α,
      lane kd ms (sliceShape ns (inp.map Ix.slc)) (fun r => g (sliceIdx ns (inp.map Ix.slc) r))
          (if kd then i.tail else i)
        = lane kd ms ns g (if kd then i'.tail else i')) :
    lane kd (true :: ms) (sliceShape (n :: ns) ((colon :: inp).map Ix.slc))
        (fun r => g (sliceIdx (n :: ns) ((colon :: inp).map Ix.slc) r)) i
      = lane kd (true :: ms) (n :: ns) g i' := by
  show (List.range (sel colon n).length).flatMap _ = (List.range n).flatMap _
  rw [sel_colon_length]
  apply flatMap_congr
  intro t ht
  rw [List.mem_range] at ht
  show lane kd ms _ (fun r => g (((sel colon n).getD t 0).toNat :: sliceIdx ns (inp.map Ix.slc) r)) _ = _
  rw [sel_colon_getD n t ht, Int.toNat_natCast]
  exact h (fun r => g (t :: r))

theorem sliceIdx_colon_cons {m a : Nat} (ha : a < m) (R : List Nat) (fin : List Ix) (j : List Nat) :
    sliceIdx (m :: R) (.slc colon :: fin) (a :: j) = a :: sliceIdx R fin j := by
  show ((sel colon m).getD a 0).toNat :: _ = _
  rw [sel_colon_getD m a ha, Int.toNat_natCast]

namespace CoreFacts

theorem nil : CoreFacts α osz kd [] [] [] [] [] :=
  ⟨rfl, rfl, fun _ _ _ => ⟨rfl, rfl⟩⟩

/-- keepdims: the item `x` requested on a reduced axis (of length `osz` on both sides) is re-applied as it is -/
theorem reducedKd (h : CoreFacts α osz true ms ns xs inp fin) (n : Nat) (x : Ix) :
    CoreFacts α osz true (true :: ms) (n :: ns) (x :: xs) (colon :: inp) (x :: fin) := by
  obtain ⟨c1, c2, c3⟩ := h
  cases x with
  | int k =>
    exact ⟨congrArg (· + 1) c1, c2, fun g j hj =>
      ⟨lane_reduced n g _ _ (fun g => (c3 g j hj).1), congrArg (_ :: ·) (c3 g j hj).2⟩⟩
  | slc s =>
    refine ⟨congrArg (· + 1) c1, congrArg ((sel s osz).length :: ·) c2, fun g j hj => ?_⟩
    cases j with
    | nil => exact hj.elim
    | cons a j =>
      exact ⟨lane_reduced n g _ _ (fun g => (c3 g j hj.2).1), congrArg (_ :: ·) (c3 g j hj.2).2⟩

/-- keepdims=False: a reduced axis has no output axis and consumes no item -/
theorem reducedNoKd {full : List Ix} (h : CoreFacts α osz false ms ns full inp fin) (n : Nat) :
    CoreFacts α osz false (true :: ms) (n :: ns) full (colon :: inp) fin := by
  obtain ⟨c1, c2, c3⟩ := h
  exact ⟨c1, c2, fun g j hj => ⟨lane_reduced n g _ _ (fun g => (c3 g j hj).1), (c3 g j hj).2⟩⟩

/-- a slice on a kept axis goes to the input; the output keeps `slice(None)` -/
theorem keptSlc (h : CoreFacts α osz kd ms ns xs inp fin) (n : Nat) (s : PySlice) :
    CoreFacts α osz kd (false :: ms) (n :: ns) (.slc s :: xs) (s :: inp) (.slc colon :: fin) := by
  obtain ⟨c1, c2, c3⟩ := h
  -- the cons equations hold by `rfl`; they are stated (here and in `keptInt`) because unfolding `redShape`, `sliceIdx`
  -- and `lane` with `simp` in these goals is many times slower than `rw` with the one equation needed
  have r1 : redShape osz kd (false :: ms) (sliceShape (n :: ns) ((s :: inp).map Ix.slc))
      = (sel s n).length :: redShape osz kd ms (sliceShape ns (inp.map Ix.slc)) := rfl
  refine ⟨congrArg (· + 1) c1, ?_, ?_⟩
  · rw [r1]
    show (sel colon (sel s n).length).length :: _ = (sel s n).length :: _
    rw [sel_colon_length, c2]
  · intro g j hj
    cases j with
    | nil => exact hj.elim
    | cons a j =>
      rw [r1, sliceIdx_colon_cons hj.1]
      exact c3 (fun r => g (((sel s n).getD a 0).toNat :: r)) j hj.2

/-- an integer `k` on a kept axis goes to the input as `k : k + 1`, which selects the position of `k` provided it
selects anything; the output extracts with `0` -/
theorem keptInt (h : CoreFacts α osz kd ms ns xs inp fin) (n : Nat) (k : Int)
    (hne : ((sel ⟨some k, some (k + 1), none⟩ n).length == 0) = false) :
    CoreFacts α osz kd (false :: ms) (n :: ns) (.int k :: xs) (⟨some k, some (k + 1), none⟩ :: inp)
      (.int 0 :: fin) := by
  obtain ⟨c1, c2, c3⟩ := h
  have hsel := sel_int_slice_posify k n (by simpa using hne)
  have r1 : redShape osz kd (false :: ms) (sliceShape (n :: ns) ((⟨some k, some (k + 1), none⟩ :: inp).map Ix.slc))
      = (sel ⟨some k, some (k + 1), none⟩ n).length :: redShape osz kd ms (sliceShape ns (inp.map Ix.slc)) := rfl
  refine ⟨congrArg (· + 1) c1, c2, ?_⟩
  intro g j hj
  rw [r1]
  -- expose the position the input's `k : k + 1` reads for the output's `0`
  show lane kd ms _ (fun r => g (((sel ⟨some k, some (k + 1), none⟩ n).getD
    (posifyInt (sel ⟨some k, some (k + 1), none⟩ n).length 0).toNat 0).toNat :: _)) _ = _ ∧ _
  rw [hsel]
  exact c3 (fun r => g ((posifyInt n k).toNat :: r)) j hj

end CoreFacts

theorem CoreFacts.of_full {α : Type} (osz : Nat) (kd : Bool) (msk : List Bool) : ∀ (sh : List Nat) (full : List Ix),
    msk.length = sh.length → full.length = outNdim msk kd →
    emptyKept msk (sliceShape sh ((inputIndex msk kd full).map Ix.slc)) = false →
    CoreFacts α osz kd msk sh full (inputIndex msk kd full) (finalIndex msk kd full) := by
  induction msk with
  | nil =>
    intro sh full h1 h2 _
    obtain rfl := List.eq_nil_of_length_eq_zero h1.symm
    obtain rfl := List.eq_nil_of_length_eq_zero (h2.trans (by cases kd <;> rfl))
    cases kd <;> exact CoreFacts.nil
  | cons m ms ih =>
    intro sh full h1 h2 hE
    obtain ⟨n, ns, rfl⟩ := List.exists_cons_of_length_eq_add_one h1.symm
    cases kd with
    | true =>
      obtain ⟨x, xs, rfl⟩ := List.exists_cons_of_length_eq_add_one h2
      have ih' := ih ns xs (Nat.succ.inj h1) (Nat.succ.inj h2)
      cases m with
      | true => exact (ih' hE).reducedKd n x
      | false =>
        have hE' := Bool.or_eq_false_iff.mp hE
        cases x with
        | slc s => exact (ih' hE'.2).keptSlc n s
        | int k => exact (ih' hE'.2).keptInt n k hE'.1
    | false =>
      cases m with
      | true => exact (ih ns full (Nat.succ.inj h1) h2 hE).reducedNoKd n
      | false =>
        obtain ⟨x, xs, rfl⟩ := List.exists_cons_of_length_eq_add_one h2
        have hE' := Bool.or_eq_false_iff.mp hE
        have ih' := ih ns xs (Nat.succ.inj h1) (Nat.succ.inj h2) hE'.2
        cases x with
        | slc s => exact ih'.keptSlc n s
        | int k => exact ih'.keptInt n k hE'.1

theorem reduce_get_congr {α β : Type} [Inhabited β] (r : List α → List β) (osz : Nat) {l l' : List α}
    {c c' : List Nat} (hl : l = l') (hc : c = c') :
    (r l).getD (opos osz c) default = (r l').getD (opos osz c') default := by
  rw [hl, hc]

theorem mask_length (n : Nat) (axes : List Nat) : (mask n axes).length = n := by
  simp [mask]

theorem noNone_length : ∀ (index : List RIx), index.any RIx.isNone = false →
    (index.filterMap RIx.toIx?).length = index.length
  | [], _ => rfl
  | .none :: _, h => nomatch h
  | .int _ :: r, h => congrArg (· + 1) (noNone_length r h)
  | .slc _ :: r, h => congrArg (· + 1) (noNone_length r h)

theorem fullIndex_length (msk : List Bool) (kd : Bool) (index : List Ix)
    (h : index.length ≤ outNdim msk kd) : (fullIndex msk kd index).length = outNdim msk kd := by
  simp [fullIndex]; omega

theorem slice_all_colon (sh : List Nat) (fin : List Ix) (h1 : fin.length = sh.length)
    (h2 : fin.any (fun x => x != Ix.slc colon) = false) :
    sliceShape sh fin = sh ∧ ∀ j, InB j sh → sliceIdx sh fin j = j := by
  obtain rfl : fin = List.replicate sh.length colonIx :=
    List.eq_replicate_iff.mpr
      ⟨h1, fun x hx => bne_eq_false_iff_eq.mp (Bool.eq_false_iff.mpr (List.any_eq_false.mp h2 x hx))⟩
  exact ⟨sliceShape_colons sh, sliceIdx_colons sh⟩

structure Fired (sh : List Nat) (axes : List Nat) (kd obj : Bool) (index : List RIx) (sp : Split) : Prop where
  noNone : index.any RIx.isNone = false
  inp_eq : sp.inp = inputIndex (mask sh.length axes) kd
    (fullIndex (mask sh.length axes) kd (index.filterMap RIx.toIx?))
  out_eq : sp.out = finalIndex (mask sh.length axes) kd
    (fullIndex (mask sh.length axes) kd (index.filterMap RIx.toIx?))
  outer_eq : sp.outer = sp.out.any (fun x => x != Ix.slc colon)
  keptNonempty : emptyKept (mask sh.length axes) (sliceShape sh (sp.inp.map Ix.slc)) = false

theorem split_facts {sh : List Nat} {axes : List Nat} {kd : Bool} {obj : Bool} {index : List RIx} {sp : Split}
    (h : splitIndex sh axes kd obj index = some sp) : Fired sh axes kd obj index sp := by
  obtain ⟨hn, h⟩ := Option.ite_none_left_eq_some.mp h
  obtain ⟨_, h⟩ := Option.ite_none_left_eq_some.mp h
  obtain ⟨_, h⟩ := Option.ite_none_left_eq_some.mp h
  obtain ⟨he, h⟩ := Option.ite_none_left_eq_some.mp h
  cases Option.some.inj h
  exact ⟨Bool.eq_false_iff.mpr hn, rfl, rfl, rfl, Bool.eq_false_iff.mpr he⟩

theorem core_of_split {α : Type} (osz : Nat) {sh : List Nat} {axes : List Nat} {kd : Bool} {obj : Bool} {index : List RIx}
    {sp : Split} (h : splitIndex sh axes kd obj index = some sp)
    (hlen : index.length ≤ outNdim (mask sh.length axes) kd) :
    CoreFacts α osz kd (mask sh.length axes) sh
      (fullIndex (mask sh.length axes) kd (index.filterMap RIx.toIx?)) sp.inp sp.out := by
  have f := split_facts h
  have hl := fullIndex_length (mask sh.length axes) kd (index.filterMap RIx.toIx?)
    (by rw [noNone_length index f.noNone]; exact hlen)
  have hE := f.keptNonempty
  rw [f.inp_eq] at hE
  rw [f.inp_eq, f.out_eq]
  exact CoreFacts.of_full osz kd _ sh _ (mask_length _ _) hl hE

theorem mask_getD (n : Nat) (axes : List Nat) (ax : Nat) (h : ax < n) :
    (mask n axes).getD ax false = axes.contains ax := by
  simp [mask, List.getD_eq_getElem?_getD, h]

theorem finalKd_reduced (msk : List Bool) (full : List Ix) (ax : Nat) (d : Ix)
    (h : msk.getD ax false = true) : (finalKd msk full).getD ax d = full.getD ax d := by
  induction msk generalizing full ax with
  | nil => exact absurd h Bool.false_ne_true
  | cons m ms ih =>
    cases full with
    | nil => rfl
    | cons x xs =>
      cases ax with
      | zero => exact if_pos h
      | succ ax => exact ih xs ax h

theorem finalKd_kept (msk : List Bool) (full : List Ix) (ax : Nat) (hax : ax < msk.length)
    (h : msk.getD ax false = false) :
    (finalKd msk full).getD ax (Ix.slc colon) = extract (full.getD ax (Ix.slc colon)) := by
  induction msk generalizing full ax with
  | nil => exact nomatch hax
  | cons m ms ih =>
    cases full with
    | nil => rfl
    | cons x xs =>
      cases ax with
      | zero => exact if_neg (Bool.eq_false_iff.mp h)
      | succ ax => exact ih xs ax (Nat.lt_of_succ_lt_succ hax) h

theorem inputIndexKd_getD (msk : List Bool) (ss : List PySlice) (ax : Nat) :
    (inputIndexKd msk ss).getD ax colon = if msk.getD ax false then colon else ss.getD ax colon := by
  induction msk generalizing ss ax with
  | nil => rfl
  | cons m ms ih =>
    cases ss with
    | nil => exact (ite_self _).symm
    | cons s ss =>
      cases ax with
      | zero => rfl
      | succ ax => exact ih ss ax

theorem inputIndexNoKd_reduced (msk : List Bool) (ss : List PySlice) (ax : Nat) (h : msk.getD ax false = true) :
    (inputIndexNoKd msk ss).getD ax colon = colon := by
  induction msk generalizing ss ax with
  | nil => exact absurd h Bool.false_ne_true
  | cons m ms ih =>
    cases m with
    | true =>
      cases ax with
      | zero => rfl
      | succ ax => exact ih ss ax h
    | false =>
      cases ss with
      | nil => rfl
      | cons s ss =>
        cases ax with
        | zero => exact absurd h Bool.false_ne_true
        | succ ax => exact ih ss ax h

theorem Fired.inp_reduced {sh axes : List Nat} {kd obj : Bool} {index : List RIx} {sp : Split}
    (f : Fired sh axes kd obj index sp) {ax : Nat} (hax : ax < sh.length) (hred : axes.contains ax = true) :
    sp.inp.getD ax colon = colon := by
  have hm : (mask sh.length axes).getD ax false = true := (mask_getD _ _ _ hax).trans hred
  rw [f.inp_eq]
  cases kd with
  | true => exact (inputIndexKd_getD _ _ ax).trans (if_pos hm)
  | false => exact inputIndexNoKd_reduced _ _ ax hm

theorem outAxis_spec (msk : List Bool) (off j a : Nat) (ss : List PySlice) (h : outAxis msk off j = some a) :
    ∃ b, a = off + b ∧ b < msk.length ∧ msk.getD b false = false ∧
      ((msk.take b).filter (fun m => !m)).length = j ∧
      (inputIndexNoKd msk ss).getD b colon = ss.getD j colon := by
  induction msk generalizing off j ss with
  | nil => exact nomatch h
  | cons m ms ih =>
    have step : ∀ b, a = off + 1 + b → a = off + (b + 1) := fun b e => by rw [e, Nat.add_assoc, Nat.add_comm 1]
    cases m with
    | true =>
      obtain ⟨b, e, i2, i3, i4, i5⟩ := ih (off + 1) j ss h
      exact ⟨b + 1, step b e, Nat.succ_lt_succ i2, i3, i4, i5⟩
    | false =>
      cases j with
      | zero =>
        cases Option.some.inj h
        exact ⟨0, rfl, Nat.zero_lt_succ _, rfl, rfl, by cases ss <;> rfl⟩
      | succ j =>
        obtain ⟨b, e, i2, i3, i4, i5⟩ := ih (off + 1) j ss.tail h
        refine ⟨b + 1, step b e, Nat.succ_lt_succ i2, i3, congrArg (· + 1) i4, ?_⟩
        cases ss with
        | nil => rfl
        | cons s ss => exact i5

end Dask.RedSlice
