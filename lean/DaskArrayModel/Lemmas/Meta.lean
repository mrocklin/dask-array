/-
Facts behind C29 over Model/Meta.lean.  The metadata log of an expression over non-scalar sources consists of empty
reads and, for a `map_blocks` without dtype, two probe calls on synthetic blocks; `metaLog_all` is the one induction
that carries any event predicate holding of those through the expression, and the two log properties of Props/C29
are its instances.  `evalLog_fst`: instrumenting evaluation does not change its value.
-/
import DaskArrayModel.Model.Meta
namespace Dask.Meta

theorem regionSize_emptyRegion (shape : List Nat) (h : shape ≠ []) : regionSize (emptyRegion shape) = 0 := by
  cases shape with
  | nil => exact absurd rfl h
  | cons n rest =>
    simp only [regionSize, emptyRegion, List.map_cons, List.map_map, List.foldl_cons, Nat.sub_self, Nat.mul_zero]
    -- the first extent is `n - n = 0`, and a product folded from 0 stays 0 whatever the other extents are
    generalize List.map _ rest = l
    induction l with
    | nil => rfl
    | cons x xs ih => simpa [List.foldl_cons] using ih

theorem metaLog_all (P : Event → Bool) (env : Env)
    (hread : ∀ id shape, shape ≠ [] → P (.read id (emptyRegion shape)) = true) (e : Expr)
    (h : e.srcNonScalar = true)
    (hcall : e.dtypesGiven = true ∨ ∀ f (shape : List Nat),
      P (.call f (shape.map fun _ => 0) false) = true ∧ P (.call f (shape.map fun _ => 1) false) = true) :
    ∀ ev ∈ (metaLog env e).2, P ev = true := by
  induction e with
  | src id shape chunks dtype =>
    intro ev hev
    obtain rfl := List.mem_singleton.mp hev
    exact hread id shape (bne_iff_ne.mp h)
  | elem a b iha ihb =>
    obtain ⟨ha, hb⟩ := Bool.and_eq_true_iff.mp h
    intro ev hev
    rcases List.mem_append.mp hev with hev | hev
    · exact iha ha (hcall.imp_left fun hd => (Bool.and_eq_true_iff.mp hd).1) ev hev
    · exact ihb hb (hcall.imp_left fun hd => (Bool.and_eq_true_iff.mp hd).2) ev hev
  | slice a r ih => exact ih h hcall
  | reduce a ih => exact ih h hcall
  | mapBlocks f a dt ih =>
    intro ev hev
    cases dt with
    | some d => exact ih h hcall ev hev
    | none =>
      rcases hcall with hd | hc
      · exact absurd hd Bool.false_ne_true
      · rcases List.mem_append.mp hev with hev | hev
        · exact ih h (Or.inr hc) ev hev
        · rcases List.mem_cons.mp hev with rfl | hev
          · exact (hc f _).1
          · obtain rfl := List.mem_singleton.mp hev
            exact (hc f _).2

theorem evalLog_fst (sem : Sem) (env : Env) (e : Expr) : (evalLog sem env e).1 = eval sem env e := by
  induction e with
  | src => rfl
  | elem a b iha ihb => exact congr (congrArg sem.elem iha) ihb
  | slice a r ih => exact congrArg (sem.slice r) ih
  | mapBlocks f a dt ih => exact congrArg (sem.block f) ih
  | reduce a ih => exact congrArg sem.reduce ih

end Dask.Meta
