/-
The class `LabelLocal` is inhabited: every elementwise function with NumPy broadcasting over labels
(`pwFn`, any arity, any label pattern without contracted labels) is label-local — congruence, shape and
naturality separately —, and the row sum `'ik' -> 'i'` commutes with re-indexings of its output label.
-/
import DaskArrayModel.Lemmas.BlockwiseGateBase
namespace Dask.BWG
open Dask.Py Dask.ND Dask.Contract

def pwSig (outInd : List Nat) (inds : List (List Nat)) : Sig := ⟨outInd, inds, [], []⟩

theorem pwSig_point (outInd : List Nat) (inds : List (List Nat)) (l : Nat) :
    (pwSig outInd inds).point l = true ↔ l ∈ outInd := by
  simp [Sig.point, pwSig]

theorem mem_lensOf (inds : List (List Nat)) (bs : List (Arr Int)) (l n : Nat) :
    n ∈ lensOf inds bs l ↔ ∃ t, t < inds.length ∧ ∃ k, k < (inds.getD t []).length ∧
      k < (bs.getD t dA).shape.length ∧ (inds.getD t []).getD k 0 = l ∧ (bs.getD t dA).shape.getD k 0 = n := by
  unfold lensOf
  simp only [List.mem_flatMap, List.mem_range, List.mem_map, List.mem_filter, beq_iff_eq]
  constructor
  · rintro ⟨t, ht, q, ⟨hq, hl⟩, hn⟩
    obtain ⟨k, h1, h2, e⟩ := mem_zip_getD _ _ 0 0 q hq
    refine ⟨t, ht, k, h1, h2, ?_, ?_⟩
    · rw [e] at hl; exact hl
    · rw [e] at hn; exact hn
  · rintro ⟨t, ht, k, h1, h2, hl, hn⟩
    exact ⟨t, ht, _, ⟨getD_mem_zip _ _ 0 0 k h1 h2, hl⟩, hn⟩

theorem isLen_reTuple (s : Sig) (R : Reix) (bs : List (Arr Int)) (N : Nat → Nat) (h : IsLen s bs N) :
    IsLen s (reTuple R N s.inds bs) (reLen R N) := by
  obtain ⟨h1, h2, h3, h4⟩ := h
  refine ⟨by simp [reTuple], ?_, ?_, ?_⟩
  · intro t ht
    rw [reTuple_getD _ _ _ _ _ ht, reix_shape_length]
  · intro t k ht hk hp
    rw [reTuple_getD _ _ _ _ _ ht, reix_shape_getD _ _ _ _ _ hk]
    exact reLen_cases _ _ _ _ (h3 t k ht hk hp)
  · intro l hp
    obtain ⟨t, k, ht, hk, hl, hn⟩ := h4 l hp
    refine ⟨t, k, ht, hk, hl, ?_⟩
    rw [reTuple_getD _ _ _ _ _ ht, reix_shape_getD _ _ _ _ _ hk, hl, hn]
    exact reLen_self ..

theorem bdim_lensOf (s : Sig) (bs : List (Arr Int)) (N : Nat → Nat) (h : IsLen s bs N) (l : Nat)
    (hp : s.point l = true) : bdim (lensOf s.inds bs l) = N l := by
  obtain ⟨_, h2, h3, h4⟩ := h
  apply bdim_eq
  · intro n hn
    obtain ⟨t, ht, k, hk, _, hl, e⟩ := (mem_lensOf _ _ _ _).mp hn
    rw [← e, ← hl]
    exact h3 t k ht hk (hl ▸ hp)
  · obtain ⟨t, k, ht, hk, hl, hn⟩ := h4 l hp
    exact (mem_lensOf _ _ _ _).mpr ⟨t, ht, k, hk, by rw [← h2 t ht]; exact hk, hl, hn⟩

theorem isLen_pw (outInd : List Nat) (inds : List (List Nat)) (bs : List (Arr Int)) (N : Nat → Nat)
    (h : IsLen (pwSig outInd inds) bs N) :
    (∀ t, t < inds.length → (inds.getD t []).length = (bs.getD t dA).shape.length) ∧
    (∀ t k, t < inds.length → k < (inds.getD t []).length → (inds.getD t []).getD k 0 ∈ outInd →
      (bs.getD t dA).shape.getD k 0 = N ((inds.getD t []).getD k 0) ∨ (bs.getD t dA).shape.getD k 0 = 1) := by
  obtain ⟨_, h2, h3, _⟩ := h
  exact ⟨h2, fun t k ht hk hin => h3 t k ht hk ((pwSig_point outInd inds _).mpr hin)⟩

theorem rdL_inB (outInd : List Nat) (inds : List (List Nat)) (bs : List (Arr Int)) (N : Nat → Nat)
    (hsub : ∀ ind ∈ inds, ∀ l ∈ ind, l ∈ outInd)
    (h : IsLen (pwSig outInd inds) bs N) (i : List Nat) (hi : InB i (outInd.map N)) (t : Nat) (ht : t < inds.length) :
    InB (rdL outInd (inds.getD t []) (bs.getD t dA).shape i) (bs.getD t dA).shape := by
  obtain ⟨h2, h3⟩ := isLen_pw outInd inds bs N h
  have hr := h2 t ht
  apply InB.of_getD
  · simp only [rdL, List.length_map, List.length_range]; exact hr
  · intro k hk
    have hk' : k < (inds.getD t []).length := by omega
    unfold rdL
    rw [getD_map_range _ _ _ _ hk']
    have hlin : (inds.getD t []).getD k 0 ∈ outInd :=
      hsub _ (getD_mem inds t [] ht) _ (getD_mem _ k 0 hk')
    have hx : i.getD (outInd.idxOf ((inds.getD t []).getD k 0)) 0 < N ((inds.getD t []).getD k 0) := by
      have hidx : outInd.idxOf ((inds.getD t []).getD k 0) < outInd.length := List.idxOf_lt_length_of_mem hlin
      have := InB.getD_lt hi (outInd.idxOf ((inds.getD t []).getD k 0)) (by rw [List.length_map]; exact hidx)
      rwa [getD_map N outInd _ 0 0 hidx, getD_idxOf _ _ hlin] at this
    rcases h3 t k ht hk' hlin with e | e
    · rw [e, bc_of_lt hx]; exact hx
    · rw [e]; simp [bc]

theorem getS_congr (a a' : Arr Int) (h : Arr.Equiv a a') (i : List Nat) : getS a i = getS a' i := by
  unfold getS
  rw [← h.1]
  split
  · rename_i hi; exact h.2 i hi
  · rfl

theorem rdL_getD (outInd ind shape i : List Nat) (k : Nat) (hk : k < ind.length) :
    (rdL outInd ind shape i).getD k 0 = bc (shape.getD k 0) (i.getD (outInd.idxOf (ind.getD k 0)) 0) := by
  unfold rdL; rw [getD_map_range _ _ _ _ hk]

/-- A broadcast axis is not re-indexed unless the label itself has length 1, and then both sides read 0. -/
theorem bc_reix (R : Reix) (N : Nat → Nat) (l n x : Nat) (hn : n = N l ∨ n = 1) (hx : x < reLen R N l)
    (hrange : R.act l = true → ∀ x, x < R.len l → R.map l x < N l) :
    (if R.on N l n then R.map l (bc (if R.on N l n then R.len l else n) x)
      else bc (if R.on N l n then R.len l else n) x) = bc n (if R.act l then R.map l x else x) := by
  unfold reLen at hx
  cases hact : R.act l with
  | false => rw [Reix.on_of_not_act hact]; rfl
  | true =>
    rw [hact, if_pos rfl] at hx
    have hm := hrange hact x hx
    rcases hn with e | e
    · rw [Reix.on_iff.mpr ⟨hact, e⟩]
      simp only [if_true]
      rw [bc_of_lt hx, e, bc_of_lt hm]
    · by_cases hN : N l = 1
      · rw [Reix.on_iff.mpr ⟨hact, e.trans hN.symm⟩]
        simp only [if_true]
        rw [bc_of_lt hx, e]
        exact Nat.lt_one_iff.mp (hN ▸ hm)
      · rw [Reix.on_of_ne fun h => hN (h.symm.trans e), e]
        rfl

theorem read_natural (outInd ind : List Nat) (b : Arr Int) (R : Reix) (N : Nat → Nat) (i j : List Nat)
    (hlin : ∀ k, k < ind.length → ind.getD k 0 ∈ outInd)
    (hshape : ∀ k, k < ind.length → b.shape.getD k 0 = N (ind.getD k 0) ∨ b.shape.getD k 0 = 1)
    (hi : ∀ l, l ∈ outInd → i.getD (outInd.idxOf l) 0 < reLen R N l)
    (hj : ∀ l, l ∈ outInd → j.getD (outInd.idxOf l) 0 =
      if R.act l then R.map l (i.getD (outInd.idxOf l) 0) else i.getD (outInd.idxOf l) 0)
    (hrange : ∀ l, R.act l = true → ∀ x, x < R.len l → R.map l x < N l) :
    (List.range ind.length).map (fun k =>
      if R.on N (ind.getD k 0) (b.shape.getD k 0)
      then R.map (ind.getD k 0) ((rdL outInd ind (reix R N ind b).shape i).getD k 0)
      else (rdL outInd ind (reix R N ind b).shape i).getD k 0) = rdL outInd ind b.shape j := by
  rw [show rdL outInd ind b.shape j = (List.range ind.length).map (fun k =>
      bc (b.shape.getD k 0) (j.getD (outInd.idxOf (ind.getD k 0)) 0)) from rfl]
  apply rangeMap_congr
  intro k hk
  rw [rdL_getD _ _ _ _ _ hk, reix_shape_getD _ _ _ _ _ hk, hj _ (hlin k hk)]
  exact bc_reix R N _ _ _ (hshape k hk) (hi _ (hlin k hk)) (hrange _)

theorem pwFn_shape (outInd : List Nat) (inds : List (List Nat)) (g : List Int → Int) (bs : List (Arr Int))
    (N : Nat → Nat) (h : IsLen (pwSig outInd inds) bs N) : (pwFn outInd inds g bs).shape = outInd.map N :=
  List.map_congr_left fun l hl =>
    bdim_lensOf (pwSig outInd inds) bs N h l ((pwSig_point outInd inds l).mpr hl)

theorem pwFn_congr (outInd : List Nat) (inds : List (List Nat)) (g : List Int → Int) (bs bs' : List (Arr Int))
    (hlen : bs.length = bs'.length)
    (hE : ∀ t, t < bs.length → Arr.Equiv (bs.getD t dA) (bs'.getD t dA)) :
    Arr.Equiv (pwFn outInd inds g bs) (pwFn outInd inds g bs') := by
  have hE' : ∀ t, Arr.Equiv (bs.getD t dA) (bs'.getD t dA) := by
    intro t
    by_cases ht : t < bs.length
    · exact hE t ht
    · rw [getD_of_ge _ _ _ (by omega), getD_of_ge _ _ _ (by omega)]; exact Arr.Equiv.refl _
  have hl : ∀ l, lensOf inds bs l = lensOf inds bs' l := by
    intro l
    show (List.range inds.length).flatMap _ = (List.range inds.length).flatMap _
    refine congrArg (fun f => List.flatMap f (List.range inds.length)) (funext fun t => ?_)
    rw [(hE' t).1]
  refine ⟨List.map_congr_left fun l _ => by rw [hl l], ?_⟩
  intro i _
  show g _ = g _
  refine congrArg _ ?_
  apply rangeMap_congr
  intro t _
  rw [(hE' t).1]
  exact getS_congr _ _ (hE' t) _

/-- Output position `i` of the left side reads each operand where the right side does (`read_natural`); the rest is
the bookkeeping of `equiv_reix`. -/
theorem pwFn_natural (outInd : List Nat) (inds : List (List Nat)) (g : List Int → Int)
    (hsub : ∀ ind ∈ inds, ∀ l ∈ ind, l ∈ outInd) (R : Reix) (bs : List (Arr Int)) (N : Nat → Nat)
    (h : IsLen (pwSig outInd inds) bs N)
    (hrange : ∀ l, R.act l = true → ∀ x, x < R.len l → R.map l x < N l) :
    Arr.Equiv (pwFn outInd inds g (reTuple R N inds bs)) (reix R N outInd (pwFn outInd inds g bs)) := by
  have h' : IsLen (pwSig outInd inds) (reTuple R N inds bs) (reLen R N) :=
    isLen_reTuple (pwSig outInd inds) R bs N h
  have hs' := pwFn_shape outInd inds g _ _ h'
  have hs := pwFn_shape outInd inds g _ _ h
  have hon : ∀ k, k < outInd.length →
      R.on N (outInd.getD k 0) ((pwFn outInd inds g bs).shape.getD k 0) = R.act (outInd.getD k 0) := by
    intro k hk
    rw [hs, getD_map N outInd k 0 0 hk, Reix.on_self]
  have hlen : ∀ k, k < outInd.length → (pwFn outInd inds g (reTuple R N inds bs)).shape.getD k 0 =
      if R.on N (outInd.getD k 0) ((pwFn outInd inds g bs).shape.getD k 0) then R.len (outInd.getD k 0)
      else (pwFn outInd inds g bs).shape.getD k 0 := by
    intro k hk
    rw [hs', getD_map (reLen R N) outInd k 0 0 hk, hs, getD_map N outInd k 0 0 hk]
    exact (reLen_self ..).symm
  refine equiv_reix R N outInd _ _ (fun i => (List.range outInd.length).map (fun k =>
      if R.act (outInd.getD k 0) then R.map (outInd.getD k 0) (i.getD k 0) else i.getD k 0)) ?_
    (by rw [hs', List.length_map]) (fun _ _ => by rw [List.length_map, List.length_range])
    fun k hk => ⟨hlen k hk, fun i _ => by rw [getD_map_range _ _ _ _ hk, hon k hk]⟩
  intro i hi
  rw [hs'] at hi
  have hik : ∀ k, k < outInd.length → i.getD k 0 < reLen R N (outInd.getD k 0) := by
    intro k hk
    have := InB.getD_lt hi k (by rw [List.length_map]; exact hk)
    rwa [getD_map _ outInd k 0 0 hk] at this
  show _ = (pwFn outInd inds g bs).get ((List.range outInd.length).map (fun k =>
      if R.act (outInd.getD k 0) then R.map (outInd.getD k 0) (i.getD k 0) else i.getD k 0))
  generalize hjdef : (List.range outInd.length).map (fun k =>
      if R.act (outInd.getD k 0) then R.map (outInd.getD k 0) (i.getD k 0) else i.getD k 0) = j
  have hjget : ∀ k, k < outInd.length → j.getD k 0 =
      if R.act (outInd.getD k 0) then R.map (outInd.getD k 0) (i.getD k 0) else i.getD k 0 := by
    intro k hk; rw [← hjdef, getD_map_range _ _ _ _ hk]
  have hj : InB j (outInd.map N) := by
    apply InB.of_getD
    · rw [← hjdef, List.length_map, List.length_map, List.length_range]
    · intro k hk
      have hk' : k < outInd.length := (List.length_map _) ▸ hk
      rw [hjget k hk', getD_map N outInd k 0 0 hk']
      have := hik k hk'
      unfold reLen at this
      cases ha : R.act (outInd.getD k 0) with
      | true => rw [ha, if_pos rfl] at this; rw [if_pos rfl]; exact hrange _ ha _ this
      | false => rw [ha, if_neg Bool.false_ne_true] at this; rw [if_neg Bool.false_ne_true]; exact this
  show g _ = g _
  refine congrArg _ ?_
  apply rangeMap_congr
  intro t ht
  rw [reTuple_getD _ _ _ _ _ ht]
  have hI1 := rdL_inB outInd inds _ _ hsub h' i hi t ht
  rw [reTuple_getD _ _ _ _ _ ht] at hI1
  have hI2 := rdL_inB outInd inds bs N hsub h j hj t ht
  unfold getS
  rw [if_pos hI1, if_pos hI2, reix_get]
  obtain ⟨h2, h3⟩ := isLen_pw outInd inds bs N h
  refine congrArg _ ?_
  apply read_natural outInd _ _ R N i j
  · intro k hk
    exact hsub _ (getD_mem inds t [] ht) _ (getD_mem _ k 0 hk)
  · intro k hk
    exact h3 t k ht hk (hsub _ (getD_mem inds t [] ht) _ (getD_mem _ k 0 hk))
  · intro l hl
    have := hik _ (List.idxOf_lt_length_of_mem hl)
    rwa [getD_idxOf _ _ hl] at this
  · intro l hl
    have := hjget _ (List.idxOf_lt_length_of_mem hl)
    rwa [getD_idxOf _ _ hl] at this
  · exact hrange

theorem pwFn_labelLocal (outInd : List Nat) (inds : List (List Nat)) (g : List Int → Int)
    (hsub : ∀ ind ∈ inds, ∀ l ∈ ind, l ∈ outInd) :
    LabelLocal (pwSig outInd inds) (pwFn outInd inds g) :=
  ⟨pwFn_congr outInd inds g,
   fun bs N h => (pwFn_shape outInd inds g bs N h).trans (List.map_congr_left fun _ _ => rfl),
   fun R bs N h _ hrange => pwFn_natural outInd inds g hsub R bs N h hrange⟩

/-- the row sum commutes with a re-indexing of its output label `0` (`'ik' -> 'i'`: the task receives every block
along the contracted label `1`, which no re-indexing acts on) -/
theorem rowSum_natural (R : Reix) (N : Nat → Nat) (b : Arr Int) (hr : b.shape.length = 2)
    (hact1 : R.act 1 = false) (hrange : R.act 0 = true → ∀ x, x < R.len 0 → R.map 0 x < N 0) :
    Arr.Equiv (rowSumFn [reix R N [0, 1] b]) (reix R N [0] (rowSumFn [b])) := by
  obtain ⟨sh, g⟩ := b
  match sh, hr with
  | [s0, s1], _ =>
    have hon1 : R.on N 1 s1 = false := Reix.on_of_not_act hact1
    refine ⟨rfl, ?_⟩
    intro i hi
    match i, hi with
    | [x], hi =>
      have hx : x < (if R.on N 0 s0 = true then R.len 0 else s0) := hi.1
      have hx' : (if R.on N 0 s0 = true then R.map 0 x else x) < s0 := by
        cases hon : R.on N 0 s0 with
        | true =>
          rw [hon] at hx
          have h2 := Bool.and_eq_true_iff.mp hon
          rw [if_pos rfl]
          exact (beq_iff_eq.mp h2.2) ▸ hrange h2.1 x hx
        | false => rw [hon] at hx; exact hx
      show isum ((List.range (if R.on N 1 s1 = true then R.len 1 else s1)).map
          (fun k => getS (reix R N [0, 1] ⟨[s0, s1], g⟩) [x, k]))
        = isum ((List.range s1).map (fun k => getS ⟨[s0, s1], g⟩ [if R.on N 0 s0 = true then R.map 0 x else x, k]))
      rw [hon1]
      refine congrArg _ ?_
      apply List.map_congr_left
      intro k hk
      have hk' : k < s1 := List.mem_range.mp hk
      have h1 : InB [x, k] (reix R N [0, 1] ⟨[s0, s1], g⟩).shape := by
        show InB [x, k] [_, if R.on N 1 s1 = true then R.len 1 else s1]
        rw [hon1]; exact ⟨hx, hk', trivial⟩
      have h2 : InB [if R.on N 0 s0 = true then R.map 0 x else x, k] [s0, s1] := ⟨hx', hk', trivial⟩
      unfold getS
      rw [if_pos h1, if_pos h2]
      show g [_, if R.on N 1 s1 = true then R.map 1 k else k] = _
      rw [hon1]; rfl

end Dask.BWG
