/-
Lemmas for C24 (`FromArray` regions) and C25 (the write index of `store`), per axis; everything is about unit-step
ranges.  Under the invariant `Inv` a region is the interval `[regionStart, regionStart + effLen)`, so what `_layer` reads
is what NumPy selects.  `_compute_sliced_chunks` for a unit-step slice gives the overlap lengths of the chunks with the
selected interval; with `_compose_slices` one accepted push keeps `Inv` and selects what NumPy's index selects of the old
positions, hence so does a chain of pushes.  For `store`: the write slice of a block selects the block's piece of
`sel r n`, a `drop` / `take` once the block is written as an offset and a length.
-/
import DaskArrayModel.Model.SourceIO
import DaskArrayModel.Model.SliceSpec
import DaskArrayModel.Lemmas.SliceAlgebra
import DaskArrayModel.Lemmas.SliceWindow
import DaskArrayModel.Lemmas.Progression
import DaskArrayModel.Lemmas.Layout
import DaskArrayModel.Lemmas.Chunks
namespace Dask.Lemmas.SourceIO
open Dask.Py Dask.Py.PySlice Dask.Slicing Dask.SourceIO Dask.Lemmas.SliceAlgebra

theorem rangeList_one_toNat (a b : Int) :
    rangeList a (a + ((b - a).toNat : Int)) 1 = rangeList a b 1 := by
  unfold rangeList
  rw [rangeLen_one, rangeLen_one]
  congr 2
  omega

theorem span_cast (p : Int × Int) (h0 : 0 ≤ p.1) (h1 : p.1 ≤ p.2) :
    ∃ a n : Nat, p = ((a : Int), (a : Int) + n) :=
  ⟨p.1.toNat, (p.2 - p.1).toNat, Prod.ext (Int.toNat_of_nonneg h0).symm (by
    rw [Int.toNat_of_nonneg h0, Int.toNat_of_nonneg (Int.sub_nonneg_of_le h1)]
    omega)⟩

theorem rangeList_span (a n : Nat) : rangeList (a : Int) ((a : Int) + n) 1 = span a n := by
  rw [rangeList_one_eq_span _ _ (Int.natCast_nonneg a), Int.toNat_natCast, Int.add_comm, Int.add_sub_cancel,
    Int.toNat_natCast]

theorem sel_chunkSlice (p : Int × Int) (L : Int) (h0 : 0 ≤ p.1) (h1 : p.1 ≤ p.2) (h2 : p.2 ≤ L) :
    sel (chunkSlice p) L = rangeList p.1 p.2 1 := by
  obtain ⟨a, n, rfl⟩ := span_cast p h0 h1
  obtain ⟨m, rfl⟩ := Int.eq_ofNat_of_zero_le (Int.le_trans (Int.le_trans h0 h1) h2)
  rw [rangeList_span]
  exact (Window.unit rfl rfl (by omega)).sel_eq

theorem slicesPositions_cons (p : Int × Int) (l : List (Int × Int)) :
    slicesPositions (p :: l) = rangeList p.1 p.2 1 ++ slicesPositions l := by
  simp [slicesPositions]

theorem slicesFromChunksFrom_positions (cs : List Int) (acc : Int) (hc : ∀ c ∈ cs, 0 ≤ c) :
    slicesPositions (slicesFromChunksFrom acc cs) = rangeList acc (acc + isum cs) 1 := by
  induction cs generalizing acc with
  | nil => simp [slicesFromChunksFrom, slicesPositions, isum, rangeList_eq_nil_pos]
  | cons c rest ih =>
    have h0 := hc c (List.mem_cons_self ..)
    have hr : ∀ c ∈ rest, 0 ≤ c := fun x hx => hc x (List.mem_cons_of_mem _ hx)
    have hs := isum_nonneg rest hr
    simp only [slicesFromChunksFrom, slicesPositions_cons, isum]
    rw [ih (acc + c) hr, rangeList_append_one _ _ _ (by omega) (by omega)]
    congr 1; omega

theorem slicesFromChunks_partition (cs : List Int) (hc : ∀ c ∈ cs, 0 ≤ c) :
    slicesPositions (slicesFromChunks cs) = rangeList 0 (isum cs) 1 := by
  have := slicesFromChunksFrom_positions cs 0 hc
  simpa [slicesFromChunks] using this

theorem slicesFromChunksFrom_eq (cs : List Int) (acc : Int) :
    slicesFromChunksFrom acc cs
      = (List.range cs.length).map (fun k => (acc + Layout.start cs k, acc + Layout.start cs (k + 1))) := by
  induction cs generalizing acc with
  | nil => rfl
  | cons c rest ih =>
    rw [slicesFromChunksFrom, ih, List.length_cons, List.range_succ_eq_map, List.map_cons, List.map_map]
    refine congr (congrArg List.cons ?_) (List.map_congr_left fun k _ => ?_)
    · rw [Layout.start_zero, Layout.start_succ, Layout.start_zero, Int.add_zero, Int.zero_add]; rfl
    · simp only [Function.comp, Layout.start_cons_succ, Int.add_assoc]

theorem slicesFromChunksFrom_shift (cs : List Int) (acc off : Int) :
    (slicesFromChunksFrom acc cs).map (fun p => (p.1 + off, p.2 + off)) =
      slicesFromChunksFrom (acc + off) cs := by
  rw [slicesFromChunksFrom_eq, slicesFromChunksFrom_eq, List.map_map]
  exact List.map_congr_left fun k _ => by simp only [Function.comp, Int.add_right_comm]

theorem slicesFromChunksFrom_bounds (cs : List Int) (acc : Int) (hc : ∀ c ∈ cs, 0 ≤ c) :
    ∀ p ∈ slicesFromChunksFrom acc cs, acc ≤ p.1 ∧ p.1 ≤ p.2 ∧ p.2 ≤ acc + isum cs := by
  intro p hp
  rw [slicesFromChunksFrom_eq] at hp
  obtain ⟨k, -, rfl⟩ := List.mem_map.mp hp
  exact ⟨Int.le_add_of_nonneg_right (Layout.start_nonneg hc k),
    Int.add_le_add_left (Layout.start_mono hc (Nat.le_succ k)) acc,
    Int.add_le_add_left (Layout.start_le_sum hc (k + 1)) acc⟩

theorem length_slicesFromChunksFrom (cs : List Int) (acc : Int) :
    (slicesFromChunksFrom acc cs).length = cs.length := by
  rw [slicesFromChunksFrom_eq, List.length_map, List.length_range]

theorem getElem?_slicesFromChunksFrom (cs : List Int) (acc : Int) (b : Nat) (hb : b < cs.length) :
    (slicesFromChunksFrom acc cs)[b]? =
      some (acc + blockStart cs b, acc + blockStart cs b + cs[b]) := by
  rw [slicesFromChunksFrom_eq, List.getElem?_map, List.getElem?_range hb, Option.map_some, Layout.start_succ,
    List.getD_eq_getElem?_getD, List.getElem?_eq_getElem hb, Option.getD_some, Int.add_assoc]
  rfl

/-- the invariant of a `FromArray` axis under pushed slices -/
structure Inv (ax : Axis) : Prop where
  dim_nonneg : 0 ≤ ax.dim
  chunks_nonneg : ∀ c ∈ ax.chunks, 0 ≤ c
  chunks_sum : isum ax.chunks = effLen ax.region ax.dim
  unit : ∀ r, ax.region = some r → r.stp = 1

theorem effLen_eq_length (ax : Axis) (h0 : 0 ≤ ax.dim) :
    effLen ax.region ax.dim = ((regionPositions ax).length : Int) := by
  unfold effLen regionPositions
  cases ax.region with
  | none => simp only [length_rangeList, rangeLen_one]; omega
  | some r => simp [sel]

theorem effLen_unit (r : PySlice) (n : Int) (hr : r.stp = 1) :
    effLen (some r) n = ((r.istop n - r.istart n).toNat : Int) := by
  simp only [effLen, hr, rangeLen_one]

theorem unit_region_bounds (r : PySlice) (n : Int) (hn : 0 ≤ n) (hr : r.stp = 1) :
    0 ≤ r.istart n ∧ r.istart n ≤ n ∧ 0 ≤ r.istop n ∧ r.istop n ≤ n := by
  have h1 := istart_pos_bounds r n hn (by omega)
  have h2 := istop_pos_bounds r n hn (by omega)
  omega

theorem region_span (ax : Axis) (h : Inv ax) :
    0 ≤ regionStart ax.region ax.dim ∧
    regionStart ax.region ax.dim + effLen ax.region ax.dim ≤ ax.dim ∧
    regionPositions ax = rangeList (regionStart ax.region ax.dim)
      (regionStart ax.region ax.dim + effLen ax.region ax.dim) 1 := by
  have hd := h.dim_nonneg
  unfold regionStart regionPositions
  cases hr : ax.region with
  | none => exact ⟨Int.le_refl 0, by simp only [effLen]; omega, by simp only [effLen, Int.zero_add]⟩
  | some r =>
    have hu := h.unit r hr
    have hb := unit_region_bounds r ax.dim hd hu
    simp only [effLen_unit r _ hu, sel, hu]
    exact ⟨hb.1, by omega, (rangeList_one_toNat _ _).symm⟩

theorem layerSlices_eq (ax : Axis) :
    layerSlices ax = slicesFromChunksFrom (regionStart ax.region ax.dim) ax.chunks := by
  unfold layerSlices slicesFromChunks
  rw [slicesFromChunksFrom_shift]; simp

theorem readPositions_eq_region (ax : Axis) (h : Inv ax) : readPositions ax = regionPositions ax := by
  unfold readPositions
  rw [layerSlices_eq, slicesFromChunksFrom_positions _ _ h.chunks_nonneg, h.chunks_sum]
  exact (region_span ax h).2.2.symm

theorem layerSlices_in_bounds (ax : Axis) (h : Inv ax) :
    ∀ p ∈ layerSlices ax, 0 ≤ p.1 ∧ p.1 ≤ p.2 ∧ p.2 ≤ ax.dim := by
  intro p hp
  rw [layerSlices_eq] at hp
  have hb := slicesFromChunksFrom_bounds _ _ h.chunks_nonneg p hp
  rw [h.chunks_sum] at hb
  have := region_span ax h
  omega

theorem overlapSpec_nil_of_ge (start stop : Int) (blocks : List (Int × Int))
    (h : ∀ p ∈ blocks, stop ≤ p.1) : overlapSpec start stop blocks = [] := by
  unfold overlapSpec
  induction blocks with
  | nil => rfl
  | cons p rest ih =>
    have hp := h p (List.mem_cons_self ..)
    have : (p.2 ≤ start ∨ p.1 ≥ stop) := Or.inr (by omega)
    simp only [List.filterMap_cons, this, if_true]
    exact ih (fun q hq => h q (List.mem_cons_of_mem _ hq))

theorem overlapLoop_eq_spec (start stop : Int) (cs : List Int) (pos : Int) (hc : ∀ c ∈ cs, 0 ≤ c) :
    overlapLoop start stop cs pos = overlapSpec start stop (slicesFromChunksFrom pos cs) := by
  fun_induction overlapLoop start stop cs pos with
  | case1 => rfl
  | case2 c rest pos ce h ih =>
    simp only [slicesFromChunksFrom, overlapSpec, List.filterMap_cons, show pos + c ≤ start from h, true_or, if_true]
    exact ih (fun x hx => hc x (List.mem_cons_of_mem _ hx))
  | case3 c rest pos cs' ce h1 h2 =>
    symm
    apply overlapSpec_nil_of_ge
    intro p hp
    rcases List.mem_cons.mp hp with rfl | hp
    · exact h2
    · have := slicesFromChunksFrom_bounds rest (pos + c) (fun x hx => hc x (List.mem_cons_of_mem _ hx)) p hp
      have := hc c (List.mem_cons_self ..)
      have : stop ≤ pos := h2
      omega
  | case4 c rest pos cs' ce h1 h2 ih =>
    have h1' : ¬ pos + c ≤ start := h1
    have h2' : ¬ pos ≥ stop := h2
    simp only [slicesFromChunksFrom, overlapSpec, List.filterMap_cons, h1', h2', or_self, if_false]
    exact congrArg _ (ih (fun x hx => hc x (List.mem_cons_of_mem _ hx)))

theorem max_zero_of_ge (start stop pos : Int) (h : stop ≤ pos) : max 0 (stop - max pos start) = 0 :=
  Int.max_eq_left (Int.sub_nonpos_of_le (Int.le_trans h (Int.le_max_left ..)))

theorem overlapLoop_sum (start stop : Int) (cs : List Int) (pos : Int) (hc : ∀ c ∈ cs, 0 ≤ c)
    (hss : start < stop) (hend : stop ≤ pos + isum cs) :
    isum (overlapLoop start stop cs pos) = max 0 (stop - max pos start) ∧
    ∀ x ∈ overlapLoop start stop cs pos, 0 ≤ x := by
  fun_induction overlapLoop start stop cs pos with
  | case1 pos => exact ⟨(max_zero_of_ge start stop pos (by simpa [isum] using hend)).symm, nofun⟩
  | case2 c rest pos ce h1 ih =>
    have h0 := hc c (List.mem_cons_self ..)
    obtain ⟨ih1, ih2⟩ := ih (fun x hx => hc x (List.mem_cons_of_mem _ hx))
      (by rw [Int.add_assoc]; exact hend)
    rw [ih1, Int.max_eq_right h1, Int.max_eq_right (Int.le_trans (Int.le_add_of_nonneg_right h0) h1)]
    exact ⟨rfl, ih2⟩
  | case3 c rest pos cs' ce h1 h2 => exact ⟨(max_zero_of_ge start stop pos h2).symm, nofun⟩
  | case4 c rest pos cs' ce h1 h2 ih =>
    have h0 := hc c (List.mem_cons_self ..)
    obtain ⟨ih1, ih2⟩ := ih (fun x hx => hc x (List.mem_cons_of_mem _ hx))
      (by rw [Int.add_assoc]; exact hend)
    rw [Int.max_eq_left (Int.le_of_lt (Int.not_le.mp h1))] at ih1
    have hlt : max pos start < stop := Int.max_lt.mpr ⟨Int.not_le.mp h2, hss⟩
    have hle : max pos start ≤ pos + c :=
      Int.max_le.mpr ⟨Int.le_add_of_nonneg_right h0, Int.le_of_lt (Int.not_le.mp h1)⟩
    generalize max pos start = m at hlt hle ⊢
    refine ⟨?_, List.forall_mem_cons.mpr ⟨by omega, ih2⟩⟩
    rw [isum, ih1]
    omega

theorem computeSlicedChunks_spec (chunks : List Int) (s : PySlice) (n : Int)
    (hn : 0 ≤ n) (hc : ∀ c ∈ chunks, 0 ≤ c) (hsum : isum chunks = n) (hs : s.stp = 1) :
    isum (computeSlicedChunks chunks s n) = ((sel s n).length : Int) ∧
    (∀ c ∈ computeSlicedChunks chunks s n, 0 ≤ c) ∧
    (s ≠ colon → s.istart n < s.istop n →
      computeSlicedChunks chunks s n = overlapSpec (s.istart n) (s.istop n) (slicesFromChunks chunks)) := by
  rw [sel_length, hs, rangeLen_one]
  have hb := unit_region_bounds s n hn hs
  unfold computeSlicedChunks
  by_cases hcol : s = colon
  · subst hcol
    rw [if_pos rfl]
    exact ⟨by rw [hsum]; show n = ((n - 0).toNat : Int); omega, hc, fun h => absurd rfl h⟩
  · have e1 : ¬ ((1 : Int) = -1) := by omega
    simp only [hcol, if_false, hs, e1, ne_eq, not_true_eq_false]
    generalize s.istart n = a at *
    generalize s.istop n = b at *
    by_cases hss : a ≥ b
    · simp only [hss, if_true]
      exact ⟨by simp only [isum]; omega, by simp, fun _ h => by omega⟩
    · simp only [hss, if_false]
      have hab : 0 ≤ b - a := by omega
      obtain ⟨hL1, hL2⟩ := overlapLoop_sum a b chunks 0 hc (Int.not_le.mp hss)
        (by rw [Int.zero_add, hsum]; exact hb.2.2.2)
      rw [Int.max_eq_right hb.1, Int.max_eq_right hab] at hL1
      -- the selection is non-empty, so the loop emitted something and `[0]` is not substituted
      have hemp : (overlapLoop a b chunks 0).isEmpty = false := by
        cases h : overlapLoop a b chunks 0 with
        | nil => rw [h] at hL1; simp only [isum] at hL1; omega
        | cons _ _ => rfl
      simp only [hemp, Bool.false_eq_true, if_false]
      exact ⟨hL1.trans (Int.toNat_of_nonneg hab).symm, hL2,
        fun _ _ => by rw [overlapLoop_eq_spec _ _ _ _ hc]; rfl⟩

theorem length_pick (xs is : List Int) (h : ∀ i ∈ is, 0 ≤ i ∧ i < (xs.length : Int)) :
    (pick xs is).length = is.length := by
  rw [pick, filterMap_getElem?_eq_map xs is h, List.length_map]

theorem pick_range_id (n : Int) (is : List Int) (h : ∀ i ∈ is, 0 ≤ i ∧ i < n) :
    pick (rangeList 0 n 1) is = is := by
  unfold pick
  induction is with
  | nil => rfl
  | cons i rest ih =>
    have hi := h i (List.mem_cons_self ..)
    obtain ⟨k, rfl⟩ := Int.eq_ofNat_of_zero_le hi.1
    rw [List.filterMap_cons, Int.toNat_natCast, getElem?_rangeList, if_pos (by rw [rangeLen_one]; omega),
      ih (fun j hj => h j (List.mem_cons_of_mem _ hj)), Int.mul_one, Int.zero_add]

theorem stp_regionIndex (idx : Idx) (h : idxAccepted idx = true) : (regionIndex idx).stp = 1 := by
  cases idx with
  | int i => simp [regionIndex, stp]
  | slc s =>
    simp only [idxAccepted, decide_eq_true_eq] at h
    simp only [regionIndex, stp]
    rcases h with h | h <;> simp [h]
  | newaxis => simp [idxAccepted] at h
  | fancy => simp [idxAccepted] at h

theorem accept_core (ax : Axis) (ri : PySlice) (h : Inv ax) (hri : ri.stp = 1) :
    let newRegion := match ax.region with
      | some old => composeSlices old ri ax.dim
      | none => ri
    let ax' : Axis := ⟨ax.dim, some newRegion, computeSlicedChunks ax.chunks ri (effLen ax.region ax.dim)⟩
    Inv ax' ∧ regionPositions ax' = pick (regionPositions ax) (sel ri ((regionPositions ax).length : Int)) := by
  intro newRegion ax'
  have hd := h.dim_nonneg
  have hL := effLen_eq_length ax hd
  have hcs := computeSlicedChunks_spec ax.chunks ri _ (by rw [hL]; omega) h.chunks_nonneg h.chunks_sum hri
  have hbnd := sel_bounds ri ((regionPositions ax).length : Int) (by omega)
  obtain ⟨hunit, hpos⟩ : newRegion.stp = 1 ∧ regionPositions ax' =
      pick (regionPositions ax) (sel ri ((regionPositions ax).length : Int)) := by
    obtain ⟨dim, region, chunks⟩ := ax
    have hd : 0 ≤ dim := hd
    cases region with
    | none =>
      have hlen : ((rangeList 0 dim 1).length : Int) = dim := by
        rw [length_rangeList, rangeLen_one]; omega
      refine ⟨hri, ?_⟩
      show sel ri dim = pick (rangeList 0 dim 1) (sel ri ((rangeList 0 dim 1).length : Int))
      rw [hlen, pick_range_id _ _ (sel_bounds ri dim hd)]
    | some old =>
      have ho := h.unit old rfl
      refine ⟨?_, composeSlices_sel old ri dim hd (by omega) (by omega)⟩
      show (composeSlices old ri dim).stp = 1
      rw [composeSlices_eq, ho, hri]
      rfl
  refine ⟨⟨hd, hcs.2.1, ?_, fun r hr => by cases hr; exact hunit⟩, hpos⟩
  show isum _ = effLen (some newRegion) ax.dim
  rw [effLen_eq_length ax' hd, hpos, length_pick _ _ hbnd, hcs.1, hL]

theorem accept_ordered (ax : Axis) (ri : PySlice) (h : Inv ax) (hri : ri.stp = 1)
    (hord : ri.istart (effLen ax.region ax.dim) ≤ ri.istop (effLen ax.region ax.dim)) :
    let newRegion := match ax.region with
      | some old => composeSlices old ri ax.dim
      | none => ri
    newRegion.istart ax.dim ≤ newRegion.istop ax.dim := by
  intro newRegion
  cases hr : ax.region with
  | none => simpa [newRegion, hr, effLen] using hord
  | some old =>
    have ho := h.unit old hr
    have hb := unit_region_bounds old ax.dim h.dim_nonneg ho
    simp only [hr, effLen, ho] at hord
    have hbi := unit_region_bounds ri (rangeLen (old.istart ax.dim) (old.istop ax.dim) 1 : Int)
      (Int.natCast_nonneg _) hri
    simp only [newRegion, hr]
    rw [composeSlices_eq, ho, hri]
    simp only [Int.mul_one, ne_eq, not_true_eq_false, if_false]
    rw [istart_some none Int.one_pos, istop_some none Int.one_pos]
    -- the composed region is `[old.start + ri.start, old.start + ri.stop)` under the clamps to `[0, dim]`: order is kept
    omega

theorem accept_step (ax ax' : Axis) (idx : Idx) (h : Inv ax)
    (ha : acceptSliceAxis ax idx = some ax') (hv : IdxValid (regionPositions ax) idx) :
    Inv ax' ∧ ax'.dim = ax.dim ∧ regionPositions ax' = npIndex (regionPositions ax) idx := by
  unfold acceptSliceAxis at ha
  split at ha
  · next hacc =>
    cases ha
    have hc := accept_core ax (regionIndex idx) h (stp_regionIndex idx hacc)
    refine ⟨hc.1, rfl, hc.2.trans ?_⟩
    cases idx with
    | int k =>
      obtain ⟨hk0, hk1⟩ : 0 ≤ k ∧ k < ((regionPositions ax).length : Int) := hv
      rw [regionIndex, npIndex, sel_point k _ hk0 hk1]
      have hlt : k.toNat < (regionPositions ax).length := by omega
      simp [pick, List.getElem?_eq_getElem hlt]
    | slc s => rfl
    | newaxis => cases hacc
    | fancy => cases hacc
  · cases ha

theorem accept_chain (ax ax' : Axis) (idxs : List Idx) (h : Inv ax)
    (ha : acceptChain ax idxs = some ax') (hv : ValidChain (regionPositions ax) idxs) :
    Inv ax' ∧ ax'.dim = ax.dim ∧ regionPositions ax' = npChain (regionPositions ax) idxs := by
  induction idxs generalizing ax with
  | nil => cases ha; exact ⟨h, rfl, rfl⟩
  | cons i rest ih =>
    obtain ⟨hv1, hv2⟩ := hv
    obtain ⟨ax1, h1, ha⟩ := Option.bind_eq_some_iff.mp ha
    obtain ⟨hi, hd, hp⟩ := accept_step ax ax1 i h h1 hv1
    obtain ⟨hi', hd', hp'⟩ := ih ax1 hi ha (hp ▸ hv2)
    exact ⟨hi', hd'.trans hd, hp'.trans (congrArg (npChain · rest) hp)⟩

theorem acceptChain_fresh (dim : Int) (chunks : List Int) (idxs : List Idx) (ax : Axis)
    (hd : 0 ≤ dim) (hc : ∀ c ∈ chunks, 0 ≤ c) (hsum : isum chunks = dim)
    (hv : ValidChain (rangeList 0 dim 1) idxs)
    (ha : acceptChain ⟨dim, none, chunks⟩ idxs = some ax) :
    Inv ax ∧ ax.dim = dim ∧ regionPositions ax = npChain (rangeList 0 dim 1) idxs :=
  accept_chain ⟨dim, none, chunks⟩ ax idxs ⟨hd, hc, hsum, fun r hr => by cases hr⟩ ha hv

theorem diffs_sum (a : Int) (rest : List Int) :
    isum (diffs (a :: rest)) = (a :: rest).getLast (by simp) - a := by
  induction rest generalizing a with
  | nil => simp [diffs, isum]
  | cons b rest ih =>
    simp only [diffs, isum, ih b, List.getLast_cons_cons]
    omega

theorem diffs_sum_concat (a : Int) (mid : List Int) (z : Int) :
    isum (diffs (a :: (mid ++ [z]))) = z - a := by
  rw [diffs_sum]
  exact congrArg (· - a) (List.getLast_concat (l := a :: mid))

theorem diffs_nonneg (l : List Int) (h : List.Pairwise (· ≤ ·) l) : ∀ x ∈ diffs l, 0 ≤ x := by
  fun_induction diffs l with
  | case1 => nofun
  | case2 => nofun
  | case3 a b rest ih =>
    rw [List.pairwise_cons] at h
    exact List.forall_mem_cons.mpr ⟨Int.sub_nonneg_of_le (h.1 b (List.mem_cons_self ..)), ih h.2⟩

theorem alignedReadChunks_valid (start stop storage : Int) (hs : 0 < storage) (hss : start ≤ stop) :
    (∀ c ∈ alignedReadChunks start stop storage, 0 ≤ c) ∧
    isum (alignedReadChunks start stop storage) = stop - start := by
  unfold alignedReadChunks
  simp only []
  generalize hfirst : pyDiv (start + storage - 1) storage * storage = first
  have hp := Progression.rangeList_sorted (S := first) (T := stop) hs
  have hmem : ∀ b ∈ rangeList first stop storage, b < stop := by
    intro b hb
    obtain ⟨i, hi, rfl⟩ := (mem_rangeList _ _ _ _).mp hb
    exact (lt_rangeLen_pos _ _ _ hs i).mp hi
  generalize rangeList first stop storage = R at hp hmem
  constructor
  · apply diffs_nonneg
    rw [List.append_assoc, List.singleton_append, List.pairwise_cons]
    constructor
    · intro x hx
      rw [List.mem_append] at hx
      rcases hx with hx | hx
      · simp only [List.mem_map, List.mem_filter, decide_eq_true_eq] at hx
        obtain ⟨b, ⟨_, hb⟩, rfl⟩ := hx
        omega
      · simp only [List.mem_singleton] at hx; omega
    · rw [List.pairwise_append]
      refine ⟨?_, by simp, ?_⟩
      · rw [List.pairwise_map]
        apply List.Pairwise.imp _ (List.Pairwise.filter _ hp)
        intro x y hxy; omega
      · intro x hx y hy
        simp only [List.mem_map, List.mem_filter, decide_eq_true_eq] at hx
        obtain ⟨b, ⟨hbR, _⟩, rfl⟩ := hx
        simp only [List.mem_singleton] at hy
        have := hmem b hbR
        omega
  · rw [List.append_assoc, List.singleton_append, diffs_sum_concat]
    omega

/-- `uniformChunks size dim` abbreviates `normalize_chunks((size,), (dim,))`, whose model is `Chunks.blockdim` -/
theorem uniformChunks_eq (size dim : Int) (hs : 0 < size) (hd : 0 ≤ dim) :
    Dask.Chunks.blockdim dim size = .ok (uniformChunks size dim) := by
  unfold Dask.Chunks.blockdim uniformChunks
  by_cases h0 : dim = 0
  · subst h0; rfl
  · have h1 : ¬ size = 0 := by omega
    have h2 : ¬ dim ≤ 0 := by omega
    simp only [h0, h1, h2, if_false]
    by_cases hr : pyMod dim size = 0
    · simp only [hr, ne_eq, not_true_eq_false, if_false, if_true]
    · simp only [hr, ne_eq, not_false_eq_true, if_true, if_false]

theorem uniformChunks_valid (size dim : Int) (hs : 0 < size) (hd : 0 ≤ dim) :
    (∀ c ∈ uniformChunks size dim, 0 ≤ c) ∧ isum (uniformChunks size dim) = dim := by
  have e := uniformChunks_eq size dim hs hd
  refine ⟨fun c hc => ?_, Dask.Lemmas.Chunks.blockdim_sum dim size hd (Or.inr hs) _ e⟩
  by_cases h0 : dim = 0
  · subst h0
    exact Int.le_of_eq (List.mem_singleton.mp hc).symm
  · exact Int.le_of_lt (Dask.Lemmas.Chunks.uniform_entries dim size (by omega) hs _ e c hc).1

theorem coarseReadSize_pos (target : List Int) (storage : Int) (hs : 0 < storage) :
    0 < coarseReadSize target storage := by
  unfold coarseReadSize
  have hq : pyDiv (max (imax target) storage + storage - 1) storage =
      (max (imax target) storage + storage - 1) / storage := by simp [pyDiv, hs]
  rw [hq]
  have : 1 ≤ (max (imax target) storage + storage - 1) / storage := by
    rw [Int.le_ediv_iff_mul_le hs]; omega
  have := Int.mul_le_mul_of_nonneg_right this (Int.le_of_lt hs)
  omega

theorem mapE_ok_map {α β γ} (f : α → Except Err β) (g : β → γ) (h : α → γ) (l : List α) (ys : List β)
    (hf : ∀ x ∈ l, ∀ y, f x = .ok y → g y = h x) (hm : mapE f l = .ok ys) :
    ys.map g = l.map h := by
  fun_induction mapE f l generalizing ys with
  | case1 => cases hm; rfl
  | case2 => cases hm
  | case3 => cases hm
  | case4 x xs y hx ys' hxs ih =>
    cases hm
    rw [List.map_cons, List.map_cons, hf x (List.mem_cons_self ..) y hx,
      ih ys' (fun z hz => hf z (List.mem_cons_of_mem _ hz)) hxs]

theorem mapE_ok_iff {α β} (f : α → Except Err β) (l : List α) :
    (∃ ys, mapE f l = .ok ys) ↔ ∀ x ∈ l, ∃ y, f x = .ok y := by
  fun_induction mapE f l with
  | case1 => exact ⟨fun _ => nofun, fun _ => ⟨[], rfl⟩⟩
  | case2 x xs e hx =>
    refine ⟨fun ⟨_, h⟩ => (nomatch h), fun hf => ?_⟩
    obtain ⟨y, hy⟩ := hf x (List.mem_cons_self ..)
    rw [hx] at hy; cases hy
  | case3 x xs y hx e hxs ih =>
    refine ⟨fun ⟨_, h⟩ => (nomatch h), fun hf => ?_⟩
    obtain ⟨ys, hys⟩ := ih.mpr (fun z hz => hf z (List.mem_cons_of_mem _ hz))
    rw [hxs] at hys; cases hys
  | case4 x xs y hx ys' hxs ih =>
    exact ⟨fun _ => List.forall_mem_cons.mpr ⟨⟨y, hx⟩, ih.mp ⟨ys', hxs⟩⟩, fun _ => ⟨_, rfl⟩⟩

theorem mapE_eq_map {α β} (f : α → Except Err β) (g : α → β) (l : List α)
    (h : ∀ x ∈ l, f x = .ok (g x)) : mapE f l = .ok (l.map g) := by
  induction l with
  | nil => rfl
  | cons x xs ih =>
    simp only [mapE, h x (List.mem_cons_self ..), ih (fun y hy => h y (List.mem_cons_of_mem _ hy)),
      List.map_cons]

theorem pick_append (l a b : List Int) : pick l (a ++ b) = pick l a ++ pick l b := by
  simp [pick, List.filterMap_append]

def piece (l : List Int) (p : Int × Int) : List Int := pick l (rangeList p.1 p.2 1)

theorem piece_span (l : List Int) (a n : Nat) : piece l ((a : Int), (a : Int) + n) = (l.drop a).take n := by
  unfold piece
  rw [rangeList_span]
  exact span_pick l _ _

theorem pick_self (l : List Int) : pick l (rangeList 0 (l.length : Int) 1) = l := by
  have := piece_span l 0 l.length
  simpa [piece] using this

theorem piece_getElem? (l : List Int) (s c : Int) (h0 : 0 ≤ s) (j : Nat) (hj : (j : Int) < c) :
    (piece l (s, s + c))[j]? = l[(s + j).toNat]? := by
  obtain ⟨a, rfl⟩ := Int.eq_ofNat_of_zero_le h0
  obtain ⟨n, rfl⟩ := Int.eq_ofNat_of_zero_le (Int.le_trans (Int.natCast_nonneg j) (Int.le_of_lt hj))
  rw [piece_span, List.getElem?_take, if_pos (Int.ofNat_lt.mp hj), List.getElem?_drop, ← Int.natCast_add,
    Int.toNat_natCast]

theorem length_piece (l : List Int) (p : Int × Int) (h0 : 0 ≤ p.1) (h1 : p.1 ≤ p.2)
    (h2 : p.2 ≤ (l.length : Int)) : ((piece l p).length : Int) = p.2 - p.1 := by
  obtain ⟨a, n, rfl⟩ := span_cast p h0 h1
  have h2' : a + n ≤ l.length := Int.ofNat_le.mp (Int.natCast_add a n ▸ h2)
  rw [piece_span, List.length_take, List.length_drop, Nat.min_eq_left (Nat.le_sub_of_add_le' h2')]
  exact (Int.add_comm _ _ ▸ Int.add_sub_cancel (n : Int) a).symm

theorem flatten_pieces (l : List Int) (blocks : List (Int × Int)) :
    (blocks.map (piece l)).flatten = pick l (slicesPositions blocks) := by
  induction blocks with
  | nil => rfl
  | cons p rest ih =>
    simp only [List.map_cons, List.flatten_cons, slicesPositions_cons, pick_append, ih]
    rfl

theorem storeIndexAxis_sel (r : PySlice) (n : Int) (hn : 0 ≤ n) (p : Int × Int) (f : PySlice)
    (h0 : 0 ≤ p.1) (h1 : p.1 ≤ p.2) (h2 : p.2 ≤ ((sel r n).length : Int))
    (h : storeIndexAxis (some r) p = .ok f) : sel f n = piece (sel r n) p := by
  unfold storeIndexAxis at h
  simp only at h
  rw [fuseSliceSlice_sel r (chunkSlice p) f n hn h, sel_chunkSlice p _ h0 h1 h2]
  rfl

theorem storeIndexAxis_ok (r : PySlice) (p : Int × Int)
    (hr : 0 ≤ r.start.getD 0 ∧ 0 ≤ r.step.getD 1 ∧ 0 ≤ r.stop.getD 0) (h0 : 0 ≤ p.1) (h1 : p.1 ≤ p.2) :
    ∃ f, storeIndexAxis (some r) p = .ok f :=
  (fuseSliceSlice_ok_iff r (chunkSlice p)).mpr
    ⟨hr.1, hr.2.1, hr.2.2, h0, Int.le_of_lt Int.one_pos, Int.le_trans h0 h1⟩

theorem fuseTuple_int (i : Int) (as : List RIdx) (bs : List (Int × Int)) :
    fuseTuple (RIdx.int i :: as) bs = (do let r ← fuseTuple as bs; pure (RIdx.int i :: r)) := rfl

theorem fuseTuple_slc_cons (s : PySlice) (as : List RIdx) (p : Int × Int) (bs : List (Int × Int)) :
    fuseTuple (RIdx.slc s :: as) (p :: bs) =
      (do let f ← fuseSliceSlice s (chunkSlice p); let r ← fuseTuple as bs; pure (RIdx.slc f :: r)) := rfl

theorem nodup_sel (r : PySlice) (n : Int) (hs : r.stp ≠ 0) : (sel r n).Nodup :=
  Dask.Lemmas.Rank.nodup_rangeList _ _ _ hs

theorem store_tiles (r : PySlice) (n : Int) (chunks : List Int) (ws : List PySlice)
    (hn : 0 ≤ n) (hc : ∀ c ∈ chunks, 0 ≤ c)
    (hlen : isum chunks = ((sel r n).length : Int))
    (hw : storeWrites (some r) chunks = .ok ws) :
    ws.map (fun w => sel w n) = (slicesFromChunks chunks).map (piece (sel r n)) ∧
    ws.flatMap (fun w => sel w n) = sel r n := by
  have hbnd := slicesFromChunksFrom_bounds chunks 0 hc
  have hmap : ws.map (fun w => sel w n) = (slicesFromChunks chunks).map (piece (sel r n)) := by
    apply mapE_ok_map (storeIndexAxis (some r)) (fun w => sel w n) (piece (sel r n)) _ _ _ hw
    intro p hp f hf
    have := hbnd p hp
    rw [Int.zero_add, hlen] at this
    exact storeIndexAxis_sel r n hn p f this.1 this.2.1 this.2.2 hf
  refine ⟨hmap, ?_⟩
  rw [List.flatMap_def, hmap, flatten_pieces, slicesFromChunks_partition _ hc, hlen]
  exact pick_self _

theorem store_block (r : PySlice) (n : Int) (chunks : List Int) (ws : List PySlice)
    (hn : 0 ≤ n) (hc : ∀ c ∈ chunks, 0 ≤ c)
    (hlen : isum chunks = ((sel r n).length : Int))
    (hw : storeWrites (some r) chunks = .ok ws) (b : Nat) (p : Int × Int) (w : PySlice)
    (hp : (slicesFromChunks chunks)[b]? = some p) (hwb : ws[b]? = some w) :
    sel w n = piece (sel r n) p := by
  have h1 := congrArg (·[b]?) (store_tiles r n chunks ws hn hc hlen hw).1
  simp only [List.getElem?_map, hwb, hp, Option.map_some, Option.some.injEq] at h1
  exact h1

end Dask.Lemmas.SourceIO
