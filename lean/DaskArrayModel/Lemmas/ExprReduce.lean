/-
`Expr.reduce` and `Expr.cumsum`, the 1-d facts about a line cut into chunks.  The tree reduction over the per-block
partials equals the flat NumPy reduction of the line (`reduce_line`), from Lemmas/Reduce.lean (C18: `treeReduce_hom`,
`treeReduce_eq_fold`, `depthOf_spec`).  The per-block cumulative sum plus the running total of the previous blocks
(sequential `CumReduction`) equals NumPy's cumulative sum of the line (`cumsum_line`).  The n-d part is
`alongAxis_grid` (Lemmas/ExprArr.lean), applied in Lemmas/ExprCorrect.lean.
-/
import DaskArrayModel.Lemmas.ExprMeta
import DaskArrayModel.Lemmas.Reduce
namespace Dask.ND
open Dask.Py Dask.Reduce Dask.Lemmas.Reduce

theorem Red.op_assoc (r : Red) : ∀ a b c : Int, r.op (r.op a b) c = r.op a (r.op b c) := by
  cases r
  · exact Int.add_assoc
  · exact Int.max_assoc
  · exact Int.min_assoc

theorem range_prefix_blocks (cs : List Nat) (F : Nat → Int) : ∀ j,
    (List.range (cs.take j).sum).map F
      = ((List.range j).map (fun j' =>
          (List.range (cs.getD j' 0)).map (fun t => F ((cs.take j').sum + t)))).flatten
  | 0 => rfl
  | j + 1 => by
    rw [show (cs.take (j + 1)).sum = (cs.take j).sum + cs.getD j 0 from Layout.nstart_succ cs j, List.range_add,
      List.map_append, range_prefix_blocks cs F j, List.range_succ, List.map_append, List.flatten_append, List.map_map]
    simp [Function.comp_def]

theorem range_blocks (cs : List Nat) (F : Nat → Int) :
    (List.range cs.sum).map F
      = ((List.range cs.length).map (fun j =>
          (List.range (cs.getD j 0)).map (fun t => F ((cs.take j).sum + t)))).flatten := by
  have := range_prefix_blocks cs F cs.length
  rwa [List.take_length] at this

theorem fold1_add_cons (x : Int) (r : List Int) :
    fold1 (· + ·) (0 : Int) (x :: r) = x + fold1 (· + ·) 0 r := by
  cases r with
  | nil => simp [fold1]
  | cons y r => rfl

theorem fold1_add_append : ∀ (a b : List Int),
    fold1 (· + ·) (0 : Int) (a ++ b) = fold1 (· + ·) 0 a + fold1 (· + ·) 0 b
  | [], b => by simp [fold1]
  | x :: a, b => by
    rw [List.cons_append, fold1_add_cons, fold1_add_cons, fold1_add_append a b]; omega

theorem fold1_add_flatten : ∀ (ps : List (List Int)),
    fold1 (· + ·) (0 : Int) (ps.map (fold1 (· + ·) 0)) = fold1 (· + ·) 0 ps.flatten
  | [] => rfl
  | p :: ps => by
    rw [List.map_cons, fold1_add_cons, List.flatten_cons, fold1_add_append, fold1_add_flatten ps]

theorem tree_blocks (r : Red) (k : Nat) (hk : 2 ≤ k) (ps : List (List Int)) (hps : ps ≠ [])
    (hsne : r = .sum ∨ ∀ p ∈ ps, p ≠ []) :
    (treeReduce k (depthOf ps.length k) r.list r.list (ps.map r.list)).headD r.d
      = r.list ps.flatten := by
  have hl : (ps.map r.list).length ≤ k ^ depthOf ps.length k := by
    rw [List.length_map]; exact depthOf_spec hk
  -- `sum` has the unit 0, so the fold of an empty block is harmless (`treeReduce_eq_fold`, then `fold1_add_flatten`);
  -- `max` / `min` have none: `fold1` is a homomorphism on non-empty blocks only (`treeReduce_hom`)
  rcases hsne with hs | hne
  · subst hs
    have h := treeReduce_eq_fold Red.sum.op Red.sum.op_assoc Red.sum.d id (k := k)
      (depth := depthOf ps.length k) (Nat.lt_of_lt_of_le Nat.zero_lt_two hk) (depthOf_pos _ _) (bs := ps.map Red.sum.list)
      (by simpa using hps) hl
    have h' : treeReduce k (depthOf ps.length k) Red.sum.list Red.sum.list (ps.map Red.sum.list)
        = [fold1 Red.sum.op Red.sum.d (ps.map Red.sum.list)] := h
    rw [h']
    exact fold1_add_flatten ps
  · have h := treeReduce_hom r.op r.d (fold1 r.op r.d) (fold1_isHom r.op r.op_assoc r.d) id (k := k)
      (depth := depthOf ps.length k) (Nat.lt_of_lt_of_le Nat.zero_lt_two hk) (depthOf_pos _ _) hps hne
      (by rw [List.length_map] at hl; exact hl)
    have h' : treeReduce k (depthOf ps.length k) r.list r.list (ps.map r.list)
        = [r.list ps.flatten] := h
    rw [h']
    rfl

theorem reduce_line (r : Red) (k : Nat) (hk : 2 ≤ k) (cs : List Nat) (hcs : cs ≠ [])
    (hpos : r = .sum ∨ ∀ c ∈ cs, 0 < c) (F : Nat → Int) (rd : Nat → Nat → Int)
    (hrd : ∀ j' t, j' < cs.length → t < cs.getD j' 0 → rd j' t = F ((cs.take j').sum + t)) :
    (treeReduce k (depthOf cs.length k) r.list r.list
        ((List.range cs.length).map (fun j => r.list ((List.range (cs.getD j 0)).map (rd j))))).headD r.d
      = r.list ((List.range cs.sum).map F) := by
  rw [range_blocks cs F]
  refine Eq.trans ?_ (tree_blocks r k hk ((List.range cs.length).map fun j =>
    (List.range (cs.getD j 0)).map fun t => F ((cs.take j).sum + t)) (by simpa using hcs) ?_)
  · rw [List.length_map, List.length_range, List.map_map]
    refine congrArg (fun l => (treeReduce k _ r.list r.list l).headD r.d) (List.map_congr_left ?_)
    intro j hj
    exact congrArg r.list (List.map_congr_left fun t ht => hrd j t (List.mem_range.mp hj) (List.mem_range.mp ht))
  · refine hpos.imp id (fun h p hp => ?_)
    obtain ⟨j, hj, rfl⟩ := List.mem_map.mp hp
    have hlt := List.mem_range.mp hj
    have hc := h (cs.getD j 0) (by rw [getD_eq_getElem _ _ _ hlt]; exact List.getElem_mem hlt)
    simpa using Nat.ne_of_gt hc

theorem sum_prefix_blocks (cs : List Nat) (j : Nat) (F : Nat → Int) :
    Red.sum.list ((List.range j).map (fun j' =>
        Red.sum.list ((List.range (cs.getD j' 0)).map (fun t => F ((cs.take j').sum + t)))))
      = Red.sum.list ((List.range (cs.take j).sum).map F) := by
  rw [range_prefix_blocks cs F j]
  exact Eq.trans (congrArg Red.sum.list (List.map_map ..).symm) (fold1_add_flatten _)

theorem sum_range_add (S x : Nat) (F : Nat → Int) :
    Red.sum.list ((List.range (S + x)).map F)
      = Red.sum.list ((List.range S).map F) + Red.sum.list ((List.range x).map (fun t => F (S + t))) := by
  rw [List.range_add, List.map_append, List.map_map]
  exact fold1_add_append _ _

theorem cumsum_line (cs : List Nat) (F : Nat → Int) (rd : Nat → Nat → Int) (j x : Nat) (hj : j < cs.length)
    (hx : x < cs.getD j 0)
    (hrd : ∀ j' t, j' < cs.length → t < cs.getD j' 0 → rd j' t = F ((cs.take j').sum + t)) :
    Red.sum.list ((List.range j).map fun j' => Red.sum.list ((List.range (cs.getD j' 0)).map (rd j')))
        + Red.sum.list ((List.range (x + 1)).map (rd j))
      = Red.sum.list ((List.range ((cs.take j).sum + x + 1)).map F) := by
  rw [Nat.add_assoc, sum_range_add (List.sum _), ← sum_prefix_blocks]
  refine congr (congrArg _ (congrArg _ (List.map_congr_left ?_))) (congrArg _ (List.map_congr_left ?_))
  · intro j' hj'
    have hlt := Nat.lt_trans (List.mem_range.mp hj') hj
    exact congrArg _ (List.map_congr_left fun t ht => hrd j' t hlt (List.mem_range.mp ht))
  · intro t ht
    exact hrd j t hj (Nat.lt_of_lt_of_le (List.mem_range.mp ht) hx)

end Dask.ND
