/-
Lemmas for Model/Fusion.lean: the block that `FusedBlockwise._compute_block_ids` assigns to a member is
the block the unfused graph computes along EVERY path.

`conc r M nb` is the concrete block of a member with symbolic mapping `M` (root block `r`, member grid
`nb`): coordinate `t` is `r[M[t]] % nb[t]`.  For every node kind the block a task references through an
argument is `conc` of the argument's symbolic mapping (the positional rules of Elemwise / Transpose
coincide with `_compute_block_id` on well-formed nodes).  `_compute_block_ids` and
`_remove_conflicting_exprs` share one loop skeleton, whose invariant is proved once (`fill_spec`).  With no
conflict recorded every member has ONE symbolic mapping consistent with every edge; `canon`, the `conc`
of it, then solves the edge equations, so it is the block of the member along any path.
-/
import DaskArrayModel.Model.Fusion
import DaskArrayModel.Lemmas.PyBasic
import DaskArrayModel.Lemmas.InverseAxes
namespace Dask.Fusion
open Dask.Py (getD_default_irrel exists_getD_of_mem)

theorem mem_filterMap_iff {α β : Type} {l : List α} {f : α → Option β} {P : α → β → Prop}
    (hf : ∀ a b, f a = some b ↔ P a b) (x : β) : x ∈ l.filterMap f ↔ ∃ a ∈ l, P a x := by
  simp only [List.mem_filterMap, hf]

theorem outPosFrom_cons (k : Nat) (t : List Nat) (d i : Nat) :
    outPosFrom (k :: t) d i =
      match outPosFrom t (d + 1) i with | some w => some w | none => if k = i then some d else none := rfl

theorem outPosFrom_bounds (ks : List Nat) (d i p : Nat) (h : outPosFrom ks d i = some p) :
    ∃ q, p = d + q ∧ q < ks.length ∧ ks.getD q 0 = i := by
  induction ks generalizing d with
  | nil => cases h
  | cons k t ih =>
    cases hrec : outPosFrom t (d + 1) i with
    | some w =>
      rw [outPosFrom_cons, hrec] at h
      cases h
      obtain ⟨q, h1, h2, h3⟩ := ih (d + 1) hrec
      exact ⟨q + 1, by omega, Nat.succ_lt_succ h2, h3⟩
    | none =>
      rw [outPosFrom_cons, hrec] at h
      by_cases hk : k = i
      · rw [if_pos hk] at h
        cases h
        exact ⟨0, rfl, Nat.zero_lt_succ _, hk⟩
      · rw [if_neg hk] at h; cases h

theorem outPos_bounds (ks : List Nat) (i p : Nat) (h : outPos ks i = some p) :
    p < ks.length ∧ ks.getD p 0 = i := by
  obtain ⟨q, h1, h2, h3⟩ := outPosFrom_bounds ks 0 i p h
  rw [Nat.zero_add] at h1
  exact h1 ▸ ⟨h2, h3⟩

theorem outPosFrom_none (ks : List Nat) (d i : Nat) (h : outPosFrom ks d i = none) : i ∉ ks := by
  induction ks generalizing d with
  | nil => simp
  | cons k t ih =>
    cases hrec : outPosFrom t (d + 1) i with
    | some w => rw [outPosFrom_cons, hrec] at h; cases h
    | none =>
      rw [outPosFrom_cons, hrec] at h
      by_cases hk : k = i
      · simp [hk] at h
      · simp [ih (d + 1) hrec, Ne.symm hk]

theorem outPos_nodup (ks : List Nat) (p : Nat) (hn : ks.Nodup) (hp : p < ks.length) :
    outPos ks (ks.getD p 0) = some p := by
  cases h : outPos ks (ks.getD p 0) with
  | none => exact absurd (Dask.Py.getD_mem ks p 0 hp) (outPosFrom_none ks 0 _ h)
  | some q =>
    obtain ⟨hq, he⟩ := outPos_bounds ks _ q h
    rw [Dask.Py.getD_eq_getElem ks q 0 hq, Dask.Py.getD_eq_getElem ks p 0 hp] at he
    have hqp := congrArg (fun x => ks.idxOf x) he
    rw [hn.idxOf_getElem q hq, hn.idxOf_getElem p hp] at hqp
    rw [hqp]

theorem invAxes_getD (axes : List Nat) (p : Nat) (hb : ∀ a ∈ axes, a < axes.length) (hn : axes.Nodup)
    (hp : p < axes.length) : (invAxes axes).getD (axes.getD p 0) 0 = p := by
  have hm : axes.getD p 0 ∈ axes := Dask.Py.getD_mem axes p 0 hp
  rw [invAxes, invFrom_getD axes 0 _ _ hn (by simpa only [List.length_replicate] using hb), if_pos hm, Nat.zero_add,
    Dask.Py.getD_eq_getElem axes p 0 hp]
  exact hn.idxOf_getElem p hp

/-- the concrete block of a member with grid `nb` whose symbolic mapping is `M`, for root block `r` -/
def conc (r M nb : List Nat) : List Nat :=
  (List.range nb.length).map fun t => r.getD (M.getD t 0) 0 % nb.getD t 1

theorem conc_length (r M nb : List Nat) : (conc r M nb).length = nb.length := by
  simp only [conc, List.getD_eq_getElem?_getD, List.length_map, List.length_range]

theorem conc_getD (r M nb : List Nat) (t : Nat) (h : t < nb.length) :
    (conc r M nb).getD t 0 = r.getD (M.getD t 0) 0 % nb.getD t 1 := by
  unfold conc
  rw [Dask.Py.getD_map_range _ _ _ _ h]

theorem conc_lt (r M nb : List Nat) (t : Nat) (h : t < nb.length) (hpos : ∀ n ∈ nb, 0 < n) :
    (conc r M nb).getD t 0 < nb.getD t 1 := by
  rw [conc_getD _ _ _ _ h]
  exact Nat.mod_lt _ (hpos _ (Dask.Py.getD_mem _ _ _ h))

theorem conc_root (r nb : List Nat) (hl : r.length = nb.length)
    (hv : ∀ d ∈ List.range r.length, r.getD d 0 < nb.getD d 1) :
    conc r (List.range nb.length) nb = r := by
  apply List.ext_getElem
  · simp only [conc, List.getD_eq_getElem?_getD, List.length_map, List.length_range, hl]
  · intro t h1 h2
    have ht : t < nb.length := by
      simpa only [conc, List.getD_eq_getElem?_getD, List.length_map, List.length_range] using h1
    have hr : t < r.length := by omega
    have hv' := hv t (List.mem_range.mpr hr)
    have e1 : (List.range nb.length).getD t 0 = t := Dask.Py.getD_range _ _ ht
    have e2 : r.getD t 0 = r[t] := by
      simp only [List.getD_eq_getElem?_getD, hr, getElem?_pos, Option.getD_some]
    simp only [conc, List.getElem_map, List.getElem_range, e1]
    rw [Nat.mod_eq_of_lt hv', e2]

theorem symIdx_of_pos (X : Node) (M : List Nat) (i p : Nat) (h : outPos X.outInd i = some p) :
    symIdx X M i = M.getD p p := by
  simp only [symIdx, List.getD_eq_getElem?_getD, h, Option.map_some, Option.getD_some]

theorem symIdx_of_none (X : Node) (M : List Nat) (i : Nat) (h : outPos X.outInd i = none) :
    symIdx X M i = i := by simp [symIdx, h]

theorem edge_blockwise (X : Node) (a : Arg) (r M : List Nat)
    (hM : M.length = X.nb.length) (hX : X.nb.length = X.outInd.length)
    (hla : a.ind.length = a.nb.length) (hw : WFBlockwise X a) :
    computeBlockId a.ind (idxToBlock X (conc r M X.nb)) a.nb = conc r (a.ind.map (symIdx X M)) a.nb := by
  unfold computeBlockId conc
  rw [← hla]
  apply List.map_congr_left
  intro dim hdim
  have hd : dim < a.ind.length := List.mem_range.mp hdim
  obtain ⟨hw1, hw2⟩ := hw dim hdim
  rw [Dask.Py.getD_map (symIdx X M) a.ind dim 0 0 hd]
  generalize a.ind.getD dim 0 = i at hw1 hw2
  generalize a.nb.getD dim 1 = n at hw1 hw2
  by_cases hi : i ∈ X.newAxes
  · have hn := hw1 hi
    subst hn
    simp only [idxToBlock, hi, ↓reduceIte, Nat.mod_succ, List.getD_eq_getElem?_getD, Nat.mod_one]
  · have hc := hw2 hi
    simp only [idxToBlock, hi, if_false]
    cases hp : outPos X.outInd i with
    | none =>
      rw [hp] at hc
      simp only [dvdCond] at hc
      subst hc
      simp only [List.getD_eq_getElem?_getD, List.getElem?_map, Option.map_none, Nat.mod_one]
    | some p =>
      rw [hp] at hc
      simp only [dvdCond] at hc
      have hpl := (outPos_bounds _ _ _ hp).1
      have hpl' : p < X.nb.length := by omega
      simp only [Option.map_some]
      have := conc_getD r M X.nb p hpl'
      unfold conc at this
      rw [this, symIdx_of_pos _ _ _ _ hp, getD_default_irrel M p p 0 (by omega)]
      exact Nat.mod_mod_of_dvd _ hc

theorem WFTranspose.newAxes_nil {X : Node} {a : Arg} (h : WFTranspose X a) : X.newAxes = [] := h.1

theorem WFTranspose.ind_eq {X : Node} {a : Arg} (h : WFTranspose X a) :
    a.ind = List.range X.outInd.length := h.2.2.2.2.2.1

theorem WFNode.nb_length {g : Group} {X : Node} (h : WFNode g X) : X.nb.length = X.outInd.length := h.1

theorem WFNode.nb_pos {g : Group} {X : Node} (h : WFNode g X) : ∀ n ∈ X.nb, 0 < n := h.2.1

theorem WFNode.arg {g : Group} {X : Node} (h : WFNode g X) {a : Arg} (ha : a ∈ X.args) : WFArg g X a :=
  h.2.2 a ha

theorem WFArg.ind_length {g : Group} {X : Node} {a : Arg} (h : WFArg g X a) :
    a.ind.length = a.nb.length := h.1

theorem WFArg.nb_pos {g : Group} {X : Node} {a : Arg} (h : WFArg g X a) : ∀ n ∈ a.nb, 0 < n := h.2.1

theorem WFArg.mem {g : Group} {X : Node} {a : Arg} (h : WFArg g X a) {j : Nat} (hs : a.src = .mem j) :
    j < g.length ∧ (node g j).nb = a.nb := h.2.2.1 j hs

theorem WFArg.kind {g : Group} {X : Node} {a : Arg} (h : WFArg g X a) : WFKind X a := h.2.2.2

theorem elemwise_pos (X : Node) (a : Arg) (t : Nat) (hw : WFElemwise X a) (ht : t < a.ind.length) :
    X.outInd.length - a.ind.length + t < X.outInd.length ∧
    outPos X.outInd (a.ind.getD t 0) = some (X.outInd.length - a.ind.length + t) ∧
    (a.nb.getD t 1 = 1 ∨ a.nb.getD t 1 = X.nb.getD (X.outInd.length - a.ind.length + t) 1) := by
  obtain ⟨_, hn, hle, hall⟩ := hw
  obtain ⟨hind, hnb⟩ := hall t (List.mem_range.mpr ht)
  have hp : X.outInd.length - a.ind.length + t < X.outInd.length := by omega
  exact ⟨hp, by rw [hind]; exact outPos_nodup _ _ hn hp, hnb⟩

theorem broadcast_eq_generic (X : Node) (a : Arg) (b : List Nat) (hw : WFElemwise X a)
    (hX : X.nb.length = X.outInd.length) (hb : b.length = X.outInd.length)
    (hla : a.ind.length = a.nb.length)
    (hv : ∀ p, p < X.nb.length → b.getD p 0 < X.nb.getD p 1) :
    broadcastBlockId a.nb b = computeBlockId a.ind (idxToBlock X b) a.nb := by
  unfold broadcastBlockId computeBlockId
  rw [← hla]
  apply List.map_congr_left
  intro t ht
  obtain ⟨hp, hpos, hnb⟩ := elemwise_pos X a t hw (List.mem_range.mp ht)
  simp only [idxToBlock, hw.1, List.not_mem_nil, if_false, hpos, Option.map_some, hb]
  have hlt := hv _ (Nat.lt_of_lt_of_eq hp hX.symm)
  rcases hnb with h1 | h1
  · rw [h1, if_pos rfl, Nat.mod_one]
  · rw [h1]
    by_cases h2 : X.nb.getD (X.outInd.length - a.ind.length + t) 1 = 1
    · rw [if_pos h2, h2, Nat.mod_one]
    · rw [if_neg h2, Nat.mod_eq_of_lt hlt]

theorem wfBlockwise_of_elemwise (X : Node) (a : Arg) (hw : WFElemwise X a) : WFBlockwise X a := by
  intro dim hdim
  obtain ⟨_, hpos, hnb⟩ := elemwise_pos X a dim hw (List.mem_range.mp hdim)
  refine ⟨by simp only [hw.1, List.getD_eq_getElem?_getD, List.not_mem_nil, false_implies],
    fun _ => ?_⟩
  rw [hpos]
  simp only [dvdCond]
  rcases hnb with h1 | h1
  · rw [h1]; exact Nat.one_dvd _
  · rw [h1]; exact Nat.dvd_refl _

theorem transpose_pos (X : Node) (a : Arg) (d : Nat) (hw : WFTranspose X a) (hd : d < X.outInd.length) :
    ∃ p, p < X.outInd.length ∧ X.outInd.getD p 0 = d ∧ outPos X.outInd d = some p ∧
      (invAxes X.outInd).getD d 0 = p ∧ a.nb.getD d 1 = X.nb.getD p 1 := by
  obtain ⟨_, _, hn, hlt, hsur, _, hnb⟩ := hw
  obtain ⟨p, hp, hpd⟩ := exists_getD_of_mem _ _ 0 (hsur d (List.mem_range.mpr hd))
  refine ⟨p, hp, hpd, ?_, ?_, ?_⟩
  · rw [← hpd]; exact outPos_nodup _ _ hn hp
  · rw [← hpd]; exact invAxes_getD _ _ hlt hn hp
  · rw [← hpd]; exact hnb p (List.mem_range.mpr hp)

theorem transpose_eq_generic (X : Node) (a : Arg) (b : List Nat) (hw : WFTranspose X a)
    (hX : X.nb.length = X.outInd.length) (hb : b.length = X.outInd.length)
    (hv : ∀ p, p < X.nb.length → b.getD p 0 < X.nb.getD p 1) :
    transposeBlockId X.outInd b = computeBlockId a.ind (idxToBlock X b) a.nb := by
  unfold transposeBlockId computeBlockId
  have hind := hw.ind_eq
  have hnew := hw.newAxes_nil
  rw [hind, hb, List.length_range]
  apply List.map_congr_left
  intro d hd
  have hd' : d < X.outInd.length := List.mem_range.mp hd
  obtain ⟨p, hp, _, hpos, hinv, hnb⟩ := transpose_pos X a d hw hd'
  have e : (List.range X.outInd.length).getD d 0 = d := Dask.Py.getD_range _ _ hd'
  simp only [e, idxToBlock, hnew, List.not_mem_nil, if_false, hpos, Option.map_some, hinv, hnb]
  exact (Nat.mod_eq_of_lt (hv p (by omega))).symm

theorem symDep_transpose_eq (X : Node) (a : Arg) (M : List Nat) (hw : WFTranspose X a)
    (hM : M.length = X.outInd.length) :
    ((List.range (invAxes X.outInd).length).map fun i => M.getD ((invAxes X.outInd).getD i 0) 0)
      = a.ind.map (symIdx X M) := by
  have hind := hw.ind_eq
  rw [hind, invAxes_length]
  apply List.map_congr_left
  intro d hd
  have hd' : d < X.outInd.length := List.mem_range.mp hd
  obtain ⟨p, hp, _, hpos, hinv, _⟩ := transpose_pos X a d hw hd'
  rw [hinv, symIdx_of_pos _ _ _ _ hpos]
  exact getD_default_irrel _ _ _ _ (by omega)

theorem wfBlockwise_of_transpose (X : Node) (a : Arg) (hw : WFTranspose X a) : WFBlockwise X a := by
  intro dim hdim
  have hind := hw.ind_eq
  have hnew := hw.newAxes_nil
  have hd : dim < X.outInd.length := by
    simpa only [hind, List.length_range, List.mem_range] using hdim
  obtain ⟨p, hp, _, hpos, _, hnb⟩ := transpose_pos X a dim hw hd
  have e : a.ind.getD dim 0 = dim := by rw [hind]; exact Dask.Py.getD_range _ _ hd
  refine ⟨by simp only [hnew, List.getD_eq_getElem?_getD, List.not_mem_nil, false_implies],
    fun _ => ?_⟩
  rw [e, hpos]
  simp only [dvdCond]
  rw [hnb]; exact Nat.dvd_refl _

/-- One edge, both levels at once: on a well-formed node the argument has a symbolic mapping `M'` (`symDep`), and
the block the task references through it (`depBlockId`, at the node's concrete block for ANY root block `r`) is the
concrete block of `M'`. -/
theorem edge_ok (g : Group) (X : Node) (a : Arg) (r M : List Nat) (hX : WFNode g X) (ha : a ∈ X.args)
    (hM : M.length = X.nb.length) :
    ∃ M', symDep X a M = some M' ∧ M'.length = a.nb.length ∧
      depBlockId X a (conc r M X.nb) = conc r M' a.nb := by
  have hXl := hX.nb_length
  have hXpos := hX.nb_pos
  have hla := (hX.arg ha).ind_length
  have hk := (hX.arg ha).kind
  have hv : ∀ p, p < X.nb.length → (conc r M X.nb).getD p 0 < X.nb.getD p 1 :=
    fun p hp => conc_lt r M X.nb p hp hXpos
  have hbl : (conc r M X.nb).length = X.outInd.length := by rw [conc_length, hXl]
  unfold WFKind at hk
  cases hkind : X.kind with
  | blockwise =>
    rw [hkind] at hk
    refine ⟨a.ind.map (symIdx X M), by simp [symDep, hkind], by simp [hla], ?_⟩
    simp only [depBlockId, hkind]
    exact edge_blockwise X a r M hM hXl hla hk
  | elemwise =>
    rw [hkind] at hk
    refine ⟨a.ind.map (symIdx X M), by simp [symDep, hkind], by simp [hla], ?_⟩
    simp only [depBlockId, hkind]
    rw [broadcast_eq_generic X a _ hk hXl hbl hla hv]
    exact edge_blockwise X a r M hM hXl hla (wfBlockwise_of_elemwise X a hk)
  | transpose =>
    rw [hkind] at hk
    refine ⟨a.ind.map (symIdx X M), ?_, by simp [hla], ?_⟩
    · simp only [symDep, hkind]
      rw [symDep_transpose_eq X a M hk (by omega)]
    · simp only [depBlockId, hkind]
      rw [transpose_eq_generic X a _ hk hXl hbl hv]
      exact edge_blockwise X a r M hM hXl hla (wfBlockwise_of_transpose X a hk)
  | other =>
    rw [hkind] at hk
    refine ⟨M, by simp [symDep, hkind, hk, hM], by rw [hk, hM], ?_⟩
    simp [depBlockId, hkind, hk]

section Fill
variable {α : Type}

/-- the loop only adds -/
structure FLe (s t : FillState α) : Prop where
  tab : ∀ k v, s.tab k = some v → t.tab k = some v
  conflicts : ∀ j, j ∈ s.conflicts → j ∈ t.conflicts
  missing : t.missing = s.missing

theorem FLe.refl (s : FillState α) : FLe s s := ⟨fun _ _ h => h, fun _ h => h, rfl⟩

theorem FLe.trans {s t u : FillState α} (h1 : FLe s t) (h2 : FLe t u) : FLe s u :=
  ⟨fun k v h => h2.tab k v (h1.tab k v h), fun j h => h2.conflicts j (h1.conflicts j h),
    by rw [h2.missing, h1.missing]⟩

/-- the loop has looked at edge `e` -/
def Hit (s : FillState α) (e : Nat × α) : Prop :=
  ∃ w, s.tab e.1 = some w ∧ (w = e.2 ∨ e.1 ∈ s.conflicts)

theorem Hit.mono {s t : FillState α} (h : FLe s t) {e : Nat × α} : Hit s e → Hit t e :=
  fun ⟨w, h1, h2⟩ => ⟨w, h.tab _ _ h1, h2.imp_right (h.conflicts _)⟩

/-- `t` is `s` after the loop body has gone over the edges `es` (those into a member `< n`) -/
structure Pushed (n : Nat) (es : List (Nat × α)) (s t : FillState α) : Prop where
  le : FLe s t
  new : ∀ k v, t.tab k = some v → s.tab k = some v ∨ ((k, v) ∈ es ∧ k < n)
  hit : ∀ e ∈ es, e.1 < n → Hit t e

variable [DecidableEq α]

theorem fillEdge_spec (n : Nat) (s : FillState α) (e : Nat × α) :
    FLe s (fillEdge n s e) ∧
    (∀ k v, (fillEdge n s e).tab k = some v → s.tab k = some v ∨ ((k, v) = e ∧ k < n)) ∧
    (e.1 < n → Hit (fillEdge n s e) e) := by
  -- `fillEdge` is opened in `ht` alone: unfolded in the goal its body stands three times
  generalize ht : fillEdge n s e = t
  unfold fillEdge at ht
  by_cases hlt : e.1 < n
  · rw [if_pos hlt] at ht
    cases htab : s.tab e.1 with
    | none =>
      rw [htab] at ht
      subst ht
      refine ⟨⟨fun k v hk => ?_, fun _ h => h, rfl⟩, fun k v hk => ?_,
        fun _ => ⟨e.2, if_pos rfl, Or.inl rfl⟩⟩
      · have hne : k ≠ e.1 := fun e' => by rw [e', htab] at hk; cases hk
        exact (if_neg hne).trans hk
      · replace hk : (if k = e.1 then some e.2 else s.tab k) = some v := hk
        by_cases hke : k = e.1
        · rw [if_pos hke] at hk
          cases hk
          exact Or.inr ⟨hke ▸ rfl, hke ▸ hlt⟩
        · rw [if_neg hke] at hk
          exact Or.inl hk
    | some w =>
      rw [htab] at ht
      replace ht : (if w = e.2 then s else { s with conflicts := e.1 :: s.conflicts }) = t := ht
      by_cases hw : w = e.2
      · rw [if_pos hw] at ht
        subst ht
        exact ⟨FLe.refl s, fun _ _ h => Or.inl h, fun _ => ⟨w, htab, Or.inl hw⟩⟩
      · rw [if_neg hw] at ht
        subst ht
        exact ⟨⟨fun _ _ h => h, fun _ h => List.mem_cons_of_mem _ h, rfl⟩, fun _ _ h => Or.inl h,
          fun _ => ⟨w, htab, Or.inr List.mem_cons_self⟩⟩
  · rw [if_neg hlt] at ht
    subst ht
    exact ⟨FLe.refl s, fun _ _ h => Or.inl h, fun h => absurd h hlt⟩

theorem foldl_fillEdge_pushed (n : Nat) (es : List (Nat × α)) (s : FillState α) :
    Pushed n es s (es.foldl (fillEdge n) s) := by
  induction es generalizing s with
  | nil => exact ⟨FLe.refl s, fun _ _ h => Or.inl h, fun _ he => nomatch he⟩
  | cons x t ih =>
    obtain ⟨hle, hnew, hhit⟩ := fillEdge_spec n s x
    have h2 := ih (fillEdge n s x)
    refine ⟨hle.trans h2.le, fun k v hk => ?_, fun e he hlt => ?_⟩
    · rcases h2.new k v hk with h | ⟨h, hkn⟩
      · rcases hnew k v h with h | ⟨h, hkn⟩
        · exact Or.inl h
        · exact Or.inr ⟨h ▸ List.mem_cons_self, hkn⟩
      · exact Or.inr ⟨List.mem_cons_of_mem _ h, hkn⟩
    · rcases List.mem_cons.mp he with rfl | h
      · exact (hhit hlt).mono h2.le
      · exact h2.hit e h hlt

/-- invariant after the first `k` members have been visited -/
structure FillInv (P : Nat → α → Prop) (n : Nat) (edges : Nat → α → List (Nat × α)) (v0 : α) (k : Nat)
    (s : FillState α) : Prop where
  miss : s.missing = false
  root : s.tab 0 = some v0
  allP : ∀ k v, s.tab k = some v → P k v
  done : ∀ i, i < k → ∃ v, s.tab i = some v ∧ ∀ e ∈ edges i v, e.1 < n → Hit s e

/-- `hord`: every member but the root has an earlier member with an edge to it, whatever value that member got; so
the table has an entry for member `k` by the time it is visited. -/
theorem FillInv.visit {P : Nat → α → Prop} {n : Nat} {edges : Nat → α → List (Nat × α)} {v0 : α}
    (hPc : ∀ i v, P i v → ∀ e ∈ edges i v, e.1 < n → P e.1 e.2)
    (hord : ∀ i, 0 < i → i < n → ∃ k, k < i ∧ ∀ v, P k v → ∃ w, (i, w) ∈ edges k v)
    {k : Nat} {s : FillState α} (h : FillInv P n edges v0 k s) (hk : k < n) :
    FillInv P n edges v0 (k + 1) (fillVisit n edges s k) := by
  have hval : ∃ v, s.tab k = some v := by
    cases k with
    | zero => exact ⟨v0, h.root⟩
    | succ k =>
      obtain ⟨k', hk', hex⟩ := hord (k + 1) (Nat.succ_pos k) hk
      obtain ⟨v', hv', hdone⟩ := h.done k' hk'
      obtain ⟨w, hw⟩ := hex v' (h.allP _ _ hv')
      obtain ⟨w', hw', _⟩ := hdone (k + 1, w) hw hk
      exact ⟨w', hw'⟩
  obtain ⟨v, hv⟩ := hval
  have heq : fillVisit n edges s k = (edges k v).foldl (fillEdge n) s := by
    unfold fillVisit; rw [hv]
  rw [heq]
  have hp := foldl_fillEdge_pushed n (edges k v) s
  refine ⟨by rw [hp.le.missing, h.miss], hp.le.tab _ _ h.root, fun j w hj => ?_, fun i hi => ?_⟩
  · rcases hp.new j w hj with hj | ⟨hj, hjn⟩
    · exact h.allP j w hj
    · exact hPc k v (h.allP _ _ hv) (j, w) hj hjn
  · rcases Nat.lt_succ_iff_lt_or_eq.mp hi with hik | hik
    · obtain ⟨vi, hvi, hdone⟩ := h.done i hik
      exact ⟨vi, hp.le.tab _ _ hvi, fun e he hlt => (hdone e he hlt).mono hp.le⟩
    · subst hik
      exact ⟨v, hp.le.tab _ _ hv, hp.hit⟩

theorem fill_spec (P : Nat → α → Prop) (n : Nat) (edges : Nat → α → List (Nat × α)) (v0 : α)
    (hP0 : P 0 v0)
    (hPc : ∀ i v, P i v → ∀ e ∈ edges i v, e.1 < n → P e.1 e.2)
    (hord : ∀ i, 0 < i → i < n → ∃ k, k < i ∧ ∀ v, P k v → ∃ w, (i, w) ∈ edges k v) :
    FillInv P n edges v0 n (fill n edges v0) := by
  have h0 : FillInv P n edges v0 0 ⟨fun k => if k = 0 then some v0 else none, [], false⟩ := by
    refine ⟨rfl, (if_pos rfl : (if 0 = 0 then some v0 else none) = some v0), fun j v hj => ?_,
      fun i hi => absurd hi (Nat.not_lt_zero _)⟩
    replace hj : (if j = 0 then some v0 else none) = some v := hj
    by_cases hj0 : j = 0
    · rw [if_pos hj0] at hj
      cases hj
      exact hj0 ▸ hP0
    · rw [if_neg hj0] at hj
      cases hj
  unfold fill
  generalize (⟨fun k => if k = 0 then some v0 else none, [], false⟩ : FillState α) = s0 at h0 ⊢
  have hrun : ∀ k, k ≤ n → FillInv P n edges v0 k ((List.range k).foldl (fillVisit n edges) s0) := by
    intro k
    induction k with
    | zero => exact fun _ => h0
    | succ k ih =>
      intro hk
      rw [List.range_succ, List.foldl_append]
      exact (ih (Nat.le_of_succ_le hk)).visit hPc hord hk
  exact hrun n (Nat.le_refl n)

end Fill

theorem node_of_ge (g : Group) (i : Nat) (h : g.length ≤ i) : node g i = emptyNode := by
  simp [node, List.getD_eq_getElem?_getD, List.getElem?_eq_none h]

theorem mem_symEdges (g : Group) (i : Nat) (M : List Nat) (e : Nat × List Nat) :
    e ∈ symEdges g i M ↔ ∃ a ∈ (node g i).args, a.src = .mem e.1 ∧ symDep (node g i) a M = some e.2 := by
  unfold symEdges
  refine mem_filterMap_iff
    (P := fun a e => a.src = .mem e.1 ∧ symDep (node g i) a M = some e.2) (fun a e => ?_) e
  obtain ⟨j, M'⟩ := e
  cases a.src <;> cases symDep (node g i) a M <;> simp

theorem mem_idEdges (g : Group) (i : Nat) (b : List Nat) (e : Nat × List Nat) :
    e ∈ idEdges g i b ↔ ∃ a ∈ (node g i).args, a.src = .mem e.1 ∧ e.2 = inputBlockId (node g i) e.1 b := by
  unfold idEdges
  refine mem_filterMap_iff
    (P := fun (a : Arg) e => a.src = .mem e.1 ∧ e.2 = inputBlockId (node g i) e.1 b) (fun a e => ?_) e
  obtain ⟨j, w⟩ := e
  cases a.src <;> simp
  rintro rfl
  exact eq_comm

theorem mem_memDeps (X : Node) (j : Nat) : j ∈ memDeps X ↔ ∃ a ∈ X.args, a.src = .mem j := by
  unfold memDeps
  refine mem_filterMap_iff (P := fun (a : Arg) j => a.src = .mem j) (fun a j => ?_) j
  cases a.src <;> simp

theorem wfNode_of_lt (g : Group) (hwf : WF g) (i : Nat) (hi : i < g.length) : WFNode g (node g i) :=
  hwf.2 i (List.mem_range.mpr hi)

theorem ordered_pred (g : Group) (hord : Ordered g) (i : Nat) (h0 : 0 < i) (hi : i < g.length) :
    ∃ k, k < i ∧ ∃ a ∈ (node g k).args, a.src = .mem i := by
  rcases hord i (List.mem_range.mpr hi) with h | ⟨k, hk, hdep⟩
  · exact absurd h (Nat.ne_of_gt h0)
  · exact ⟨k, List.mem_range.mp hk, (mem_memDeps _ _).mp hdep⟩

/-- what `_remove_conflicting_exprs` has established when it records no conflict -/
structure SymOK (g : Group) (sym : Nat → Option (List Nat)) : Prop where
  root : sym 0 = some (List.range (node g 0).nb.length)
  all : ∀ i, i < g.length → ∃ M, sym i = some M ∧ M.length = (node g i).nb.length ∧
    ∀ a ∈ (node g i).args, ∀ j, a.src = .mem j → ∀ M', symDep (node g i) a M = some M' → sym j = some M'

/-- With no conflict recorded the table of `_remove_conflicting_exprs` gives every member ONE symbolic mapping,
consistent with every edge. -/
theorem sym_ok (g : Group) (hwf : WF g) (hord : Ordered g) (hacc : Accepted g) :
    SymOK g (symFill g).tab := by
  have hn : 0 < g.length := hwf.1
  let P : Nat → List Nat → Prop := fun i M => i < g.length ∧ M.length = (node g i).nb.length
  have hspec : FillInv P g.length (symEdges g) (List.range (node g 0).nb.length) g.length (symFill g) := by
    apply fill_spec
    · exact ⟨hn, by simp⟩
    · intro i M hP e he hlt
      obtain ⟨a, ha, hs, hd⟩ := (mem_symEdges g i M e).mp he
      have hX := wfNode_of_lt g hwf i hP.1
      -- only the symbolic half of `edge_ok` is wanted here, so any root block will do: `[]`
      obtain ⟨M', hd', hl, _⟩ := edge_ok g (node g i) a [] M hX ha hP.2
      rw [hd] at hd'; cases hd'
      have hm := (hX.arg ha).mem hs
      exact ⟨hlt, by rw [hl, hm.2]⟩
    · intro i hi0 hin
      obtain ⟨k, hk, a, ha, hs⟩ := ordered_pred g hord i hi0 hin
      refine ⟨k, hk, fun M hP => ?_⟩
      obtain ⟨M', hd', _, _⟩ := edge_ok g (node g k) a [] M (wfNode_of_lt g hwf k hP.1) ha hP.2
      exact ⟨M', (mem_symEdges g k M (i, M')).mpr ⟨a, ha, hs, hd'⟩⟩
  have hc : (symFill g).conflicts = [] := hacc
  refine ⟨hspec.root, fun i hi => ?_⟩
  obtain ⟨M, hM, hdone⟩ := hspec.done i hi
  refine ⟨M, hM, (hspec.allP _ _ hM).2, fun a ha j hs M' hd => ?_⟩
  have hX := wfNode_of_lt g hwf i hi
  have hm := (hX.arg ha).mem hs
  obtain ⟨w', h1, h2⟩ := hdone (j, M') ((mem_symEdges g i M (j, M')).mpr ⟨a, ha, hs, hd⟩) hm.1
  rcases h2 with h2 | h2
  · rw [h1, h2]
  · rw [hc] at h2; cases h2

/-- the block of member `i` for root block `r`: `conc` of the ONE symbolic mapping the table holds for `i` -/
def canon (g : Group) (r : List Nat) (i : Nat) : List Nat :=
  conc r (((symFill g).tab i).getD []) (node g i).nb

theorem canon_root (g : Group) (r : List Nat) (hsym : SymOK g (symFill g).tab) (hr : ValidBlock g r) :
    canon g r 0 = r := by
  unfold canon
  rw [hsym.root]
  exact conc_root r _ hr.1 hr.2

theorem canon_edge (g : Group) (r : List Nat) (hwf : WF g) (hsym : SymOK g (symFill g).tab)
    {i : Nat} (hi : i < g.length) {a : Arg} (ha : a ∈ (node g i).args) :
    ∃ M', depBlockId (node g i) a (canon g r i) = conc r M' a.nb ∧
      ∀ j, a.src = .mem j → j < g.length ∧ canon g r j = conc r M' a.nb := by
  obtain ⟨M, hM, hl, hedge⟩ := hsym.all i hi
  have hX := wfNode_of_lt g hwf i hi
  obtain ⟨M', hd, _, hdep⟩ := edge_ok g (node g i) a r M hX ha hl
  refine ⟨M', ?_, fun j hs => ?_⟩
  · rw [canon, hM]
    exact hdep
  · have hm := (hX.arg ha).mem hs
    refine ⟨hm.1, ?_⟩
    rw [canon, hedge a ha j hs M' hd, hm.2]
    rfl

theorem reach_canon (g : Group) (r : List Nat) (hwf : WF g) (hsym : SymOK g (symFill g).tab)
    (hr : ValidBlock g r) (m : Nat) (b : List Nat) (h : Reach g r m b) :
    m < g.length ∧ b = canon g r m := by
  induction h with
  | root => exact ⟨hwf.1, (canon_root g r hsym hr).symm⟩
  | @step i j b a _ hi ha hs ih =>
    obtain ⟨M', hdep, hmem⟩ := canon_edge g r hwf hsym hi ha
    obtain ⟨hj, hc⟩ := hmem j hs
    exact ⟨hj, by rw [ih.2, hdep, hc]⟩

theorem inputBlockId_eq (X : Node) (j : Nat) (b : List Nat) (a : Arg) (ha : a ∈ X.args) (hs : a.src = .mem j) :
    ∃ a' ∈ X.args, a'.src = .mem j ∧ inputBlockId X j b = depBlockId X a' b := by
  have hfind : ∃ a', X.args.find? (fun a => a.src = .mem j) = some a' := by
    cases h : X.args.find? (fun a => a.src = .mem j) with
    | some a' => exact ⟨a', rfl⟩
    | none =>
      have := List.find?_eq_none.mp h a ha
      simp [hs] at this
  obtain ⟨a', hf⟩ := hfind
  have hmem := List.mem_of_find?_eq_some hf
  have hp : a'.src = .mem j := by simpa using List.find?_some hf
  refine ⟨a', hmem, hp, ?_⟩
  unfold inputBlockId depBlockId
  cases X.kind <;> simp [hf]

/-- the conclusion of the fusion theorem for a table of member block ids -/
structure IdsOK (g : Group) (r : List Nat) (ids : Nat → Option (List Nat)) : Prop where
  total : ∀ m, m < g.length → ∃ b, ids m = some b
  every_path : ∀ m b, Reach g r m b → ids m = some b
  reached : ∀ m b, ids m = some b → Reach g r m b

/-- `_compute_block_ids` succeeds, and the block it assigns to a member is the block reached along any path from the
root block `r` (`IdsOK`): `canon`, the `conc` of the one symbolic mapping, solves the edge equations (`edge_ok`). -/
theorem ids_ok (g : Group) (r : List Nat) (hwf : WF g) (hord : Ordered g) (hacc : Accepted g)
    (hr : ValidBlock g r) :
    ∃ ids, computeBlockIds g r = some ids ∧ IdsOK g r ids := by
  have hsym := sym_ok g hwf hord hacc
  have hspec : FillInv (fun m b => Reach g r m b) g.length (idEdges g) r g.length
      (fill g.length (idEdges g) r) := by
    apply fill_spec
    · exact Reach.root
    · intro i v hP e he _
      obtain ⟨a, ha, hs, hv⟩ := (mem_idEdges g i v e).mp he
      obtain ⟨a', ha', hs', heq⟩ := inputBlockId_eq (node g i) e.1 v a ha hs
      rw [hv, heq]
      exact Reach.step hP (reach_canon g r hwf hsym hr i v hP).1 ha' hs'
    · intro i hi0 hin
      obtain ⟨k, hk, a, ha, hs⟩ := ordered_pred g hord i hi0 hin
      exact ⟨k, hk, fun v _ => ⟨_, (mem_idEdges g k v (i, inputBlockId (node g k) i v)).mpr ⟨a, ha, hs, rfl⟩⟩⟩
  refine ⟨(fill g.length (idEdges g) r).tab, by simp [computeBlockIds, hspec.miss], ?_, ?_, ?_⟩
  · intro m hm
    obtain ⟨v, hv, _⟩ := hspec.done m hm
    exact ⟨v, hv⟩
  · intro m b hreach
    obtain ⟨hm, hb⟩ := reach_canon g r hwf hsym hr m b hreach
    obtain ⟨v, hv, _⟩ := hspec.done m hm
    have := (reach_canon g r hwf hsym hr m v (hspec.allP _ _ hv)).2
    rw [hv, this, hb]
  · intro m b h
    exact hspec.allP _ _ h

theorem mem_flatMap_ids {β : Type} (n : Nat) (ids : Nat → Option (List Nat))
    (l : Nat → List Nat → List β) (x : β) :
    x ∈ (List.range n).flatMap (fun i => match ids i with | none => [] | some b => l i b) ↔
      ∃ i b, i < n ∧ ids i = some b ∧ x ∈ l i b := by
  rw [List.mem_flatMap]
  constructor
  · rintro ⟨i, hi, h⟩
    cases hid : ids i with
    | none => rw [hid] at h; cases h
    | some b => rw [hid] at h; exact ⟨i, b, List.mem_range.mp hi, hid, h⟩
  · rintro ⟨i, b, hi, hid, h⟩
    exact ⟨i, List.mem_range.mpr hi, by rw [hid]; exact h⟩

theorem mem_fusedReads (g : Group) (ids : Nat → Option (List Nat)) (x : Nat × List Nat) :
    x ∈ fusedReads g ids ↔ ∃ i b, i < g.length ∧ ids i = some b ∧
      ∃ a ∈ (node g i).args, a.src = .ext x.1 ∧ x.2 = depBlockId (node g i) a b := by
  unfold fusedReads
  refine (mem_flatMap_ids _ _ _ _).trans (exists_congr fun i => exists_congr fun b =>
    and_congr_right fun _ => and_congr_right fun _ => ?_)
  refine mem_filterMap_iff
    (P := fun (a : Arg) x => a.src = .ext x.1 ∧ x.2 = depBlockId (node g i) a b) (fun a x => ?_) x
  obtain ⟨e, c⟩ := x
  cases a.src <;> simp
  rintro rfl
  exact eq_comm

theorem mem_fusedInternalRefs (g : Group) (ids : Nat → Option (List Nat)) (x : Nat × List Nat) :
    x ∈ fusedInternalRefs g ids ↔ ∃ i b, i < g.length ∧ ids i = some b ∧
      ∃ a ∈ (node g i).args, a.src = .mem x.1 ∧ x.2 = depBlockId (node g i) a b := by
  unfold fusedInternalRefs
  refine (mem_flatMap_ids _ _ _ _).trans (exists_congr fun i => exists_congr fun b =>
    and_congr_right fun _ => and_congr_right fun _ => ?_)
  refine mem_filterMap_iff
    (P := fun (a : Arg) x => a.src = .mem x.1 ∧ x.2 = depBlockId (node g i) a b) (fun a x => ?_) x
  obtain ⟨e, c⟩ := x
  cases a.src <;> simp
  rintro rfl
  exact eq_comm

theorem fusedReads_iff (g : Group) (r : List Nat) (ids : Nat → Option (List Nat)) (h : IdsOK g r ids)
    (e : Nat) (c : List Nat) : (e, c) ∈ fusedReads g ids ↔ ExtRead g r e c := by
  rw [mem_fusedReads]
  constructor
  · rintro ⟨i, b, hi, hid, a, ha, hs, hx⟩
    exact ⟨i, b, a, h.reached i b hid, hi, ha, hs, hx⟩
  · rintro ⟨i, b, a, hreach, hi, ha, hs, hx⟩
    exact ⟨i, b, hi, h.every_path i b hreach, a, ha, hs, hx⟩

theorem fusedInternalRefs_resolve (g : Group) (r : List Nat) (ids : Nat → Option (List Nat))
    (h : IdsOK g r ids) (j : Nat) (c : List Nat) (hx : (j, c) ∈ fusedInternalRefs g ids) :
    ids j = some c := by
  obtain ⟨i, b, hi, hid, a, ha, hs, hc⟩ := (mem_fusedInternalRefs g ids (j, c)).mp hx
  simp only at hs hc
  rw [hc]
  exact h.every_path j _ (Reach.step (h.reached i b hid) hi ha hs)

theorem mem_pathsReads_succ (g : Group) (fuel i : Nat) (b : List Nat) (x : Nat × List Nat) :
    x ∈ pathsReads g (fuel + 1) i b ↔ i < g.length ∧ ∃ a ∈ (node g i).args,
      match a.src with
      | .ext e => x = (e, depBlockId (node g i) a b)
      | .mem j => x ∈ pathsReads g fuel j (depBlockId (node g i) a b) := by
  by_cases hi : i < g.length
  · rw [show pathsReads g (fuel + 1) i b = _ from if_pos hi, List.mem_flatMap, and_iff_right hi]
    refine exists_congr fun a => and_congr_right fun _ => ?_
    cases a.src with
    | ext e => exact List.mem_singleton
    | mem j => exact Iff.rfl
  · rw [show pathsReads g (fuel + 1) i b = _ from if_neg hi]
    exact ⟨fun h => (nomatch h), fun h => absurd h.1 hi⟩

theorem pathsReads_sound (g : Group) (r : List Nat) (fuel : Nat) (i : Nat) (b : List Nat)
    (hreach : Reach g r i b) (x : Nat × List Nat) (hx : x ∈ pathsReads g fuel i b) :
    ExtRead g r x.1 x.2 := by
  induction fuel generalizing i b with
  | zero => cases hx
  | succ fuel ih =>
    obtain ⟨hi, a, ha, h⟩ := (mem_pathsReads_succ g fuel i b x).mp hx
    cases hs : a.src with
    | ext e =>
      rw [hs] at h
      subst h
      exact ⟨i, b, a, hreach, hi, ha, hs, rfl⟩
    | mem j =>
      rw [hs] at h
      exact ih j _ (Reach.step hreach hi ha hs) h

theorem pathsReads_lift (g : Group) (r : List Nat) (i : Nat) (b : List Nat) (hreach : Reach g r i b)
    (x : Nat × List Nat) (fuel : Nat) (hx : x ∈ pathsReads g fuel i b) :
    ∃ fuel', x ∈ pathsReads g fuel' 0 r := by
  induction hreach generalizing fuel with
  | root => exact ⟨fuel, hx⟩
  | @step i j b a _ hi ha hs ih =>
    exact ih (fuel + 1) ((mem_pathsReads_succ g fuel i b x).mpr ⟨hi, a, ha, by rw [hs]; exact hx⟩)

theorem pathsReads_complete (g : Group) (r : List Nat) (e : Nat) (c : List Nat) (h : ExtRead g r e c) :
    ∃ fuel, (e, c) ∈ pathsReads g fuel 0 r := by
  obtain ⟨i, b, a, hreach, hi, ha, hs, hc⟩ := h
  exact pathsReads_lift g r i b hreach (e, c) 1
    ((mem_pathsReads_succ g 0 i b (e, c)).mpr ⟨hi, a, ha, by rw [hs, hc]⟩)

theorem computeBlockId_length (ind : List Nat) (m : Nat → Option Nat) (nb : List Nat) :
    (computeBlockId ind m nb).length = ind.length := by
  simp only [computeBlockId, List.getD_eq_getElem?_getD, List.length_map, List.length_range]

theorem computeBlockId_lt (ind : List Nat) (m : Nat → Option Nat) (nb : List Nat)
    (hl : ind.length = nb.length) (hpos : ∀ n ∈ nb, 0 < n) (t : Nat) (ht : t < nb.length) :
    (computeBlockId ind m nb).getD t 0 < nb.getD t 1 := by
  unfold computeBlockId
  rw [Dask.Py.getD_map_range _ _ _ _ (by omega)]
  have hp : 0 < nb.getD t 1 := hpos _ (Dask.Py.getD_mem _ _ _ ht)
  cases m (ind.getD t 0) with
  | none => exact hp
  | some v => exact Nat.mod_lt _ hp

theorem computeBlockId_single (ind : List Nat) (m : Nat → Option Nat) (nb : List Nat)
    (t : Nat) (ht : t < ind.length) (h1 : nb.getD t 1 = 1) :
    (computeBlockId ind m nb).getD t 0 = 0 := by
  unfold computeBlockId
  rw [Dask.Py.getD_map_range _ _ _ _ ht, h1]
  cases m (ind.getD t 0) with
  | none => rfl
  | some v => exact Nat.mod_one v

theorem broadcastBlockId_length (nb b : List Nat) : (broadcastBlockId nb b).length = nb.length := by
  simp only [broadcastBlockId, List.getD_eq_getElem?_getD, List.length_map, List.length_range]

theorem broadcastBlockId_lt (nb b nbOut : List Nat) (hl : nb.length ≤ b.length)
    (hv : ∀ p, p < b.length → b.getD p 0 < nbOut.getD p 1)
    (hal : ∀ t, t < nb.length → nb.getD t 1 = 1 ∨ nb.getD t 1 = nbOut.getD (b.length - nb.length + t) 1)
    (t : Nat) (ht : t < nb.length) :
    (broadcastBlockId nb b).getD t 0 < nb.getD t 1 := by
  unfold broadcastBlockId
  rw [Dask.Py.getD_map_range _ _ _ _ ht]
  rcases hal t ht with h1 | h1
  · rw [if_pos h1, h1]; exact Nat.one_pos
  · by_cases h2 : nb.getD t 1 = 1
    · rw [if_pos h2, h2]; exact Nat.one_pos
    · rw [if_neg h2, h1]; exact hv _ (by omega)

end Dask.Fusion
