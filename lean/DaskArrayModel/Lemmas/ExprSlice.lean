/-
`Expr.slice` as a gather: a sliced axis meets `AxisOK` because the `_slice_1d` plan partitions the selected positions
(`Slice1d.slice1d_spec`, the lemma behind Props/C13), an integer-indexed axis because `slice1dInt` finds the block of
the position; `slice_spec` then walks the index once.
-/
import DaskArrayModel.Lemmas.ExprGather
import DaskArrayModel.Lemmas.Slice1dNeg
import DaskArrayModel.Lemmas.SliceAlgebra
import DaskArrayModel.Lemmas.ListBasic
namespace Dask.ND
open Dask.Py Dask.Py.PySlice Dask.Slicing

theorem toI_length (l : List Nat) : (toI l).length = l.length := Layout.ofNat_length l

theorem toI_nonneg (l : List Nat) : ∀ c ∈ toI l, 0 ≤ c := Layout.ofNat_nonneg l

theorem isum_toI (l : List Nat) : isum (toI l) = (l.sum : Int) := Layout.isum_ofNat l

theorem toI_getD (l : List Nat) (k : Nat) : (toI l).getD k 0 = ((l.getD k 0 : Nat) : Int) := Layout.ofNat_getD l k

theorem blockStart_toI (cs : List Nat) (k : Nat) :
    blockStart (toI cs) k = (((cs.take k).sum : Nat) : Int) :=
  Layout.start_ofNat cs k

theorem sel_getD_bounds (s : PySlice) (n : Int) (hn : 0 ≤ n) (i : Nat) (hi : i < (sel s n).length) :
    0 ≤ (sel s n).getD i 0 ∧ (sel s n).getD i 0 < n :=
  Dask.Lemmas.SliceAlgebra.sel_bounds s n hn _ (getD_mem _ _ _ hi)

theorem mem_sortByKey (q : Nat × PySlice) (l : List (Nat × PySlice)) : q ∈ sortByKey l ↔ q ∈ l :=
  (Dask.Py.foldr_ins_perm (ins := insertByKey) (r := fun p q => p.1 ≤ q.1) (fun _ => rfl) (fun _ _ _ => rfl) l).mem_iff

theorem mem_orderedPlan (q : Nat × PySlice) (c : Int) (l : List (Nat × PySlice)) :
    q ∈ orderedPlan c l ↔ q ∈ l := by
  unfold orderedPlan
  split
  · rw [List.mem_reverse, mem_sortByKey]
  · rw [mem_sortByKey]

theorem add_toNat (S : Nat) (v : Int) (h : 0 ≤ v) : S + v.toNat = ((S : Int) + v).toNat := by
  rw [Int.toNat_add (Int.natCast_nonneg S) h, Int.toNat_natCast]

def pieceLen (cs : List Nat) (p : Nat × PySlice) : Nat := (sel p.2 ((toI cs).getD p.1 0)).length

theorem slicePlan_partition (cs : List Nat) (hne : cs ≠ []) (s : PySlice) (hs : s.stp ≠ 0) (n : Nat)
    (hn : n = cs.sum) :
    planPositions (toI cs) (slicePlan n cs s) = sel s n ∧
    (∀ p ∈ slicePlan n cs s, p.1 < cs.length) ∧
    sliceChunks1 n cs s = (slicePlan n cs s).map (pieceLen cs) := by
  have hnI : (n : Int) = isum (toI cs) := by rw [isum_toI, hn]
  have hstp := Dask.Lemmas.SliceAlgebra.normalizeSlice_stp s (isum (toI cs))
  have hlen : 0 < cs.length := List.length_pos_iff.mpr hne
  obtain ⟨h1, h2, h3⟩ := Dask.Lemmas.Slice1d.slice1d_spec (toI cs) s (toI_nonneg cs) hs
  unfold slicePlan sliceChunks1
  simp only [hnI, hstp]
  refine ⟨h1, fun p hp => ?_, ?_⟩
  · have := h3 p ((mem_orderedPlan p _ _).mp hp)
    rw [toI_length] at this
    omega
  · rw [h2]
    unfold planLengths
    rw [List.map_map]
    apply List.map_congr_left
    intro p _
    simp [pieceLen]

theorem planPositions_spec (cs : List Nat) : ∀ (P : List (Nat × PySlice)),
    (planPositions (toI cs) P).length = (P.map (pieceLen cs)).sum ∧
    ∀ j (hj : j < P.length) i, i < pieceLen cs P[j] →
      (planPositions (toI cs) P).getD (((P.map (pieceLen cs)).take j).sum + i) 0
        = (sel P[j].2 ((toI cs).getD P[j].1 0)).getD i 0 + blockStart (toI cs) P[j].1
  | [] => ⟨rfl, fun j hj => absurd hj (Nat.not_lt_zero _)⟩
  | p :: ps => by
    obtain ⟨ihl, ihg⟩ := planPositions_spec cs ps
    have hp : planPositions (toI cs) (p :: ps)
        = (sel p.2 ((toI cs).getD p.1 0)).map (· + blockStart (toI cs) p.1) ++ planPositions (toI cs) ps := rfl
    have hl : ((sel p.2 ((toI cs).getD p.1 0)).map (· + blockStart (toI cs) p.1)).length = pieceLen cs p :=
      List.length_map _
    rw [hp]
    refine ⟨by rw [List.length_append, hl, ihl]; rfl, fun j hj i hi => ?_⟩
    cases j with
    | zero =>
      rw [List.take_zero, List.sum_nil, Nat.zero_add, getD_append_left _ _ _ _ (hl ▸ hi)]
      exact getD_map _ _ i 0 0 hi
    | succ j =>
      rw [List.map_cons, List.take_succ_cons, List.sum_cons, Nat.add_assoc,
        getD_append_right _ _ _ _ (hl ▸ Nat.le_add_right _ _), hl, Nat.add_sub_cancel_left]
      exact ihg j (Nat.lt_of_succ_lt_succ hj) i hi

theorem finish_nonempty (L : List Int) (d : List (Nat × PySlice)) : finish L d ≠ [] := by
  unfold finish
  dsimp only
  split
  · simp
  · rename_i h
    intro e
    rw [e] at h
    simp at h

theorem ite_ne_nil {α} {c : Prop} [Decidable c] {a b : List α} (ha : a ≠ []) (hb : b ≠ []) :
    (if c then a else b) ≠ [] := by
  split <;> assumption

theorem slice1d_ne_nil (dim : Int) (L : List Int) (hL : L ≠ []) (idx : PySlice) :
    slice1d dim L idx ≠ [] := by
  unfold slice1d
  -- `colon`: one entry per block; otherwise both branches (positive / negative step) end in `finish`
  exact ite_ne_nil (by simpa using hL) (ite_ne_nil (finish_nonempty _ _) (finish_nonempty _ _))

theorem slicePlan_ne_nil (n : Nat) (cs : List Nat) (hne : cs ≠ []) (s : PySlice) :
    slicePlan n cs s ≠ [] := by
  unfold slicePlan
  dsimp only
  have h := slice1d_ne_nil n (toI cs) (by simpa [toI] using hne) (normalizeSlice s n)
  obtain ⟨q, hq⟩ := List.exists_mem_of_ne_nil _ h
  intro e
  have := (mem_orderedPlan q (normalizeSlice s n).stp _).2 hq
  rw [e] at this
  simp at this

theorem sliceChunks1_facts (cs : List Nat) (hne : cs ≠ []) (s : PySlice) (hs : s.stp ≠ 0) (n : Nat)
    (hn : n = cs.sum) :
    (sliceChunks1 n cs s).sum = (sel s n).length ∧ sliceChunks1 n cs s ≠ [] := by
  obtain ⟨hpos, _, hch⟩ := slicePlan_partition cs hne s hs n hn
  refine ⟨?_, ?_⟩
  · rw [hch, ← (planPositions_spec cs _).1, hpos]
  · rw [hch]
    intro e
    exact slicePlan_ne_nil n cs hne s (List.map_eq_nil_iff.mp e)

theorem sliceAxis_ok (cs : List Nat) (hne : cs ≠ []) (s : PySlice) (hs : s.stp ≠ 0) (n : Nat)
    (hn : n = cs.sum) : AxisOK (sliceAxis n cs s) (sliceChunks1 n cs s) cs := by
  obtain ⟨hpos, hkeys, hch⟩ := slicePlan_partition cs hne s hs n hn
  intro j hj
  rw [hch, List.length_map] at hj
  rw [hch]
  have hgetD : (slicePlan n cs s).getD j dfltEntry = (slicePlan n cs s)[j] :=
    getD_eq_getElem _ _ _ hj
  have hoc : ((slicePlan n cs s).map (pieceLen cs)).getD j 0 = pieceLen cs (slicePlan n cs s)[j] :=
    (getD_map _ _ j dfltEntry 0 hj).trans (congrArg _ hgetD)
  have hkey := hkeys _ (List.getElem_mem hj)
  -- local position `i` of output block `j` is entry `offset_j + i` of the flattened plan positions,
  -- and those are `sel s n` (`Slice1d.slice1d_spec`, through `hpos`)
  have hfm := (planPositions_spec cs (slicePlan n cs s)).2 j hj
  rw [hpos] at hfm
  generalize (slicePlan n cs s)[j] = p at hgetD hoc hkey hfm
  refine ⟨?_, ?_⟩
  · simp only [sliceAxis, hgetD, hoc, pieceLen]
  · intro i hi
    rw [hoc] at hi
    simp only [sliceAxis, hgetD]
    have hb := sel_getD_bounds p.2 ((toI cs).getD p.1 0)
      (by rw [toI_getD]; exact Int.natCast_nonneg _) i hi
    refine ⟨hkey, (Int.toNat_lt hb.1).mpr (toI_getD cs p.1 ▸ hb.2), ?_⟩
    rw [hfm i hi, blockStart_toI, Int.add_comm]
    exact add_toNat _ _ hb.1

theorem slice1dInt_spec (cs : List Nat) (p : Int) (h0 : 0 ≤ p) (h1 : p < (cs.sum : Nat)) :
    (slice1dInt (toI cs) p).1 < cs.length ∧
    0 ≤ (slice1dInt (toI cs) p).2 ∧
    (slice1dInt (toI cs) p).2 < ((cs.getD (slice1dInt (toI cs) p).1 0 : Nat) : Int) ∧
    (((cs.take (slice1dInt (toI cs) p).1).sum : Nat) : Int) + (slice1dInt (toI cs) p).2 = p := by
  obtain ⟨n, rfl⟩ := Int.eq_ofNat_of_zero_le h0
  obtain ⟨ib, e⟩ := Dask.Lemmas.Slice1dPos.slice1dInt_inBlock (toI cs) (Int.natCast_nonneg n)
    (by rw [isum_toI]; exact h1)
  obtain ⟨hb, hlo, hhi⟩ := Dask.Layout.inBlock_ofNat.mp ib
  rw [e, blockStart_toI]
  unfold Dask.Layout.nstart at hlo hhi
  exact ⟨hb, by omega, by omega, by omega⟩

theorem wfIx_cons_int {n : Nat} {ns : List Nat} {k : Int} {r : List Ix} :
    wfIx (n :: ns) (.int k :: r) = true ↔ (-(n : Int) ≤ k ∧ k < (n : Int)) ∧ wfIx ns r = true := by
  simp [wfIx]

theorem wfIx_cons_slc {n : Nat} {ns : List Nat} {s : PySlice} {r : List Ix} :
    wfIx (n :: ns) (.slc s :: r) = true ↔ s.stp ≠ 0 ∧ wfIx ns r = true := by
  simp [wfIx]

theorem posifyInt_bounds (n : Nat) (k : Int) (h : -(n : Int) ≤ k ∧ k < (n : Int)) :
    0 ≤ posifyInt n k ∧ posifyInt n k < n := by
  unfold posifyInt; split <;> omega

theorem slice_spec : ∀ (sh : List Nat) (cl : Layout) (idx : List Ix),
    cl.map List.sum = sh → NonEmptyAxes cl → wfIx sh idx = true →
    Gathers (sliceSpecs sh cl idx) (sliceChunks sh cl idx) cl (sliceIdx sh idx) ∧
    (sliceChunks sh cl idx).map List.sum = sliceShape sh idx ∧ NonEmptyAxes (sliceChunks sh cl idx)
  | [], [], [], _, _, _ => ⟨.nil rfl, rfl, NonEmptyAxes.nil⟩
  | n :: ns, cs :: cl, .int k :: r, hsum, hne, hwf => by
    simp only [List.map_cons, List.cons.injEq] at hsum
    rw [wfIx_cons_int] at hwf
    obtain ⟨ih, ihsum, ihne⟩ := slice_spec ns cl r hsum.2 (NonEmptyAxes.cons_iff.1 hne).2 hwf.2
    obtain ⟨hp0, hp1⟩ := posifyInt_bounds n k hwf.1
    obtain ⟨a1, a2, a3, a4⟩ := slice1dInt_spec cs (posifyInt n k) hp0 (by rw [hsum.1]; exact hp1)
    exact ⟨.fix a1 ((Int.toNat_lt a2).mpr a3) ((add_toNat _ _ a2).trans (congrArg Int.toNat a4)) ih (fun _ => rfl),
      ihsum, ihne⟩
  | n :: ns, cs :: cl, .slc s :: r, hsum, hne, hwf => by
    simp only [List.map_cons, List.cons.injEq] at hsum
    rw [wfIx_cons_slc] at hwf
    obtain ⟨hcs, hne'⟩ := NonEmptyAxes.cons_iff.1 hne
    obtain ⟨ih, ihsum, ihne⟩ := slice_spec ns cl r hsum.2 hne' hwf.2
    obtain ⟨f1, f2⟩ := sliceChunks1_facts cs hcs s hwf.1 n hsum.1.symm
    exact ⟨.keep (sliceAxis_ok cs hcs s hwf.1 n hsum.1.symm) ih (fun _ _ _ => rfl),
      congr (congrArg List.cons f1) ihsum, NonEmptyAxes.cons_iff.2 ⟨f2, ihne⟩⟩
  | [], _ :: _, _, hsum, _, _ => nomatch hsum
  | _ :: _, [], _, hsum, _, _ => nomatch hsum
  | [], [], _ :: _, _, _, hwf => by simp [wfIx] at hwf
  | _ :: _, _ :: _, [], _, _, hwf => by simp [wfIx] at hwf

end Dask.ND
