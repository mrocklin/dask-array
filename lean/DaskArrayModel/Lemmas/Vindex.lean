/-
The `VIndexArray` layer (Model/Vindex.lean `layer`, `evalLayer`) computes the points in their original order, cut
into pieces of `m = max_chunk_point_dimensions`.  Every point lies in the block, at the in-block offset, the layer
computes for it, and block numbers ravel into a key that unravels again.  `_vindex_merge` is a scatter that fills
its buffer when the locations are a permutation of its positions, so for ANY list of groups that partitions
`range P` by output block `j / m` the table of merge tasks yields `range P` cut into pieces of `m`; the groups of
`layer` are the runs of equal keys of the sorted point order, which is such a partition.
-/
import DaskArrayModel.Model.Vindex
import DaskArrayModel.Lemmas.ShuffleTop
import DaskArrayModel.Lemmas.RowMajor
import DaskArrayModel.Lemmas.Assoc
import DaskArrayModel.Lemmas.Slice1dPos
namespace Dask.Lemmas.Vindex
open Dask.Py Dask.Slicing Dask.Indexing Dask.Shuffle Dask.Vindex Dask.Lemmas.Shuffle

theorem prod_eq_prodL (shape : List Nat) : prod shape = Dask.Reshape.prodL shape := by
  induction shape with
  | nil => rfl
  | cons d ds ih => simp only [prod, Dask.Reshape.prodL, ih]

theorem ravel_eq_flatIndex : ∀ (shape idx : List Nat), ravel shape idx = Dask.ND.flatIndex shape idx
  | [], _ => rfl
  | _ :: _, [] => rfl
  | _ :: ds, _ :: is => by
    rw [Dask.Reshape.flatIndex_cons, ← ravel_eq_flatIndex ds is, ← prod_eq_prodL]
    rfl

theorem unravel_eq_unflat (shape : List Nat) (key : Nat) : unravel shape key = Dask.Reshape.unflat shape key := by
  induction shape generalizing key with
  | nil => rfl
  | cons d ds ih => simp only [unravel, Dask.Reshape.unflat, ih, prod_eq_prodL]

theorem unravel_ravel (shape idx : List Nat) (h : Dask.ND.InB idx shape) : unravel shape (ravel shape idx) = idx := by
  rw [ravel_eq_flatIndex, unravel_eq_unflat]
  exact Dask.Reshape.unflat_flatIndex shape idx h

theorem blockIdx_spec (cs : List Int) (p : Int) (h0 : 0 ≤ p) (h1 : p < isum cs) :
    blockIdx cs p < cs.length ∧ 0 ≤ inblockOff cs p ∧ inblockOff cs p < cs.getD (blockIdx cs p) 0 ∧
      blockStart cs (blockIdx cs p) + inblockOff cs p = p := by
  have ib := Layout.inBlock_bisect cs h0 h1
  -- the leading `0` of `bounds2` shifts `searchsorted` by one, which the `- 1` undoes
  have hb : blockIdx cs p = bisectRight (cumsum cs) p := by
    unfold blockIdx cum0
    rw [Layout.bisectRight_cumsum0 cs h0, Nat.add_sub_cancel]
  unfold inblockOff
  rw [hb, cum0, Layout.cumsum0_getD cs (Nat.le_of_lt ib.lt)]
  exact ⟨ib.lt, ib.off_nonneg, ib.off_lt, by rw [Slice1dPos.blockStart_eq]; omega⟩

theorem vChunks_pos (css : List (List Int)) {P : Nat} (hP : 0 < P) :
    vChunks css P = List.replicate (P / (mcpd css).toNat) ((mcpd css).toNat : Int) ++
      (if P % (mcpd css).toNat > 0 then [((P % (mcpd css).toNat : Nat) : Int)] else []) := by
  unfold vChunks
  exact if_pos hP

theorem vChunks_length (css : List (List Int)) (P : Nat) (hP : 0 < P) :
    (vChunks css P).length = P / (mcpd css).toNat + (if P % (mcpd css).toNat > 0 then 1 else 0) := by
  rw [vChunks_pos css hP, List.length_append, List.length_replicate]
  split <;> rfl

theorem pySlice_map {α β} (f : α → β) (L : List α) (a b : Nat) :
    pySlice (L.map f) a b = (pySlice L a b).map f := by
  simp [pySlice, List.map_take, List.map_drop]

theorem foldl_mul_pos (l : List Int) : ∀ init : Int, 0 < init → (∀ c ∈ l, 0 < c) → 0 < l.foldl (· * ·) init := by
  induction l with
  | nil => exact fun _ h _ => h
  | cons c l ih =>
    exact fun init h hl => ih (init * c) (Int.mul_pos h (hl c List.mem_cons_self))
      (fun d hd => hl d (List.mem_cons_of_mem _ hd))

theorem filter_flatten_uniform {β} (g : β → List Nat) (ob : β → Nat) (q : Nat → Nat) (i : Nat) (L : List β)
    (h : ∀ b ∈ L, ∀ j ∈ g b, q j = ob b) :
    ((L.filter (fun b => ob b = i)).map g).flatten = ((L.map g).flatten).filter (fun j => q j = i) := by
  induction L with
  | nil => rfl
  | cons b L ih =>
    have ih := ih (fun b' hb' => h b' (List.mem_cons_of_mem _ hb'))
    have hb := h b List.mem_cons_self
    rw [List.map_cons, List.flatten_cons, List.filter_append, List.filter_cons, ← ih]
    by_cases hi : ob b = i
    · rw [if_pos (decide_eq_true hi), List.map_cons, List.flatten_cons,
        List.filter_eq_self.mpr (fun j hj => decide_eq_true ((hb j hj).trans hi))]
    · rw [if_neg (mt of_decide_eq_true hi),
        List.filter_eq_nil_iff.mpr (fun j hj => mt of_decide_eq_true (fun e => hi ((hb j hj).symm.trans e)))]
      rfl

/-! `range P` cut into pieces of `m`: piece `i` is `i * m + l` for `l < min m (P - i * m)` -/

theorem min_add_piece (m a P : Nat) : min (a + m) P = min a P + min m (P - a) := by
  by_cases h : a ≤ P
  · obtain ⟨k, rfl⟩ := Nat.exists_eq_add_of_le h
    rw [Nat.add_sub_cancel_left, Nat.min_eq_left h, Nat.add_min_add_left]
  · have hP : P ≤ a := Nat.le_of_lt (Nat.lt_of_not_le h)
    rw [Nat.sub_eq_zero_of_le hP, Nat.min_eq_right (Nat.le_trans hP (Nat.le_add_right a m)),
      Nat.min_eq_right hP, Nat.min_zero]
    rfl

theorem lt_piece_iff (m a P l : Nat) : l < min m (P - a) ↔ l < m ∧ a + l < P := by
  rw [Nat.lt_min, Nat.lt_sub_iff_add_lt']

theorem div_eq_iff_piece {m : Nat} (hm : 0 < m) (j i : Nat) : j / m = i ↔ i * m ≤ j ∧ j < i * m + m := by
  rw [Nat.div_eq_iff hm, Nat.le_sub_one_iff_lt (Nat.add_pos_right _ hm)]

theorem block_points {m : Nat} (hm : 0 < m) (i P : Nat) :
    ((List.range P).filter (fun j => j / m = i)).Perm (List.range' (i * m) (min m (P - i * m))) :=
  (List.perm_ext_iff_of_nodup (List.Pairwise.filter _ List.nodup_range) (List.nodup_range' 1)).mpr fun j => by
    rw [List.mem_filter, List.mem_range, decide_eq_true_iff, div_eq_iff_piece hm, List.mem_range'_1]
    constructor
    · rintro ⟨hP, ha, hj⟩
      obtain ⟨l, rfl⟩ := Nat.exists_eq_add_of_le ha
      exact ⟨ha, Nat.add_lt_add_left ((lt_piece_iff m _ P l).mpr ⟨Nat.lt_of_add_lt_add_left hj, hP⟩) _⟩
    · rintro ⟨ha, hj⟩
      obtain ⟨l, rfl⟩ := Nat.exists_eq_add_of_le ha
      have h := (lt_piece_iff m _ P l).mp (Nat.lt_of_add_lt_add_left hj)
      exact ⟨h.2, ha, Nat.add_lt_add_left h.1 _⟩

theorem block_locs {m : Nat} (hm : 0 < m) (i P : Nat) :
    (((List.range P).filter (fun j => j / m = i)).map (· % m)).Perm (List.range (min m (P - i * m))) := by
  refine ((block_points hm i P).map _).trans (List.Perm.of_eq ?_)
  rw [List.range'_eq_map_range, List.map_map]
  refine (List.map_congr_left fun l hl => ?_).trans (List.map_id _)
  show (i * m + l) % m = l
  rw [Nat.add_comm, Nat.add_mul_mod_self_right]
  exact Nat.mod_eq_of_lt (Nat.lt_of_lt_of_le (List.mem_range.mp hl) (Nat.min_le_left _ _))

theorem chunk_flatten {β} (g : Nat → β) (m P q : Nat) :
    ((List.range q).map (fun i => (List.range (min m (P - i * m))).map (fun l => g (i * m + l)))).flatten
      = (List.range (min (q * m) P)).map g := by
  induction q with
  | zero => rw [Nat.zero_mul, Nat.zero_min]; rfl
  | succ q ih =>
    rw [List.range_succ, List.map_append, List.flatten_append, ih, Nat.succ_mul, min_add_piece,
      List.range_add, List.map_append, List.map_map, List.map_singleton, List.flatten_singleton]
    congr 1
    apply List.map_congr_left
    intro l hl
    have hl := ((lt_piece_iff m (q * m) P l).mp (List.mem_range.mp hl)).2
    show g (q * m + l) = g (min (q * m) P + l)
    rw [Nat.min_eq_left (Nat.le_of_lt (Nat.lt_of_le_of_lt (Nat.le_add_right _ l) hl))]

theorem piece_start_lt {m : Nat} (hm : 0 < m) {P i : Nat} (hi : i < P / m + (if P % m > 0 then 1 else 0)) :
    i * m < P := by
  by_cases hr : P % m > 0
  · rw [if_pos hr] at hi
    exact Nat.lt_of_le_of_lt (Nat.mul_le_mul_right m (Nat.le_of_lt_succ hi))
      (Nat.lt_of_lt_of_eq (Nat.lt_add_of_pos_right hr) (Nat.div_add_mod' P m))
  · rw [if_neg hr] at hi
    exact Nat.lt_of_lt_of_le (Nat.mul_lt_mul_of_pos_right hi hm) (Nat.div_mul_le_self P m)

theorem le_pieces_mul {m : Nat} (hm : 0 < m) (P : Nat) : P ≤ (P / m + (if P % m > 0 then 1 else 0)) * m := by
  by_cases hr : P % m > 0
  · rw [if_pos hr, Nat.mul_comm]
    exact Nat.le_of_lt (Nat.lt_mul_div_succ P hm)
  · rw [if_neg hr, Nat.add_zero, Nat.div_mul_cancel (Nat.dvd_of_mod_eq_zero (Nat.eq_zero_of_not_pos hr))]
    exact Nat.le_refl P

theorem piece_lengths {m : Nat} (hm : 0 < m) (P : Nat) :
    (List.range (P / m + (if P % m > 0 then 1 else 0))).map (fun i => ((min m (P - i * m) : Nat) : Int)) =
      List.replicate (P / m) (m : Int) ++ (if P % m > 0 then [((P % m : Nat) : Int)] else []) := by
  have full : (List.range (P / m)).map (fun i => ((min m (P - i * m) : Nat) : Int)) =
      List.replicate (P / m) (m : Int) := by
    rw [List.eq_replicate_iff]
    refine ⟨by rw [List.length_map, List.length_range], fun b hb => ?_⟩
    obtain ⟨i, hi, rfl⟩ := List.mem_map.mp hb
    have h := Nat.mul_le_mul_right m (List.mem_range.mp hi)
    rw [Nat.succ_mul] at h
    rw [Nat.min_eq_left (Nat.le_sub_of_add_le' (Nat.le_trans h (Nat.div_mul_le_self P m)))]
  have last : min m (P - P / m * m) = P % m := by
    rw [Nat.sub_eq_of_eq_add (Nat.add_comm _ _ ▸ (Nat.div_add_mod' P m).symm)]
    exact Nat.min_eq_right (Nat.le_of_lt (Nat.mod_lt P hm))
  by_cases hr : P % m > 0
  · rw [if_pos hr, if_pos hr, List.range_succ, List.map_append, full, List.map_singleton, last]
  · rw [if_neg hr, if_neg hr, Nat.add_zero, List.append_nil, full]

/-- well-formed normalised index arrays: one per indexed axis, `P` points each, all on their axis. -/
def PointsOK : List (List Int) → List (List Int) → Nat → Prop
  | [], [], _ => True
  | cs :: css, ind :: inds, P =>
    ChunksOK cs ∧ ind.length = P ∧ (∀ p ∈ ind, 0 ≤ p ∧ p < isum cs) ∧ PointsOK css inds P
  | _, _, _ => False

theorem readBlockN_point {α} (css inds : List (List Int)) (P j : Nat) (x : List Int → α)
    (h : PointsOK css inds P) (hj : j < P) :
    readBlockN css x
      ((List.zipWith (fun cs ind => ind.map (blockIdx cs)) css inds).map (fun b => b.getD j 0))
      (pointAt (List.zipWith (fun cs ind => ind.map (inblockOff cs)) css inds) j) = some (x (pointAt inds j)) := by
  induction css generalizing inds x with
  | nil =>
    cases inds with
    | nil => rfl
    | cons _ _ => exact h.elim
  | cons cs css ih =>
    cases inds with
    | nil => exact h.elim
    | cons ind inds =>
      obtain ⟨hcs, hl, hin, hrest⟩ := h
      have hj' : j < ind.length := hl ▸ hj
      have hp := hin _ (getD_mem ind j 0 hj')
      obtain ⟨hlt, hoff0, hoff1, hpos⟩ := blockIdx_spec cs _ hp.1 hp.2
      simp only [List.zipWith_cons_cons, List.map_cons, pointAt]
      rw [getD_map _ _ _ 0 0 hj', getD_map _ _ _ 0 0 hj']
      refine (if_pos ⟨hlt, hoff0, hoff1⟩).trans ?_
      rw [hpos]
      exact ih inds (fun t => x (ind.getD j 0 :: t)) hrest

theorem blocks_inB (css inds : List (List Int)) (P j : Nat) (h : PointsOK css inds P) (hj : j < P) :
    (∀ c ∈ css.map maxChunk, 0 < c) ∧
    Dask.ND.InB ((List.zipWith (fun cs ind => ind.map (blockIdx cs)) css inds).map (fun b => b.getD j 0))
      (css.map List.length) := by
  induction css generalizing inds with
  | nil =>
    cases inds with
    | nil => exact ⟨fun _ hc => (nomatch hc), trivial⟩
    | cons _ _ => exact h.elim
  | cons cs css ih =>
    cases inds with
    | nil => exact h.elim
    | cons ind inds =>
      obtain ⟨hcs, hl, hin, hrest⟩ := h
      have hj' : j < ind.length := hl ▸ hj
      have hp := hin _ (getD_mem ind j 0 hj')
      simp only [List.zipWith_cons_cons, List.map_cons]
      rw [getD_map _ _ _ 0 0 hj']
      exact ⟨List.forall_mem_cons.mpr ⟨maxChunk_pos cs (Int.lt_of_le_of_lt hp.1 hp.2), (ih inds hrest).1⟩,
        (blockIdx_spec cs _ hp.1 hp.2).1, (ih inds hrest).2⟩

theorem mcpd_pos (css inds : List (List Int)) (P : Nat) (h : PointsOK css inds P) (hP : 0 < P) :
    0 < (mcpd css).toNat :=
  Int.lt_toNat.mpr (foldl_mul_pos (css.map maxChunk) 1 Int.one_pos (blocks_inB css inds P 0 h hP).1)

/-- the writes keep a cell that holds `f` of its position and put right the cells they write. -/
theorem writeAll_spec {α} (f : Nat → α) (loc : Nat → Nat) (val : Nat → α) (J : List Nat)
    (hJ : ∀ j ∈ J, val j = f (loc j)) : ∀ buf : List (Option α),
    let r := writeAll buf (J.map (fun j => ((loc j : Nat) : Int))) (J.map val)
    r.length = buf.length ∧ ∀ l < buf.length,
      (buf.getD l none = some (f l) ∨ l ∈ J.map loc) → r.getD l none = some (f l) := by
  induction J with
  | nil => exact fun buf => ⟨rfl, fun l _ h => h.elim id (fun h => nomatch h)⟩
  | cons j J ih =>
    intro buf
    have ih := ih (fun j' hj' => hJ j' (List.mem_cons_of_mem _ hj')) (buf.set (loc j) (some (val j)))
    rw [List.length_set] at ih
    show (writeAll (buf.set ((loc j : Nat) : Int).toNat (some (val j))) _ _).length = _ ∧ _
    rw [Int.toNat_natCast]
    refine ⟨ih.1, fun l hl h => ih.2 l hl ?_⟩
    by_cases e : loc j = l
    · exact Or.inl (by rw [← e, getD_set_eq _ _ _ _ (e ▸ hl), hJ j List.mem_cons_self])
    · rw [getD_set_ne _ _ _ _ _ e]
      exact h.imp_right fun h => (List.mem_cons.mp h).resolve_left (fun e' => e e'.symm)

theorem writeAll_append {α} (a : Nat → Int) (v : Nat → α) (J R : List Nat) : ∀ buf : List (Option α),
    writeAll buf ((J ++ R).map a) ((J ++ R).map v) = writeAll (writeAll buf (J.map a) (J.map v)) (R.map a) (R.map v) := by
  induction J with
  | nil => exact fun _ => rfl
  | cons j J ih => exact fun buf => ih _

theorem foldl_writeAll {α} (a : Nat → Int) (v : Nat → α) (Js : List (List Nat)) : ∀ buf : List (Option α),
    (Js.map (fun J => (J.map a, J.map v))).foldl (fun buf p => writeAll buf p.1 p.2) buf =
      writeAll buf (Js.flatten.map a) (Js.flatten.map v) := by
  induction Js with
  | nil => exact fun _ => rfl
  | cons J Js ih =>
    intro buf
    rw [List.map_cons, List.foldl_cons, ih, List.flatten_cons, writeAll_append]

theorem vmerge_spec {α} (f : Nat → α) (loc : Nat → Nat) (val : Nat → α) (Js : List (List Nat)) (n : Nat)
    (hloc : (Js.flatten.map loc).Perm (List.range n)) (hval : ∀ j ∈ Js.flatten, val j = f (loc j)) :
    vmerge (Js.map (fun J => (J.map (fun j => ((loc j : Nat) : Int)), J.map val))) =
      (List.range n).map (fun l => some (f l)) := by
  unfold vmerge
  have hlen : ((Js.map (fun J => (J.map (fun j => ((loc j : Nat) : Int)), J.map val))).map
      (fun p => p.1.length)).foldl (· + ·) 0 = n := by
    rw [List.map_map, ← List.sum_eq_foldl_nat, ← List.length_range (n := n), ← hloc.length_eq, List.length_map,
      List.length_flatten]
    simp only [Function.comp_def, List.length_map]
  rw [hlen, foldl_writeAll]
  obtain ⟨h1, h2⟩ := writeAll_spec f loc val Js.flatten hval (List.replicate n none)
  rw [List.length_replicate] at h1 h2
  apply List.ext_getElem
  · rw [h1, List.length_map, List.length_range]
  · intro l hl1 hl2
    have hl : l < n := h1 ▸ hl1
    have hi := h2 l hl (Or.inr (hloc.mem_iff.mpr (List.mem_range.mpr hl)))
    rw [List.getD_eq_getElem?_getD, List.getElem?_eq_getElem hl1, Option.getD_some] at hi
    rw [List.getElem_map, List.getElem_range]
    exact hi

section merge
variable {α β : Type} {m : Nat} (hm : 0 < m) (P : Nat) (L : List β) (G : β → Group) (J : β → List Nat)
  (val : Nat → α) (hlocs : ∀ b, (G b).locs = (J b).map (fun j => ((j % m : Nat) : Int)))
  (hob : ∀ b ∈ L, ∀ j ∈ J b, j / m = (G b).outblock) (hperm : ((L.map J).flatten).Perm (List.range P))
include hm hlocs hob hperm

/-- the `_vindex_merge` task of output block `i`: the groups with that output block hold exactly the points
`i * m + l`, each at location `l`. -/
theorem merge_block (i : Nat) :
    vmerge (((L.map (fun b => (G b, (J b).map val))).filter (fun p => p.1.outblock = i)).map
        (fun p => (p.1.locs, p.2))) =
      (List.range (min m (P - i * m))).map (fun l => some (val (i * m + l))) := by
  have hfl := filter_flatten_uniform J (fun b => (G b).outblock) (· / m) i L hob
  -- the parts of this task, as the point lists of its groups mapped to (locations, values)
  refine Eq.trans (congrArg vmerge ?_) (vmerge_spec (fun l => val (i * m + l)) (· % m) val
    ((L.filter (fun b => (G b).outblock = i)).map J) _ ?_ ?_)
  · rw [List.filter_map, List.map_map, List.map_map]
    exact List.map_congr_left fun b _ => Prod.ext (hlocs b) rfl
  · rw [hfl]
    exact ((hperm.filter _).map _).trans (block_locs hm i P)
  · intro j hj
    rw [hfl, List.mem_filter, decide_eq_true_iff] at hj
    show val j = val (i * m + j % m)
    rw [← hj.2, Nat.div_add_mod']

/-- every output block `i < n` that starts inside `range P` has a merge task, and the table of merge tasks
read through the keys `0 … n - 1` gives the pieces in order. -/
theorem merge_table (n : Nat) (hn : ∀ i < n, i * m < P) :
    (List.range n).mapM (fun i => ((L.map G).map (fun g => (g.outblock,
      vmerge (((L.map (fun b => (G b, (J b).map val))).filter (fun p => p.1.outblock = g.outblock)).map
        (fun p => (p.1.locs, p.2)))))).lookup i) =
      some ((List.range n).map (fun i => (List.range (min m (P - i * m))).map (fun l => some (val (i * m + l))))) := by
  apply mapM_some
  intro i hi
  have hmem : i ∈ (L.map G).map (·.outblock) := by
    obtain ⟨J', hJ', hj⟩ := List.mem_flatten.mp
      (hperm.mem_iff.mpr (List.mem_range.mpr (hn i (List.mem_range.mp hi))))
    obtain ⟨b, hb, rfl⟩ := List.mem_map.mp hJ'
    refine List.mem_map.mpr ⟨G b, List.mem_map_of_mem hb, ?_⟩
    rw [← hob b hb _ hj]
    exact Nat.mul_div_cancel i hm
  rw [Dask.Assoc.lookup_map_key Group.outblock (fun a => vmerge (((L.map (fun b => (G b, (J b).map val))).filter
    (fun p => p.1.outblock = a)).map (fun p => (p.1.locs, p.2)))) i _ hmem,
    merge_block hm P L G J val hlocs hob hperm i]

end merge

section layer
variable (argsort : List Int → List Nat) (hA : ∀ l, IsArgsort l (argsort l))
variable (css inds : List (List Int)) (P : Nat)

/-! the `let`s of `layer` as functions of `css inds P`, so that `layer_form` can state the layer as a map over
the runs of equal keys -/

/-- per axis, the input block of every point (`block_idx`). -/
def blockIdxs : List (List Nat) := List.zipWith (fun cs ind => ind.map (blockIdx cs)) css inds
/-- per axis, the offset of every point inside its block (`inblock_idx`). -/
def inblockOffs : List (List Int) := List.zipWith (fun cs ind => ind.map (inblockOff cs)) css inds
/-- the grid the keys are raveled in: output blocks, then the input block grid. -/
def shapeOf : List Nat := (P / (mcpd css).toNat + 1) :: css.map List.length
def keyOf (j : Nat) : Nat :=
  ravel (shapeOf css P) ((j / (mcpd css).toNat) :: (blockIdxs css inds).map (fun b => b.getD j 0))
def keysOf : List Int := (List.range P).map (fun j => ((keyOf css inds P j : Nat) : Int))
/-- the points in the order of their keys (`np.argsort(keys)`), and the keys in that order. -/
def sortedIdx : List Nat := argsort (keysOf css inds P)
def sortedKeys : List Int := (sortedIdx argsort css inds P).map (fun j => (keysOf css inds P).getD j 0)
/-- the points of the run of equal keys `[ab.1, ab.2)`. -/
def groupPoints (ab : Nat × Nat) : List Nat := pySlice (sortedIdx argsort css inds P) ab.1 ab.2
/-- the slice task of that run, as `layer` writes it. -/
def mkGroup (ab : Nat × Nat) : Group :=
  let u := unravel (shapeOf css P) ((sortedKeys argsort css inds P).getD ab.1 0).toNat
  ⟨u.headD 0, u.tail, (inblockOffs css inds).map (fun A => (groupPoints argsort css inds P ab).map (fun j => A.getD j 0)),
    (groupPoints argsort css inds P ab).map (fun j => ((j % (mcpd css).toNat : Nat) : Int))⟩

theorem keys_getD (j : Nat) (hj : j < P) :
    (keysOf css inds P).getD j 0 = ((keyOf css inds P j : Nat) : Int) := by
  unfold keysOf
  rw [getD_map _ _ _ 0 0 (List.length_range.symm ▸ hj), List.getD_eq_getElem?_getD, List.getElem?_range hj]
  rfl

theorem unravel_key (hok : PointsOK css inds P) (j : Nat) (hj : j < P) :
    unravel (shapeOf css P) (keyOf css inds P j) =
      (j / (mcpd css).toNat) :: (blockIdxs css inds).map (fun b => b.getD j 0) :=
  unravel_ravel _ _ (And.intro (Nat.lt_succ_of_le (Nat.div_le_div_right (Nat.le_of_lt hj)))
    (blocks_inB css inds P j hok hj).2)

include hA

theorem sortedIdx_perm : (sortedIdx argsort css inds P).Perm (List.range P) := by
  have h := (hA (keysOf css inds P)).1
  rwa [show (keysOf css inds P).length = P from (List.length_map _).trans List.length_range] at h

theorem sortedIdx_length : (sortedIdx argsort css inds P).length = P :=
  (sortedIdx_perm argsort hA css inds P).length_eq.trans List.length_range

theorem sortedKeys_length : (sortedKeys argsort css inds P).length = P :=
  (List.length_map _).trans (sortedIdx_length argsort hA css inds P)

theorem layer_form (hm : 0 < (mcpd css).toNat) (hhead : (inds.headD []).length = P) :
    layer argsort css inds =
      (pairsEnd (runStarts (sortedKeys argsort css inds P)) P).map (mkGroup argsort css inds P) := by
  have hw : ∀ j : Nat, wrapU (minScalarBits (mcpd css)) ((j % (mcpd css).toNat : Nat) : Int)
      = ((j % (mcpd css).toNat : Nat) : Int) := by
    exact fun j => wrapU_id (Int.natCast_nonneg _) (Int.le_of_lt (Int.lt_toNat.mp (Nat.mod_lt j hm)))
  unfold layer
  simp only [hhead, hw]
  have e := sortedKeys_length argsort hA css inds P
  unfold sortedKeys sortedIdx keysOf keyOf shapeOf blockIdxs at e
  rw [zip_pairsEnd, e]
  apply List.map_congr_left
  intro ab _
  unfold mkGroup groupPoints sortedKeys sortedIdx keysOf keyOf shapeOf blockIdxs inblockOffs
  simp only [List.map_map, Function.comp_def, pySlice_map]

theorem groups_perm :
    ((pairsEnd (runStarts (sortedKeys argsort css inds P)) P).map (groupPoints argsort css inds P)).flatten.Perm
      (List.range P) := by
  have h := runs_tile (fun j => (keysOf css inds P).getD j 0) (sortedIdx argsort css inds P)
  rw [sortedIdx_length argsort hA css inds P] at h
  unfold groupPoints
  rw [sortedKeys, h]
  exact sortedIdx_perm argsort hA css inds P

theorem group_mem : ∀ ab ∈ pairsEnd (runStarts (sortedKeys argsort css inds P)) P,
    ∀ j ∈ groupPoints argsort css inds P ab, j < P ∧
      ((sortedKeys argsort css inds P).getD ab.1 0).toNat = keyOf css inds P j := by
  intro ab hab j hj
  have hlt := List.mem_range.mp
    ((sortedIdx_perm argsort hA css inds P).subset (List.mem_of_mem_drop (List.mem_of_mem_take hj)))
  have hc := runs_const (fun j => (keysOf css inds P).getD j 0) (sortedIdx argsort css inds P)
  rw [sortedIdx_length argsort hA css inds P] at hc
  rw [sortedKeys, ← hc ab hab j hj, keys_getD css inds P _ hlt, Int.toNat_natCast]
  exact ⟨hlt, rfl⟩

variable (hok : PointsOK css inds P)
include hok

theorem group_fields : ∀ ab ∈ pairsEnd (runStarts (sortedKeys argsort css inds P)) P,
    ∀ j ∈ groupPoints argsort css inds P ab,
      (mkGroup argsort css inds P ab).outblock = j / (mcpd css).toNat ∧
      (mkGroup argsort css inds P ab).inBlocks = (blockIdxs css inds).map (fun b => b.getD j 0) := by
  intro ab hab j hj
  have h := group_mem argsort hA css inds P ab hab j hj
  unfold mkGroup
  simp only [h.2, unravel_key css inds P hok j h.1, List.headD_cons, List.tail_cons, and_self]

theorem evalGroup_form {α} (x : List Int → α) : ∀ ab ∈ pairsEnd (runStarts (sortedKeys argsort css inds P)) P,
    evalGroup css x (mkGroup argsort css inds P ab) =
      some ((groupPoints argsort css inds P ab).map (fun j => x (pointAt inds j))) := by
  intro ab hab
  unfold evalGroup
  rw [show (mkGroup argsort css inds P ab).locs.length = (groupPoints argsort css inds P ab).length from
    List.length_map _]
  refine (mapM_some _ (fun s => x (pointAt inds ((groupPoints argsort css inds P ab).getD s 0))) _ ?_).trans
    (congrArg some ?_)
  · intro s hs
    have hs' := List.mem_range.mp hs
    have hj := getD_mem (groupPoints argsort css inds P ab) s 0 hs'
    have hp : pointAt (mkGroup argsort css inds P ab).points s =
        pointAt (inblockOffs css inds) ((groupPoints argsort css inds P ab).getD s 0) := by
      unfold mkGroup pointAt
      rw [List.map_map]
      exact List.map_congr_left fun A _ => getD_map _ _ _ 0 0 hs'
    rw [(group_fields argsort hA css inds P hok ab hab _ hj).2, hp]
    exact readBlockN_point css inds P _ x hok (group_mem argsort hA css inds P ab hab _ hj).1
  · have e := congrArg (List.map (fun j => x (pointAt inds j))) (map_getD_range (groupPoints argsort css inds P ab) 0)
    rw [List.map_map] at e
    exact e

variable (hhead : (inds.headD []).length = P) (hP : 0 < P)
include hhead hP

theorem evalLayer_correct {α} (x : List Int → α) :
    evalLayer argsort css inds x = .ok ((List.range (vChunks css P).length).map (fun i =>
      (List.range (min (mcpd css).toNat (P - i * (mcpd css).toNat))).map
        (fun l => some (x (pointAt inds (i * (mcpd css).toNat + l)))))) := by
  have hm := mcpd_pos css inds P hok hP
  unfold evalLayer
  rw [layer_form argsort hA css inds P hm hhead]
  have hmm := mapM_map_some (mkGroup argsort css inds P) (fun g => (evalGroup css x g).map (fun v => (g, v)))
    (fun ab => (mkGroup argsort css inds P ab, (groupPoints argsort css inds P ab).map (fun j => x (pointAt inds j))))
    (pairsEnd (runStarts (sortedKeys argsort css inds P)) P)
    (fun ab hab => congrArg (Option.map _) (evalGroup_form argsort hA css inds P hok x ab hab))
  simp only [hmm, hhead]
  rw [merge_table hm P _ (mkGroup argsort css inds P) (groupPoints argsort css inds P) (fun j => x (pointAt inds j))
    (fun _ => rfl) (fun ab hab j hj => (group_fields argsort hA css inds P hok ab hab j hj).1.symm)
    (groups_perm argsort hA css inds P) _
    (fun i hi => piece_start_lt hm (by rw [← vChunks_length css P hP]; exact hi))]

end layer
end Dask.Lemmas.Vindex
