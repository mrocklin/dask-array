/-
Soundness of the slice pushdowns through transpose, expand_dims, squeeze and reductions, for indices
made of slices only (`sliceShape` / `sliceIdx` / `sliceChunks` axis by axis: ExprIndex).  Replacing
the slice of ONE axis by one that reads a window (`Window`) changes shape and index map on that axis
only (`slice_axis_window`); reductions and concatenation (RulesConcat) are instances.  An axis inserted
into shape, slices and index alike is read on its own (`slice_insertIdx`): `expand_dims` and `squeeze`.
-/
import DaskArrayModel.Lemmas.RulesFuse
import DaskArrayModel.Lemmas.RulesRechunk
namespace Dask.ND
open Dask.Py Dask.Py.PySlice Dask.Slicing Dask.Lemmas.SliceAlgebra

theorem allSlc?_some : ∀ (idx : List Ix) (ss : List PySlice), allSlc? idx = some ss → idx = ss.map Ix.slc
  | [], _, h => by cases h; rfl
  | .slc s :: r, _, h => by
    obtain ⟨t, ht, rfl⟩ := Option.map_eq_some_iff.mp h
    rw [allSlc?_some r t ht]; rfl
  | .int _ :: _, _, h => nomatch h

theorem sliceThroughTranspose_sound : Sound sliceThroughTranspose := by
  intro env e e' hw
  fun_cases sliceThroughTranspose e
  case case1 a perm idx ss hss =>
    intro h
    cases h
    cases allSlc?_some idx ss hss
    obtain ⟨hwt, hi⟩ := WF_slice.mp hw
    obtain ⟨ha, hp⟩ := WF_transpose.mp hwt
    have hp' := isPerm_ok hp
    obtain ⟨hl, hst⟩ := (wfIx_slc _ _).mp hi
    simp only [shape, List.length_map, hp'.len] at hl
    have hul : (unpermL perm ss colon).length = (shape a).length := by rw [unpermL_length, hp'.len]
    have hpl : (perm.map (fun a0 => (shape a).getD a0 0)).length = (shape a).length := by
      rw [List.length_map, hp'.len]
    -- shape and index of an all-slice index are computed axis by axis, so they follow the permutation
    have hshape : perm.map (fun a0 => (sliceShape (shape a) ((unpermL perm ss colon).map Ix.slc)).getD a0 0)
        = sliceShape (perm.map (fun a0 => (shape a).getD a0 0)) (ss.map Ix.slc) := by
      rw [sliceShape_slc, sliceShape_slc, perm_zipWith hp' _ rfl hul 0 colon 0, perm_unpermL hp' hl]
    refine ⟨WF_transpose.mpr ⟨WF_slice.mpr ⟨ha, (wfIx_slc _ _).mpr
      ⟨hul, fun s hs => hst s (mem_unpermL hp' hl hs)⟩⟩, ?_⟩, hshape, fun i hi0 => ?_⟩
    · simp only [shape]
      rw [sliceShape_slc_length, hul, Nat.min_self]; exact hp
    · have hil : i.length = (shape a).length := by
        rw [hi0.length_eq]
        simp only [shape]
        rw [sliceShape_slc_length, hpl, hl, Nat.min_self]
      simp only [denGet, shape]
      congr 1
      rw [sliceIdx_slc, sliceIdx_slc, unperm_eq, unperm_eq,
        unpermL_zipWith hp' _ (by rw [List.length_zipWith, hpl, hl, Nat.min_self]) hil (fun _ => 0) 0 0,
        unpermL_zipWith hp' _ hpl hl 0 colon _, unpermL_perm hp' rfl]
  all_goals exact fun h => nomatch h

theorem slice_insertIdx (ax : Nat) (sh : List Nat) (ss : List PySlice) (n : Nat) (s : PySlice)
    (h1 : ax ≤ sh.length) (h2 : ax ≤ ss.length) :
    sliceShape (sh.insertIdx ax n) ((ss.insertIdx ax s).map Ix.slc)
      = (sliceShape sh (ss.map Ix.slc)).insertIdx ax (sel s n).length ∧
    ∀ i x, ax ≤ i.length →
      sliceIdx (sh.insertIdx ax n) ((ss.insertIdx ax s).map Ix.slc) (i.insertIdx ax x)
        = (sliceIdx sh (ss.map Ix.slc) i).insertIdx ax ((sel s n).getD x 0).toNat := by
  refine ⟨by rw [sliceShape_slc, sliceShape_slc, zipWith_insertIdx _ _ _ _ _ _ h1 h2], fun i x h3 => ?_⟩
  rw [sliceIdx_slc, sliceIdx_slc, zipWith_insertIdx _ _ _ _ _ _ h1 h2,
    zipWith_insertIdx _ _ _ _ _ _ (by rw [List.length_zipWith]; exact Nat.le_min.mpr ⟨h1, h2⟩) h3]

theorem sliceThroughExpandDims_sound : Sound sliceThroughExpandDims := by
  intro env e e' hw
  fun_cases sliceThroughExpandDims e
  case case1 a ax idx ss hss hone =>
    intro h
    cases h
    cases allSlc?_some idx ss hss
    obtain ⟨hwe, hi⟩ := WF_slice.mp hw
    obtain ⟨ha, hax⟩ := WF_expandDims.mp hwe
    obtain ⟨hl, hst⟩ := (wfIx_slc _ _).mp hi
    simp only [shape, List.length_insertIdx, if_pos hax] at hl
    obtain ⟨ss', s, rfl, hle⟩ := exists_insertIdx ss ax (by rw [hl]; exact Nat.lt_succ_of_le hax)
    rw [getD_insertIdx_self _ _ _ _ hle] at hone
    rw [List.eraseIdx_insertIdx_self]
    rw [List.length_insertIdx, if_pos hle] at hl
    have hl' : ss'.length = (shape a).length := Nat.add_right_cancel hl
    obtain ⟨hS, hI⟩ := slice_insertIdx ax (shape a) ss' 1 s hax hle
    have hlen : (sliceShape (shape a) (ss'.map Ix.slc)).length = (shape a).length := by
      rw [sliceShape_slc_length, hl', Nat.min_self]
    refine ⟨WF_expandDims.mpr ⟨WF_slice.mpr ⟨ha, (wfIx_slc _ _).mpr
      ⟨hl', fun t ht => hst t ((List.mem_insertIdx hle).mpr (.inr ht))⟩⟩, ?_⟩, ?_, fun i hi0 => ?_⟩
    · simp only [shape]; rw [hlen]; exact hax
    · simp only [shape]; rw [hS]; exact congrArg _ hone.symm
    · have hil : ax < i.length := by
        rw [hi0.length_eq]
        simp only [shape]
        rw [hS, List.length_insertIdx, if_pos (hlen ▸ hax), hlen]
        exact Nat.lt_succ_of_le hax
      obtain ⟨i', x, rfl, hi'⟩ := exists_insertIdx i ax hil
      simp only [denGet, shape]
      rw [hI i' x hi', List.eraseIdx_insertIdx_self, List.eraseIdx_insertIdx_self]
  all_goals exact fun h => nomatch h

theorem sliceThroughSqueeze_sound : Sound sliceThroughSqueeze := by
  intro env e e' hw
  fun_cases sliceThroughSqueeze e
  case case1 a ax idx ss hss =>
    intro h
    cases h
    cases allSlc?_some idx ss hss
    obtain ⟨hwe, hi⟩ := WF_slice.mp hw
    obtain ⟨ha, hax, hone⟩ := WF_squeeze.mp hwe
    obtain ⟨hl, hst⟩ := (wfIx_slc _ _).mp hi
    have m1 := (meta_ok a ha).1
    have h1 : (shape a).getD ax 0 = 1 := by
      rw [← sum_getD_of_map_sum m1 ax, hone]; rfl
    obtain ⟨sh', n, hsh, hle⟩ := exists_insertIdx (shape a) ax hax
    have he : (shape a).eraseIdx ax = sh' := by rw [hsh, List.eraseIdx_insertIdx_self]
    simp only [shape, he] at hl
    obtain ⟨hS, hI⟩ := slice_insertIdx ax sh' ss n colon hle (hl ▸ hle)
    rw [← hsh] at hS hI
    have l1 : (ss.insertIdx ax colon).length = (shape a).length := by
      rw [List.length_insertIdx, if_pos (hl ▸ hle), hl, hsh, List.length_insertIdx, if_pos hle]
    have hlen : ax < (sliceShape (shape a) ((ss.insertIdx ax colon).map Ix.slc)).length := by
      rw [sliceShape_slc_length, l1, Nat.min_self]; exact hax
    refine ⟨WF_squeeze.mpr ⟨WF_slice.mpr ⟨ha, (wfIx_slc _ _).mpr ⟨l1, fun t ht => ?_⟩⟩, hlen, ?_⟩, ?_, fun i hi0 => ?_⟩
    · rcases (List.mem_insertIdx (hl ▸ hle)).mp ht with rfl | ht
      · exact Int.one_ne_zero
      · exact hst t ht
    · simp only [chunks]
      rw [sliceChunks_slc_getD _ _ _ _ hax (by rw [length_of_map_sum m1]; exact hax) (by rw [l1]; exact hax),
        h1, hone, getD_insertIdx_self ss ax colon colon (hl ▸ hle)]
      decide
    · simp only [shape]
      rw [hS, he, List.eraseIdx_insertIdx_self]
    · have hil : ax ≤ i.length := by
        rw [hi0.length_eq]
        simp only [shape]
        rw [he, sliceShape_slc_length, hl, Nat.min_self]
        exact hle
      have hn : n = 1 := by rw [← h1, hsh, getD_insertIdx_self _ _ _ _ hle]
      simp only [denGet, shape]
      rw [he, hI i 0 hil, hn]
      rfl
  all_goals exact fun h => nomatch h

theorem slice_axis_window {ax n : Nat} {sh sh' : List Nat} {ss : List PySlice} {s' : PySlice} {lo len : Nat}
    (hs : sh' = sh.set ax n) (W : Window s' n lo len) :
    sliceShape sh' ((ss.set ax s').map Ix.slc) = (sliceShape sh (ss.map Ix.slc)).set ax len ∧
    ∀ i y, y < len →
      sliceIdx sh' ((ss.set ax s').map Ix.slc) (i.set ax y) = (sliceIdx sh (ss.map Ix.slc) i).set ax (lo + y) := by
  refine ⟨by rw [sliceShape_set_axis hs ss s', W.length], fun i y hy => ?_⟩
  rw [hs, sliceIdx_slc, sliceIdx_slc, zipWith_set_set, zipWith_set_set]
  exact congrArg _ (W.getD_toNat y hy)

theorem sliceThroughReduce_sound : Sound sliceThroughReduce := by
  intro env e e' hw
  fun_cases sliceThroughReduce e
  case case1 r a ax k idx ss hss hcond =>
    intro h
    cases h
    have hidx := allSlc?_some idx ss hss
    subst hidx
    obtain ⟨hcol, hpos⟩ := hcond
    simp only [WF, wf, Bool.and_eq_true, decide_eq_true_eq, Bool.or_eq_true] at hw
    obtain ⟨⟨⟨⟨ha, hax⟩, hk⟩, _⟩, hi⟩ := hw
    have hi' : wfIx ((shape a).set ax 1) (ss.map Ix.slc) = true := hi
    obtain ⟨hl, hst⟩ := (wfIx_slc _ _).mp hi'
    rw [List.length_set] at hl
    -- The rule reads `ss[ax]` with a default that is NOT the full slice, so that `hcol` also says `ax` is in
    -- range.  The reduced axis carries the full slice, on the input (length `n`) and the output (length 1).
    have hss' : ss.set ax colon = ss := by
      have := set_getD_same ⟨some 0, some 0, none⟩ ss ax
      rwa [hcol] at this
    obtain ⟨hshape, _⟩ := slice_axis_window (s' := colon) (ss := ss) (sh := shape a) (ax := ax) rfl
      (Window.full 1)
    have hSl : (sliceShape (shape a) (ss.map Ix.slc)).length = (shape a).length := by
      rw [sliceShape_slc_length, hl, Nat.min_self]
    obtain ⟨hn, hread⟩ := slice_axis_window (s' := colon) (ss := ss) (sh := (shape a).set ax 1)
      (sh' := shape a) (ax := ax) (by rw [List.set_set, set_getD_same])
      (Window.full ((shape a).getD ax 0))
    rw [hss'] at hshape hn hread
    refine ⟨?_, ?_, ?_⟩
    · simp only [WF, wf, Bool.and_eq_true, decide_eq_true_eq, Bool.or_eq_true]
      refine ⟨⟨⟨⟨ha, (wfIx_slc _ _).mpr ⟨hl, hst⟩⟩, ?_⟩, hk⟩, hpos⟩
      simp only [shape]; rw [hSl]; exact hax
    · simp only [shape]; exact hshape.symm
    · intro i _
      simp only [denGet, shape]
      rw [hn, hshape, List.set_set, getD_set_eq _ _ _ _ (by rw [hSl]; exact hax)]
      congr 1
      apply List.map_congr_left
      intro t ht
      rw [hread i t (List.mem_range.mp ht), Nat.zero_add]
  all_goals exact fun h => nomatch h

end Dask.ND
