/-
Soundness of the `Transpose._simplify_down` rules on `Expr`, the transpose layer (block-key map + per-block
transposition) and the elemwise split.  Core Lean only.
-/
import DaskArrayModel.Lemmas.Perm
import DaskArrayModel.Lemmas.RulesBase
namespace Dask.Perm
open Dask.Py Dask.Slicing Dask.ND

theorem transposeTranspose_sound : Sound transposeTranspose := by
  intro env e e' hw
  fun_cases transposeTranspose e
  case case1 a p q =>
    intro h
    cases h
    obtain ⟨hwp, hq⟩ := WF_transpose.mp hw
    obtain ⟨ha, hp⟩ := WF_transpose.mp hwp
    have hp' := isPerm_ok hp
    have hq' : PermOK q (shape a).length := by simpa only [shape, List.length_map, hp'.len] using isPerm_ok hq
    exact .of_equiv (WF_transpose.mpr ⟨ha, isPerm_of_ok (composeAsCode_ok hp' hq')⟩)
      (transposeArr_transposeArr hp' hq' (den env a)).symm
  case case2 => exact fun h => nomatch h

theorem transposeIdentity_sound : Sound transposeIdentity := by
  intro env e e' hw
  fun_cases transposeIdentity e
  case case1 => intro h; cases h; exact .of_equiv (WF_transpose.mp hw).1 (transposeArr_identity (den env e')).symm
  all_goals exact fun h => nomatch h

theorem transposeThroughMap_sound : Sound transposeThroughMap := by
  intro env e e' hw h
  unfold transposeThroughMap at h
  split at h
  · rename_i f a p
    obtain ⟨_, _, rfl⟩ := Option.map_eq_some_iff.mp h
    obtain ⟨ha, hp⟩ := WF_transpose.mp hw
    exact ⟨WF_transpose.mpr ⟨ha, hp⟩, rfl, fun _ _ => rfl⟩
  · simp at h

theorem transposeThroughZip_sound : Sound transposeThroughZip := by
  intro env e e' hw h
  unfold transposeThroughZip at h
  split at h
  · rename_i f a b p
    obtain ⟨_, _, rfl⟩ := Option.map_eq_some_iff.mp h
    obtain ⟨hz, hp⟩ := WF_transpose.mp hw
    obtain ⟨ha, hb, hs, hc⟩ := WF_zip.mp hz
    have hp : isPerm p (shape a).length = true := hp
    refine ⟨WF_zip.mpr ⟨WF_transpose.mpr ⟨ha, hp⟩, WF_transpose.mpr ⟨hb, hs ▸ hp⟩, ?_, ?_⟩, rfl, fun _ _ => rfl⟩
    · simp only [shape]; rw [hs]
    · simp only [chunks]; rw [hc]
  · simp at h

/-- on a well-formed `transpose (zip …)` the rule does not decline: the operands of a `zip` have the rank of the
result, which is all `elemwiseSplit` asks -/
theorem transposeThroughZip_fires (f : Nat) (a b : Expr) (p : List Nat) (hw : WF (.transpose (.zip f a b) p)) :
    transposeThroughZip (.transpose (.zip f a b) p) = some (.zip f (.transpose a p) (.transpose b p)) := by
  obtain ⟨hz, hp⟩ := WF_transpose.mp hw
  obtain ⟨_, _, hs, _⟩ := WF_zip.mp hz
  have hp' : PermOK p (shape a).length := isPerm_ok hp
  simp only [transposeThroughZip]
  rw [← hs, ← hp'.len]
  simp [elemwiseSplit, argsSameRank, rankDiffers]

theorem argsSameRank_iff (n : Nat) (args : List Opnd) :
    argsSameRank n args = true ↔ ∀ k, Opnd.arr k ∈ args → k = n := by
  induction args with
  | nil => exact ⟨fun _ _ h => (nomatch h), fun _ => rfl⟩
  | cons a r ih =>
    cases a with
    | scalar =>
      show argsSameRank n r = true ↔ _
      rw [ih]
      exact ⟨fun h k hk => (List.mem_cons.mp hk).elim (fun e => (nomatch e)) (h k),
        fun h k hk => h k (List.mem_cons_of_mem _ hk)⟩
    | arr m =>
      show (if m ≠ n then false else argsSameRank n r) = true ↔ _
      by_cases h : m = n
      · rw [if_neg (fun hne => hne h), ih]
        exact ⟨fun hr k hk => (List.mem_cons.mp hk).elim (fun e => Opnd.arr.inj e ▸ h) (hr k),
          fun hr k hk => hr k (List.mem_cons_of_mem _ hk)⟩
      · rw [if_pos h]
        exact ⟨fun hf => (nomatch hf), fun hr => absurd (hr m List.mem_cons_self) h⟩

theorem rankDiffers_eq_false_iff (n : Nat) (o : Option Nat) :
    rankDiffers n o = false ↔ ∀ k, o = some k → k = n := by
  cases o with
  | none => exact ⟨fun _ _ h => (nomatch h), fun _ => rfl⟩
  | some m =>
    simp only [rankDiffers, decide_eq_false_iff_not, Decidable.not_not, Option.some.injEq]
    exact ⟨fun h k hk => hk ▸ h, fun h => h m rfl⟩

def srcEnv (a : Arr Int) : Env := { src := fun _ => a, un := fun _ x => x, bin := fun _ x _ => x }

theorem srcEnv_ok (a : Arr Int) : EnvOK (srcEnv a) := fun _ _ _ h => ⟨h, rfl⟩

theorem transposeBlock_correct {p : List Nat} {n : Nat} (hp : PermOK p n) (a : Arr Int) (cl : Layout)
    (hl : wfLayout a.shape cl = true) (hn : a.shape.length = n) (blocks : List Nat → Arr Int)
    (hB : ∀ b, validBid cl b → Arr.Equiv (blocks b) (restrict a (extent cl b)))
    (bid : List Nat) (hb : validBid (transposeChunks p cl) bid) :
    Arr.Equiv (transposeBlock p blocks bid) (restrict (transposeArr a p) (extent (transposeChunks p cl) bid)) := by
  have hcl : cl.length = n := by
    rw [← hn, ← (wfLayout_iff.mp hl).1]; simp
  have hbl : bid.length = n := by
    rw [hb.length_eq]; simp [transposeChunks, permute, hp.len]
  unfold transposeBlock
  rw [inputBlockId_eq hp bid hbl]
  exact transpose_ok hB hp hcl bid hb

end Dask.Perm
