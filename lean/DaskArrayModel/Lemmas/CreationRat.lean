/-
The midpoint `stop` of `Arange._accept_slice` over the rationals (core `Rat`): the reason the code gives for the
construction, `ceil((new_stop - new_start) / new_step) = count` for either sign of `new_step`, `count ≥ 0`.
-/
namespace Dask.Lemmas.CreationRat

theorem ratio_eq (S s : Int) (hs : s ≠ 0) (c : Nat) :
    (((S : Rat) + ((c : Rat) - 1/2) * (s : Rat)) - (S : Rat)) / (s : Rat) = (c : Rat) - 1/2 := by
  have h : (s : Rat) ≠ 0 := by
    intro h; apply hs; exact_mod_cast h
  rw [Rat.add_comm, Rat.add_sub_cancel, Rat.mul_div_cancel h]

theorem ceil_half (c : Nat) : Rat.ceil ((c : Rat) - 1/2) = (c : Int) := by
  have e : (c : Rat) - 1/2 = -(1/2 : Rat) + ((c : Int) : Rat) := by
    rw [Rat.sub_eq_add_neg, Rat.add_comm]
    norm_cast
  have h0 : Rat.ceil (-(1/2 : Rat)) = 0 := by decide +kernel
  rw [e, Rat.ceil_add_intCast, h0, Int.zero_add]

/-- `num_rows` of the folded arange, `int(max(ceil((stop - start) / step), 0))`, with `stop` at the rational midpoint -/
theorem midpoint_rat (S s : Int) (hs : s ≠ 0) (c : Nat) :
    max (Rat.ceil ((((S : Rat) + ((c : Rat) - 1/2) * (s : Rat)) - (S : Rat)) / (s : Rat))) 0 = (c : Int) := by
  rw [ratio_eq S s hs c, ceil_half c]; omega

end Dask.Lemmas.CreationRat
