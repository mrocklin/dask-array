/-
Proofs for the creation-array rewrites (Model/Creation.lean): `Arange.num_rows`, `_layer`, `_accept_slice` with its
midpoint `stop`, and `BroadcastTrick._accept_slice` / `_accept_shuffle`.  An arange is an affine image of `range(n)`:
the length of a range is unchanged by an affine map of start and stop with the step scaled, for a factor of either
sign (`rangeLen_affine`), and a slice of an affine sequence is an affine sequence (`fold_vals`).
-/
import DaskArrayModel.Model.Creation
import DaskArrayModel.Lemmas.Progression
import DaskArrayModel.Lemmas.SliceAlgebra
import DaskArrayModel.Lemmas.ExprMeta
namespace Dask.Lemmas.Creation
open Dask.Py Dask.Py.PySlice Dask.Slicing Dask.ND Dask.Creation
open Dask.Lemmas.SliceAlgebra

theorem rangeLen_affine (m t a b c : Int) (hm : m ≠ 0) (hc : c ≠ 0) :
    rangeLen (m * a + t) (m * b + t) (m * c) = rangeLen a b c := by
  have pos : ∀ m a b c : Int, m ≠ 0 → 0 < c → rangeLen (m * a + t) (m * b + t) (m * c) = rangeLen a b c := by
    intro m a b c hm hc
    apply nat_eq_of_lt_iff
    intro i
    have e : m * a + t + (i : Int) * (m * c) = m * (a + (i : Int) * c) + t := by
      rw [Int.mul_add, Int.mul_left_comm, Int.add_right_comm]
    rw [lt_rangeLen_pos a b c hc i]
    rcases Int.lt_trichotomy m 0 with hm' | hm' | hm'
    · rw [lt_rangeLen_neg _ _ _ (Int.mul_neg_of_neg_of_pos hm' hc) i, e]
      exact (Int.add_lt_add_iff_right t).trans (Int.mul_lt_mul_left_of_neg hm')
    · exact absurd hm' hm
    · rw [lt_rangeLen_pos _ _ _ (Int.mul_pos hm' hc) i, e]
      exact (Int.add_lt_add_iff_right t).trans (Int.mul_lt_mul_left hm')
  rcases Int.lt_trichotomy c 0 with hc' | hc' | hc'
  · rw [rangeLen_neg_eq a b c hc', ← pos (-m) (-a) (-b) (-c) (Int.neg_ne_zero.mpr hm) (Int.neg_pos_of_neg hc'),
      Int.neg_mul_neg, Int.neg_mul_neg, Int.neg_mul_neg]
  · exact absurd hc' hc
  · exact pos m a b c hm hc'

theorem rangeLen_exact (x c : Int) (hc : c ≠ 0) (n : Nat) : rangeLen x (x + (n : Int) * c) c = n := by
  have h := rangeLen_affine c x 0 n 1 hc Int.one_ne_zero
  rw [Int.mul_zero, Int.zero_add, Int.mul_one, Int.add_comm, Int.mul_comm] at h
  rw [h]
  apply nat_eq_of_lt_iff
  intro i
  rw [lt_rangeLen_pos 0 _ 1 Int.one_pos i]
  omega

theorem arangeLen_pos (a b s : Int) (hc : 0 < s) : arangeLen a b s = rangeLen a b s := by
  unfold arangeLen
  rw [← Dask.Lemmas.Progression.ceilDiv_toNat a b s hc]
  omega

/-- `num_rows` is `len(range(start, stop, step))`; a negative step is the positive one with all three negated -/
theorem arangeLen_eq_rangeLen (a b s : Int) (hs : s ≠ 0) : arangeLen a b s = rangeLen a b s := by
  rcases Int.lt_trichotomy s 0 with hc | hc | hc
  · rw [rangeLen_neg_eq a b s hc, ← arangeLen_pos _ _ _ (Int.neg_pos_of_neg hc)]
    unfold arangeLen
    rw [ceilDiv_neg_neg _ s hc, Int.neg_sub, Int.sub_neg, Int.add_comm, ← Int.sub_eq_add_neg]
  · exact absurd hc hs
  · exact arangeLen_pos a b s hc

theorem arangeLen_exact (x c : Int) (hc : c ≠ 0) (n : Nat) : arangeLen x (x + (n : Int) * c) c = n := by
  rw [arangeLen_eq_rangeLen _ _ _ hc, rangeLen_exact x c hc n]

theorem chunkArange_exact (x c : Int) (hc : c ≠ 0) (n : Nat) :
    chunkArange x (x + (n : Int) * c) c n = arangeVals x c n := by
  unfold chunkArange
  have hl : (rangeList x (x + (n : Int) * c) c).length = n := by
    rw [length_rangeList, rangeLen_exact x c hc n]
  simp only [hl, Nat.lt_irrefl, gt_iff_lt, if_false]
  unfold rangeList arangeVals
  rw [rangeLen_exact x c hc n]

theorem arangeVals_add (x c : Int) (m n : Nat) :
    arangeVals x c (m + n) = arangeVals x c m ++ arangeVals (x + (m : Int) * c) c n := by
  unfold arangeVals
  rw [List.range_add, List.map_append, List.map_map]
  congr 1
  apply List.map_congr_left
  intro p _
  simp only [Function.comp]
  rw [Int.natCast_add, Int.add_mul, Int.add_assoc]

theorem arangeBlocksFrom_cons (start step : Int) (hs : step ≠ 0) (e : Int) (bs : Nat) (rest : List Nat) :
    arangeBlocksFrom start step e (bs :: rest)
      = arangeVals (start + e * step) step bs :: arangeBlocksFrom start step (e + (bs : Int)) rest := by
  show chunkArange _ (start + (e + (bs : Int)) * step) step bs :: _ = _
  rw [Int.add_mul, ← Int.add_assoc, chunkArange_exact _ _ hs]

theorem arangeVals_length (a s : Int) (n : Nat) : (arangeVals a s n).length = n := by simp [arangeVals]

theorem arangeBlocksFrom_spec (start step : Int) (hs : step ≠ 0) : ∀ (cs : List Nat) (e : Int),
    (arangeBlocksFrom start step e cs).flatten = arangeVals (start + e * step) step cs.sum ∧
    (arangeBlocksFrom start step e cs).map List.length = cs
  | [], _ => ⟨rfl, rfl⟩
  | bs :: rest, e => by
    obtain ⟨hf, hl⟩ := arangeBlocksFrom_spec start step hs rest (e + (bs : Int))
    rw [arangeBlocksFrom_cons start step hs, List.flatten_cons, hf, List.map_cons, hl, arangeVals_length,
      List.sum_cons, arangeVals_add, Int.add_mul, Int.add_assoc]
    exact ⟨rfl, rfl⟩

theorem arangeBlocks_spec (start step : Int) (hs : step ≠ 0) (cs : List Nat) :
    (arangeBlocks start step cs).flatten = arangeVals start step cs.sum ∧
    (arangeBlocks start step cs).map List.length = cs := by
  have h := arangeBlocksFrom_spec start step hs cs 0
  rwa [Int.zero_mul, Int.add_zero] at h

theorem arangeVals_getD (a s : Int) (n : Nat) (p : Int) (h0 : 0 ≤ p) (h1 : p < n) :
    (arangeVals a s n).getD p.toNat 0 = a + p * s := by
  have hp : p.toNat < n := by omega
  unfold arangeVals
  rw [List.getD_eq_getElem?_getD, List.getElem?_map, List.getElem?_range hp]
  simp only [Option.map_some, Option.getD_some]
  rw [Int.toNat_of_nonneg h0]

theorem arangeVals_map (i k : Int) (n : Nat) (a s : Int) :
    (arangeVals i k n).map (fun p => a + p * s) = arangeVals (a + i * s) (s * k) n := by
  unfold arangeVals
  rw [List.map_map]
  apply List.map_congr_left
  intro j _
  show a + (i + (j : Int) * k) * s = a + i * s + (j : Int) * (s * k)
  rw [Int.add_mul, Int.mul_assoc, Int.mul_comm k s, Int.add_assoc]

/-- the affine fold shared by `Arange._accept_slice` and `Linspace._accept_slice` -/
theorem fold_vals (start step : Int) (n : Nat) (s : PySlice) :
    arangeVals (start + s.istart n * step) (step * s.stp) (rangeLen (s.istart n) (s.istop n) s.stp)
      = sliceList (arangeVals start step n) s := by
  unfold sliceList
  rw [← arangeVals_map, arangeVals_length]
  apply List.map_congr_left
  intro p hp
  have hb := sel_bounds s (n : Int) (Int.natCast_nonneg _) p hp
  exact (arangeVals_getD start step n p hb.1 hb.2).symm

theorem fold_count (n : Nat) (s : PySlice) :
    rangeLen (s.istart n) (s.istop n) s.stp = (sel s n).length := by
  unfold sel
  rw [length_rangeList]

theorem acceptSlice_sound (a : Arange) (s : PySlice) :
    ∃ f, acceptSlice a (.slc s) = some f ∧
      arangeVals f.start f.step f.count = sliceList (arangeVals a.start a.step a.numRows) s ∧
      f.count = (sel s a.numRows).length ∧
      f.step = a.step * s.stp ∧
      f.stop2 = (if a.integral then 2 * (f.start + (f.count : Int) * f.step)
                 else 2 * f.start + (2 * (f.count : Int) - 1) * f.step) := by
  unfold acceptSlice
  cases a.integral <;>
    exact ⟨_, rfl, fold_vals a.start a.step a.numRows s, fold_count a.numRows s, rfl, rfl⟩

theorem acceptSlice_float (a : Arange) (s : PySlice) (ha : a.step ≠ 0) (hk : s.stp ≠ 0) (hflt : a.integral = false) :
    ∃ f, acceptSlice a (.slc s) = some f ∧ f.step ≠ 0 ∧
      f.stop2 = 2 * f.start + (2 * (f.count : Int) - 1) * f.step := by
  obtain ⟨f, h1, _, _, h4, h5⟩ := acceptSlice_sound a s
  rw [hflt, if_neg Bool.false_ne_true] at h5
  exact ⟨f, h1, h4 ▸ Int.mul_ne_zero ha hk, h5⟩

/-- the chunks the slice node advertises (`new_blockdim`) sum to the folded count -/
theorem pinned_sum (n : Nat) (cs : List Nat) (hne : cs ≠ []) (hn : n = cs.sum) (s : PySlice) (hk : s.stp ≠ 0) :
    (sliceChunks1 n cs s).sum = rangeLen (s.istart n) (s.istop n) s.stp := by
  rw [fold_count]
  exact (sliceChunks1_facts cs hne s hk n hn).1

/-- with `stop` at the midpoint, `num_rows` of the folded arange (start, stop, step doubled to stay integral: the
length is homogeneous) is exactly `count`, for either sign of the step and for `count = 0` (ratio `-1/2`, ceiling 0):
it is `range(0, 2 * count - 1, 2)` under `i ↦ s * i + 2 * S`. -/
theorem midLen (S s : Int) (hs : s ≠ 0) (c : Nat) :
    arangeLen (2 * S) (2 * S + (2 * (c : Int) - 1) * s) (2 * s) = c := by
  have h := rangeLen_affine s (2 * S) 0 (2 * (c : Int) - 1) 2 hs (by decide)
  rw [Int.mul_zero, Int.zero_add, Int.add_comm, Int.mul_comm s, Int.mul_comm s] at h
  rw [arangeLen_eq_rangeLen _ _ _ (Int.mul_ne_zero (by decide) hs), h]
  apply nat_eq_of_lt_iff
  intro i
  rw [lt_rangeLen_pos 0 _ 2 (by decide) i]
  omega

theorem constSlice_den (c : Const) (idx : List Ix) : sliceArr c.den idx = (constSlice c idx).den := rfl

theorem constTake_den (c : Const) (ax : Nat) (ind : List Int) (oc : List Nat) :
    takeArr c.den ax ind = (constTake c ax ind oc).den := rfl

end Dask.Lemmas.Creation
