/-
The refinement theorem: for every well-formed expression and every valid block index, the
value the task computes (`blockDen`) is the block of the NumPy meaning (`den`) on the extent
advertised by `.chunks`.  Structural induction (`blockDen_agree`), stated with the meaning taken over source
arrays that agree with the task's sources inside their declared shapes (`SrcAgree`), so that it also gives
`den_congr` and the `node` case of `Expr2`.  `src`, `map`, `zip` and `mapBlocks` are done in place; every other
constructor enters through one of `gather_ok`, `alongAxis_grid`, `transpose_ok`, `concat_ok`, each stated for any block
grid (`IsGrid cl a child`) and concluding that the node's blocks are the grid of its meaning.  `BlockOK env e` is
`IsGrid (chunks e) (den env e) (blockDen env e)` written out.
-/
import DaskArrayModel.Lemmas.ExprReduce
import DaskArrayModel.Lemmas.PermAct
import DaskArrayModel.Model.Expr2
namespace Dask.ND
open Dask.Py Dask.Py.PySlice Dask.Slicing

def BlockOK (env : Env) (e : Expr) : Prop :=
  ∀ bid, validBid (chunks e) bid →
    Arr.Equiv (blockDen env e bid) (restrict (den env e) (extent (chunks e) bid))

theorem validBid_unperm {perm : List Nat} {n : Nat} (hp : PermOK perm n) (cl : Layout)
    (hcl : cl.length = n) (bid : List Nat)
    (hb : validBid (perm.map (fun a => cl.getD a [])) bid) : validBid cl (unperm perm bid) := by
  unfold validBid numblocks at hb ⊢
  rw [← gather_map List.length (d' := 0) rfl perm cl] at hb
  exact InB.unperm (by rw [List.length_map, hcl]; exact hp) hb

theorem transpose_ok {a : Arr Int} {cl : Layout} {child : List Nat → Arr Int} (ih : IsGrid cl a child)
    {perm : List Nat} {n : Nat} (hp : PermOK perm n) (hcl : cl.length = n) :
    IsGrid (perm.map (fun x => cl.getD x []))
      ⟨perm.map (fun x => a.shape.getD x 0), fun i => a.get (unperm perm i)⟩
      (fun bid => ⟨perm.map (fun x => (child (unperm perm bid)).shape.getD x 0),
        fun i => (child (unperm perm bid)).get (unperm perm i)⟩) := by
  intro bid hb'
  have hbl : bid.length = n := by rw [hb'.length_eq, List.length_map, hp.len]
  have hul : (unperm perm bid).length = n := by rw [unperm_length, hp.len]
  have hpl : (perm.map (fun x => cl.getD x [])).length = n := by rw [List.length_map, hp.len]
  have hE := ih _ (validBid_unperm hp cl hcl bid hb')
  -- block shape and origin are computed axis by axis, so they follow the permutation
  have hshape : perm.map (fun x => (blockShape cl (unperm perm bid)).getD x 0)
      = blockShape (perm.map (fun x => cl.getD x [])) bid := by
    unfold blockShape
    rw [perm_zipWith hp _ hcl hul [] 0 0, unperm_eq, perm_unpermL hp hbl]
  refine ⟨(congrArg (fun s : List Nat => perm.map (fun x => s.getD x 0)) hE.1).trans hshape, fun i hi => ?_⟩
  simp only at hi
  rw [hE.1] at hi
  have hin : InB (unperm perm i) (blockShape cl (unperm perm bid)) :=
    InB.unperm (by rw [blockShape_length (hul.trans hcl.symm), hcl]; exact hp) hi
  have hil : i.length = n := by rw [hi.length_eq, List.length_map, hp.len]
  simp only [restrict, extent]
  rw [hE.2 _ (hE.1 ▸ hin)]
  simp only [restrict, extent]
  congr 1
  unfold vadd origin
  rw [unperm_eq, unperm_eq, unperm_eq, unpermL_zipWith hp _ (by rw [List.length_zipWith, hpl, hbl, Nat.min_self]) hil 0 0 0,
    unpermL_zipWith hp _ hpl hbl [] 0 0, unpermL_perm hp hcl]

theorem sum_take_append_left (l m : List Nat) (k : Nat) (h : k ≤ l.length) :
    ((l ++ m).take k).sum = (l.take k).sum := by
  rw [List.take_append]
  have : k - l.length = 0 := Nat.sub_eq_zero_of_le h
  simp [this]

theorem sum_take_append_right (l m : List Nat) (k : Nat) (h : l.length ≤ k) :
    ((l ++ m).take k).sum = l.sum + (m.take (k - l.length)).sum := by
  rw [List.take_append, List.sum_append, List.take_of_length_le h]

/-- an operand `a` of a concatenation `o` along `ax`, placed at offset `shift` (`hget`): output block `bid`, which is
the operand's `j`-th block along `ax` (same extent `hlen`, start moved by `shift` `hstart`), is block `bid.set ax j`
of the operand's grid -/
theorem shift_ok {a o : Arr Int} {cl : Layout} {child : List Nat → Arr Int} (ih : IsGrid cl a child)
    {ax : Nat} (hax : ax < cl.length) {oc bid : List Nat} {j shift : Nat}
    (hb : validBid (cl.set ax oc) bid) (hj : j < (cl.getD ax []).length)
    (hlen : oc.getD (bid.getD ax 0) 0 = (cl.getD ax []).getD j 0)
    (hstart : (oc.take (bid.getD ax 0)).sum = shift + ((cl.getD ax []).take j).sum)
    (hget : ∀ g, InB g (cl.map List.sum) → o.get (g.set ax (shift + g.getD ax 0)) = a.get g) :
    Arr.Equiv (child (bid.set ax j)) (restrict o (extent (cl.set ax oc) bid)) := by
  have hv : validBid cl (bid.set ax j) := hb.set hj
  have hE := ih _ hv
  have hbl : bid.length = cl.length := by rw [hb.length_eq, List.length_set]
  refine ⟨hE.1.trans ?_, fun i hi => ?_⟩
  · simp only [restrict, extent]
    rw [blockShape_set, blockShape_set_layout, hlen]
  · rw [hE.2 i hi]
    rw [hE.1] at hi
    simp only [restrict, extent] at hi ⊢
    have hil : i.length = cl.length := by
      rw [hi.length_eq, blockShape_length (by rw [List.length_set]; exact hbl)]
    have hvl : ax < (vadd (origin cl bid) i).length := by
      rw [vadd_length (by rw [origin_length hbl, hil]), origin_length hbl]; exact hax
    rw [← hget _ (InB_vadd_origin hv hi), origin_set, vadd_set_left, getD_set_eq _ _ _ _ hvl, List.set_set,
      origin_set_layout, vadd_set_left, hstart, Nat.add_assoc]

theorem concat_ok {a b : Arr Int} {cla clb : Layout} {ca cb : List Nat → Arr Int}
    (iha : IsGrid cla a ca) (ihb : IsGrid clb b cb)
    (ax : Nat) (a1 : cla.map List.sum = a.shape) (hax : ax < a.shape.length)
    (hchk : cla.set ax [] = clb.set ax []) (o : Arr Int)
    (hget : ∀ g, o.get g = if g.getD ax 0 < a.shape.getD ax 0 then a.get g
      else b.get (g.set ax (g.getD ax 0 - a.shape.getD ax 0))) :
    IsGrid (cla.set ax (cla.getD ax [] ++ clb.getD ax [])) o
      (fun bid => if bid.getD ax 0 < (cla.getD ax []).length then ca bid
        else cb (bid.set ax (bid.getD ax 0 - (cla.getD ax []).length))) := by
  intro bid hbid'
  dsimp only
  have haxa : ax < cla.length := by rw [length_of_map_sum a1]; exact hax
  by_cases hcase : bid.getD ax 0 < (cla.getD ax []).length
  · -- a block of `a`, nothing moved
    have := shift_ok iha haxa (shift := 0) hbid' hcase (getD_append_left _ _ _ _ hcase)
      (by rw [sum_take_append_left _ _ _ (Nat.le_of_lt hcase), Nat.zero_add])
      (fun g hg => by
        rw [Nat.zero_add, set_getD_same, hget, if_pos ((a1 ▸ hg).getD_lt ax hax)])
    rwa [set_getD_same, ← if_pos hcase (t := ca bid)] at this
  · -- a block of `b`, moved by the length of `a` on the axis
    have hcase' : (cla.getD ax []).length ≤ bid.getD ax 0 := Nat.le_of_not_lt hcase
    have hlab : cla.length = clb.length := by simpa using congrArg List.length hchk
    have hL : cla.set ax (cla.getD ax [] ++ clb.getD ax []) = clb.set ax (cla.getD ax [] ++ clb.getD ax []) := by
      have := congrArg (·.set ax (cla.getD ax [] ++ clb.getD ax [])) hchk
      simpa only [List.set_set] using this
    have hjlt := hbid'.getD_lt ax (by simpa using haxa)
    rw [getD_set_eq _ _ _ _ haxa, List.length_append] at hjlt
    rw [hL] at hbid' ⊢
    rw [if_neg hcase]
    refine shift_ok ihb (hlab ▸ haxa) (shift := (cla.getD ax []).sum) hbid' (Nat.sub_lt_left_of_lt_add hcase' hjlt)
      (getD_append_right _ _ _ _ hcase') (sum_take_append_right _ _ _ hcase') (fun g hg => ?_)
    have hgl : ax < g.length := by rw [hg.length_eq, List.length_map, ← hlab]; exact haxa
    rw [hget, getD_set_eq _ _ _ _ hgl, ← sum_getD_of_map_sum a1, if_neg (Nat.not_lt.mpr (Nat.le_add_right _ _)),
      List.set_set, Nat.add_sub_cancel_left, set_getD_same]

def SrcAgree (e1 e2 : Env) (e : Expr) : Prop :=
  ∀ p ∈ srcsOf e, ∀ i, InB i p.2.1 → (e1.src p.1).get i = (e2.src p.1).get i

theorem SrcAgree.refl (env : Env) (e : Expr) : SrcAgree env env e := fun _ _ _ _ => rfl

theorem SrcAgree.left {e1 e2 : Env} {a b : Expr} (h : ∀ p ∈ srcsOf a ++ srcsOf b, ∀ i, InB i p.2.1 →
    (e1.src p.1).get i = (e2.src p.1).get i) : SrcAgree e1 e2 a :=
  fun p hp => h p (List.mem_append_left _ hp)

theorem SrcAgree.right {e1 e2 : Env} {a b : Expr} (h : ∀ p ∈ srcsOf a ++ srcsOf b, ∀ i, InB i p.2.1 →
    (e1.src p.1).get i = (e2.src p.1).get i) : SrcAgree e1 e2 b :=
  fun p hp => h p (List.mem_append_right _ hp)

theorem broadcastTo_specs {e : Expr} {sh : List Nat} {l : Layout} (h : WF (.broadcastTo e sh l)) :
    Gathers (broadcastSpecs (chunks e) l) l (chunks e)
      (fun g => bcIdx (shape e) (g.drop (sh.length - (shape e).length))) ∧ l.map List.sum = sh := by
  obtain ⟨hwe, hwl, _, hbc⟩ := WF_broadcastTo.1 h
  obtain ⟨i1, _⟩ := meta_ok e hwe
  obtain ⟨o1, _⟩ := wfLayout_iff.mp hwl
  have hG := broadcast_gathers (chunks e) l
  rw [length_of_map_sum i1, length_of_map_sum o1, i1] at hG
  exact ⟨hG hbc, o1⟩

def Env.withSrc (env : Env) (src : Nat → Arr Int) : Env := { env with src := src }

theorem blockDen_agree (env : Env) (henv : EnvOK env) (src2 : Nat → Arr Int) (e : Expr) :
    WF e → SrcAgree env (env.withSrc src2) e → IsGrid (chunks e) (den (env.withSrc src2) e) (blockDen env e) := by
  induction e with
  | src id sh ch =>
    intro h hs bid hb
    refine ⟨rfl, fun i hi => ?_⟩
    exact hs (id, sh, ch) (List.mem_singleton.mpr rfl) _ ((wfLayout_iff.mp h).1 ▸ InB_vadd_origin hb hi)
  | map f e ih =>
    intro h hs bid hb
    have hE := ih h hs bid hb
    exact ⟨hE.1, fun i hi => congrArg (env.un f) (hE.2 i hi)⟩
  | zip f a b iha ihb =>
    intro h hs
    obtain ⟨ha, hb, _, hch⟩ := WF_zip.1 h
    have iha := iha ha (SrcAgree.left hs)
    have ihb := ihb hb (SrcAgree.right hs)
    intro bid hbid
    have hbid' : validBid (chunks a) bid := hbid
    have hEa := iha bid hbid'
    have hEb := ihb bid (hch ▸ hbid')
    refine ⟨hEa.1, ?_⟩
    intro i (hi : InB i (blockDen env a bid).shape)
    show env.bin f ((blockDen env a bid).get i) ((blockDen env b bid).get i) = _
    have hib : InB i (blockDen env b bid).shape := by
      rw [hEb.1]; rw [hEa.1] at hi
      simp only [restrict, extent] at hi ⊢
      rw [← hch]; exact hi
    rw [hEa.2 i hi, hEb.2 i hib]
    simp only [restrict, extent, den, denGet, chunks, hch]
    rfl
  | slice e idx ih =>
    intro h hs
    obtain ⟨he, hidx⟩ := WF_slice.1 h
    obtain ⟨i1, i2⟩ := meta_ok e he
    obtain ⟨hG, o1, _⟩ := slice_spec (shape e) (chunks e) idx i1 i2 hidx
    exact gather_ok hG (ih he hs) (den (env.withSrc src2) (.slice e idx)) o1
      (fun _ _ => rfl)
  | transpose e perm ih =>
    intro h hs
    obtain ⟨he, hperm⟩ := WF_transpose.1 h
    exact transpose_ok (ih he hs) (isPerm_ok hperm)
      (length_of_map_sum (meta_ok e he).1)
  | rechunk e l ih =>
    intro h hs
    obtain ⟨he, hl⟩ := WF_rechunk.1 h
    obtain ⟨i1, i2⟩ := meta_ok e he
    obtain ⟨o1, o2⟩ := wfLayout_iff.mp hl
    exact gather_ok (rechunk_gathers (chunks e) l i2 o2 (i1.trans o1.symm))
      (ih he hs) (den (env.withSrc src2) (.rechunk e l)) o1 (fun _ _ => rfl)
  | concat a b ax iha ihb =>
    intro h hs
    obtain ⟨ha, hb, hax, _, hchk⟩ := WF_concat.1 h
    exact concat_ok (iha ha (SrcAgree.left hs)) (ihb hb (SrcAgree.right hs)) ax (meta_ok a ha).1 hax hchk
      (den (env.withSrc src2) (.concat a b ax)) (fun _ => rfl)
  | expandDims e ax ih =>
    intro h hs
    obtain ⟨he, hax'⟩ := WF_expandDims.1 h
    have hax : ax ≤ (chunks e).length := by rw [length_of_map_sum (meta_ok e he).1]; exact hax'
    exact gather_ok (expand_gathers (chunks e) ax hax)
      (ih he hs) (den (env.withSrc src2) (.expandDims e ax)) (meta_ok _ h).1
      (fun _ _ => rfl)
  | squeeze e ax ih =>
    intro h hs
    obtain ⟨he, hax', hone⟩ := WF_squeeze.1 h
    have hax : ax < (chunks e).length := by rw [length_of_map_sum (meta_ok e he).1]; exact hax'
    exact gather_ok (squeeze_gathers (chunks e) ax hax hone)
      (ih he hs) (den (env.withSrc src2) (.squeeze e ax)) (meta_ok _ h).1
      (fun _ _ => rfl)
  | broadcastTo e sh l ih =>
    intro h hs
    obtain ⟨hG, o1⟩ := broadcastTo_specs h
    exact gather_ok hG (ih (WF_broadcastTo.1 h).1 hs)
      (den (env.withSrc src2) (.broadcastTo e sh l)) o1 (fun _ _ => rfl)
  | reduce r e ax k ih =>
    intro h hs
    obtain ⟨hwe, hax, hk, hpos⟩ := WF_reduce.1 h
    have ih := ih hwe hs
    obtain ⟨i1, i2⟩ := meta_ok e hwe
    have haxc : ax < (chunks e).length := by rw [length_of_map_sum i1]; exact hax
    have hne := i2.getD ax haxc
    have hnb : 0 < ((chunks e).getD ax []).length := List.length_pos_iff.mpr hne
    have hpos' : r = .sum ∨ ∀ c ∈ (chunks e).getD ax [], 0 < c :=
      hpos.imp id fun h0 => h0 _ (by rw [getD_eq_getElem _ _ _ haxc]; exact List.getElem_mem haxc)
    -- block kernel: the tree over the per-block partials; spec kernel: the flat reduction of the line
    refine alongAxis_grid ih haxc (oc := [1]) hnb
      (fun _ _ rd => (Dask.Reduce.treeReduce k (Dask.Reduce.depthOf ((chunks e).getD ax []).length k) r.list r.list
        ((List.range ((chunks e).getD ax []).length).map fun j =>
          r.list ((List.range (((chunks e).getD ax []).getD j 0)).map (rd j)))).headD r.d)
      (fun _ F => r.list ((List.range ((shape e).getD ax 0)).map F))
      (fun F rd _ _ _ _ hrd => by
        show _ = r.list _
        rw [← sum_getD_of_map_sum i1 ax]
        exact reduce_line r k hk _ hne hpos' F rd hrd)
      (fun bid => blockDen env (.reduce r e ax k) bid) (den (env.withSrc src2) (.reduce r e ax k)) ?_
      (fun _ _ => rfl) (fun _ => rfl)
    intro bid hbc hj
    have hb0 : bid.getD ax 0 = 0 := by simpa using hj
    have hv0 : validBid (chunks e) (bid.set ax 0) :=
      validBid.set (oc := (chunks e).getD ax []) (by rwa [set_getD_same]) hnb
    show (blockDen env e (bid.set ax 0)).shape.set ax 1 = _
    rw [(ih _ hv0).1, hb0]
    simp only [restrict, extent]
    rw [blockShape_set, List.set_set]
    rfl
  | cumsum e ax ih =>
    intro h hs
    obtain ⟨he, hax⟩ := WF_cumsum.1 h
    have ih := ih he hs
    have haxc : ax < (chunks e).length := by rw [length_of_map_sum (meta_ok e he).1]; exact hax
    intro bid hb
    -- block kernel: totals of the blocks before `j` plus the running sum inside block `j`
    have := alongAxis_grid ih haxc (Nat.le_refl _)
      (fun j x rd => Red.sum.list ((List.range j).map fun j' =>
          Red.sum.list ((List.range (((chunks e).getD ax []).getD j' 0)).map (rd j')))
        + Red.sum.list ((List.range (x + 1)).map (rd j)))
      (fun x F => Red.sum.list ((List.range (x + 1)).map F))
      (fun F rd j x hj hx hrd => cumsum_line _ F rd j x hj hx hrd)
      (fun bid => blockDen env (.cumsum e ax) bid) (den (env.withSrc src2) (.cumsum e ax))
      (fun bid hbc _ => by
        show (blockDen env e bid).shape = _
        rw [(ih bid hbc).1, ← blockShape_getD hbc.length_eq ax haxc, set_getD_same]
        rfl)
      (fun bid i => by simp only [set_getD_same]; rfl) (fun _ => rfl) bid
      (by rwa [set_getD_same])
    rwa [set_getD_same] at this
  | mapBlocks f e ih =>
    intro h hs bid hb
    have hb' : validBid (chunks e) bid := hb
    have hE := ih h hs bid hb'
    obtain ⟨hc, _⟩ := henv f _ _ hE
    refine Arr.Equiv.trans hc ?_
    have hshp := (henv f _ _ (Arr.Equiv.refl (restrict (den (env.withSrc src2) e) (extent (chunks e) bid)))).2
    refine ⟨hshp, ?_⟩
    intro i hi
    rw [hshp] at hi
    simp only [restrict, extent] at hi
    obtain ⟨r1, r2⟩ := locate_origin hb' hi
    simp only [restrict, extent, den, denGet, chunks]
    rw [r1, r2]
    rfl

theorem blockDen_correct (env : Env) (henv : EnvOK env) : ∀ (e : Expr), WF e → BlockOK env e :=
  fun e h => blockDen_agree env henv env.src e h (SrcAgree.refl env e)

theorem compute_eq_den (env : Env) (henv : EnvOK env) (e : Expr) (h : WF e) :
    Arr.Equiv (compute env e) (den env e) :=
  assemble_of_blocks (den env e) (chunks e) _ (meta_ok e h).1 (blockDen_correct env henv e h)

theorem block_shape (env : Env) (henv : EnvOK env) (e : Expr) (h : WF e) (bid : List Nat)
    (hb : validBid (chunks e) bid) : (blockDen env e bid).shape = blockShape (chunks e) bid :=
  (blockDen_correct env henv e h bid hb).1

/-- both meanings are assembled from the same computed blocks -/
theorem den_congr (e1 e2 : Env) (hun : e1.un = e2.un) (hbin : e1.bin = e2.bin) (hblk : e1.blk = e2.blk)
    (henv : EnvOK e1) (e : Expr) (hw : WF e) (hs : SrcAgree e1 e2 e) :
    Arr.Equiv (den e1 e) (den e2 e) := by
  obtain ⟨s2, u2, b2, k2⟩ := e2
  subst hun hbin hblk
  exact (compute_eq_den e1 henv e hw).symm.trans
    (assemble_of_blocks _ (chunks e) _ (meta_ok e hw).1 (blockDen_agree e1 henv s2 e hw hs))

end Dask.ND
