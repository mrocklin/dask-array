/-
One output chunk of `Shuffle._layer` (Model/Shuffle.lean) computes `x[taker]`.  The sorted positions fall into runs
of equal source block (`runStarts` of `blocksS`): the plan is written by the number of runs, the task of a run
reads its slice of the sorted positions inside its own block, the slices tile the sorted positions, and
`np.argsort(sorter)` undoes the sort.
-/
import DaskArrayModel.Lemmas.ShuffleBase
import DaskArrayModel.Lemmas.Layout
namespace Dask.Lemmas.Shuffle
open Dask.Py Dask.Slicing Dask.Indexing Dask.Shuffle

theorem inv_map_eq_range {s : List Nat} {n : Nat} (hs : s.Perm (List.range n)) {inv : List Nat}
    (hi : IsArgsort (s.map Int.ofNat) inv) : inv.map (fun i => s.getD i 0) = List.range n := by
  have hiperm : inv.Perm (List.range s.length) := by simpa using hi.1
  -- both sides are non-decreasing permutations of `range n`
  have h1 : (inv.map (fun i => s.getD i 0)).Perm (List.range n) := by
    refine (hiperm.map _).trans ?_
    rw [map_getD_range]
    exact hs
  have h2 : (inv.map (fun i => s.getD i 0)).Pairwise (· ≤ ·) := by
    have := hi.2
    simp only [getD_map_default Int.ofNat (d := 0) (d' := 0) rfl] at this
    rw [List.pairwise_map] at this ⊢
    exact this.imp Int.ofNat_le.mp
  have h3 : (List.range n).Pairwise (· ≤ ·) := List.pairwise_lt_range.imp Nat.le_of_lt
  exact List.Perm.eq_of_pairwise (le := (· ≤ ·)) (fun a b _ _ h h' => Nat.le_antisymm h h') h2 h3 h1

theorem mapM_map_some {α β γ} (h : α → β) (f : β → Option γ) (g : α → γ) (l : List α)
    (hh : ∀ a ∈ l, f (h a) = some (g a)) : (l.map h).mapM f = some (l.map g) :=
  List.mapM_map.trans (mapM_some (f ∘ h) g l hh)

theorem mapM_some_mem {α β} {f : α → Option β} (l : List α) (r : List β) (h : l.mapM f = some r) :
    ∀ a ∈ l, ∃ b, f a = some b := by
  induction l generalizing r with
  | nil => intro a ha; cases ha
  | cons a l ih =>
    rw [List.mapM_cons] at h
    cases hfa : f a with
    | none => rw [hfa] at h; cases h
    | some v =>
      cases hr : l.mapM f with
      | none => rw [hfa, hr] at h; cases h
      | some r' =>
        intro b hb
        rcases List.mem_cons.mp hb with rfl | hb
        · exact ⟨v, hfa⟩
        · exact ih r' hr b hb

theorem takeList_map {α β} (x : α → β) (a : List α) (d : α) (idx : List Nat) (h : ∀ i ∈ idx, i < a.length) :
    takeList (a.map x) idx = some (idx.map (fun i => x (a.getD i d))) := by
  apply mapM_some
  intro i hi
  rw [List.getElem?_map, List.getD_eq_getElem?_getD, List.getElem?_eq_getElem (h i hi)]
  rfl

/-- the offset the code writes for a position `p`, read from the block `np.searchsorted` names for it, is `x p`. -/
theorem readBlock_own {α} (cs : List Int) (x : Int → α) {p : Int} (h0 : 0 ≤ p)
    (h1 : p < isum cs) :
    readBlock cs x (bisectRight (cumsum cs) p)
      (wrapU (minScalarBits (maxChunk cs))
        (p - (if bisectRight (cumsum cs) p > 0 then (cumsum cs).getD (bisectRight (cumsum cs) p - 1) 0 else 0)))
      = some (x p) := by
  have ib := Layout.inBlock_bisect cs h0 h1
  have hmx : cs.getD _ 0 ≤ maxChunk cs := (foldl_max_ge cs 0).2 _ (getD_mem cs _ 0 ib.lt)
  rw [Layout.cumsum_pred cs (Nat.le_of_lt ib.lt), wrapU_id ib.off_nonneg (Int.le_trans (Int.le_of_lt ib.off_lt) hmx),
    readBlock, if_pos ⟨ib.lt, ib.off_nonneg, ib.off_lt⟩]
  exact congrArg (fun q => some (x q)) (Int.sub_eq_iff_eq_add'.mp rfl).symm

theorem evalPlan_single {α} (argsort : List Int → List Nat) (cs : List Int) (x : Int → α) (s : List Int)
    {c : Nat} {o : List Int} {v : List α} (h : o.mapM (readBlock cs x c) = some v) :
    evalPlan argsort cs x ⟨s, [(c, o)], false⟩ = some v := by
  simp only [evalPlan, List.mapM_cons, List.mapM_nil, h]
  exact congrArg some (List.append_nil v)

theorem evalPlan_merged {α} (argsort : List Int → List Nat) (cs : List Int) (x : Int → α) (s : List Int)
    {ps : List (Nat × List Int)} {vals : List (List α)}
    (h : ps.mapM (fun q => q.2.mapM (readBlock cs x q.1)) = some vals) :
    evalPlan argsort cs x ⟨s, ps, true⟩ = takeList vals.flatten (invOf argsort s) := by
  simp only [evalPlan, h, if_true]

theorem npUnique_of_sorted {B : List Int} (h : B.Pairwise (· ≤ ·)) :
    npUnique B = (runStarts B).map (fun j => (B.getD j 0, j)) := by
  unfold npUnique
  simp only [argsortStable_of_sorted h, map_getD_range]
  apply List.map_congr_left
  intro j hj
  have := runStarts_lt B j hj
  simp [List.getD_eq_getElem?_getD, this]

section chunk
variable (argsort : List Int → List Nat) (hA : ∀ l, IsArgsort l (argsort l))
variable (cs : List Int) (taker : List Int) (hne : taker ≠ [])
variable (hin : ∀ p ∈ taker, 0 ≤ p ∧ p < isum cs) (hlen : (taker.length : Int) ≤ maxChunk cs)

/-- `taker[sorter]`. -/
def sortedOf : List Int := (argsort taker).map (fun j => taker.getD j 0)
/-- the source block of every sorted position. -/
def blocksS : List Int := (sortedOf argsort taker).map (fun p => ((bisectRight (cumsum cs) p : Nat) : Int))

include hA in
theorem sortedOf_length : (sortedOf argsort taker).length = taker.length := by
  rw [sortedOf, List.length_map, IsArgsort.length (hA taker)]

include hA in
theorem sortedOf_mem : ∀ p ∈ sortedOf argsort taker, p ∈ taker := by
  intro p hp
  rcases List.mem_map.mp hp with ⟨j, hj, rfl⟩
  exact getD_mem _ _ _ (IsArgsort.lt (hA taker) j hj)

include hA in
theorem blocksS_sorted : (blocksS argsort cs taker).Pairwise (· ≤ ·) := by
  unfold blocksS
  rw [List.pairwise_map]
  exact (hA taker).2.imp (fun h => Int.ofNat_le.mpr (bisectRight_mono (cumsum cs) h))

/-- the source block of the run of sorted positions that starts at `a`. -/
def blockAt (a : Nat) : Nat := ((blocksS argsort cs taker).getD a 0).toNat

/-- the block-local offset the code writes for a position `p` of the run that starts at `a`. -/
def offAt (a : Nat) (p : Int) : Int :=
  wrapU (minScalarBits (maxChunk cs))
    (p - (if blockAt argsort cs taker a > 0 then (cumsum cs).getD (blockAt argsort cs taker a - 1) 0 else 0))

include hA hlen in
/-- the plan by the number of source blocks (runs of `blocksS`): none, one (the un-sorting folded into the
offsets), several (one task per run, merged). -/
theorem planChunk_form :
    planChunk argsort cs taker =
      match runStarts (blocksS argsort cs taker) with
      | [] => .error .notImplemented
      | [a] => .ok ⟨(argsort taker).map Int.ofNat,
          [(blockAt argsort cs taker a, (invOf argsort ((argsort taker).map Int.ofNat)).map (fun i =>
            ((pySlice (sortedOf argsort taker) a taker.length).map (offAt argsort cs taker a)).getD i 0))], false⟩
      | rs => .ok ⟨(argsort taker).map Int.ofNat, (pairsEnd rs taker.length).map (fun ab =>
          (blockAt argsort cs taker ab.1,
            (pySlice (sortedOf argsort taker) ab.1 ab.2).map (offAt argsort cs taker ab.1))), true⟩ := by
  -- the sorter indices fit the offset dtype
  have e1 : (argsort taker).map (fun (j : Nat) => wrapU (minScalarBits (maxChunk cs)) (j : Int))
      = (argsort taker).map Int.ofNat :=
    List.map_congr_left fun j hj => wrapU_id (Int.natCast_nonneg j)
      (Int.le_trans (Int.le_of_lt (Int.ofNat_lt.mpr (IsArgsort.lt (hA taker) j hj))) hlen)
  have e2 : ((argsort taker).map Int.ofNat).map (fun j => taker.getD j.toNat 0) = sortedOf argsort taker :=
    List.map_map
  have e3 : npUnique ((sortedOf argsort taker).map (fun p => ((bisectRight (cumsum cs) p : Nat) : Int))) = _ :=
    npUnique_of_sorted (blocksS_sorted argsort hA cs taker)
  simp only [planChunk, Int.max_self, e1, e2, e3, List.map_map, List.length_map, Function.comp_def, List.map_id',
    zip3_pairsEnd, pairsEnd_length]
  unfold offAt blockAt blocksS
  generalize runStarts _ = rs
  rcases rs with _ | ⟨a, _ | ⟨b, r⟩⟩
  · rfl
  · rfl
  · rfl

include hA hin in
theorem piece_read {α} (x : Int → α) :
    ∀ ab ∈ pairsEnd (runStarts (blocksS argsort cs taker)) taker.length,
      ∀ p ∈ pySlice (sortedOf argsort taker) ab.1 ab.2,
        readBlock cs x (blockAt argsort cs taker ab.1) (offAt argsort cs taker ab.1 p) = some (x p) := by
  intro ab hab p hp
  have hb := hin p (sortedOf_mem argsort hA taker p (List.mem_of_mem_drop (List.mem_of_mem_take hp)))
  have hc := runs_const (fun p => ((bisectRight (cumsum cs) p : Nat) : Int)) (sortedOf argsort taker)
  rw [sortedOf_length argsort hA taker] at hc
  rw [offAt, blockAt, blocksS, ← hc ab hab p hp, Int.toNat_natCast]
  exact readBlock_own cs x hb.1 hb.2

include hA in
/-- un-sorting: `taker[sorter][argsort(sorter)] = taker`. -/
theorem unsort :
    (invOf argsort ((argsort taker).map Int.ofNat)).map (fun i => (sortedOf argsort taker).getD i 0) = taker := by
  have hinv := hA ((argsort taker).map Int.ofNat)
  have h := congrArg (List.map (fun j => taker.getD j 0)) (inv_map_eq_range (hA taker).1 hinv)
  rw [List.map_map, map_getD_range] at h
  exact (List.map_congr_left fun i hi =>
    getD_map _ _ i 0 0 (Nat.lt_of_lt_of_eq (IsArgsort.lt hinv i hi) (List.length_map _))).trans h

include hA in
theorem pieces_tile :
    ((pairsEnd (runStarts (blocksS argsort cs taker)) taker.length).map
      (fun ab => pySlice (sortedOf argsort taker) ab.1 ab.2)).flatten = sortedOf argsort taker := by
  have h := runs_tile (fun p => ((bisectRight (cumsum cs) p : Nat) : Int)) (sortedOf argsort taker)
  rwa [sortedOf_length argsort hA taker] at h

include hA hne hin hlen in
theorem planChunk_correct {α} (x : Int → α) :
    ∃ p, planChunk argsort cs taker = .ok p ∧ evalPlan argsort cs x p = some (taker.map x) := by
  have hSl := sortedOf_length argsort hA taker
  have hread := piece_read argsort hA cs taker hin x
  have htile := pieces_tile argsort hA cs taker
  have hinvlt : ∀ i ∈ invOf argsort ((argsort taker).map Int.ofNat), i < (sortedOf argsort taker).length := by
    intro i hi
    have := IsArgsort.lt (hA ((argsort taker).map Int.ofNat)) i hi
    rwa [List.length_map, IsArgsort.length (hA taker), ← hSl] at this
  -- reading the sorted positions back through `argsort(sorter)` gives `x[taker]`
  have hunx : (invOf argsort ((argsort taker).map Int.ofNat)).map
      (fun i => x ((sortedOf argsort taker).getD i 0)) = taker.map x := by
    have := congrArg (List.map x) (unsort argsort hA taker)
    rwa [List.map_map] at this
  rw [planChunk_form argsort hA cs taker hlen]
  cases hrs : runStarts (blocksS argsort cs taker) with
  | nil =>
    rw [hrs] at htile
    exact absurd (List.length_eq_zero_iff.mp (hSl.symm.trans (congrArg List.length htile.symm))) hne
  | cons a r =>
    rw [hrs] at hread htile
    cases r with
    | nil =>
      -- one source block: the single task is the output chunk, un-sorted through its offsets
      have hfull : pySlice (sortedOf argsort taker) a taker.length = sortedOf argsort taker :=
        (List.append_nil _).symm.trans htile
      have hr0 := hread (a, taker.length) (List.mem_singleton_self _)
      rw [hfull] at hr0
      refine ⟨_, rfl, ?_⟩
      rw [hfull]
      apply (evalPlan_single argsort cs x _ _).trans (congrArg some hunx)
      apply mapM_map_some
      intro i hi
      rw [getD_map _ _ i 0 _ (hinvlt i hi)]
      exact hr0 _ (getD_mem _ _ _ (hinvlt i hi))
    | cons b r =>
      -- several source blocks: each task reads its slice, `concatenate_arrays` joins and un-sorts them
      have hfl := congrArg (List.map x) htile
      simp only [List.map_flatten, List.map_map, Function.comp_def] at hfl
      have hm := mapM_map_some (fun ab : Nat × Nat => (blockAt argsort cs taker ab.1,
          (pySlice (sortedOf argsort taker) ab.1 ab.2).map (offAt argsort cs taker ab.1)))
        (fun q => q.2.mapM (readBlock cs x q.1)) _ _ (fun ab hab => mapM_map_some _ _ _ _ (hread ab hab))
      refine ⟨_, rfl, ?_⟩
      rw [evalPlan_merged argsort cs x _ hm, hfl, takeList_map x _ 0 _ hinvlt, hunx]

end chunk
end Dask.Lemmas.Shuffle
