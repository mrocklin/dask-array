/-
Concrete nodes for the gates of the generic blockwise pushdowns: small nodes on which the REAL gate
declines and on which the rewrite with that one gate switched off produces something else or something
ill-formed; and the per-block `cumsum`, on which every gate passes and the rewrite changes the result
(the hypothesis `LabelLocal` is the one the code cannot check).  What the kernel decides about them is stated
in Props/C02Gate.lean.
-/
import DaskArrayModel.Lemmas.BlockwiseGateTake
import DaskArrayModel.Lemmas.BlockwiseGateClass
namespace Dask.BWG.Wit
open Dask.Py Dask.ND Dask.BWG

/-- no oracle needed (`align_arrays=False`) -/
def U0 : Nat → List Nat := fun _ => []

def arr1 (l : List Int) : Arr Int := ⟨[l.length], fun i => l.getD (i.getD 0 0) 0⟩

def arr2 (rows : List (List Int)) : Arr Int :=
  ⟨[rows.length, (rows.getD 0 []).length], fun i => (rows.getD (i.getD 0 0) []).getD (i.getD 1 0) 0⟩

def applyExtract (y : Arr Int) : Option (List Ix) → Arr Int
  | none => y
  | some ex => sliceArr y ex

def resList (G : Gates) (U U' : Nat → List Nat) (bw : BW) (idx : Index) : Option (List Nat × List Int) :=
  (pushG G U bw idx).map (fun p => ((denPushed U' p).shape, (denPushed U' p).toList))

/-- the chunk-free meaning of the rewritten node: its function on the whole new operands (for a
`LabelLocal` function this is what it computes under EVERY admissible layout, `C02g_blocks_assemble`) -/
def meaningList (G : Gates) (U : Nat → List Nat) (bw : BW) (idx : Index) : Option (List Nat × List Int) :=
  (pushG G U bw idx).map (fun p =>
    let y := applyExtract (p.bw.f p.bw.wholes) p.extract
    (y.shape, y.toList))

def wantList (U : Nat → List Nat) (bw : BW) (idx : Index) : List Nat × List Int :=
  let y := applyIndex bw.outInd.length (den U bw) idx
  (y.shape, y.toList)

def idx12 : Index := .basic [some (.slc ⟨some 1, some 2, none⟩)]
def idx13 : Index := .basic [some (.slc ⟨some 1, some 3, none⟩)]
def idx1_ : Index := .basic [some (.slc ⟨some 1, none, none⟩)]
def take10 : Index := .take 0 [[1], [0]]

/-! ### broadcast operand (`Gates.broadcast`): `a + b`, `b` of length 1 -/

def addG : List Int → Int := fun v => v.getD 0 0 + v.getD 1 0

def bwB : BW :=
  { f := pwFn [0] [[0], [0]] addG
    outInd := [0]
    ops := [{ arr := arr1 [1, 2], chunks := [[1, 1]], ind := some [0] },
            { arr := arr1 [10], chunks := [[1]], ind := some [0] }] }

def UB : Nat → List Nat := fun _ => [1, 1]

theorem bwB_labelLocal : LabelLocal bwB.sig bwB.f :=
  pwFn_labelLocal [0] [[0], [0]] addG (by decide)

/-! ### unaligned chunks paired by position (`Gates.unaligned`): `map_blocks(lambda p, q: p + q.sum(), a, b)` -/

def addSumQ (bs : List (Arr Int)) : Arr Int :=
  let p := bs.getD 0 dA
  let q := bs.getD 1 dA
  ⟨p.shape, fun i => p.get i + isum ((List.range (q.shape.getD 0 0)).map (fun t => q.get [t]))⟩

def bwU : BW :=
  { f := addSumQ
    outInd := [0]
    align := false
    ops := [{ arr := arr1 [0, 1, 2], chunks := [[1, 2]], ind := some [0] },
            { arr := arr1 [0, 10, 20], chunks := [[2, 1]], ind := some [0] }] }

/-! ### a non-array operand (`Gates.nonArray`): `store(..., return_stored=True)` -/

/-- `load_chunk(target, slices)`: the stored target holds `100 + position` -/
def loadStored (bs : List (Arr Int)) : Arr Int :=
  let sl := bs.getD 1 dA
  ⟨[(sl.get [0, 1] - sl.get [0, 0]).toNat], fun i => 100 + sl.get [0, 0] + (i.getD 0 0 : Nat)⟩

def bwN : BW :=
  { f := loadStored
    outInd := [0]
    align := false
    ops := [{ arr := arr1 [0, 1, 2, 3], chunks := [[2, 2]], ind := some [0] },
            { arr := arr1 [0, 0, 0, 0], chunks := [[2, 2]], ind := some [0], isArr := false }] }

/-! ### a label on two axes of one operand (`Gates.repeated`): `blockwise(diagonal, 'i', a, 'ii')` -/

def diagFn (bs : List (Arr Int)) : Arr Int :=
  let b := bs.getD 0 dA
  ⟨[b.shape.getD 0 0], fun i => b.get [i.getD 0 0, i.getD 0 0]⟩

def bwD : BW :=
  { f := diagFn
    outInd := [0]
    align := false
    ops := [{ arr := arr2 [[0, 1], [2, 3]], chunks := [[1, 1], [1, 1]], ind := some [0, 0] }] }

/-! ### pieces contracted by concatenation (`Gates.concat`): `x[dask_int_array]` -/

/-- some operand is indexed with more items than its blocks have axes -/
def tooManyIndices (G : Gates) (U : Nat → List Nat) (bw : BW) (index : List (Option Ix)) : Bool :=
  match acceptSliceG G U bw index with
  | .exact args _ =>
    (List.zipWith (fun (o : Opd) (a : Option (List Ix)) =>
      match a, o.pieceRank with
      | some ixs, some r => decide (ixs.length > r)
      | _, _ => false) bw.ops args).any id
  | _ => false

/-- `y = blockwise(aggregate, 'j', idx, 'j', p, 'ij', concatenate=True)`; the pieces `p` advertise `(i, j)` and
have one axis -/
def bwC : BW :=
  { f := fun bs => bs.getD 0 dA
    outInd := [1]
    concat := true
    align := false
    ops := [{ arr := arr1 [5, 6, 7], chunks := [[3]], ind := some [1] },
            { arr := arr2 [[0, 0, 0], [0, 0, 0], [0, 0, 0], [0, 0, 0]], chunks := [[2, 2], [3]], ind := some [0, 1],
              pieceRank := some 1 }] }

/-! ### a function that is not label-local: per-block `cumsum` (known finding `slice-through-generic-blockwise`) -/

def cumsumBlk (bs : List (Arr Int)) : Arr Int :=
  let b := bs.getD 0 dA
  ⟨b.shape, fun i => isum ((List.range (i.getD 0 0 + 1)).map (fun t => b.get [t]))⟩

def bwCum : BW :=
  { f := cumsumBlk
    outInd := [0]
    align := false
    ops := [{ arr := arr1 [1, 1, 1, 1], chunks := [[2, 2]], ind := some [0] }] }

end Dask.BWG.Wit
