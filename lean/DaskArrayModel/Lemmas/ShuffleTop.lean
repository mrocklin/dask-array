/-
`_shuffle` (Model/Shuffle.lean) computes `x[indexer]`: an indexer that passes the no-op test is the list of the
input blocks; otherwise every regrouped chunk meets the hypotheses of `planChunk_correct`.
-/
import DaskArrayModel.Lemmas.Shuffle
import DaskArrayModel.Lemmas.IndexingTake
import DaskArrayModel.Lemmas.Progression
namespace Dask.Lemmas.Shuffle
open Dask.Py Dask.Slicing Dask.Indexing Dask.Shuffle

theorem identity_blocks {α} (x : Int → α) (indexer : List (List Int)) (cs : List Int) (ctr : Int)
    (h : shuffleIsIdentityLoop indexer cs ctr = true) :
    indexer.map (fun g => g.map x) = blocksFrom x ctr cs := by
  fun_induction shuffleIsIdentityLoop indexer cs ctr with
  | case1 => rfl
  | case2 => cases h
  | case3 => cases h
  | case4 ctr idx is c cs h1 h2 ih =>
    rw [Decidable.not_not.mp h2, List.map_cons, blocksFrom, ih h, rangeList_one, show cs + is - cs = is by omega, List.map_map]
    rfl
  | case5 => cases h

theorem blocksFrom_length {α} (x : Int → α) (cs : List Int) (s : Int) (h : ChunksOK cs) :
    (blocksFrom x s cs).map (fun b => (b.length : Int)) = cs := by
  induction cs generalizing s with
  | nil => rfl
  | cons c cs ih =>
    rw [blocksFrom, List.map_cons, List.length_map, List.length_range,
      ih _ (fun d hd => h d (List.mem_cons_of_mem _ hd)), Int.toNat_of_nonneg (h c List.mem_cons_self)]

theorem blocksFrom_flatten {α} (x : Int → α) (cs : List Int) (s : Int) (h : ChunksOK cs) :
    (blocksFrom x s cs).flatten = (List.range (isum cs).toNat).map (fun (i : Nat) => x (s + (i : Int))) := by
  induction cs generalizing s with
  | nil => rfl
  | cons c cs ih =>
    have hc : 0 ≤ c := h c List.mem_cons_self
    have h' : ChunksOK cs := fun d hd => h d (List.mem_cons_of_mem _ hd)
    rw [blocksFrom, List.flatten_cons, ih _ h', isum, Int.toNat_add hc (isum_nonneg cs h'),
      List.range_add, List.map_append, List.map_map]
    refine congrArg (_ ++ ·) (List.map_congr_left fun i _ => congrArg x ?_)
    rw [Int.natCast_add, Int.toNat_of_nonneg hc, Int.add_assoc]

theorem newChunksLoop_empty (limit : Nat) (indexer : List (List Int)) (h : ∀ g ∈ indexer, g = []) :
    newChunksLoop limit indexer [] = [] := by
  induction indexer with
  | nil => rfl
  | cons g rest ih =>
    cases h g List.mem_cons_self
    unfold newChunksLoop
    simp [ih (fun g hg => h g (List.mem_cons_of_mem _ hg))]

/-- a non-empty axis has a positive chunk: the one that holds position `0`. -/
theorem maxChunk_pos (cs : List Int) (hs : 0 < isum cs) : 0 < maxChunk cs :=
  have ib := Layout.inBlock_bisect cs (Int.le_refl 0) hs
  Int.lt_of_le_of_lt ib.off_nonneg
    (Int.lt_of_lt_of_le ib.off_lt ((foldl_max_ge cs 0).2 _ (getD_mem cs _ 0 ib.lt)))

section top
variable (argsort : List Int → List Nat) (hA : ∀ l, IsArgsort l (argsort l))
variable (cs : List Int) (hcs : ChunksOK cs)

include hA in
theorem evalChunks_correct {α} (x : Int → α) (new : List (List Int))
    (h : ∀ t ∈ new, t ≠ [] ∧ (t.length : Int) ≤ maxChunk cs ∧ ∀ p ∈ t, 0 ≤ p ∧ p < isum cs) :
    evalChunks argsort cs x new = .ok (new.map (fun t => t.map x)) := by
  induction new with
  | nil => rfl
  | cons t rest ih =>
    have ht := h t List.mem_cons_self
    rcases planChunk_correct argsort hA cs t ht.1 ht.2.2 ht.2.1 x with ⟨p, hp, he⟩
    simp only [evalChunks, hp, he, ih (fun u hu => h u (List.mem_cons_of_mem _ hu)), List.map_cons]

include hA hcs in
theorem shuffle_correct {α} (indexer : List (List Int)) (hin : InBounds (isum cs) indexer) (x : Int → α) :
    ∃ out, shuffleEval argsort cs indexer x = .ok out ∧ out.flatten = indexer.flatten.map x ∧
      out.map (fun c => (c.length : Int)) = shuffleChunks cs indexer := by
  unfold shuffleEval shuffleChunks
  by_cases hid : shuffleIsIdentity indexer cs = true
  · rw [if_pos hid, if_pos hid]
    refine ⟨_, rfl, ?_, blocksFrom_length x cs 0 hcs⟩
    rw [shuffleIsIdentity, Bool.and_eq_true] at hid
    rw [blocksOf, ← identity_blocks x indexer cs 0 hid.2, List.map_flatten]
  · rw [if_neg hid, if_neg hid]
    by_cases hs : 0 < isum cs
    · have hmx := maxChunk_pos cs hs
      have hpos : 0 < (maxChunk cs).toNat := Int.lt_toNat.mpr hmx
      have hfl := Dask.Lemmas.Indexing.newChunks_flatten hpos indexer
      refine ⟨_, evalChunks_correct argsort hA cs x _ (fun t ht => ?_), ?_, ?_⟩
      · have hb := Dask.Lemmas.Indexing.newChunks_bounded hpos indexer t ht
        refine ⟨List.ne_nil_of_length_pos hb.1, (Int.le_toNat (Int.le_of_lt hmx)).mp hb.2, fun p hp => ?_⟩
        have : p ∈ indexer.flatten := hfl ▸ List.mem_flatten.mpr ⟨t, ht, hp⟩
        rcases List.mem_flatten.mp this with ⟨g, hg, hpg⟩
        exact hin g hg p hpg
      · rw [← List.map_flatten, hfl]
      · rw [List.map_map]
        exact List.map_congr_left (fun t _ => congrArg Int.ofNat (List.length_map _))
    · -- an empty axis: nothing can be selected (the only case in which every chunk may have length 0)
      have hemp : ∀ g ∈ indexer, g = [] := fun g hg => List.eq_nil_iff_forall_not_mem.mpr
        (fun p hp => hs (Int.lt_of_le_of_lt (hin g hg p hp).1 (hin g hg p hp).2))
      rw [newChunks, newChunksLoop_empty _ indexer hemp, List.flatten_eq_nil_iff.mpr hemp]
      exact ⟨[], rfl, rfl, rfl⟩

end top
end Dask.Lemmas.Shuffle
