/-
Arithmetic behind the reshape theorems (Props/C01Reshape.lean, Props/C03Reshape.lean): block sizes of a grid
(row-major flat positions are in Lemmas/RowMajor.lean), the grouped structure of a plan implies block equivalence,
block equivalence implies that the blockwise plan computes NumPy's reshape.  Core Lean only.
-/
import DaskArrayModel.Model.ReshapeSpec
import DaskArrayModel.Lemmas.ExprArr
import DaskArrayModel.Lemmas.RowMajor
namespace Dask.Reshape
open Dask.ND

theorem prodL_append (l m : List Nat) : prodL (l ++ m) = prodL l * prodL m := by
  induction l with
  | nil => simp [prodL]
  | cons x xs ih => simp only [List.cons_append, prodL]; rw [ih, Nat.mul_assoc]

theorem map_mul_one (c : List Nat) : c.map (fun y => 1 * y) = c := List.map_id'' Nat.one_mul c

theorem crossProd_cons (c : Chunks) (cs : List Chunks) :
    crossProd (c :: cs) = c.flatMap fun x => (crossProd cs).map fun y => x * y := rfl

theorem crossProd_single (c : List Nat) : crossProd [c] = c := by
  induction c with
  | nil => rfl
  | cons x xs ih =>
    show x * 1 :: crossProd [xs] = x :: xs
    rw [Nat.mul_one, ih]

theorem crossProd_append (cs ds : List Chunks) :
    crossProd (cs ++ ds) = (crossProd cs).flatMap (fun x => (crossProd ds).map (fun y => x * y)) := by
  induction cs with
  | nil => exact ((List.append_nil _).trans (map_mul_one (crossProd ds))).symm
  | cons c cs ih =>
    rw [List.cons_append, crossProd_cons, crossProd_cons, ih, List.flatMap_assoc]
    congr 1
    funext x
    rw [List.map_flatMap, List.flatMap_map]
    congr 1
    funext z
    simp [Nat.mul_assoc]

theorem length_flatMap_const {α β} (l : List α) (f : α → List β) (L : Nat) (hL : ∀ x, (f x).length = L) :
    (l.flatMap f).length = l.length * L := by
  induction l with
  | nil => simp
  | cons x xs ih => rw [List.flatMap_cons, List.length_append, ih, hL, List.length_cons, Nat.add_mul]; omega

theorem length_crossProd (cs : List Chunks) : (crossProd cs).length = prodL (numblocks cs) := by
  induction cs with
  | nil => rfl
  | cons c cs ih =>
    rw [crossProd_cons, length_flatMap_const c _ (crossProd cs).length (fun x => List.length_map _), ih]
    rfl

theorem sum_map_mul_left (x : Nat) (l : List Nat) : (l.map (fun y => x * y)).sum = x * l.sum := by
  induction l with
  | nil => simp
  | cons y ys ih => simp only [List.map_cons, List.sum_cons]; rw [ih, Nat.mul_add]

theorem sum_flatMap_mul (c M : List Nat) :
    (c.flatMap (fun x => M.map (fun y => x * y))).sum = c.sum * M.sum := by
  induction c with
  | nil => simp
  | cons x xs ih =>
    rw [List.flatMap_cons, List.sum_append, ih, sum_map_mul_left, List.sum_cons, Nat.add_mul]

theorem sum_crossProd (cs : List Chunks) : (crossProd cs).sum = prodL (cs.map List.sum) := by
  induction cs with
  | nil => rfl
  | cons c cs ih =>
    rw [crossProd_cons, sum_flatMap_mul, ih]
    rfl

theorem getD_flatMap_const (c : List Nat) (f : Nat → List Nat) (L : Nat) (hL : ∀ x, (f x).length = L)
    (b r : Nat) (hb : b < c.length) (hr : r < L) :
    (c.flatMap f).getD (b * L + r) 0 = (f (c.getD b 0)).getD r 0 := by
  induction c generalizing b with
  | nil => exact absurd hb (Nat.not_lt_zero b)
  | cons x xs ih =>
    rw [List.flatMap_cons, List.getD_eq_getElem?_getD]
    cases b with
    | zero =>
      rw [Nat.zero_mul, Nat.zero_add, List.getElem?_append_left ((hL x).symm ▸ hr), List.getD_cons_zero,
        ← List.getD_eq_getElem?_getD]
    | succ b =>
      have e : (b + 1) * L + r = (f x).length + (b * L + r) := by
        rw [hL, Nat.succ_mul, Nat.add_right_comm, Nat.add_comm]
      rw [e, List.getElem?_append_right (Nat.le_add_right _ _), Nat.add_sub_cancel_left,
        ← List.getD_eq_getElem?_getD, ih b (Nat.lt_of_succ_lt_succ hb), List.getD_cons_succ]

theorem numblocks_cons (c : Chunks) (cs : List Chunks) : numblocks (c :: cs) = c.length :: numblocks cs := rfl

theorem crossProd_getD : ∀ (cs : List Chunks) (bid : List Nat), validBid cs bid →
    (crossProd cs).getD (flatIndex (numblocks cs) bid) 0 = prodL (blockShape cs bid)
  | [], [], _ => rfl
  | c :: cs, b :: bid, h => by
    rw [validBid_cons] at h
    have ih := crossProd_getD cs bid h.2
    have hr : flatIndex (numblocks cs) bid < prodL (numblocks cs) := flatIndex_lt h.2
    rw [numblocks_cons, flatIndex_cons, crossProd_cons]
    rw [← length_crossProd cs] at hr ⊢
    rw [getD_flatMap_const c _ (crossProd cs).length (fun x => by simp) b _ h.1 hr]
    rw [Dask.Py.getD_map (fun y => c.getD b 0 * y) (crossProd cs) _ 0 0 hr, ih]
    rfl
  | [], _ :: _, h => False.elim h
  | _ :: _, [], h => False.elim h

theorem shapeA_append (A B : List Axis) : shapeA (A ++ B) = shapeA A ++ shapeA B := by simp [shapeA]
theorem chunksA_append (A B : List Axis) : chunksA (A ++ B) = chunksA A ++ chunksA B := by simp [chunksA]

theorem sizeA_append (A B : List Axis) : sizeA (A ++ B) = sizeA A * sizeA B := by
  simp only [sizeA, shapeA_append, prodL_append]

theorem nbA_append (A B : List Axis) : nbA (A ++ B) = nbA A * nbA B := by
  simp only [nbA, chunksA_append, List.map_append, prodL_append]

theorem sizeA_cons (a : Axis) (A : List Axis) : sizeA (a :: A) = a.1 * sizeA A := rfl
theorem sizeA_nil : sizeA [] = 1 := rfl
theorem nbA_nil : nbA [] = 1 := rfl

theorem nbA_eq_length (A : List Axis) : nbA A = (crossProd (chunksA A)).length :=
  (length_crossProd _).symm

/-- The three coordinates of a flat position `g` that `BlockEquiv.phi` compares: the number of its block, the size
of that block, its position in the block. -/
structure CoordsAre (A : List Axis) (g block size pos : Nat) : Prop where
  block : KA A g = block
  size : SA A g = size
  pos : FA A g = pos

theorem CoordsAre.of_and {A : List Axis} {g k s f : Nat} (h : KA A g = k ∧ SA A g = s ∧ FA A g = f) :
    CoordsAre A g k s f := ⟨h.1, h.2.1, h.2.2⟩

theorem coords_append (A A' : List Axis) : ∀ g, g < sizeA (A ++ A') →
    CoordsAre (A ++ A') g
      (KA A (g / sizeA A') * nbA A' + KA A' (g % sizeA A'))
      (SA A (g / sizeA A') * SA A' (g % sizeA A'))
      (FA A (g / sizeA A') * SA A' (g % sizeA A') + FA A' (g % sizeA A')) := by
  induction A with
  | nil =>
    intro g hg
    apply CoordsAre.of_and
    rw [List.nil_append] at hg ⊢
    rw [Nat.mod_eq_of_lt hg]
    simp [KA, SA, FA]
  | cons a A1 ih =>
    intro g hg
    apply CoordsAre.of_and
    rw [List.cons_append, sizeA_cons, sizeA_append] at hg
    have hpos : 0 < sizeA A1 * sizeA A' := Nat.pos_of_lt_mul_left hg
    obtain ⟨i1, i2, i3⟩ := ih (g % (sizeA A1 * sizeA A')) (by rw [sizeA_append]; exact Nat.mod_lt _ hpos)
    rw [Nat.mod_mul_left_div_self, Nat.mod_mul_left_mod] at i1 i2 i3
    have e : g / sizeA A' / sizeA A1 = g / (sizeA A1 * sizeA A') := by
      rw [Nat.div_div_eq_div_mul, Nat.mul_comm]
    simp only [List.cons_append, KA, SA, FA]
    rw [sizeA_append, nbA_append, i1, i2, i3, e]
    generalize (findBlock a.2 (g / (sizeA A1 * sizeA A'))) = fb
    refine ⟨?_, ?_, ?_⟩
    · simp only [Nat.add_mul, Nat.mul_assoc, Nat.add_assoc]
    · simp only [Nat.mul_assoc]
    · simp only [Nat.add_mul, Nat.mul_assoc, Nat.add_assoc]

theorem BlockEquiv.refl (A : List Axis) : BlockEquiv A A := ⟨rfl, rfl, fun _ _ => ⟨rfl, rfl, rfl⟩⟩

theorem BlockEquiv.symm {A B : List Axis} (h : BlockEquiv A B) : BlockEquiv B A :=
  ⟨h.size.symm, h.sizes.symm, fun g hg => by
    obtain ⟨p1, p2, p3⟩ := h.phi g (h.size ▸ hg)
    exact ⟨p1.symm, p2.symm, p3.symm⟩⟩

theorem BlockEquiv.nb {A B : List Axis} (h : BlockEquiv A B) : nbA A = nbA B := by
  rw [nbA_eq_length, nbA_eq_length]
  exact congrArg List.length h.sizes

theorem BlockEquiv.append {A B A' B' : List Axis} (h : BlockEquiv A B) (h' : BlockEquiv A' B') :
    BlockEquiv (A ++ A') (B ++ B') := by
  refine ⟨?_, ?_, ?_⟩
  · rw [sizeA_append, sizeA_append, h.size, h'.size]
  · have e1 : crossProd (chunksA A) = crossProd (chunksA B) := h.sizes
    have e2 : crossProd (chunksA A') = crossProd (chunksA B') := h'.sizes
    rw [blockSizes, blockSizes, chunksA_append, chunksA_append, crossProd_append, crossProd_append, e1, e2]
  · intro g hg
    have hgB : g < sizeA (B ++ B') := by
      rw [sizeA_append, ← h.size, ← h'.size, ← sizeA_append]; exact hg
    obtain ⟨a1, a2, a3⟩ := coords_append A A' g hg
    obtain ⟨b1, b2, b3⟩ := coords_append B B' g hgB
    rw [sizeA_append] at hg
    have hpos : 0 < sizeA A' := Nat.pos_of_lt_mul_left hg
    have hq : g / sizeA A' < sizeA A := by rw [Nat.div_lt_iff_lt_mul hpos]; exact hg
    have hr : g % sizeA A' < sizeA A' := Nat.mod_lt _ hpos
    obtain ⟨p1, p2, p3⟩ := h.phi _ hq
    obtain ⟨q1, q2, q3⟩ := h'.phi _ hr
    rw [a1, a2, a3, b1, b2, b3, ← h'.size, ← h'.nb, p1, p2, p3, q1, q2, q3]
    exact ⟨rfl, rfl, rfl⟩

theorem one_equiv_nil : BlockEquiv [((1 : Nat), ([1] : Chunks))] [] := by
  refine ⟨rfl, rfl, fun g hg => ?_⟩
  cases Nat.lt_one_iff.mp hg
  exact ⟨rfl, rfl, rfl⟩

theorem coords_single (a : Axis) (g : Nat) :
    CoordsAre [a] g (findBlock a.2 g).1 (a.2.getD (findBlock a.2 g).1 0) (findBlock a.2 g).2 :=
  ⟨by simp [KA, sizeA_nil, nbA_nil], by simp [SA, sizeA_nil], by simp [FA, SA, sizeA_nil]⟩

theorem sizeA_single (a : Axis) : sizeA [a] = a.1 := by simp [sizeA, shapeA, prodL]

theorem full_crossProd (F : List Axis) (hF : ∀ f ∈ F, f.2 = [f.1]) : crossProd (chunksA F) = [sizeA F] := by
  induction F with
  | nil => rfl
  | cons f F ih =>
    rw [show chunksA (f :: F) = f.2 :: chunksA F from rfl, crossProd_cons,
      ih (fun x hx => hF x (List.mem_cons_of_mem _ hx)), hF f (List.mem_cons_self ..)]
    rfl

theorem flatMap_single_mul (c : List Nat) (R : Nat) :
    c.flatMap (fun x => [R].map (fun y => x * y)) = c.map (fun x => x * R) := by
  induction c with
  | nil => rfl
  | cons x xs ih => rw [List.flatMap_cons, ih]; rfl

theorem findBlock_cons (x : Nat) (l : List Nat) (g : Nat) : findBlock (x :: l) g =
    if g < x then (0, g) else ((findBlock l (g - x)).1 + 1, (findBlock l (g - x)).2) := rfl

theorem findBlock_map_mul (R : Nat) (hR : 0 < R) (c : List Nat) : ∀ g : Nat,
    findBlock (c.map (fun x => x * R)) g = ((findBlock c (g / R)).1, (findBlock c (g / R)).2 * R + g % R) := by
  induction c with
  | nil =>
    intro g
    simp only [List.map_nil, findBlock]
    rw [Nat.mul_comm, Nat.div_add_mod]
  | cons x c ih =>
    intro g
    rw [List.map_cons, findBlock_cons, findBlock_cons]
    by_cases hg : g < x * R
    · rw [if_pos hg, if_pos ((Nat.div_lt_iff_lt_mul hR).mpr hg), Nat.mul_comm, Nat.div_add_mod]
    · have hle : R * x ≤ g := Nat.mul_comm x R ▸ Nat.le_of_not_lt hg
      rw [if_neg hg, if_neg (fun h => hg ((Nat.div_lt_iff_lt_mul hR).mp h)),
        ih (g - x * R), Nat.mul_comm x R, Nat.sub_mul_div, Nat.sub_mul_mod hle]

theorem findBlock_append (c1 c2 : List Nat) : ∀ g : Nat,
    findBlock (c1 ++ c2) g = if g < c1.sum then findBlock c1 g
      else ((findBlock c2 (g - c1.sum)).1 + c1.length, (findBlock c2 (g - c1.sum)).2) := by
  induction c1 with
  | nil => exact fun _ => rfl
  | cons x c1 ih =>
    intro g
    rw [List.cons_append, findBlock_cons, findBlock_cons, ih (g - x), List.sum_cons]
    by_cases hg : g < x
    · rw [if_pos hg, if_pos hg, if_pos (Nat.lt_add_right _ hg)]
    · have hx : x ≤ g := Nat.le_of_not_lt hg
      rw [if_neg hg, if_neg hg]
      by_cases h2 : g - x < c1.sum
      · rw [if_pos h2, if_pos ((Nat.sub_lt_iff_lt_add' hx).mp h2)]
      · rw [if_neg h2, if_neg (fun h => h2 ((Nat.sub_lt_iff_lt_add' hx).mpr h)), Nat.sub_sub, List.length_cons,
          Nat.add_assoc]

theorem findBlock_ones : ∀ (d p : Nat), p < d → findBlock (List.replicate d 1) p = (p, 0)
  | 0, p, h => absurd h (Nat.not_lt_zero p)
  | _ + 1, 0, _ => rfl
  | d + 1, p + 1, h => by
    rw [List.replicate_succ, findBlock_cons, if_neg (Nat.not_lt.mpr (Nat.le_add_left 1 p)),
      Nat.add_sub_cancel, findBlock_ones d p (Nat.lt_of_succ_lt_succ h)]

theorem getD_ones (d p : Nat) (h : p < d) : (List.replicate d 1).getD p 0 = 1 := by
  simp [List.getD_eq_getElem?_getD, h]

theorem flatMap_ones_mul (d : Nat) (M : List Nat) :
    (List.replicate d 1).flatMap (fun x => M.map (fun y => x * y)) = repeatL M d := by
  induction d with
  | zero => rfl
  | succ d ih => rw [List.replicate_succ, List.flatMap_cons, ih, map_mul_one]; rfl

theorem crossProd_ones_cons (d : Nat) (cs : List Chunks) :
    crossProd (List.replicate d 1 :: cs) = repeatL (crossProd cs) d :=
  flatMap_ones_mul d (crossProd cs)

theorem findBlock_repeatL (c : List Nat) (d : Nat) : ∀ (q r : Nat), q < d → r < c.sum →
    findBlock (repeatL c d) (q * c.sum + r) = (q * c.length + (findBlock c r).1, (findBlock c r).2) ∧
    (repeatL c d).getD (q * c.length + (findBlock c r).1) 0 = c.getD (findBlock c r).1 0 := by
  induction d with
  | zero => exact fun q _ hq _ => absurd hq (Nat.not_lt_zero q)
  | succ d ih =>
    intro q r hq hr
    show findBlock (c ++ repeatL c d) _ = _ ∧ (c ++ repeatL c d).getD _ 0 = _
    cases q with
    | zero =>
      rw [Nat.zero_mul, Nat.zero_mul, Nat.zero_add, Nat.zero_add, findBlock_append, if_pos hr]
      refine ⟨rfl, ?_⟩
      rw [List.getD_eq_getElem?_getD, List.getElem?_append_left (findBlock_spec c r hr).1,
        ← List.getD_eq_getElem?_getD]
    | succ q =>
      obtain ⟨i1, i2⟩ := ih q r (Nat.lt_of_succ_lt_succ hq) hr
      have e : ∀ m x : Nat, (q + 1) * m + x = m + (q * m + x) := fun m x => by
        rw [Nat.add_mul, Nat.one_mul, Nat.add_comm (q * m) m, Nat.add_assoc]
      rw [e, e, findBlock_append, if_neg (Nat.not_lt.mpr (Nat.le_add_right _ _)), Nat.add_sub_cancel_left, i1,
        List.getD_eq_getElem?_getD, List.getElem?_append_right (Nat.le_add_right _ _), Nat.add_sub_cancel_left,
        ← List.getD_eq_getElem?_getD, i2, Nat.add_comm c.length]
      exact ⟨rfl, rfl⟩

theorem chunksA_sum_eq (G : List Axis) (hG : ∀ a ∈ G, ValidAx a) : (chunksA G).map List.sum = shapeA G := by
  induction G with
  | nil => rfl
  | cons a G ih =>
    simp only [chunksA, shapeA, List.map_cons] at ih ⊢
    rw [ih (fun x hx => hG x (List.mem_cons_of_mem _ hx)), show a.2.sum = a.1 from hG a (List.mem_cons_self ..)]

theorem mergedAx_valid (G : List Axis) (hG : ∀ a ∈ G, ValidAx a) : ValidAx (mergedAx G) := by
  show (crossProd (chunksA G)).sum = sizeA G
  rw [sum_crossProd, chunksA_sum_eq G hG]; rfl

theorem merged_iff (G : List Axis) : BlockEquiv G [mergedAx G] ↔ ∀ g, g < sizeA G →
    CoordsAre G g (findBlock (crossProd (chunksA G)) g).1
      ((crossProd (chunksA G)).getD (findBlock (crossProd (chunksA G)) g).1 0)
      (findBlock (crossProd (chunksA G)) g).2 := by
  constructor
  · intro h g hg
    obtain ⟨p1, p2, p3⟩ := h.phi g hg
    obtain ⟨s1, s2, s3⟩ := coords_single (mergedAx G) g
    exact ⟨p1.trans s1, p2.trans s2, p3.trans s3⟩
  · intro h
    refine ⟨(sizeA_single (mergedAx G)).symm, (crossProd_single _).symm, fun g hg => ?_⟩
    obtain ⟨p1, p2, p3⟩ := h g hg
    obtain ⟨s1, s2, s3⟩ := coords_single (mergedAx G) g
    exact ⟨p1.trans s1.symm, p2.trans s2.symm, p3.trans s3.symm⟩

/-- An axis in front of a group that is one merged axis joins it if the axis is cut into single elements (the block
sizes of the group are repeated: `findBlock_repeatL`) or the group is a single block (every chunk of the axis is
scaled: `findBlock_map_mul`): pivot form is the closure under these two. -/
theorem merge_cons (a : Axis) {G : List Axis} (ih : BlockEquiv G [mergedAx G]) (hv : ∀ x ∈ G, ValidAx x)
    (h : a.2 = List.replicate a.1 1 ∨ crossProd (chunksA G) = [sizeA G]) :
    BlockEquiv (a :: G) [mergedAx (a :: G)] := by
  rw [merged_iff] at ih ⊢
  intro g hg
  obtain ⟨d, c⟩ := a
  have hg' : g < d * sizeA G := hg
  have hpos : 0 < sizeA G := Nat.pos_of_lt_mul_left hg'
  have hq : g / sizeA G < d := (Nat.div_lt_iff_lt_mul hpos).mpr hg'
  have hr : g % sizeA G < sizeA G := Nat.mod_lt g hpos
  obtain ⟨i1, i2, i3⟩ := ih _ hr
  apply CoordsAre.of_and
  simp only [KA, SA, FA]
  rw [i1, i2, i3, nbA_eq_length, show chunksA ((d, c) :: G) = c :: chunksA G from rfl, crossProd_cons]
  have hsum : (crossProd (chunksA G)).sum = sizeA G := mergedAx_valid G hv
  generalize crossProd (chunksA G) = M at h hsum ⊢
  rcases h with h | h
  · simp only at h
    subst h
    rw [← hsum] at hq hr ⊢
    obtain ⟨r1, r2⟩ := findBlock_repeatL M d _ _ hq hr
    rw [Nat.div_add_mod' g M.sum] at r1
    rw [flatMap_ones_mul, r1, r2, findBlock_ones d _ hq, getD_ones d _ hq, Nat.one_mul, Nat.zero_mul, Nat.zero_add]
    exact ⟨rfl, rfl, rfl⟩
  · subst h
    rw [flatMap_single_mul, findBlock_map_mul _ hpos, Dask.Py.getD_map_default (fun x => x * sizeA G) (Nat.zero_mul _)]
    -- the group is one block, so `g % sizeA G < sizeA G` (`hr`) is found in block 0 at offset itself: all three
    -- coordinates follow by computing `findBlock [sizeA G]`
    simp [findBlock, hr]

theorem full_equiv (F : List Axis) : (∀ f ∈ F, f.2 = [f.1]) → (∀ f ∈ F, ValidAx f) → BlockEquiv F [mergedAx F] := by
  induction F with
  | nil => exact fun _ _ => one_equiv_nil.symm
  | cons f F ih =>
    intro hF hv
    have hF' := fun x hx => hF x (List.mem_cons_of_mem _ hx)
    have hv' := fun x hx => hv x (List.mem_cons_of_mem _ hx)
    exact merge_cons f (ih hF' hv') hv' (Or.inr (full_crossProd F hF'))

theorem pivot_equiv_parts (pre : List Axis) (piv : Axis) (post : List Axis) (hpost : ∀ f ∈ post, f.2 = [f.1]) :
    (∀ a ∈ pre, a.2 = List.replicate a.1 1) → (∀ a ∈ pre ++ piv :: post, ValidAx a) →
    BlockEquiv (pre ++ piv :: post) [mergedAx (pre ++ piv :: post)] := by
  induction pre with
  | nil =>
    intro _ hv
    have hv' := fun x hx => hv x (List.mem_cons_of_mem _ hx)
    exact merge_cons piv (full_equiv post hpost hv') hv' (Or.inr (full_crossProd post hpost))
  | cons a pre ih =>
    intro hpre hv
    have hv' := fun x hx => hv x (List.mem_cons_of_mem _ hx)
    exact merge_cons a (ih (fun x hx => hpre x (List.mem_cons_of_mem _ hx)) hv') hv' (.inl (hpre a List.mem_cons_self))

theorem pivot_equiv {G : List Axis} (hp : PivotForm G) (hv : ∀ a ∈ G, ValidAx a) :
    BlockEquiv G [mergedAx G] := by
  obtain ⟨pre, piv, post, rfl, h1, h2⟩ := hp
  exact pivot_equiv_parts pre piv post h2 h1 hv

theorem grouped_valid {A B : List Axis} (h : Grouped A B) : (∀ a ∈ A, ValidAx a) ∧ (∀ b ∈ B, ValidAx b) := by
  have one : ValidAx (1, [1]) := rfl
  induction h with
  | nil => exact ⟨fun _ h => (nomatch h), fun _ h => (nomatch h)⟩
  | eq a ha _ ih => exact ⟨List.forall_mem_cons.mpr ⟨ha, ih.1⟩, List.forall_mem_cons.mpr ⟨ha, ih.2⟩⟩
  | in1 _ ih => exact ⟨List.forall_mem_cons.mpr ⟨one, ih.1⟩, ih.2⟩
  | out1 _ ih => exact ⟨ih.1, List.forall_mem_cons.mpr ⟨one, ih.2⟩⟩
  | merge G _ hG _ ih =>
    exact ⟨List.forall_mem_append.mpr ⟨hG, ih.1⟩, List.forall_mem_cons.mpr ⟨mergedAx_valid G hG, ih.2⟩⟩
  | split G _ hG _ ih =>
    exact ⟨List.forall_mem_cons.mpr ⟨mergedAx_valid G hG, ih.1⟩, List.forall_mem_append.mpr ⟨hG, ih.2⟩⟩

theorem grouped_equiv {A B : List Axis} (h : Grouped A B) : BlockEquiv A B := by
  induction h with
  | nil => exact BlockEquiv.refl []
  | eq a _ _ ih => exact BlockEquiv.append (BlockEquiv.refl [a]) ih
  | in1 _ ih => exact BlockEquiv.append one_equiv_nil ih
  | out1 _ ih => exact BlockEquiv.append one_equiv_nil.symm ih
  | merge G hp hG _ ih => exact BlockEquiv.append (pivot_equiv hp hG) ih
  | split G hp hG _ ih => exact BlockEquiv.append (pivot_equiv hp hG).symm ih

theorem coords_flatIndex : ∀ (A : List Axis) (i : List Nat), InB i (shapeA A) →
    CoordsAre A (flatIndex (shapeA A) i)
      (flatIndex (numblocks (chunksA A)) (bidOf (chunksA A) i))
      (prodL (blockShape (chunksA A) (bidOf (chunksA A) i)))
      (flatIndex (blockShape (chunksA A) (bidOf (chunksA A) i)) (localOf (chunksA A) i))
  | [], [], _ => ⟨rfl, rfl, rfl⟩
  | a :: A, x :: xs, h => by
    apply CoordsAre.of_and
    have h2 : InB xs (shapeA A) := h.2
    obtain ⟨i1, i2, i3⟩ := coords_flatIndex A xs h2
    have hr : flatIndex (shapeA A) xs < sizeA A := flatIndex_lt h2
    have e : flatIndex (shapeA (a :: A)) (x :: xs) = x * sizeA A + flatIndex (shapeA A) xs :=
      flatIndex_cons ..
    have eb : bidOf (chunksA (a :: A)) (x :: xs) = (findBlock a.2 x).1 :: bidOf (chunksA A) xs := rfl
    have el : localOf (chunksA (a :: A)) (x :: xs) = (findBlock a.2 x).2 :: localOf (chunksA A) xs := rfl
    have en : numblocks (chunksA (a :: A)) = a.2.length :: numblocks (chunksA A) := rfl
    have es : ∀ b bid, blockShape (chunksA (a :: A)) (b :: bid) =
        a.2.getD b 0 :: blockShape (chunksA A) bid := fun _ _ => rfl
    rw [e, eb, el, en, es, flatIndex_cons, flatIndex_cons]
    simp only [KA, SA, FA, prodL]
    rw [mul_add_div_of_lt hr, mul_add_mod_of_lt hr, i1, i2, i3]
    exact ⟨rfl, rfl, rfl⟩
  | [], _ :: _, h => h.elim
  | _ :: _, [], h => h.elim

theorem BlockEquiv.flat_lt {A B : List Axis} (h : BlockEquiv A B) {i : List Nat} (hi : InB i (shapeA B)) :
    flatIndex (shapeA B) i < prodL (shapeA A) :=
  (show prodL (shapeA A) = prodL (shapeA B) from h.size) ▸ flatIndex_lt hi

theorem planIndex_eq {A B : List Axis} (h : BlockEquiv A B) (hA : ∀ a ∈ A, ValidAx a)
    (i : List Nat) (hi : InB i (shapeA B)) :
    planIndex (chunksA A) (chunksA B) i = unflat (shapeA A) (flatIndex (shapeA B) i) := by
  -- `j` is the input index with the flat position of `i`: same block number, same position in the block
  generalize hj : unflat (shapeA A) (flatIndex (shapeA B) i) = j
  obtain ⟨j1, j2⟩ := flatIndex_unflat (shapeA A) _ (h.flat_lt hi)
  rw [hj] at j1 j2
  obtain ⟨b1, _, b3⟩ := coords_flatIndex B i hi
  obtain ⟨a1, _, a3⟩ := coords_flatIndex A j j1
  obtain ⟨p1, _, p3⟩ := h.phi _ (flatIndex_lt j1)
  rw [← j2] at b1 b3
  obtain ⟨l1, l2, l3⟩ := locate_spec (show InB j ((chunksA A).map List.sum) from (chunksA_sum_eq A hA).symm ▸ j1)
  unfold planIndex
  simp only []
  rw [b1.symm.trans (p1.symm.trans a1), unflat_flatIndex _ _ l1, b3.symm.trans (p3.symm.trans a3),
    unflat_flatIndex _ _ l2, l3]

theorem equiv_planIndex {A B : List Axis} (h : BlockEquiv A B) (hA : ∀ a ∈ A, ValidAx a)
    (i : List Nat) (hi : InB i (shapeA B)) :
    InB (planIndex (chunksA A) (chunksA B) i) (shapeA A) ∧
      flatIndex (shapeA A) (planIndex (chunksA A) (chunksA B) i) = flatIndex (shapeA B) i := by
  rw [planIndex_eq h hA i hi]
  exact flatIndex_unflat (shapeA A) _ (h.flat_lt hi)

theorem equiv_planArr {α} {A B : List Axis} (h : BlockEquiv A B) (hA : ∀ a ∈ A, ValidAx a) (hB : ∀ b ∈ B, ValidAx b)
    (a : Arr α) (ha : a.shape = shapeA A) :
    Arr.Equiv (planArr a (chunksA A) (chunksA B)) (npReshape a (shapeA B)) := by
  refine ⟨chunksA_sum_eq B hB, fun i hi => ?_⟩
  have hi' : InB i (shapeA B) := chunksA_sum_eq B hB ▸ hi
  show a.get (planIndex (chunksA A) (chunksA B) i) = a.get (unflat a.shape (flatIndex (shapeA B) i))
  rw [ha, planIndex_eq h hA i hi']

theorem equiv_blocks {A B : List Axis} (h : BlockEquiv A B) :
    prodL (numblocks (chunksA A)) = prodL (numblocks (chunksA B)) ∧
    ∀ bid, validBid (chunksA B) bid →
      validBid (chunksA A) (unflat (numblocks (chunksA A)) (flatIndex (numblocks (chunksA B)) bid)) ∧
      prodL (blockShape (chunksA A) (unflat (numblocks (chunksA A)) (flatIndex (numblocks (chunksA B)) bid)))
        = prodL (blockShape (chunksA B) bid) := by
  have hs : crossProd (chunksA A) = crossProd (chunksA B) := h.sizes
  have hn : prodL (numblocks (chunksA A)) = prodL (numblocks (chunksA B)) := by
    rw [← length_crossProd, ← length_crossProd, hs]
  refine ⟨hn, ?_⟩
  intro bid hb
  have hk : flatIndex (numblocks (chunksA B)) bid < prodL (numblocks (chunksA A)) := by
    rw [hn]; exact flatIndex_lt hb
  obtain ⟨u1, u2⟩ := flatIndex_unflat _ _ hk
  refine ⟨u1, ?_⟩
  have c1 := crossProd_getD (chunksA A) _ u1
  have c2 := crossProd_getD (chunksA B) bid hb
  rw [u2, hs] at c1
  rw [← c1, ← c2]

end Dask.Reshape
