/-
Row-major (C order) flat positions: `flatIndex shape i < prodL shape` for an in-bounds multi-index, `unflat shape` and
`flatIndex shape` are inverse between the in-bounds multi-indices and `range (prodL shape)`, and `allIdx shape` lists
the multi-indices in the order of their flat positions.  The model has the same functions under other names
(Model/Hist.lean `nblocks` / `rowMajor` / `unflatIndex`, Model/Vindex.lean `prod` / `ravel` / `unravel`);
Lemmas/Hist.lean and Lemmas/Vindex.lean rewrite those to the ones here.
-/
import DaskArrayModel.Model.Reshape
import DaskArrayModel.Lemmas.ExprArr
namespace Dask.Reshape
open Dask.ND

theorem foldl_mul_eq (l : List Nat) (a : Nat) : l.foldl (· * ·) a = a * prodL l := by
  induction l generalizing a with
  | nil => simp [prodL]
  | cons x xs ih => simp only [List.foldl_cons, prodL]; rw [ih, Nat.mul_assoc]

theorem flatIndex_cons (d : Nat) (ds : List Nat) (x : Nat) (xs : List Nat) :
    flatIndex (d :: ds) (x :: xs) = x * prodL ds + flatIndex ds xs := by
  simp only [flatIndex]; rw [foldl_mul_eq, Nat.one_mul]

theorem mul_add_lt {x d r P : Nat} (hx : x < d) (hr : r < P) : x * P + r < d * P := by
  have h1 : (x + 1) * P ≤ d * P := Nat.mul_le_mul_right P hx
  rw [Nat.add_mul, Nat.one_mul] at h1
  omega

theorem flatIndex_lt : ∀ {i s : List Nat}, InB i s → flatIndex s i < prodL s
  | [], [], _ => by simp [flatIndex, prodL]
  | x :: xs, d :: ds, h => by
    rw [flatIndex_cons]
    simp only [prodL]
    exact mul_add_lt h.1 (flatIndex_lt h.2)
  | [], _ :: _, h => h.elim
  | _ :: _, [], h => h.elim

theorem prodL_pos_of_InB {i s : List Nat} (h : InB i s) : 0 < prodL s := Nat.zero_lt_of_lt (flatIndex_lt h)

theorem mul_add_div_of_lt {x r P : Nat} (hr : r < P) : (x * P + r) / P = x := by
  rw [Nat.mul_comm, Nat.mul_add_div (Nat.zero_lt_of_lt hr), Nat.div_eq_of_lt hr, Nat.add_zero]

theorem mul_add_mod_of_lt {x r P : Nat} (hr : r < P) : (x * P + r) % P = r := by
  rw [Nat.mul_comm, Nat.mul_add_mod, Nat.mod_eq_of_lt hr]

theorem unflat_flatIndex : ∀ (shape i : List Nat) (_ : InB i shape), unflat shape (flatIndex shape i) = i
  | [], [], _ => by simp [unflat]
  | d :: ds, x :: xs, h => by
    have hr := flatIndex_lt h.2
    rw [flatIndex_cons]
    simp only [unflat]
    rw [mul_add_div_of_lt hr, mul_add_mod_of_lt hr, unflat_flatIndex ds xs h.2]
  | _ :: _, [], h => h.elim
  | [], _ :: _, h => h.elim

theorem flatIndex_unflat : ∀ (shape : List Nat) (g : Nat) (_ : g < prodL shape),
    InB (unflat shape g) shape ∧ flatIndex shape (unflat shape g) = g
  | [], g, h => by
    simp only [prodL] at h
    simp only [unflat, flatIndex, InB, true_and]; omega
  | d :: ds, g, h => by
    simp only [prodL] at h
    have hP : 0 < prodL ds := Nat.pos_of_lt_mul_left h
    have ih := flatIndex_unflat ds (g % prodL ds) (Nat.mod_lt _ hP)
    simp only [unflat]
    rw [flatIndex_cons]
    refine ⟨⟨?_, ih.1⟩, ?_⟩
    · rw [Nat.div_lt_iff_lt_mul hP]; exact h
    · rw [ih.2, Nat.mul_comm]; exact Nat.div_add_mod g (prodL ds)

theorem range_flatMap_blocks (n P : Nat) :
    (List.range n).flatMap (fun b => (List.range P).map (fun r => b * P + r)) = List.range (n * P) := by
  induction n with
  | zero => simp
  | succ n ih =>
    rw [List.range_succ, List.flatMap_append, ih, Nat.succ_mul, List.range_add]
    simp

/-- `itertools.product` order is flat-index order -/
theorem allIdx_map_flatIndex : ∀ s : List Nat, (allIdx s).map (flatIndex s) = List.range (prodL s)
  | [] => rfl
  | n :: ns => by
    simp only [allIdx, prodL, List.map_flatMap, List.map_map]
    rw [← range_flatMap_blocks n (prodL ns), ← allIdx_map_flatIndex ns]
    simp only [List.map_map, Function.comp_def, flatIndex_cons]

end Dask.Reshape
