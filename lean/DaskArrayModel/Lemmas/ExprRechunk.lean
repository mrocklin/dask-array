/-
Per-axis obligation of `Expr.rechunk`: the `AxisOK` fact for `rechunkAxis` from the proved
crosswalk theorem (C15 `crosswalk_exact`), then n-d: `rechunkSpecs` gathers along the identity.
-/
import DaskArrayModel.Lemmas.ExprSlice
import DaskArrayModel.Lemmas.Crosswalk
namespace Dask.ND
open Dask.Py Dask.Rechunk

theorem piecesPositions_cons (old : List Int) (p : Piece) (ps : List Piece) :
    piecesPositions old (p :: ps)
      = rangeList (oldStart old p.idx.toNat + p.s) (oldStart old p.idx.toNat + p.e) 1
          ++ piecesPositions old ps := by
  simp [piecesPositions]

theorem piece_positions (cs : List Nat) (p : Piece) (hok : PieceOK (toI cs) p) :
    (rangeList (oldStart (toI cs) p.idx.toNat + p.s) (oldStart (toI cs) p.idx.toNat + p.e) 1).length
      = (p.e - p.s).toNat ∧
    p.idx.toNat < cs.length ∧
    ∀ i, i < (p.e - p.s).toNat → p.s.toNat + i < cs.getD p.idx.toNat 0 ∧
      (rangeList (oldStart (toI cs) p.idx.toNat + p.s) (oldStart (toI cs) p.idx.toNat + p.e) 1).getD i 0
        = (((cs.take p.idx.toNat).sum + (p.s.toNat + i) : Nat) : Int) := by
  obtain ⟨h0, h1, h2, _, h4⟩ := hok
  rw [toI_length] at h1
  rw [toI_getD] at h4
  have hrl : (rangeList (oldStart (toI cs) p.idx.toNat + p.s) (oldStart (toI cs) p.idx.toNat + p.e) 1).length
      = (p.e - p.s).toNat := by
    rw [length_rangeList_one, Int.add_sub_add_left]
  refine ⟨hrl, (Int.toNat_lt h0).mpr h1, fun i hi => ?_⟩
  rw [rangeList_one_getD _ _ _ (hrl.symm ▸ hi), show oldStart (toI cs) p.idx.toNat = _ from blockStart_toI cs _]
  have := Int.lt_toNat.mp hi
  have := Int.toNat_of_nonneg h2
  omega

theorem pieces_positions (cs : List Nat) : ∀ (ps : List Piece), (∀ p ∈ ps, PieceOK (toI cs) p) →
    (piecesPositions (toI cs) ps).length = piecesLen ps ∧
    ∀ i, i < piecesLen ps →
      (locatePiece ps i).1 < cs.length ∧
      (locatePiece ps i).2 < cs.getD (locatePiece ps i).1 0 ∧
      (piecesPositions (toI cs) ps).getD i 0
        = (((cs.take (locatePiece ps i).1).sum + (locatePiece ps i).2 : Nat) : Int)
  | [], _ => ⟨rfl, fun i hi => absurd hi (Nat.not_lt_zero i)⟩
  | p :: ps, hok => by
    obtain ⟨ihl, ihi⟩ := pieces_positions cs ps (fun q hq => hok q (List.mem_cons_of_mem _ hq))
    obtain ⟨hrl, hb, hpos⟩ := piece_positions cs p (hok p (List.mem_cons_self ..))
    rw [piecesPositions_cons]
    refine ⟨by rw [List.length_append, ihl, hrl]; rfl, fun i hi => ?_⟩
    by_cases hlt : i < (p.e - p.s).toNat
    · rw [show locatePiece (p :: ps) i = (p.idx.toNat, p.s.toNat + i) from if_pos hlt,
        getD_append_left _ _ _ _ (hrl.symm ▸ hlt)]
      exact ⟨hb, hpos i hlt⟩
    · rw [show locatePiece (p :: ps) i = locatePiece ps (i - (p.e - p.s).toNat) from if_neg hlt,
        getD_append_right _ _ _ _ (hrl.symm ▸ Nat.le_of_not_lt hlt), hrl]
      exact ihi _ (Nat.sub_lt_left_of_lt_add (Nat.le_of_not_lt hlt) hi)

theorem rechunkAxis_ok (old new : List Nat) (ho : old ≠ []) (hn : new ≠ [])
    (hsum : old.sum = new.sum) : AxisOK (rechunkAxis old new) new old := by
  have hI : isum (toI old) = isum (toI new) := by rw [isum_toI, isum_toI, hsum]
  obtain ⟨_, hall⟩ := Dask.Lemmas.Crosswalk.crosswalk_exact (toI old) (toI new) (toI_nonneg old)
    (toI_nonneg new) hI (by simpa [toI] using ho) (by simpa [toI] using hn)
  intro j hj
  -- `crosswalk_exact`: the pieces of new block `j` enumerate exactly the positions `start_j … start_j + new_j` (`hposs`);
  -- `pieces_positions`: entry `i` of that enumeration is the position `locatePiece`, hence `rechunkAxis`, points at
  obtain ⟨hok, _, hposs⟩ := hall j (by rw [toI_length]; exact hj)
  obtain ⟨fl, fi⟩ := pieces_positions old _ hok
  rw [hposs] at fl fi
  unfold newBlockPositions at fl fi
  have hA : isum ((toI new).take j) = (((new.take j).sum : Nat) : Int) := blockStart_toI new j
  have hB : isum ((toI new).take (j + 1)) = (((new.take j).sum + new.getD j 0 : Nat) : Int) := by
    have := blockStart_toI new (j + 1)
    unfold Dask.Slicing.blockStart at this
    rw [this]
    exact congrArg Int.ofNat (Layout.nstart_succ new j)
  rw [hA, hB] at fl fi
  have hrl := length_rangeList_one (((new.take j).sum : Nat) : Int) (((new.take j).sum + new.getD j 0 : Nat) : Int)
  have hw : ((((new.take j).sum + new.getD j 0 : Nat) : Int) - ((new.take j).sum : Nat)).toNat
      = new.getD j 0 := by
    rw [Int.natCast_add, Int.add_comm, Int.add_sub_cancel, Int.toNat_natCast]
  rw [hw] at hrl
  have hlenj : piecesLen ((oldToNew1d (toI old) (toI new)).getD j []) = new.getD j 0 := by
    rw [← fl, hrl]
  refine ⟨hlenj, fun i hi => ?_⟩
  obtain ⟨q1, q2, q3⟩ := fi i (by rw [hlenj]; exact hi)
  rw [rangeList_one_getD _ _ _ (by rw [hrl]; exact hi)] at q3
  simp only [rechunkAxis]
  exact ⟨q1, q2, Int.natCast_inj.mp (q3.symm.trans (Int.natCast_add _ _).symm)⟩

theorem rechunk_gathers : ∀ (old new : Layout), NonEmptyAxes old → NonEmptyAxes new →
    old.map List.sum = new.map List.sum → Gathers (rechunkSpecs old new) new old id
  | [], [], _, _, _ => .nil rfl
  | o :: old, n :: new, ho, hn, hs => by
    simp only [List.map_cons, List.cons.injEq] at hs
    obtain ⟨ho1, ho2⟩ := NonEmptyAxes.cons_iff.1 ho
    obtain ⟨hn1, hn2⟩ := NonEmptyAxes.cons_iff.1 hn
    exact .keep (rechunkAxis_ok o n ho1 hn1 hs.1) (rechunk_gathers old new ho2 hn2 hs.2) (fun _ _ _ => rfl)
  | [], _ :: _, _, _, hs => nomatch hs
  | _ :: _, [], _, _, hs => nomatch hs

end Dask.ND
