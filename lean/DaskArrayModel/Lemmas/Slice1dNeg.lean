/-
Negative-step half of `_slice_1d`.  `normalize_slice` leaves start/stop in a form that the `step < 0` branch reads
back as `range(negStart, negStop, step)` (`normalize_neg`); the loop over the visited blocks, which is the loop over
all blocks (`loopNeg_visited`), reads exactly that range (`loopNeg_spec` in Slice1dNegLoop.lean) and emits its
entries in descending block order, which is output-block order (`plan_neg`).

At the end, the plan for a step of either sign (`Slice1d.slice1d_spec`): each half shows that its loop emits entries
`d` with `Slice1dPos.RawPlan L s d`; what a user of the plan needs follows from that once, with no case on the sign.
-/
import DaskArrayModel.Lemmas.Slice1dNegLoop
namespace Dask.Lemmas.Slice1dNeg
open Dask.Py Dask.Py.PySlice Dask.Slicing

/-- the blocks visited by the `step < 0` branch, in visiting (descending) order. -/
def visitedOf (L : List Int) (S E : Int) : List (Nat × Int × Int) :=
  ((blockTriples L).filter (fun t =>
    decide (max ((bisectRight (cumsum L) E : Int) - 1) (-1) < (t.1 : Int)) &&
    decide ((t.1 : Int) ≤ min ((bisectRight (cumsum L) S : Int) + 1) (((cumsum L).length : Int) - 1)))).reverse

/-- global start computed by the `step < 0` branch. -/
def negStart (n : Int) (a : Option Int) : Int :=
  let s0 := match a with | none => n - 1 | some a => a
  let s1 := if s0 ≥ n then n - 1 else s0
  if s1 < 0 then s1 + n else s1

/-- global (exclusive) stop computed by the `step < 0` branch. -/
def negStop (n : Int) (b : Option Int) : Int :=
  let e0 := match b with | none => -(n + 1) | some b => b
  if e0 < 0 then e0 + n else e0

theorem slice1d_neg_unfold (n : Int) (L : List Int) (a b : Option Int) (c : Int) (hc : c < 0) :
    slice1d n L ⟨a, b, some c⟩ =
      finish L (loopNeg c (negStop n b) (visitedOf L (negStart n a) (negStop n b)) (negStart n a)) := by
  have h0 : (⟨a, b, some c⟩ : PySlice) ≠ colon := fun h => by cases h
  have hc0 : c ≠ 0 := by omega
  unfold slice1d
  rw [if_neg h0]
  -- reduces the `match` on `some c`; its `some 0` pattern is excluded by `hc0`
  simp only
  rw [if_neg (by omega)]
  rfl

theorem negStart_eq (n : Int) (a : Option Int) (hn : 0 ≤ n)
    (ha : SliceAlgebra.InAxis n a) : negStart n a = a.getD (n - 1) := by
  cases a with
  | none => simp only [negStart, Option.getD_none]; split <;> split <;> omega
  | some v =>
    have := ha v rfl
    simp only [negStart, Option.getD_some]; split <;> split <;> omega

theorem negStop_eq (n : Int) (b : Option Int) (hn : 0 ≤ n)
    (hb : SliceAlgebra.InAxis n b) : negStop n b = b.getD (-1) := by
  cases b with
  | none => simp only [negStop, Option.getD_none]; split <;> omega
  | some v =>
    have := hb v rfl
    simp only [negStop, Option.getD_some]; split <;> omega

theorem step_eq_some (s : PySlice) (hs : s.stp < 0) : s.step = some s.stp := by
  unfold PySlice.stp at *
  cases h : s.step with
  | none => simp [h] at hs
  | some v => simp

theorem normalize_neg (s : PySlice) (n : Int) (hs : s.stp < 0) (hn : 0 ≤ n) :
    ∃ a b, normalizeSlice s n = ⟨a, b, some s.stp⟩ ∧ negStart n a < n ∧ -1 ≤ negStop n b ∧
      rangeList (negStart n a) (negStop n b) s.stp = sel s n := by
  obtain ⟨a, b, hnorm, ha, hb, hr⟩ := SliceAlgebra.normalizeSlice_neg s n hn hs
  refine ⟨a, b, hnorm, ?_⟩
  rw [negStart_eq n a hn ha, negStop_eq n b hn hb]
  refine ⟨?_, ?_, hr⟩
  · cases a with
    | none => exact Int.sub_one_lt_of_le (Int.le_refl n)
    | some v => have := ha v rfl; simp only [Option.getD_some]; omega
  · cases b with
    | none => exact Int.le_refl _
    | some v => have := hb v rfl; simp only [Option.getD_some]; omega

theorem loopNeg_visited (L : List Int) (hl : ∀ c ∈ L, 0 ≤ c) (c E S : Int) (hc : c < 0) :
    loopNeg c E (visitedOf L S E) S = loopNeg c E (blockTriples L).reverse S := by
  unfold visitedOf
  rw [← List.filter_reverse]
  apply loopNeg_filter c E S hc _ _ _ S (Int.le_refl _)
  intro t ht hP
  rw [← descT_length] at ht
  obtain ⟨k, hk, rfl⟩ := mem_descT ht
  rw [cumsum_length] at hP
  simp only [triple] at hP ⊢
  by_cases hA : max ((bisectRight (cumsum L) E : Int) - 1) (-1) < (k : Int)
  · by_cases hB : (k : Int) ≤ min ((bisectRight (cumsum L) S : Int) + 1) ((L.length : Int) - 1)
    · simp [hA, hB] at hP
    · -- beyond the block after the one of `S`: the block before it already ends above `S`
      left
      apply Int.lt_of_not_ge
      intro hle
      have h1 : 0 < k := by omega
      have := (lt_bisectRight_iff hl (show k - 1 < L.length by omega) S).mpr
        (by rw [Nat.sub_add_cancel h1]; exact hle)
      omega
  · right
    have : blockStart L (k + 1) ≤ E := (lt_bisectRight_iff hl hk E).mp (by omega)
    omega

theorem insertByKey_append (p : Nat × PySlice) (l : List (Nat × PySlice))
    (h : ∀ q ∈ l, q.1 < p.1) : insertByKey p l = l ++ [p] := by
  induction l with
  | nil => simp [insertByKey]
  | cons q qs ih =>
    have h1 : ¬ p.1 ≤ q.1 := by have := h q (by simp); omega
    simp only [insertByKey, h1, if_false, List.cons_append]
    rw [ih (fun x hx => h x (List.mem_cons_of_mem _ hx))]

theorem sortByKey_desc (l : List (Nat × PySlice))
    (h : List.Pairwise (· > ·) (l.map (·.1))) : sortByKey l = l.reverse := by
  induction l with
  | nil => simp [sortByKey]
  | cons p ps ih =>
    simp only [List.map_cons, List.pairwise_cons, List.mem_map] at h
    have ih' := ih h.2
    unfold sortByKey at ih' ⊢
    simp only [List.foldr_cons, ih', List.reverse_cons]
    apply insertByKey_append
    intro q hq
    rw [List.mem_reverse] at hq
    exact h.1 q.1 ⟨q, hq, rfl⟩

theorem plan_neg (L : List Int) (s : PySlice) (hl : ∀ c ∈ L, 0 ≤ c) (hs : s.stp < 0) :
    ∃ d : List (Nat × PySlice), Slice1dPos.RawPlan L s d ∧ List.Pairwise (· > ·) (d.map (·.1)) := by
  have hn := isum_nonneg L hl
  obtain ⟨a, b, hnorm, hS, hE, hsel⟩ := normalize_neg s (isum L) hs hn
  generalize hSd : negStart (isum L) a = S at hS hsel
  generalize hEd : negStop (isum L) b = E at hE hsel
  have hsub := loopNeg_keys s.stp E (descT L L.length) S
  obtain ⟨hpos, hent⟩ := loopNeg_spec L s.stp E hs hE L.length (Nat.le_refl _) S
    (by simpa [blockStart] using hS)
  generalize hd : loopNeg s.stp E (descT L L.length) S = d at hsub hpos hent
  have hk : List.Pairwise (· > ·) (d.map (·.1)) := List.Pairwise.sublist hsub (descT_keys L L.length)
  refine ⟨d, ⟨?_, ?_, ?_, ?_, hent⟩, hk⟩
  · rw [hnorm, slice1d_neg_unfold _ _ _ _ _ hs, hSd, hEd, loopNeg_visited L hl _ _ _ hs, ← descT_length, hd]
  · rw [hpos, hsel]
  · -- descending keys: sorting ascending and reversing gives the list back
    unfold orderedPlan
    rw [if_pos hs, sortByKey_desc _ (Slice1dPos.finish_keys L d hk), List.reverse_reverse]
  · intro p hp
    obtain ⟨t, ht, e⟩ := List.mem_map.mp (hsub.subset (List.mem_map_of_mem hp))
    obtain ⟨k, hk, rfl⟩ := mem_descT ht
    exact (show p.1 = k from e.symm) ▸ hk

/-- the `_slice_1d` doctest with step `-3`, and an axis with an empty chunk -/
example :
    planPositions [20, 20, 20, 20, 20]
        (sortByKey (slice1d (isum [20, 20, 20, 20, 20]) [20, 20, 20, 20, 20]
          (normalizeSlice ⟨some 100, some 12, some (-3)⟩ (isum [20, 20, 20, 20, 20])))).reverse
      = sel ⟨some 100, some 12, some (-3)⟩ (isum [20, 20, 20, 20, 20])
    ∧ sel ⟨some 100, some 12, some (-3)⟩ (isum [20, 20, 20, 20, 20]) ≠ [] := by
  decide

example :
    planPositions [2, 0, 1]
        (sortByKey (slice1d (isum [2, 0, 1]) [2, 0, 1]
          (normalizeSlice ⟨none, none, some (-1)⟩ (isum [2, 0, 1])))).reverse = [2, 1, 0]
    ∧ sel ⟨none, none, some (-1)⟩ (isum [2, 0, 1]) = [2, 1, 0] := by
  decide

end Dask.Lemmas.Slice1dNeg

namespace Dask.Lemmas.Slice1d
open Dask.Py Dask.Py.PySlice Dask.Slicing
open Dask.Lemmas.Slice1dPos Dask.Lemmas.Slice1dNeg
open Dask.Lemmas.SliceAlgebra (normalizeSlice_stp)

theorem slice1d_spec (L : List Int) (s : PySlice) (hl : ∀ c ∈ L, 0 ≤ c) (hs : s.stp ≠ 0) :
    planPositions L (orderedPlan s.stp (slice1d (isum L) L (normalizeSlice s (isum L)))) = sel s (isum L) ∧
    newBlockdim (isum L) L (normalizeSlice s (isum L))
      = planLengths L (orderedPlan s.stp (slice1d (isum L) L (normalizeSlice s (isum L)))) ∧
    ∀ p ∈ slice1d (isum L) L (normalizeSlice s (isum L)), p.1 < max 1 L.length := by
  by_cases hcol : normalizeSlice s (isum L) = colon
  · -- `slice(None)`: unit step, every block with `slice(None)`
    have h1 : s.stp = 1 := by
      rw [← normalizeSlice_stp s (isum L), hcol]
      rfl
    have hpos : 0 < s.stp := by omega
    unfold orderedPlan
    rw [if_neg (by omega)]
    exact ⟨slice1d_partition_pos L s hl hpos, newBlockdim_eq_planLengths_pos L s hl hpos,
      (slice1d_keys_pos L s hl hpos).2⟩
  · have ⟨d, h⟩ : ∃ d, RawPlan L s d := by
      by_cases hneg : s.stp < 0
      · exact (plan_neg L s hl hneg).imp (fun _ h => h.1)
      · exact ⟨_, (plan_pos L s hl (by omega) hcol).1⟩
    exact ⟨h.positions hl, h.lengths hl hcol, h.keys⟩

end Dask.Lemmas.Slice1d
