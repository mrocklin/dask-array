/-
n-D lift of the map_overlap pipeline (Model/OverlapPipe.lean) by axis independence.

One axis, at index level: what the kept output `i` reads at window offset `t` (`axisSrc`, through the block containing
`i`) is what the global extension `padSrc` has at `i + t`: with pieces every block is interior, depth 0 is kind `none`,
and under kind `none` the map of block `k` is the extension of the sub-array of `blockRec`, shifted to the axis
(`axisSrc_none_shift`), so the statement is `AxRec.Geom.shift` of that record.  `padND` and the pipeline are
products of the per-axis maps, so the boxes agree axis by axis, corner neighbours included.  Core Lean only.
-/
import DaskArrayModel.Lemmas.OverlapPipe
namespace Dask.Lemmas.OverlapPipe
open Dask.OverlapSlice Dask.OverlapPipe Dask.Lemmas.OverlapSlice

variable {α β : Type}

theorem blockIdx_spec : ∀ (cs : List Nat) (i : Nat), i < cs.sum →
    blockIdx cs i < cs.length ∧ lo cs (blockIdx cs i) ≤ i ∧ i < lo cs (blockIdx cs i) + cs.getD (blockIdx cs i) 0
  | [], i, h => by simp at h
  | c :: cs, i, h => by
    unfold blockIdx
    by_cases hi : i < c
    · simp [hi, lo]
    · have ih := blockIdx_spec cs (i - c) (by simp at h; omega)
      simp only [hi, if_false, List.length_cons, lo, List.take_succ_cons, List.sum_cons, List.getD_cons_succ]
      simp only [lo] at ih
      omega

theorem axisSrc_zero (b : Boundary α) (cs : List Nat) (n k q : Nat) :
    axisSrc b 0 0 cs n k q = axisSrc .none 0 0 cs n k q := by
  simp [axisSrc, extLen, haloL, haloR, addsPieces]

theorem padSrc_zero (b : Boundary α) (n p : Nat) : padSrc b 0 0 n p = padSrc .none 0 0 n p := by
  simp only [padSrc, Nat.not_lt_zero, if_false, Nat.add_zero]
  by_cases h : p < 0 + n
  · rw [if_pos h, if_pos h]
  · rw [if_neg h, if_neg h, if_neg h, if_neg h]

theorem padSrc_none_eq (dl dr m es q : Nat) :
    (padSrc (.none : Boundary α) dl dr m q).shift es =
      if q < dl then .absent else if q < dl + m then .idx (es + (q - dl))
      else if q < dl + m + dr then .absent else .out := by
  unfold padSrc
  split
  · rfl
  · split
    · rfl
    · split <;> rfl

theorem axisSrc_none_shift (dl dr : Nat) (cs : List Nat) (n k q : Nat) :
    axisSrc (.none : Boundary α) dl dr cs n k q =
      (padSrc .none dl dr (blockRec α dl dr cs n k).m q).shift (blockRec α dl dr cs n k).es := by
  rw [padSrc_none_eq]
  -- kind `none` adds no pieces, so `haloL` is the record's `ts`, `extLen` its `m`, and `lo cs k - haloL` its `es`
  simp [axisSrc, extLen, haloL, haloR, addsPieces, Boundary.kind, blockRec]

theorem axisSrc_eq_padSrc_none (dl dr : Nat) (cs : List Nat) (n : Nat) (hG : Guard dl dr cs n)
    (i : Nat) (hi : i < n) (t : Nat) (ht : t < dl + dr + 1) :
    axisSrc (.none : Boundary α) dl dr cs n (blockIdx cs i)
        ((i - lo cs (blockIdx cs i)) + trimFront .none dl (blockIdx cs i) + t) =
      padSrc .none dl dr n (i + t) := by
  obtain ⟨hk, hlo, hhi⟩ := blockIdx_spec cs i (hG.2.1 ▸ hi)
  have h := (blockRec_geom (α := α) (guard_block hG hk)).shift (i - lo cs (blockIdx cs i)) t (show i - lo cs _ < cs.getD _ 0 by omega)
    (show t ≤ dl + dr by omega)
  rw [axisSrc_none_shift, trimFront_none, Nat.add_comm (i - _)]
  exact (srcRel_iff.mp h).symm.trans (congrArg (padSrc _ _ _ _) (show lo cs _ + (i - lo cs _) + t = i + t by omega))

theorem axisSrc_eq_padSrc (b : Boundary α) (dl dr : Nat) (cs : List Nat) (n : Nat) (hG : Guard dl dr cs n)
    (i : Nat) (hi : i < n) (t : Nat) (ht : t < dl + dr + 1) :
    axisSrc b dl dr cs n (blockIdx cs i) ((i - lo cs (blockIdx cs i)) + trimFront b.kind dl (blockIdx cs i) + t) =
      padSrc b dl dr n (i + t) := by
  rcases boundaries_cases b dl dr with ⟨hp, hb, _⟩ | ⟨_, rfl | ⟨rfl, rfl⟩⟩
  · -- `boundaries` added pieces: every block is interior in the padded axis
    obtain ⟨hk, hlo, hhi⟩ := blockIdx_spec cs i (hG.2.1 ▸ hi)
    simp only [axisSrc, extLen, haloL, haloR, trimFront, hp, hb, true_or, if_true, and_false, if_false]
    rw [if_neg (by omega), if_pos (by omega)]
    congr 1
    omega
  · exact axisSrc_eq_padSrc_none dl dr cs n hG i hi t ht
  · rw [axisSrc_zero, padSrc_zero,
      show trimFront b.kind 0 (blockIdx cs i) = trimFront .none 0 (blockIdx cs i) by simp [trimFront]]
    exact axisSrc_eq_padSrc_none 0 0 cs n hG i hi t ht

def InRangeP : List (AxPipe α) → List Nat → Prop
  | [], [] => True
  | p :: ps, i :: is => i < p.spec.n ∧ InRangeP ps is
  | _, _ => False

theorem padND_eq_resolveND (specs : List (AxSpec α)) (G : List Nat → Option α) :
    padND specs G = resolveND (specs.map (fun sp => padSrc sp.b sp.dl sp.dr sp.n)) G := by
  funext I
  induction specs generalizing G I with
  | nil => rfl
  | cons sp sps ih =>
    cases I with
    | nil => rfl
    | cons p ps => exact ih _ ps

theorem box_pipe : ∀ (ps : List (AxPipe α)) (I : List Nat)
    (hG : ∀ p ∈ ps, Guard p.spec.dl p.spec.dr p.cs p.spec.n) (hI : InRangeP ps I) (G : List Nat → Option α),
    boxWin (widths (ps.map (·.spec)))
        (resolveND
          (List.zipWith (fun p i => axisSrc p.spec.b p.spec.dl p.spec.dr p.cs p.spec.n (blockIdx p.cs i)) ps I) G)
        (List.zipWith localPos ps I) =
      boxWin (widths (ps.map (·.spec)))
        (resolveND ((ps.map (·.spec)).map (fun sp => padSrc sp.b sp.dl sp.dr sp.n)) G) I
  | [], [], _, _, G => by simp [widths, boxWin, resolveND]
  | [], _ :: _, _, h, _ => by simp [InRangeP] at h
  | _ :: _, [], _, h, _ => by simp [InRangeP] at h
  | p :: ps, i :: is, hG, hI, G => by
    simp only [InRangeP] at hI
    simp only [List.map_cons, widths, List.zipWith_cons_cons, boxWin]
    apply Dask.Py.flatMap_congr
    intro o ho
    have ho' : o < p.spec.dl + p.spec.dr + 1 := by simpa using ho
    have hax := axisSrc_eq_padSrc p.spec.b p.spec.dl p.spec.dr p.cs p.spec.n (hG p (by simp)) i hI.1 o ho'
    have hl : localPos p i + o =
        (i - lo p.cs (blockIdx p.cs i)) + trimFront p.spec.b.kind p.spec.dl (blockIdx p.cs i) + o := rfl
    simp only [resolveND, hl, hax]
    exact box_pipe ps is (fun q hq => hG q (by simp [hq])) hI.2 _

end Dask.Lemmas.OverlapPipe
