/-
Lemmas for Model/RecordKeys.lean, part 2: `_Flattener.resolve` / `_records` at the string level —
the strings of the embedded references ARE the collected deps, every embedded key is canonical, and
the refinement of the abstract-key model of Model/Graph.lean (`resolve cfgK`), through which
`records_complete` (C21_flatten_complete) transfers to the strings a worker looks up
(`C21k_flatten_complete_str`).
-/
import DaskArrayModel.Lemmas.RecordKeys
import DaskArrayModel.Lemmas.Flatten
namespace Dask.Lemmas.RecordKeys
open Dask.RecordKeys
-- `PKey` and `Comp` are the typed ones of Model/RecordKeys.lean throughout; `Dask.Graph.PKey` (Model/Graph.lean) is
-- another model of a key, not opened and not the one refined here
open Dask.Graph (Node Args Arg Rec FlatCfg nodeRefs argsRefs argRefs argRefsL)
open Dask.Lemmas.Graph (Res.arg Res.recs Res.deps)

theorem keysL_append (xs ys : List OArg) : keysL (xs ++ ys) = keysL xs ++ keysL ys := by
  induction xs with
  | nil => rfl
  | cons a as ih =>
    show a.keys ++ keysL (as ++ ys) = a.keys ++ keysL as ++ keysL ys
    rw [ih, List.append_assoc]

theorem keysL_lits (d : List Nat) : keysL (d.map OArg.lit) = [] := by
  induction d with
  | nil => rfl
  | cons a as ih => exact ih

theorem mem_sortedSet (l : List String) (x : String) : x ∈ sortedSet l ↔ x ∈ l :=
  Dask.Lemmas.Graph.mem_sortDedupBy _ l x

/-- For a term referencing `refs`: the key objects `ks` embedded in the rewritten argument, the lifted
records and the collected dependency strings `ds`.  The strings of the embedded keys ARE the collected
deps, in every lifted record a string is looked up iff it is declared, and when no referenced key has
an `np.str_` / `np.bool_` component every embedded key is canonical. -/
structure Resolved (refs ks : List PKey) (recs : List ORec) (ds : List String) : Prop where
  strs : ks.map keyStr = ds
  recs_strs : ∀ rec ∈ recs, ∀ s, s ∈ refStrsL rec.args ↔ s ∈ rec.deps
  canon : (∀ k ∈ refs, k.normalizable = true) →
    (∀ k ∈ ks, k.canon = true) ∧ ∀ rec ∈ recs, ∀ k ∈ keysL rec.args, k.canon = true

namespace Resolved

theorem nil : Resolved [] [] [] [] :=
  ⟨rfl, fun _ h => absurd h List.not_mem_nil,
   fun _ => ⟨fun _ h => absurd h List.not_mem_nil, fun _ h => absurd h List.not_mem_nil⟩⟩

theorem ref (k : PKey) : Resolved [k] [normalize k] [] [keyStr (normalize k)] :=
  ⟨rfl, fun _ h => absurd h List.not_mem_nil, fun h =>
    ⟨fun _ hk' => List.mem_singleton.mp hk' ▸ normalize_canon k (h k List.mem_cons_self),
     fun _ h => absurd h List.not_mem_nil⟩⟩

theorem append {refs1 refs2 ks1 ks2 : List PKey} {recs1 recs2 : List ORec} {ds1 ds2 : List String}
    (h1 : Resolved refs1 ks1 recs1 ds1) (h2 : Resolved refs2 ks2 recs2 ds2) :
    Resolved (refs1 ++ refs2) (ks1 ++ ks2) (recs1 ++ recs2) (ds1 ++ ds2) where
  strs := by rw [List.map_append, h1.strs, h2.strs]
  recs_strs := fun rec hrec => (List.mem_append.mp hrec).elim (h1.recs_strs rec) (h2.recs_strs rec)
  canon := fun h =>
    have c1 := h1.canon (fun k hk => h k (List.mem_append_left _ hk))
    have c2 := h2.canon (fun k hk => h k (List.mem_append_right _ hk))
    ⟨fun k hk => (List.mem_append.mp hk).elim (c1.1 k) (c2.1 k),
     fun rec hrec => (List.mem_append.mp hrec).elim (c1.2 rec) (c2.2 rec)⟩

/-- a record over the resolved arguments, depending on `sorted(set(·))` of what they collected,
placed next to the lifted records (before them: `_records`; after them: a hoisted task) -/
theorem with_rec {refs ks : List PKey} {recs recs' : List ORec} {ds : List String}
    (h : Resolved refs ks recs ds) (r : ORec) (hargs : keysL r.args = ks) (hdeps : r.deps = sortedSet ds)
    (hmem : ∀ rec ∈ recs', rec = r ∨ rec ∈ recs) :
    (∀ rec ∈ recs', ∀ s, s ∈ refStrsL rec.args ↔ s ∈ rec.deps) ∧
    ((∀ k ∈ refs, k.normalizable = true) → ∀ rec ∈ recs', ∀ k ∈ keysL rec.args, k.canon = true) := by
  refine ⟨fun rec hrec s => ?_, fun hn rec hrec => ?_⟩
  · rcases hmem rec hrec with rfl | hin
    · rw [refStrsL, hargs, hdeps, mem_sortedSet, h.strs]
    · exact h.recs_strs rec hin s
  · rcases hmem rec hrec with rfl | hin
    · rw [hargs]; exact (h.canon hn).1
    · exact (h.canon hn).2 rec hin

theorem hoist {refs ks : List PKey} {recs : List ORec} {ds : List String}
    (h : Resolved refs ks recs ds) (sub : String) (r : ORec) (hargs : keysL r.args = ks)
    (hdeps : r.deps = sortedSet ds) : Resolved refs [.bare false sub] (recs ++ [r]) [sub] :=
  have hr := h.with_rec (recs' := recs ++ [r]) r hargs hdeps (fun _ hrec =>
    (List.mem_append.mp hrec).elim Or.inr (fun h => Or.inl (List.mem_singleton.mp h)))
  ⟨congrArg (· :: []) (keyStr_bare false sub), hr.1,
   fun hn => ⟨fun _ hk => List.mem_singleton.mp hk ▸ rfl, hr.2 hn⟩⟩

end Resolved

mutual
theorem resolve_resolved (parent : String) : ∀ (t : Term) (n : Nat),
    Resolved t.refs (Res.arg (resolve normalize parent t n)).keys
      (Res.recs (resolve normalize parent t n)) (Res.deps (resolve normalize parent t n))
  | .ref k, n | .alias k, n => .ref k
  | .data v, n | .lit v, n | .other, n => .nil
  | .nlist xs, n | .ntuple xs, n | .plist xs, n | .ptuple xs, n | .pdict ks xs, n =>
    resolveL_resolved parent xs n
  | .task f kw xs, n => (resolveL_resolved parent xs (n + 1)).hoist _ _ rfl rfl
  | .fused f d kw xs, n =>
    (resolveL_resolved parent xs (n + 1)).hoist _ _ (by rw [keysL_append, keysL_lits, List.nil_append]) rfl
theorem resolveL_resolved (parent : String) : ∀ (ts : Terms) (n : Nat),
    Resolved ts.refs (keysL (Res.arg (resolveL normalize parent ts n)))
      (Res.recs (resolveL normalize parent ts n)) (Res.deps (resolveL normalize parent ts n))
  | .nil, _ => .nil
  | .cons x xs, n => (resolve_resolved parent x n).append (resolveL_resolved parent xs _)
end

/-- Whatever `_records` returns is one record in front of the records lifted from what it is over
(`with_rec`): the alias record over the resolved reference, a data record over nothing, a container's
or task's own record over its arguments resolved at counter 0. -/
theorem records_resolved (key : PKey) (t : Term) (rs : List ORec) (h : records normalize key t = some rs) :
    (∀ rec ∈ rs, ∀ s, s ∈ refStrsL rec.args ↔ s ∈ rec.deps) ∧
    ((∀ k ∈ t.refs, k.normalizable = true) → ∀ rec ∈ rs, ∀ k ∈ keysL rec.args, k.canon = true) := by
  cases t with
  | alias k =>
    simp only [records] at h
    split at h
    · cases h; exact ⟨fun _ hr => absurd hr List.not_mem_nil, fun _ _ hr => absurd hr List.not_mem_nil⟩
    · cases h
      exact (Resolved.ref k).with_rec _ rfl rfl (fun _ => List.mem_cons.mp)
  | data v | lit v =>
    cases h
    exact Resolved.nil.with_rec _ rfl rfl (fun _ => List.mem_cons.mp)
  | nlist xs | ntuple xs =>
    cases h
    -- the record's one argument is the container: `keysL [.list r] = keysL r ++ []` by computation
    exact (resolveL_resolved _ xs 0).with_rec _ (List.append_nil _) rfl
      (fun _ => List.mem_cons.mp)
  | task f kw xs =>
    cases h
    exact (resolveL_resolved _ xs 0).with_rec _ rfl rfl (fun _ => List.mem_cons.mp)
  | fused f d kw xs =>
    cases h
    exact (resolveL_resolved _ xs 0).with_rec _ (by rw [keysL_append, keysL_lits, List.nil_append]) rfl
      (fun _ => List.mem_cons.mp)
  | ref k | plist xs | ptuple xs | pdict ks xs | other => cases h

mutual
theorem argRefs_erase : ∀ (a : OArg), argRefs (erase a) = a.refStrs
  | .ref _ | .lit _ => rfl
  | .list xs | .tuple xs | .dict _ xs => argRefsL_erase xs
theorem argRefsL_erase : ∀ (as : List OArg), argRefsL (eraseL as) = refStrsL as
  | [] => rfl
  | a :: as => by
    show argRefs (erase a) ++ argRefsL (eraseL as) = List.map keyStr (a.keys ++ keysL as)
    rw [argRefs_erase a, argRefsL_erase as, List.map_append]
    rfl
end

mutual
theorem resolve_erase (parent : String) : ∀ (x : Node PKey String Nat) (n : Nat),
    Dask.Graph.resolve cfgK parent x n =
      (erase (resolve normalize parent (ofNode x) n).1, (resolve normalize parent (ofNode x) n).2.1,
        (resolve normalize parent (ofNode x) n).2.2.1.map eraseRec, (resolve normalize parent (ofNode x) n).2.2.2)
  | .taskRef k, n | .alias k, n | .data v, n | .lit v, n => rfl
  -- both flatteners compute the same function of the resolved arguments: the hypothesis for `xs` under it
  | .list xs, n | .plist xs, n =>
    congrArg (fun r => (Arg.list r.1, r.2.1, r.2.2.1, r.2.2.2)) (resolveL_erase parent xs n)
  | .tuple xs, n | .ptuple xs, n =>
    congrArg (fun r => (Arg.tuple r.1, r.2.1, r.2.2.1, r.2.2.2)) (resolveL_erase parent xs n)
  -- the function under `congrArg` is the `.task` branch of `Graph.resolve` as written in the model, with `r` for the
  -- resolved arguments.  What is left is that branch at the erased results against the erasure of the string-level
  -- branch; they differ in `keyStr (.bare _ sub)` for `sub` and in `map eraseRec` over `recs ++ [rec]`, which the
  -- `show` brings to the surface for the two rewrites
  | .task f kw xs, n => by
    refine (congrArg (fun r => let sub := subKey parent (n + 1)
      (Arg.ref sub, r.2.1, r.2.2.1 ++ [⟨sub, .fn f, kw, r.1, sortedSet r.2.2.2⟩], [sub]))
      (resolveL_erase parent xs (n + 1))).trans ?_
    show (Arg.ref _, _, _ ++ [_], _) = (Arg.ref (keyStr _), _, List.map _ (_ ++ [_]), _)
    rw [keyStr_bare, List.map_append]
    rfl
theorem resolveL_erase (parent : String) : ∀ (xs : Args PKey String Nat) (n : Nat),
    Dask.Graph.resolveArgs cfgK parent xs n =
      (eraseL (resolveL normalize parent (ofArgs xs) n).1, (resolveL normalize parent (ofArgs xs) n).2.1,
        (resolveL normalize parent (ofArgs xs) n).2.2.1.map eraseRec, (resolveL normalize parent (ofArgs xs) n).2.2.2)
  | .nil, n => rfl
  -- likewise: the `cons` branch of `resolveArgs` with `r1` for the resolved head; the `show` exposes the call on the
  -- tail (for the hypothesis) and the `map eraseRec` over the two record lists
  | .cons x xs, n => by
    refine (congrArg (fun r1 => let r2 := Dask.Graph.resolveArgs cfgK parent xs r1.2.1
      (r1.1 :: r2.1, r2.2.1, r1.2.2.1 ++ r2.2.2.1, r1.2.2.2 ++ r2.2.2.2)) (resolve_erase parent x n)).trans ?_
    show (_ :: (Dask.Graph.resolveArgs cfgK parent xs _).1, _, _, _) = (_, _, List.map _ (_ ++ _), _)
    rw [resolveL_erase parent xs _, List.map_append]
    rfl
end

theorem records_erase (key : PKey) (node : Node PKey String Nat) (rs : List ORec)
    (h : records normalize key (ofNode node) = some rs) :
    Dask.Graph.records cfgK (keyStr (normalize key)) node = rs.map eraseRec := by
  cases node with
  | taskRef k | plist xs | ptuple xs => cases h
  | alias k =>
    -- on an alias both `records` are, by computation, an `if` on this equation of strings (a self-alias gives no
    -- record); `h` is read through the string-level `if`, the goal through the abstract one
    by_cases he : keyStr (normalize k) = keyStr (normalize key)
    · cases (if_pos he).symm.trans h; exact if_pos he
    · cases (if_neg he).symm.trans h; exact if_neg he
  | data v | lit v => cases h; rfl
  | list xs =>
    cases h
    exact congrArg (fun r => Rec.mk _ .ident [] [.list r.1] (sortedSet r.2.2.2) :: r.2.2.1) (resolveL_erase _ xs 0)
  | tuple xs =>
    cases h
    exact congrArg (fun r => Rec.mk _ .ident [] [.tuple r.1] (sortedSet r.2.2.2) :: r.2.2.1) (resolveL_erase _ xs 0)
  | task f kw xs =>
    cases h
    exact congrArg (fun r => Rec.mk _ (.fn f) kw r.1 (sortedSet r.2.2.2) :: r.2.2.1) (resolveL_erase _ xs 0)

theorem subKey_inj (parent : String) (a b : Nat) (h : subKey parent a = subKey parent b) : a = b := by
  simp only [subKey] at h
  exact natChars_inj (String.ofList_injective ((String.append_right_inj _).mp h))

end Dask.Lemmas.RecordKeys
