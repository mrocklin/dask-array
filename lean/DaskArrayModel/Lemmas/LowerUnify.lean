/-
The lowering step of an elemwise node (Model/LowerUnify.lean: `unify_chunks_expr` + one `rechunk` per operand that is
not yet in its target layout) produces a well-formed expression with the NumPy meaning of the elemwise, whose operands
carry one common layout per index (length-1 axes excepted).  The facts about the unified layout come from
Lemmas/Unify.lean; Lemmas/ExprCorrect.lean and Lemmas/Expr2Correct.lean transfer the meaning to the computed blocks.
Two operands are compared in the coordinates of their common rank `r` (`padLay r`, `padSh r`: aligned at the right),
where position `k` carries label `r-1-k` whatever the operand's own rank.
-/
import DaskArrayModel.Model.LowerUnify
import DaskArrayModel.Lemmas.Unify
import DaskArrayModel.Lemmas.Expr2Correct
namespace Dask.LowerUnify
open Dask.Py Dask.ND

theorem forall_mem_pair {α} {p : α → Prop} {a b : α} : (∀ x ∈ [a, b], p x) ↔ p a ∧ p b := by
  simp

theorem allTruthy_iff (l : Layout) : allTruthy l = true ↔ NonEmptyAxes l := by
  simp [allTruthy, NonEmptyAxes, List.all_eq_true]

theorem posLayout_iff (l : Layout) : posLayout l = true ↔ ∀ c ∈ l, ∀ x ∈ c, 0 < x := by
  simp [posLayout, List.all_eq_true]

theorem length_eq_of_map_sum_eq {u c : Layout} (h : u.map List.sum = c.map List.sum) : u.length = c.length :=
  (length_of_map_sum h).trans (List.length_map _)

theorem opdOf_axes_length (o : Opnd) : (opdOf o).axes.length = o.chunks.length := by
  simp [opdOf]

theorem mem_opdOf_axes (o : Opnd) (ax : Dask.Unify.Ax) :
    ax ∈ (opdOf o).axes ↔ ∃ n, n < o.chunks.length ∧
      ax = ⟨o.chunks.length - 1 - n, toI (o.chunks.getD n [])⟩ := by
  simp only [opdOf, List.mem_map, List.mem_range]
  constructor
  · rintro ⟨n, hn, rfl⟩; exact ⟨n, hn, rfl⟩
  · rintro ⟨n, hn, rfl⟩; exact ⟨n, hn, rfl⟩

theorem forall_opdOf_axes {o : Opnd} {P : Dask.Unify.Ax → Prop} :
    (∀ ax ∈ (opdOf o).axes, P ax) ↔
      ∀ n, n < o.chunks.length → P ⟨o.chunks.length - 1 - n, toI (o.chunks.getD n [])⟩ := by
  constructor
  · intro h n hn
    exact h _ ((mem_opdOf_axes o _).mpr ⟨n, hn, rfl⟩)
  · intro h ax hax
    obtain ⟨n, hn, rfl⟩ := (mem_opdOf_axes o ax).mp hax
    exact h n hn

theorem ax_shape_toI (j : Nat) (c : List Nat) : (Dask.Unify.Ax.shape ⟨j, toI c⟩) = (c.sum : Int) := by
  simp [Dask.Unify.Ax.shape, isum_toI]

theorem ax_live_toI (j : Nat) (c : List Nat) : Dask.Unify.Ax.live ⟨j, toI c⟩ = true ↔ 1 < c.sum := by
  rw [Dask.Lemmas.Unify.live_iff]
  show Dask.Py.isum (toI c) > 1 ↔ _
  rw [isum_toI]
  omega

theorem targetOf_length (final : Nat → ULayout) (o : Opnd) : (targetOf final o).length = o.chunks.length := by
  simp [targetOf, opdOf]

theorem targetOf_getD (final : Nat → ULayout) (o : Opnd) (n : Nat) (hn : n < o.chunks.length) :
    (targetOf final o).getD n [] =
      if (o.chunks.getD n []).sum = 1 then [1] else (final (o.chunks.length - 1 - n)).map Int.toNat := by
  simp only [targetOf, opdOf, List.map_map]
  rw [getD_map _ _ n 0 [] (by simpa using hn), getD_range _ _ hn]
  show (Dask.Unify.opdAxisChunks final ⟨_, toI _⟩).map Int.toNat = _
  unfold Dask.Unify.opdAxisChunks
  rw [ax_shape_toI]
  by_cases h1 : (o.chunks.getD n []).sum = 1
  · rw [if_pos h1, if_neg (by omega), h1]
    rfl
  · rw [if_neg h1, if_pos (by omega)]

theorem targetOf_congr (final : Nat → ULayout) (ia ib : Int) {ca cb : Layout}
    (hs : ca.map List.sum = cb.map List.sum) : targetOf final ⟨ia, ca⟩ = targetOf final ⟨ib, cb⟩ := by
  have hlen : ca.length = cb.length := length_eq_of_map_sum_eq hs
  apply ext_getD []
  · rw [targetOf_length, targetOf_length]; exact hlen
  · intro k hk
    rw [targetOf_length] at hk
    rw [targetOf_getD _ _ k hk, targetOf_getD _ _ k (hlen ▸ hk)]
    -- only reduces the projection `(⟨ia, ca⟩ : Opnd).chunks` to `ca` (and likewise `cb`) so that the next `rw` finds them
    show (if (ca.getD k []).sum = 1 then _ else (final (ca.length - 1 - k)).map Int.toNat) =
      if (cb.getD k []).sum = 1 then _ else (final (cb.length - 1 - k)).map Int.toNat
    rw [sum_getD_of_map_sum hs, sum_getD_of_map_sum rfl, hlen]

theorem padLay_sum_getD {u : Layout} {s : List Nat} (h : u.map List.sum = s) (r k : Nat) :
    ((padLay r u).getD k []).sum = (padSh r s).getD k 0 := by
  rw [padLay_getD, padSh_getD]
  have hl : u.length = s.length := length_of_map_sum h
  rw [hl]
  split
  · rfl
  · exact sum_getD_of_map_sum h _

/-- operands are aligned at the right: padded to a common rank `r`, the axis at position `k` is the operand's own
axis `k - (r - rank)`, and its index label `rank - 1 - (k - (r - rank))` is `r - 1 - k`, whatever the rank -/
theorem pad_pos {len r k : Nat} (hr : len ≤ r) (hk : k < r) (h : ¬k < r - len) :
    k - (r - len) < len ∧ len - 1 - (k - (r - len)) = r - 1 - k := by
  omega

/-- `targetOf_getD` in the coordinates of a common rank: a missing leading axis is a length-1 axis -/
theorem padLay_targetOf (final : Nat → ULayout) (o : Opnd) {r k : Nat} (hr : (targetOf final o).length ≤ r)
    (hk : k < r) :
    (padLay r (targetOf final o)).getD k [] =
      if ((padLay r o.chunks).getD k []).sum = 1 then [1] else (final (r - 1 - k)).map Int.toNat := by
  rw [padLay_getD, padLay_getD]
  rw [targetOf_length] at hr ⊢
  by_cases h : k < r - o.chunks.length
  · rw [if_pos h, if_pos h]
    rfl
  · obtain ⟨hn, e⟩ := pad_pos hr hk h
    rw [if_neg h, if_neg h, targetOf_getD _ _ _ hn, e]

theorem forall_opdOf_axes_pad {it : Int} {c : Layout} {P : Dask.Unify.Ax → Prop} {r : Nat} (hr : c.length ≤ r)
    (h : ∀ j, j < r → P ⟨j, toI ((padLay r c).getD (r - 1 - j) [])⟩) : ∀ ax ∈ (opdOf ⟨it, c⟩).axes, P ax := by
  rw [forall_opdOf_axes]
  intro n hn
  have hk : r - c.length + n < r := by
    have := Nat.add_lt_add_left hn (r - c.length)
    rwa [Nat.sub_add_cancel hr] at this
  have hpad : ¬r - c.length + n < r - c.length := Nat.not_lt.mpr (Nat.le_add_right _ _)
  have e := (pad_pos hr hk hpad).2
  rw [Nat.add_sub_cancel_left] at e
  have := h (r - 1 - (r - c.length + n)) (Nat.lt_of_le_of_lt (Nat.sub_le _ _) (Nat.sub_one_lt_of_lt hk))
  rwa [Nat.sub_sub_self (Nat.le_sub_one_of_lt hk), padLay_getD, if_neg hpad, Nat.add_sub_cancel_left, ← e] at this

theorem arrangeOne_ok {final : Nat → ULayout} {o : Opnd} {u : Layout} (hne : allTruthy o.chunks = true) :
    arrangeOne final o = .ok u ↔
      u = targetOf final o ∧ u.map List.sum = o.chunks.map List.sum ∧ allTruthy u = true := by
  unfold arrangeOne
  simp only [hne, Bool.true_eq_false, or_false]
  by_cases h1 : targetOf final o = o.chunks
  · rw [if_pos h1, h1]
    constructor
    · intro h
      have := Except.ok.inj h
      subst this
      exact ⟨rfl, rfl, hne⟩
    · rintro ⟨rfl, _⟩
      rfl
  · rw [if_neg h1]
    by_cases h2 : (decide ((targetOf final o).map List.sum = o.chunks.map List.sum) && allTruthy (targetOf final o)) = true
    · rw [if_pos h2]
      simp only [Bool.and_eq_true, decide_eq_true_eq] at h2
      constructor
      · intro h
        have := Except.ok.inj h
        subst this
        exact ⟨rfl, h2.1, h2.2⟩
      · rintro ⟨rfl, _⟩
        rfl
    · rw [if_neg h2]
      simp only [Bool.and_eq_true, decide_eq_true_eq] at h2
      constructor
      · intro h
        cases h
      · rintro ⟨rfl, h3, h4⟩
        exact absurd ⟨h3, h4⟩ h2

theorem unifyTargets_pair (p : Params) (pre : List ULayout) (ia ib : Int) (ca cb : Layout) :
    unifyTargets p pre [⟨ia, ca⟩, ⟨ib, cb⟩] =
      if cb = ca then .ok [ca, cb] else
      match Dask.Unify.unifyModel p.policy p.limit pre [opdOf ⟨ia, ca⟩, opdOf ⟨ib, cb⟩] (max ca.length cb.length) with
      | .error e => .error (.unify e)
      | .ok res =>
        if res.oracleOk then arrangeAll (Dask.Unify.look res.final) [⟨ia, ca⟩, ⟨ib, cb⟩] else .error .oracle := by
  have hn : nlabelsOf [(⟨ia, ca⟩ : Opnd), ⟨ib, cb⟩] = max ca.length cb.length :=
    congrArg (max ca.length) (Nat.max_zero _)
  simp only [unifyTargets, List.all_cons, List.all_nil, Bool.and_true, decide_eq_true_eq, List.map_cons,
    List.map_nil, hn]
  rfl

/-- the layouts `ua`, `ub` that `unify_chunks_expr` gives two operands chunked `ca`, `cb` -/
structure TwoOK (ca cb ua ub : Layout) : Prop where
  suma : ua.map List.sum = ca.map List.sum
  sumb : ub.map List.sum = cb.map List.sum
  nea : allTruthy ua = true
  neb : allTruthy ub = true
  same : ca.map List.sum = cb.map List.sum → ua = ub
  /-- one common layout per index, length-1 (and missing leading) axes excepted -/
  aligned : ∀ k, k < max ua.length ub.length →
    (padLay (max ua.length ub.length) ua).getD k [] = [1] ∨
    (padLay (max ua.length ub.length) ub).getD k [] = [1] ∨
    (padLay (max ua.length ub.length) ua).getD k [] = (padLay (max ua.length ub.length) ub).getD k []
  /-- an axis whose layout is not `(1,)` although its length is 1 only occurs when nothing was changed -/
  one : ∀ k, k < max ua.length ub.length →
    (padLay (max ua.length ub.length) ua).getD k [] ≠ [1] →
    ((padLay (max ua.length ub.length) ua).getD k []).sum = 1 →
    ((padLay (max ua.length ub.length) ub).getD k []).sum = 1

theorem twoOK_of_targets (final : Nat → ULayout) {ia ib : Int} {ca cb : Layout}
    (sua : (targetOf final ⟨ia, ca⟩).map List.sum = ca.map List.sum)
    (nua : allTruthy (targetOf final ⟨ia, ca⟩) = true)
    (sub : (targetOf final ⟨ib, cb⟩).map List.sum = cb.map List.sum)
    (nub : allTruthy (targetOf final ⟨ib, cb⟩) = true) :
    TwoOK ca cb (targetOf final ⟨ia, ca⟩) (targetOf final ⟨ib, cb⟩) := by
  refine ⟨sua, sub, nua, nub, targetOf_congr _ ia ib, ?_, ?_⟩
  · intro k hk
    rw [padLay_targetOf _ ⟨ia, ca⟩ (Nat.le_max_left _ _) hk, padLay_targetOf _ ⟨ib, cb⟩ (Nat.le_max_right _ _) hk]
    split
    · exact Or.inl rfl
    · split
      · exact Or.inr (Or.inl rfl)
      · exact Or.inr (Or.inr rfl)
  · intro k hk hne h1
    rw [padLay_sum_getD sua, ← padLay_sum_getD rfl] at h1
    rw [padLay_targetOf _ ⟨ia, ca⟩ (Nat.le_max_left _ _) hk, if_pos h1] at hne
    exact absurd rfl hne

theorem bcShape_length (s t : List Nat) : (bcShape s t).length = max s.length t.length := by
  unfold bcShape npBcShape
  simp only [List.length_zipWith]
  rw [padSh_length _ _ (Nat.le_max_left _ _), padSh_length _ _ (Nat.le_max_right _ _), Nat.min_self]

theorem bcShape_getD (s t : List Nat) (k : Nat) (hk : k < max s.length t.length) :
    (bcShape s t).getD k 0 =
      if (padSh (max s.length t.length) s).getD k 0 = 1 then (padSh (max s.length t.length) t).getD k 0
      else (padSh (max s.length t.length) s).getD k 0 := by
  unfold bcShape npBcShape
  rw [getD_zipWith _ _ _ k 0 0 0 (by rw [padSh_length _ _ (Nat.le_max_left _ _)]; exact hk)
    (by rw [padSh_length _ _ (Nat.le_max_right _ _)]; exact hk)]

theorem zipBLayout_sum {ca cb ua ub : Layout} (h : TwoOK ca cb ua ub) :
    (zipBLayout ua ub).map List.sum = bcShape (ca.map List.sum) (cb.map List.sum) := by
  have hr : max (ca.map List.sum).length (cb.map List.sum).length = max ua.length ub.length := by
    rw [List.length_map, List.length_map, length_eq_of_map_sum_eq h.suma, length_eq_of_map_sum_eq h.sumb]
  apply ext_getD 0
  · rw [List.length_map, zipBLayout_length, bcShape_length, hr]
  · intro k hk
    rw [List.length_map, zipBLayout_length] at hk
    rw [getD_map List.sum _ k [] 0 (by rw [zipBLayout_length]; exact hk), zipBLayout_getD _ _ _ hk,
      bcShape_getD _ _ _ (hr ▸ hk), hr, ← padLay_sum_getD h.suma, ← padLay_sum_getD h.sumb]
    -- `zipBLayout` takes the other operand where this one is chunked `(1,)`, `bcShape` where its length is 1:
    -- `one` covers the gap
    by_cases hA : (padLay (max ua.length ub.length) ua).getD k [] = [1]
    · rw [if_pos hA, hA]
      rfl
    · rw [if_neg hA]
      split
      · rename_i h1
        rw [h1, h.one k hk hA h1]
      · rfl

theorem bcOK_zipBLayout {ua ub : Layout}
    (hal : ∀ k, k < max ua.length ub.length →
      (padLay (max ua.length ub.length) ua).getD k [] = [1] ∨
      (padLay (max ua.length ub.length) ub).getD k [] = [1] ∨
      (padLay (max ua.length ub.length) ua).getD k [] = (padLay (max ua.length ub.length) ub).getD k []) :
    bcOK ua ((zipBLayout ua ub).drop ((zipBLayout ua ub).length - ua.length)) = true ∧
    bcOK ub ((zipBLayout ua ub).drop ((zipBLayout ua ub).length - ub.length)) = true := by
  have hl := zipBLayout_length ua ub
  constructor
  · refine (bcOK_drop_iff _ _ (by rw [hl]; exact Nat.le_max_left _ _)).2 fun k hk => ?_
    rw [hl] at hk ⊢
    rw [zipBLayout_getD _ _ _ hk]
    by_cases h1 : (padLay (max ua.length ub.length) ua).getD k [] = [1]
    · exact Or.inl h1
    · rw [if_neg h1]; exact Or.inr rfl
  · refine (bcOK_drop_iff _ _ (by rw [hl]; exact Nat.le_max_right _ _)).2 fun k hk => ?_
    rw [hl] at hk ⊢
    rw [zipBLayout_getD _ _ _ hk]
    by_cases h1 : (padLay (max ua.length ub.length) ua).getD k [] = [1]
    · rw [if_pos h1]; exact Or.inr rfl
    · rw [if_neg h1]
      rcases hal k hk with h | h | h
      · exact absurd h h1
      · exact Or.inl h
      · exact Or.inr h.symm

theorem mem_toI {c : List Nat} {x : Int} : x ∈ toI c ↔ ∃ y ∈ c, (y : Int) = x := by
  simp [toI]

theorem bcCompat_getD {s t : List Nat} (h : bcCompat s t = true) (k : Nat) (hk : k < max s.length t.length) :
    (padSh (max s.length t.length) s).getD k 0 = (padSh (max s.length t.length) t).getD k 0 ∨
    (padSh (max s.length t.length) s).getD k 0 = 1 ∨ (padSh (max s.length t.length) t).getD k 0 = 1 := by
  simp only [bcCompat, List.all_eq_true, List.mem_range, decide_eq_true_eq] at h
  exact h k hk

theorem bcCompat_self (s : List Nat) : bcCompat s s = true := by
  simp [bcCompat]

theorem opdOf_shapes (ia ib : Int) {ca cb : Layout} (hc : bcCompat (ca.map List.sum) (cb.map List.sum) = true) :
    ∀ ax ∈ (opdOf ⟨ia, ca⟩).axes, ∀ bx ∈ (opdOf ⟨ib, cb⟩).axes, ax.label = bx.label →
      ax.live = true → bx.live = true → ax.shape = bx.shape := by
  refine forall_opdOf_axes_pad (Nat.le_max_left ca.length cb.length) fun j hj => ?_
  refine forall_opdOf_axes_pad (Nat.le_max_right ca.length cb.length) fun j' _ hl hlva hlvb => ?_
  have e : j = j' := hl
  subst e
  rw [ax_live_toI, padLay_sum_getD rfl] at hlva hlvb
  rw [ax_shape_toI, ax_shape_toI, padLay_sum_getD rfl, padLay_sum_getD rfl]
  have := bcCompat_getD hc (max ca.length cb.length - 1 - j) (by
    rw [List.length_map, List.length_map]
    exact Nat.lt_of_le_of_lt (Nat.sub_le _ _) (Nat.sub_one_lt_of_lt hj))
  rw [List.length_map, List.length_map] at this
  rcases this with h | h | h
  · rw [h]
  · exact absurd h (Nat.ne_of_gt hlva)
  · exact absurd h (Nat.ne_of_gt hlvb)

theorem opsWF_two {ia ib : Int} {ca cb : Layout} (hia : 0 ≤ ia) (hib : 0 ≤ ib)
    (na : allTruthy ca = true) (nb : allTruthy cb = true) (pa : posLayout ca = true) (pb : posLayout cb = true)
    (hc : bcCompat (ca.map List.sum) (cb.map List.sum) = true) :
    Dask.Lemmas.Unify.OpsWF [opdOf ⟨ia, ca⟩, opdOf ⟨ib, cb⟩] := by
  have ne : ∀ (it : Int) (c : Layout), allTruthy c = true → ∀ ax ∈ (opdOf ⟨it, c⟩).axes, ax.chunks ≠ [] := by
    intro it c hn
    rw [forall_opdOf_axes]
    intro n hn'
    have := ((allTruthy_iff c).mp hn).getD n hn'
    show toI (c.getD n []) ≠ []
    simpa [toI] using this
  have pos : ∀ (it : Int) (c : Layout), posLayout c = true →
      ∀ ax ∈ (opdOf ⟨it, c⟩).axes, ∀ x ∈ ax.chunks, 0 < x := by
    intro it c hp
    rw [forall_opdOf_axes]
    intro n hn' x hx
    obtain ⟨y, hy, rfl⟩ := mem_toI.mp hx
    have := (posLayout_iff c).mp hp _ (getD_mem c n [] hn') y hy
    omega
  refine ⟨forall_mem_pair.mpr ⟨hia, hib⟩, forall_mem_pair.mpr ⟨ne ia ca na, ne ib cb nb⟩,
    forall_mem_pair.mpr ⟨pos ia ca pa, pos ib cb pb⟩, forall_mem_pair.mpr ⟨?_, ?_⟩⟩
  · intro ax hax
    exact forall_mem_pair.mpr ⟨opdOf_shapes ia ia (bcCompat_self _) ax hax, opdOf_shapes ia ib hc ax hax⟩
  · intro bx hbx
    refine forall_mem_pair.mpr ⟨?_, opdOf_shapes ib ib (bcCompat_self _) bx hbx⟩
    intro ax hax hl hlvb hlva
    exact (opdOf_shapes ia ib hc ax hax bx hbx hl.symm hlva hlvb).symm

theorem labels_two (ia ib : Int) (ca cb : Layout) :
    ∀ a ∈ [opdOf ⟨ia, ca⟩, opdOf ⟨ib, cb⟩], ∀ ax ∈ a.axes, ax.label < max ca.length cb.length :=
  forall_mem_pair.mpr ⟨forall_opdOf_axes_pad (Nat.le_max_left _ _) fun _ hj => hj,
    forall_opdOf_axes_pad (Nat.le_max_right _ _) fun _ hj => hj⟩

theorem opdOf_label_mem (it : Int) (c : Layout) {j : Nat} (hj : j < c.length) :
    ∃ ax ∈ (opdOf ⟨it, c⟩).axes, ax.label = j :=
  ⟨_, (mem_opdOf_axes ⟨it, c⟩ _).mpr
      ⟨c.length - 1 - j, Nat.lt_of_le_of_lt (Nat.sub_le _ _) (Nat.sub_one_lt_of_lt hj), rfl⟩,
    Nat.sub_sub_self (Nat.le_sub_one_of_lt hj)⟩

theorem used_two (ia ib : Int) (ca cb : Layout) :
    ∀ j, j < max ca.length cb.length → ∃ a ∈ [opdOf ⟨ia, ca⟩, opdOf ⟨ib, cb⟩], ∃ ax ∈ a.axes, ax.label = j := by
  intro j hj
  by_cases h : j < ca.length
  · exact ⟨_, List.mem_cons_self, opdOf_label_mem ia ca h⟩
  · exact ⟨_, List.mem_cons_of_mem _ List.mem_cons_self, opdOf_label_mem ib cb (by omega)⟩

open Dask.Lemmas.Unify (LayoutOf final_layoutOf unifyModel_total unifyModel_refine)

theorem toI_map_toNat : ∀ (l : List Int), (∀ x ∈ l, 0 ≤ x) → toI (l.map Int.toNat) = l
  | [], _ => rfl
  | x :: xs, h => by
    have h1 := h x List.mem_cons_self
    have ih := toI_map_toNat xs (fun y hy => h y (List.mem_cons_of_mem _ hy))
    simp only [toI, List.map_cons, List.map_map] at ih ⊢
    rw [ih]
    congr 1
    exact Int.toNat_of_nonneg h1

theorem eq_one_of_sum_one : ∀ (c : List Nat), (∀ x ∈ c, 0 < x) → c.sum = 1 → c = [1]
  | [], _, h => by simp at h
  | [x], _, h => by simp at h; rw [h]
  | x :: y :: ys, hp, h => by
    have h1 := hp x (by simp)
    have h2 := hp y (by simp)
    simp only [List.sum_cons] at h
    omega

theorem live_of_sum_ne_one {c : Layout} (nc : allTruthy c = true) (pc : posLayout c = true) {n : Nat}
    (hn : n < c.length) (h1 : (c.getD n []).sum ≠ 1) :
    (⟨c.length - 1 - n, toI (c.getD n [])⟩ : Dask.Unify.Ax).live = true := by
  rw [ax_live_toI]
  have hne : c.getD n [] ≠ [] := ((allTruthy_iff c).mp nc).getD n hn
  have hpos : ∀ x ∈ c.getD n [], 0 < x := (posLayout_iff c).mp pc _ (getD_mem c n [] hn)
  cases hcn : c.getD n [] with
  | nil => exact absurd hcn hne
  | cons x xs =>
    rw [hcn] at h1 hpos
    have := hpos x (by simp)
    simp only [List.sum_cons] at h1 ⊢
    omega

theorem targetOf_valid (final : Nat → ULayout) (it : Int) (c : Layout)
    (nc : allTruthy c = true) (pc : posLayout c = true)
    (hgood : ∀ ax ∈ (opdOf ⟨it, c⟩).axes, ax.live = true → LayoutOf ax (final ax.label)) :
    (targetOf final ⟨it, c⟩).map List.sum = c.map List.sum ∧ allTruthy (targetOf final ⟨it, c⟩) = true := by
  rw [forall_opdOf_axes] at hgood
  have per : ∀ n, n < c.length →
      ((targetOf final ⟨it, c⟩).getD n []).sum = (c.getD n []).sum ∧ (targetOf final ⟨it, c⟩).getD n [] ≠ [] := by
    intro n hn
    rw [targetOf_getD final ⟨it, c⟩ n hn]
    by_cases h1 : (c.getD n []).sum = 1
    · rw [if_pos h1, h1]
      exact ⟨rfl, by simp⟩
    · rw [if_neg h1]
      have hlive := live_of_sum_ne_one nc pc hn h1
      obtain ⟨g1, g2⟩ := hgood n hn hlive
      rw [ax_live_toI] at hlive
      dsimp only at g1 g2 ⊢
      have hs := sum_map_toNat _ (fun x hx => Int.le_of_lt (g2 x hx))
      rw [g1] at hs
      change _ = Dask.Py.isum (toI (c.getD n [])) at hs
      rw [isum_toI] at hs
      refine ⟨by omega, fun he => ?_⟩
      rw [he, List.sum_nil] at hs
      omega
  have hlen := targetOf_length final ⟨it, c⟩
  constructor
  · apply ext_getD 0
    · simp only [List.length_map]; exact hlen
    · intro k hk
      rw [List.length_map, hlen] at hk
      rw [getD_map List.sum _ k [] 0 (hlen ▸ hk), getD_map List.sum _ k [] 0 hk]
      exact (per k hk).1
  · rw [allTruthy_iff]
    intro cs hcs
    rw [List.mem_iff_getElem] at hcs
    obtain ⟨k, hk, rfl⟩ := hcs
    have := (per k (hlen ▸ hk)).2
    rwa [getD_eq_getElem _ _ _ hk] at this

/-- Nothing here says that the totals agree (for the lowered operands that is `TwoOK.suma/sumb`); with equal totals
`c'` is `c` with blocks split. -/
def OnlySplits (c c' : List Nat) : Prop :=
  (∀ bd ∈ Dask.Unify.bnds (toI c), bd ∈ Dask.Unify.bnds (toI c')) ∧
    Dask.Unify.imax (toI c') ≤ Dask.Unify.imax (toI c)

theorem OnlySplits.refl (c : List Nat) : OnlySplits c c :=
  ⟨fun _ h => h, Int.le_refl _⟩

theorem targetOf_onlySplits (final : Nat → ULayout) (it : Int) (c : Layout)
    (nc : allTruthy c = true) (pc : posLayout c = true)
    (h : ∀ ax ∈ (opdOf ⟨it, c⟩).axes, ax.live = true →
      (∀ x ∈ final ax.label, 0 < x) ∧ (∀ b ∈ Dask.Unify.bnds ax.chunks, b ∈ Dask.Unify.bnds (final ax.label)) ∧
        Dask.Unify.imax (final ax.label) ≤ Dask.Unify.imax ax.chunks) :
    ∀ n, n < c.length → OnlySplits (c.getD n []) ((targetOf final ⟨it, c⟩).getD n []) := by
  intro n hn
  rw [forall_opdOf_axes] at h
  rw [targetOf_getD _ ⟨it, c⟩ n hn]
  by_cases h1 : (c.getD n []).sum = 1
  · rw [if_pos h1, eq_one_of_sum_one _ ((posLayout_iff c).mp pc _ (getD_mem c n [] hn)) h1]
    exact .refl _
  · rw [if_neg h1]
    obtain ⟨hpos, hsub, hmax⟩ := h n hn (live_of_sum_ne_one nc pc hn h1)
    unfold OnlySplits
    rw [toI_map_toNat _ (fun x hx => Int.le_of_lt (hpos x hx))]
    exact ⟨hsub, hmax⟩

/-- what a successful `unify_chunks_expr` returned for two operands chunked `ca`, `cb` (of shapes `sa`, `sb`):
`two` is what well-formedness and meaning of the lowered node need, `layout` says where the layouts come from,
`splits` is the refinement claim, under the hypotheses (policy `refine`, regular input) that make it true -/
structure UnifiedPair (p : Params) (pre : List ULayout) (ia ib : Int) (sa sb : List Nat) (ca cb ua ub : Layout) :
    Prop where
  two : TwoOK ca cb ua ub
  /-- the early exit (equal chunks stay), or two targets read from one table of final layouts -/
  layout : (ca = cb ∧ ua = ca ∧ ub = cb) ∨
    (ca ≠ cb ∧ ∃ res, Dask.Unify.unifyModel p.policy p.limit pre [opdOf ⟨ia, ca⟩, opdOf ⟨ib, cb⟩]
        (max sa.length sb.length) = .ok res ∧ res.oracleOk = true ∧
      (∀ n, n < sa.length → ua.getD n [] =
        if sa.getD n 0 = 1 then [1] else (Dask.Unify.look res.final (sa.length - 1 - n)).map Int.toNat) ∧
      (∀ n, n < sb.length → ub.getD n [] =
        if sb.getD n 0 = 1 then [1] else (Dask.Unify.look res.final (sb.length - 1 - n)).map Int.toNat))
  splits : p.policy = .refine → 0 ≤ ia → 0 ≤ ib → posLayout ca = true → posLayout cb = true →
    bcCompat sa sb = true →
    (∀ n, n < sa.length → OnlySplits (ca.getD n []) (ua.getD n [])) ∧
    (∀ n, n < sb.length → OnlySplits (cb.getD n []) (ub.getD n []))

theorem unifyTargets_two {p : Params} {pre : List ULayout} {ia ib : Int} {sa sb : List Nat} {ca cb : Layout}
    {l : List Layout} (hsa : ca.map List.sum = sa) (hsb : cb.map List.sum = sb)
    (ha : allTruthy ca = true) (hb : allTruthy cb = true)
    (h : unifyTargets p pre [⟨ia, ca⟩, ⟨ib, cb⟩] = .ok l) :
    ∃ ua ub, l = [ua, ub] ∧ UnifiedPair p pre ia ib sa sb ca cb ua ub := by
  subst hsa hsb
  rw [unifyTargets_pair] at h
  by_cases he : cb = ca
  · rw [if_pos he] at h
    have := Except.ok.inj h
    subst this
    subst he
    exact ⟨cb, cb, rfl, ⟨rfl, rfl, hb, hb, fun _ => rfl, fun _ _ => Or.inr (Or.inr rfl), fun _ _ _ h => h⟩,
      Or.inl ⟨rfl, rfl, rfl⟩, fun _ _ _ _ _ _ => ⟨fun _ _ => .refl _, fun _ _ => .refl _⟩⟩
  · rw [if_neg he] at h
    cases hres : Dask.Unify.unifyModel p.policy p.limit pre [opdOf ⟨ia, ca⟩, opdOf ⟨ib, cb⟩] (max ca.length cb.length) with
    | error e => rw [hres] at h; cases h
    | ok res =>
      rw [hres] at h
      dsimp only at h
      by_cases hok : res.oracleOk = true
      · rw [if_pos hok] at h
        simp only [arrangeAll] at h
        cases h1 : arrangeOne (Dask.Unify.look res.final) ⟨ia, ca⟩ with
        | error e => rw [h1] at h; cases h
        | ok ua =>
          cases h2 : arrangeOne (Dask.Unify.look res.final) ⟨ib, cb⟩ with
          | error e => rw [h1, h2] at h; cases h
          | ok ub =>
            rw [h1, h2] at h
            have := Except.ok.inj h
            subst this
            obtain ⟨rfl, sua, nua⟩ := (arrangeOne_ok (o := ⟨ia, ca⟩) ha).mp h1
            obtain ⟨rfl, sub, nub⟩ := (arrangeOne_ok (o := ⟨ib, cb⟩) hb).mp h2
            have tgt : ∀ (it : Int) (c : Layout) (n : Nat), n < (c.map List.sum).length →
                (targetOf (Dask.Unify.look res.final) ⟨it, c⟩).getD n [] =
                  if (c.map List.sum).getD n 0 = 1 then [1]
                  else (Dask.Unify.look res.final ((c.map List.sum).length - 1 - n)).map Int.toNat := by
              intro it c n hn
              rw [List.length_map] at hn ⊢
              rw [← sum_getD_of_map_sum rfl]
              exact targetOf_getD _ ⟨it, c⟩ n hn
            refine ⟨_, _, rfl, twoOK_of_targets _ sua nua sub nub,
              Or.inr ⟨fun e => he e.symm, res, by rw [List.length_map, List.length_map]; exact hres, hok,
                tgt ia ca, tgt ib cb⟩, ?_⟩
            intro hp hia hib pa pb hc
            have hwf := opsWF_two hia hib ha hb pa pb hc
            rw [hp] at hres
            obtain ⟨ga, gb⟩ := forall_mem_pair.mp
              (final_layoutOf .refine p.limit pre _ _ hwf (labels_two ia ib ca cb) res hres hok)
            obtain ⟨ra, rb⟩ := forall_mem_pair.mp
              (unifyModel_refine p.limit pre _ _ hwf (labels_two ia ib ca cb) res hres)
            rw [List.length_map, List.length_map]
            exact ⟨targetOf_onlySplits _ ia ca ha pa
                (fun ax hax hl => ⟨(ga ax hax hl).2, (ra ax hax hl).2.1, (ra ax hax hl).2.2.2⟩),
              targetOf_onlySplits _ ib cb hb pb
                (fun ax hax hl => ⟨(gb ax hax hl).2, (rb ax hax hl).2.1, (rb ax hax hl).2.2.2⟩)⟩
      · rw [if_neg hok] at h; cases h

/-- on broadcast-compatible operands with positive chunks `unify_chunks_expr` does not raise; the only
refusal of the model is an inadmissible oracle value, which cannot happen under `coarse` / `refine` -/
theorem unifyTargets_total (p : Params) (pre : List ULayout) {ia ib : Int} {sa sb : List Nat} {ca cb : Layout}
    (hsa : ca.map List.sum = sa) (hsb : cb.map List.sum = sb) (hia : 0 ≤ ia) (hib : 0 ≤ ib)
    (na : allTruthy ca = true) (nb : allTruthy cb = true) (pa : posLayout ca = true) (pb : posLayout cb = true)
    (hc : bcCompat sa sb = true) :
    (∃ ua ub, unifyTargets p pre [⟨ia, ca⟩, ⟨ib, cb⟩] = .ok [ua, ub]) ∨
    (p.policy = .auto ∧ unifyTargets p pre [⟨ia, ca⟩, ⟨ib, cb⟩] = .error .oracle) := by
  subst hsa hsb
  have hwf := opsWF_two hia hib na nb pa pb hc
  obtain ⟨res, hres, hpol⟩ := unifyModel_total p.policy p.limit pre _ _ hwf (used_two ia ib ca cb)
  rw [unifyTargets_pair]
  by_cases he : cb = ca
  · left; rw [if_pos he]; exact ⟨_, _, rfl⟩
  · rw [if_neg he, hres]
    dsimp only
    by_cases hok : res.oracleOk = true
    · left
      rw [if_pos hok]
      obtain ⟨ga, gb⟩ := forall_mem_pair.mp
        (final_layoutOf p.policy p.limit pre _ _ hwf (labels_two ia ib ca cb) res hres hok)
      have hua := (arrangeOne_ok (o := ⟨ia, ca⟩) na).mpr ⟨rfl, targetOf_valid _ ia ca na pa ga⟩
      have hub := (arrangeOne_ok (o := ⟨ib, cb⟩) nb).mpr ⟨rfl, targetOf_valid _ ib cb nb pb gb⟩
      refine ⟨targetOf (Dask.Unify.look res.final) ⟨ia, ca⟩, targetOf (Dask.Unify.look res.final) ⟨ib, cb⟩, ?_⟩
      simp only [arrangeAll, hua, hub]
    · right
      rw [if_neg hok]
      refine ⟨?_, rfl⟩
      cases hp : p.policy with
      | auto => rfl
      | coarse => exact absurd (hpol (by rw [hp]; simp)) hok
      | refine => exact absurd (hpol (by rw [hp]; simp)) hok

theorem rechunkTo_shape (a : Expr) (u : Layout) : shape (rechunkTo a u) = shape a := by
  unfold rechunkTo; split <;> rfl

theorem rechunkTo_chunks (a : Expr) (u : Layout) : chunks (rechunkTo a u) = u := by
  unfold rechunkTo
  split
  · rename_i h; exact h.symm
  · rfl

theorem rechunkTo_denGet (env : Env) (a : Expr) (u : Layout) : denGet env (rechunkTo a u) = denGet env a := by
  unfold rechunkTo; split <;> rfl

theorem allTruthy_chunks {a : Expr} (ha : WF a) : allTruthy (chunks a) = true :=
  (allTruthy_iff _).mpr (meta_ok a ha).2

theorem rechunkTo_wf {a : Expr} {u : Layout} (ha : WF a) (hs : u.map List.sum = (chunks a).map List.sum)
    (hne : allTruthy u = true) : WF (rechunkTo a u) := by
  unfold rechunkTo
  split
  · exact ha
  · simp only [WF, wf, Bool.and_eq_true]
    refine ⟨ha, wfLayout_iff.mpr ⟨?_, (allTruthy_iff _).mp hne⟩⟩
    rw [hs]; exact (meta_ok a ha).1

theorem lowerZip_ok {p : Params} {pre : List ULayout} {ia ib : Int} {f : Nat} {a b e : Expr}
    (ha : WF a) (hb : WF b) (h : lowerZip p pre ia ib f a b = .ok e) :
    ∃ ua ub, e = .zip f (rechunkTo a ua) (rechunkTo b ub) ∧
      UnifiedPair p pre ia ib (shape a) (shape b) (chunks a) (chunks b) ua ub := by
  unfold lowerZip at h
  cases hu : unifyTargets p pre [⟨ia, chunks a⟩, ⟨ib, chunks b⟩] with
  | error err => rw [hu] at h; cases h
  | ok l =>
    obtain ⟨ua, ub, hl, U⟩ :=
      unifyTargets_two (meta_ok a ha).1 (meta_ok b hb).1 (allTruthy_chunks ha) (allTruthy_chunks hb) hu
    subst hl
    rw [hu] at h
    exact ⟨ua, ub, (Except.ok.inj h).symm, U⟩

theorem chunks_sums_eq {a b : Expr} (ha : WF a) (hb : WF b) (hs : shape a = shape b) :
    (chunks a).map List.sum = (chunks b).map List.sum := by
  rw [(meta_ok a ha).1, (meta_ok b hb).1, hs]

theorem rechunk2_shape2 (x : Expr2) (u : Layout) : shape2 (rechunk2 x u) = shape2 x := by
  cases x <;> rfl

theorem rechunk2_chunks2 (x : Expr2) (u : Layout) : chunks2 (rechunk2 x u) = u := by
  cases x <;> rfl

theorem rechunk2_get (env : Env) (x : Expr2) (u : Layout) : (den2 env (rechunk2 x u)).get = (den2 env x).get := by
  have hnode : (den2 env (.node (.rechunk (.src holeA (shape2 x) (chunks2 x)) u) x x)).get = (den2 env x).get := by
    simp [den2, den, denGet, Env.withHoles]
  cases x with
  | base e => rfl
  | node _ _ _ => exact hnode
  | zipB _ _ _ => exact hnode
  | take _ _ _ => exact hnode
  | swvReduce _ _ _ _ => exact hnode

theorem holeA_ne_holeB : (holeA != holeB) = true := by decide

theorem rechunk2_wf2 {x : Expr2} {u : Layout} (hx : WF2 x) (hs : u.map List.sum = (chunks2 x).map List.sum)
    (hne : allTruthy u = true) : WF2 (rechunk2 x u) := by
  obtain ⟨m1, m2⟩ := meta2_ok x hx
  have hu : wfLayout (shape2 x) u = true := wfLayout_iff.mpr ⟨by rw [hs]; exact m1, (allTruthy_iff _).mp hne⟩
  have hc : wfLayout (shape2 x) (chunks2 x) = true := wfLayout_iff.mpr ⟨m1, m2⟩
  have hnode : WF2 (.node (.rechunk (.src holeA (shape2 x) (chunks2 x)) u) x x) := by
    simp only [WF2, wf2, wf, shape, holesOK, List.all_cons, List.all_nil, Bool.and_true, Bool.and_eq_true,
      show srcsOf (.rechunk (.src holeA (shape2 x) (chunks2 x)) u) = [(holeA, shape2 x, chunks2 x)] from rfl,
      Bool.or_eq_true, decide_eq_true_eq, holeA_ne_holeB, true_or, and_true]
    exact ⟨⟨⟨hx, hx⟩, hc, hu⟩, Or.inr trivial⟩
  cases x with
  | base e =>
    simp only [rechunk2, WF2, wf2, wf, Bool.and_eq_true]
    exact ⟨hx, hu⟩
  | node _ _ _ => exact hnode
  | zipB _ _ _ => exact hnode
  | take _ _ _ => exact hnode
  | swvReduce _ _ _ _ => exact hnode

theorem rechunkTo2_shape2 (a : Expr2) (u : Layout) : shape2 (rechunkTo2 a u) = shape2 a := by
  unfold rechunkTo2; split
  · rfl
  · exact rechunk2_shape2 a u

theorem rechunkTo2_chunks2 (a : Expr2) (u : Layout) : chunks2 (rechunkTo2 a u) = u := by
  unfold rechunkTo2
  split
  · rename_i h; exact h.symm
  · exact rechunk2_chunks2 a u

theorem rechunkTo2_get (env : Env) (a : Expr2) (u : Layout) :
    (den2 env (rechunkTo2 a u)).get = (den2 env a).get := by
  unfold rechunkTo2; split
  · rfl
  · exact rechunk2_get env a u

theorem rechunkTo2_wf2 {a : Expr2} {u : Layout} (ha : WF2 a) (hs : u.map List.sum = (chunks2 a).map List.sum)
    (hne : allTruthy u = true) : WF2 (rechunkTo2 a u) := by
  unfold rechunkTo2; split
  · exact ha
  · exact rechunk2_wf2 ha hs hne

theorem allTruthy_chunks2 {a : Expr2} (ha : WF2 a) : allTruthy (chunks2 a) = true :=
  (allTruthy_iff _).mpr (meta2_ok a ha).2

theorem lowerZipB_ok {p : Params} {pre : List ULayout} {ia ib : Int} {f : Nat} {a b e : Expr2}
    (ha : WF2 a) (hb : WF2 b) (h : lowerZipB p pre ia ib f a b = .ok e) :
    ∃ ua ub, e = .zipB f (rechunkTo2 a ua) (rechunkTo2 b ub) ∧
      UnifiedPair p pre ia ib (shape2 a) (shape2 b) (chunks2 a) (chunks2 b) ua ub := by
  unfold lowerZipB at h
  cases hu : unifyTargets p pre [⟨ia, chunks2 a⟩, ⟨ib, chunks2 b⟩] with
  | error err => rw [hu] at h; cases h
  | ok l =>
    obtain ⟨ua, ub, hl, U⟩ :=
      unifyTargets_two (meta2_ok a ha).1 (meta2_ok b hb).1 (allTruthy_chunks2 ha) (allTruthy_chunks2 hb) hu
    subst hl
    rw [hu] at h
    exact ⟨ua, ub, (Except.ok.inj h).symm, U⟩

theorem lowerZipB_sound {p : Params} {pre : List ULayout} {ia ib : Int} {f : Nat} {a b e : Expr2}
    (ha : WF2 a) (hb : WF2 b) (h : lowerZipB p pre ia ib f a b = .ok e) :
    WF2 e ∧ shape2 e = bcShape (shape2 a) (shape2 b) ∧
      ∀ env, den2 env e = bcDen (env.bin f) (den2 env a) (den2 env b) := by
  obtain ⟨ua, ub, he, U⟩ := lowerZipB_ok ha hb h
  subst he
  obtain ⟨o1, o2⟩ := bcOK_zipBLayout U.two.aligned
  have hsh := zipBLayout_sum U.two
  rw [(meta2_ok a ha).1, (meta2_ok b hb).1] at hsh
  refine ⟨?_, ?_, fun env => ?_⟩
  · simp only [WF2, wf2, Bool.and_eq_true, rechunkTo2_chunks2]
    exact ⟨⟨⟨rechunkTo2_wf2 ha U.two.suma U.two.nea, rechunkTo2_wf2 hb U.two.sumb U.two.neb⟩, o1⟩, o2⟩
  · simp only [shape2, rechunkTo2_chunks2]
    exact hsh
  · simp only [den2, bcDen, rechunkTo2_chunks2, rechunkTo2_shape2, rechunkTo2_get, den2_shape]
    rw [hsh]

theorem lowerZipB_total (p : Params) (pre : List ULayout) {ia ib : Int} (f : Nat) {a b : Expr2}
    (ha : WF2 a) (hb : WF2 b) (hc : bcCompat (shape2 a) (shape2 b) = true) (hia : 0 ≤ ia) (hib : 0 ≤ ib)
    (pa : posLayout (chunks2 a) = true) (pb : posLayout (chunks2 b) = true) :
    (∃ e, lowerZipB p pre ia ib f a b = .ok e) ∨
    (p.policy = .auto ∧ lowerZipB p pre ia ib f a b = .error .oracle) := by
  rcases unifyTargets_total p pre (meta2_ok a ha).1 (meta2_ok b hb).1 hia hib (allTruthy_chunks2 ha)
    (allTruthy_chunks2 hb) pa pb hc with ⟨ua, ub, hl⟩ | ⟨hp, he⟩
  · exact Or.inl ⟨_, by unfold lowerZipB; rw [hl]⟩
  · exact Or.inr ⟨hp, by unfold lowerZipB; rw [he]⟩

theorem isOk_iff {ε α} (x : Except ε α) : isOk x = true ↔ ∃ v, x = .ok v := by
  cases x <;> simp [isOk]

theorem lowerAll_sound (p : Params) : ∀ (t : ExprU), wfU p t = true →
    ∃ e2, lowerAll p t = .ok e2 ∧ WF2 e2 ∧ shape2 e2 = shapeU t ∧ ∀ env, den2 env e2 = denU env t
  | .base e, h => ⟨.base e, rfl, h, rfl, fun _ => rfl⟩
  | .zipU f ia ib pre a b, h => by
    obtain ⟨hab, h2⟩ := Bool.and_eq_true_iff.mp h
    obtain ⟨a', ha', wa, sa, da⟩ := lowerAll_sound p a (Bool.and_eq_true_iff.mp hab).1
    obtain ⟨b', hb', wb, sb, db⟩ := lowerAll_sound p b (Bool.and_eq_true_iff.mp hab).2
    rw [ha', hb'] at h2
    simp only [Bool.and_eq_true] at h2
    obtain ⟨e, he⟩ := (isOk_iff _).mp h2.2
    obtain ⟨we, se, de⟩ := lowerZipB_sound wa wb he
    refine ⟨e, by simp only [lowerAll, ha', hb']; exact he, we, ?_, ?_⟩
    · rw [se, sa, sb]; rfl
    · intro env
      rw [de env, da env, db env]; rfl
  | .node e a b, h => by
    obtain ⟨hab, h2⟩ := Bool.and_eq_true_iff.mp h
    obtain ⟨a', ha', wa, _, da⟩ := lowerAll_sound p a (Bool.and_eq_true_iff.mp hab).1
    obtain ⟨b', hb', wb, _, db⟩ := lowerAll_sound p b (Bool.and_eq_true_iff.mp hab).2
    rw [ha', hb'] at h2
    simp only [Bool.and_eq_true] at h2
    refine ⟨.node e a' b', by simp only [lowerAll, ha', hb'], ?_, rfl, ?_⟩
    · simp only [WF2, wf2, Bool.and_eq_true]
      exact ⟨⟨⟨wa, wb⟩, h2.1⟩, h2.2⟩
    · -- `den2 env (.node e a' b')` and `denU env (.node e a b)` are both `den (env.withHoles · ·) e` at the values of the children
      exact fun env => (congrArg (fun x => den (env.withHoles x _) e) (da env)).trans
        (congrArg (fun y => den (env.withHoles _ y) e) (db env))

theorem wfU_of_regular (p : Params) (hp : p.policy ≠ .auto) : ∀ (t : ExprU), regularU p t = true → wfU p t = true
  | .base _, h => h
  | .zipU f ia ib pre a b, h => by
    obtain ⟨hab, h2⟩ := Bool.and_eq_true_iff.mp h
    have wa := wfU_of_regular p hp a (Bool.and_eq_true_iff.mp hab).1
    have wb := wfU_of_regular p hp b (Bool.and_eq_true_iff.mp hab).2
    obtain ⟨a', ha', w2a, _, _⟩ := lowerAll_sound p a wa
    obtain ⟨b', hb', w2b, _, _⟩ := lowerAll_sound p b wb
    rw [ha', hb'] at h2
    simp only [Bool.and_eq_true, decide_eq_true_eq] at h2
    obtain ⟨⟨⟨⟨pa, pb⟩, hc⟩, hia⟩, hib⟩ := h2
    have hok : isOk (lowerZipB p pre ia ib f a' b') = true := by
      rcases lowerZipB_total p pre f w2a w2b hc hia hib pa pb with ⟨e, he⟩ | ⟨hauto, _⟩
      · rw [he]; rfl
      · exact absurd hauto hp
    refine Bool.and_eq_true_iff.mpr ⟨Bool.and_eq_true_iff.mpr ⟨wa, wb⟩, ?_⟩
    simp only [ha', hb', Bool.and_eq_true, pa, pb, hc, hia, hib, hok, decide_true, and_self]
  | .node e a b, h => by
    obtain ⟨hab, h2⟩ := Bool.and_eq_true_iff.mp h
    exact Bool.and_eq_true_iff.mpr ⟨Bool.and_eq_true_iff.mpr ⟨wfU_of_regular p hp a (Bool.and_eq_true_iff.mp hab).1,
      wfU_of_regular p hp b (Bool.and_eq_true_iff.mp hab).2⟩, h2⟩

end Dask.LowerUnify
