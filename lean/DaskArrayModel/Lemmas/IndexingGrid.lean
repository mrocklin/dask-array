/-
The cartesian product `cart` of per-axis lists (Model/Indexing.lean): what the grid of blocks reads is a permutation
of the product of the per-axis selections (`axisLift`); `cart` commutes with a map on the entries (`cart_map`), so
the three products that `SliceSlicesIntegers._layer` zips are three images of one grid, the product of the
per-axis wirings (`ssiLayer_eq_cells`).
-/
import DaskArrayModel.Model.Indexing
import DaskArrayModel.Lemmas.PyBasic
namespace Dask.Lemmas.Indexing
open Dask.Py Dask.Py.PySlice Dask.Slicing Dask.Indexing

theorem cart_nil {α} : cart ([] : List (List α)) = [[]] := rfl

theorem cart_cons {α} (l : List α) (ls : List (List α)) :
    cart (l :: ls) = l.flatMap (fun a => (cart ls).map (fun t => a :: t)) := rfl

theorem length_cart {α} : ∀ (ls : List (List α)),
    (cart ls).length = (ls.map List.length).foldr (· * ·) 1
  | [] => rfl
  | l :: ls => by rw [cart_cons, length_consProd, List.map_cons, List.foldr_cons, length_cart ls]

theorem cart_append_first {α} (a b : List α) (ls : List (List α)) :
    cart ((a ++ b) :: ls) = cart (a :: ls) ++ cart (b :: ls) := by
  simp [cart_cons, List.flatMap_append]

theorem flatMap_append_perm {α β} (l : List α) (f g : α → List β) :
    (l.flatMap (fun a => f a ++ g a)).Perm (l.flatMap f ++ l.flatMap g) := by
  induction l with
  | nil => exact List.Perm.refl _
  | cons a l ih =>
    rw [List.flatMap_cons, List.flatMap_cons, List.flatMap_cons, List.append_assoc, List.append_assoc]
    exact List.Perm.append_left _ ((List.Perm.append_left _ ih).trans (List.perm_append_comm_assoc ..))

theorem flatMap_swap_perm {α β γ} (l1 : List α) (l2 : List β) (f : α → β → List γ) :
    (l1.flatMap (fun a => l2.flatMap (fun b => f a b))).Perm
      (l2.flatMap (fun b => l1.flatMap (fun a => f a b))) := by
  induction l1 with
  | nil => simp
  | cons a l1 ih =>
    simp only [List.flatMap_cons]
    have h := flatMap_append_perm l2 (fun b => f a b) (fun b => l1.flatMap (fun a => f a b))
    exact (List.Perm.append_left _ ih).trans h.symm

theorem flatMap_perm_congr {α β} (l : List α) (f g : α → List β)
    (h : ∀ a ∈ l, (f a).Perm (g a)) : (l.flatMap f).Perm (l.flatMap g) := by
  induction l with
  | nil => exact List.Perm.refl _
  | cons a l ih =>
    have h := List.forall_mem_cons.mp h
    exact h.1.append (ih h.2)

theorem axisLift {α} : ∀ (Bs : List (List (List α))),
    ((cart Bs).flatMap cart).Perm (cart (Bs.map List.flatten))
  | [] => List.Perm.refl _
  | B :: Bs => by
    have ih := axisLift Bs
    rw [List.map_cons, cart_cons, cart_cons]
    rw [List.flatMap_assoc]
    rw [List.flatten_eq_flatMap, List.flatMap_assoc]
    apply flatMap_perm_congr
    intro blk _
    simp only [id]
    -- ((cart Bs).map (blk :: ·)).flatMap cart = (cart Bs).flatMap (cell => blk.flatMap (x => (cart cell).map (x :: ·)))
    rw [List.flatMap_map]
    have e : (fun cell => cart (blk :: cell)) =
        (fun cell => blk.flatMap (fun x => (cart cell).map (fun t => x :: t))) := by
      funext cell; rw [cart_cons]
    rw [e]
    refine (flatMap_swap_perm (cart Bs) blk (fun cell x => (cart cell).map (fun t => x :: t))).trans ?_
    apply flatMap_perm_congr
    intro x _
    -- (cart Bs).flatMap (cell => (cart cell).map (x :: ·)) = ((cart Bs).flatMap cart).map (x :: ·)
    rw [← List.map_flatMap]
    exact List.Perm.map _ ih

theorem cart_map {α β} (f : α → β) : ∀ (ls : List (List α)),
    cart (ls.map (List.map f)) = (cart ls).map (List.map f)
  | [] => rfl
  | l :: ls => by
    rw [List.map_cons, cart_cons, cart_cons, cart_map f ls, List.flatMap_map, List.map_flatMap]
    simp only [List.map_map]
    rfl

theorem zip3_map {α β γ δ} (f : α → β) (g : α → γ) (h : α → δ) : ∀ (l : List α),
    zip3 (l.map f) (l.map g) (l.map h) = l.map (fun a => (f a, g a, h a))
  | [] => rfl
  | _ :: l => congrArg (_ :: ·) (zip3_map f g h l)

/-- the `out_names` factors: an axis without output index (integer) contributes `[none]`. -/
def optRange : Option (List Nat) → List (Option Nat)
  | some o => o.map some
  | none => [none]

theorem cart_filterMap (L : List (Option (List Nat))) :
    cart (L.filterMap id) = (cart (L.map optRange)).map (fun u => u.filterMap id) := by
  induction L with
  | nil => rfl
  | cons o L ih =>
    cases o with
    | none =>
      have e : (none :: L).filterMap id = L.filterMap id := rfl
      rw [e, ih, List.map_cons, cart_cons]
      simp [optRange, List.map_map, Function.comp_def]
    | some o =>
      have e : (some o :: L).filterMap id = o :: L.filterMap id := rfl
      rw [e, cart_cons, ih, List.map_cons, cart_cons]
      simp only [optRange, List.flatMap_map, List.map_flatMap, List.map_map, Function.comp_def]
      rfl

theorem outRange1_slc (lengths : List Int) (s : PySlice) :
    outRange1 lengths (.slc s) =
      some (if s.stp < 0 then (List.range (sortByKey (slice1d (isum lengths) lengths s)).length).reverse
        else List.range (sortByKey (slice1d (isum lengths) lengths s)).length) := by
  have hn : (blockSlices1 lengths (.slc s)).length = (sortByKey (slice1d (isum lengths) lengths s)).length :=
    List.length_map _
  unfold outRange1
  simp only [hn]
  rcases s with ⟨a, b, c⟩
  cases c with
  | none => rfl
  | some c =>
    show (if c ≠ 0 ∧ c < 0 then _ else _) = some (if c < 0 then _ else _)
    by_cases hc : c < 0
    · rw [if_pos ⟨by omega, hc⟩, if_pos hc]
    · rw [if_neg (fun h => hc h.2), if_neg hc]

theorem range_reverse_getD {n k : Nat} (hk : k < n) : (List.range n).reverse.getD k 0 = n - 1 - k := by
  rw [List.getD_eq_getElem?_getD, List.getElem?_reverse (by rw [List.length_range]; exact hk),
    List.length_range, List.getElem?_range (by omega), Option.getD_some]

theorem isIntOrSlc_cases (i : Ix) (h : i.isInt = true ∨ (∃ s, i = .slc s)) :
    (∃ k, i = .int k) ∨ (∃ s, i = .slc s) := by
  rcases h with h | h
  · cases i <;> simp [Ix.isInt] at h
    exact Or.inl ⟨_, rfl⟩
  · exact Or.inr h

theorem axisCells_fst_snd (lengths : List Int) (i : Ix) (h : (∃ k, i = .int k) ∨ (∃ s, i = .slc s)) :
    (axisCells lengths i).map Prod.fst = optRange (outRange1 lengths i) ∧
    (axisCells lengths i).map Prod.snd = blockSlices1 lengths i := by
  rcases h with ⟨k, rfl⟩ | ⟨s, rfl⟩
  · exact ⟨rfl, rfl⟩
  · have e : (optRange (outRange1 lengths (.slc s))).length = (blockSlices1 lengths (.slc s)).length := by
      rw [outRange1_slc]
      simp only [optRange, blockSlices1, List.length_map]
      split
      · rw [List.length_reverse, List.length_range]
      · rw [List.length_range]
    rw [axisCells]
    rw [outRange1_slc] at e ⊢
    exact ⟨List.map_fst_zip (Nat.le_of_eq e), List.map_snd_zip (Nat.le_of_eq e.symm)⟩

theorem zipWith_axisCells (cs : List (List Int)) (ix : List Ix)
    (h : ∀ i ∈ ix, (∃ k, i = .int k) ∨ (∃ s, i = .slc s)) :
    (List.zipWith outRange1 cs ix).map optRange = (List.zipWith axisCells cs ix).map (List.map Prod.fst) ∧
    List.zipWith blockSlices1 cs ix = (List.zipWith axisCells cs ix).map (List.map Prod.snd) := by
  induction cs generalizing ix with
  | nil => exact ⟨rfl, rfl⟩
  | cons c cs ih =>
    cases ix with
    | nil => exact ⟨rfl, rfl⟩
    | cons i ix =>
      have h := List.forall_mem_cons.mp h
      have a := axisCells_fst_snd c i h.1
      have r := ih ix h.2
      simp only [List.zipWith_cons_cons, List.map_cons, a.1, a.2, r.1, r.2, and_self]

/-- the triples `zip(out_names, in_names, all_slices)` of `_layer` are the cells of the grid
`cart (axisCells per axis)`, in the same order: each of the three products is the image of that grid under a map
on cells. -/
theorem ssiLayer_eq_cells : ∀ (chunks : List (List Int)) (index : List Ix),
    (∀ i ∈ index, (∃ k, i = .int k) ∨ (∃ s, i = .slc s)) →
    ssiLayer chunks index = (cart (List.zipWith axisCells chunks index)).map splitCell := by
  intro chunks index hix
  obtain ⟨ho, hb⟩ := zipWith_axisCells chunks index hix
  unfold ssiLayer
  simp only
  rw [cart_filterMap, ho, hb]
  simp only [cart_map]
  rw [List.map_map, List.map_map, List.map_map, zip3_map]
  apply List.map_congr_left
  intro t _
  simp [splitCell, List.filterMap_map, Function.comp_def]

end Dask.Lemmas.Indexing
