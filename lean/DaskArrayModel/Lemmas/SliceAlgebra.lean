/-
Algebra of 1-d slices: `normalize_slice`, `fuse_slice`, `_compose_slices` preserve the
selected positions.  Fusion and composition are instances of `compose_core` (Lemmas/Progression): every
slice they meet has a positive step and a non-negative start (`fuse_slice` lets a step 0 through; both sides are then
empty), so it selects the range from that start unclamped (`sel_from`), and what is left to show is where the
composite stops.  `normalizeSlice_neg` is the negative-step counterpart of the field lemmas `normalizeSlice_*_pos` of
SliceRange.
-/
import DaskArrayModel.Lemmas.SliceRange
namespace Dask.Lemmas.SliceAlgebra
open Dask.Py Dask.Py.PySlice Dask.Slicing

/-- a written bound of a negative-step slice that the clamp leaves alone: absent, or a position of the axis -/
def InAxis (n : Int) (o : Option Int) : Prop := ∀ v, o = some v → 0 ≤ v ∧ v ≤ n - 1

theorem inAxis_none (n : Int) : InAxis n none := fun _ h => by cases h

theorem inAxis_some {n w : Int} (h0 : 0 ≤ w) (h1 : w ≤ n - 1) : InAxis n (some w) :=
  fun v h => by cases h; exact ⟨h0, h1⟩

theorem InAxis.getD_adjust {n : Int} {o : Option Int} (h : InAxis n o) (d : Int) :
    (o.map (fun v => adjust v n true)).getD d = o.getD d := by
  cases o with
  | none => rfl
  | some v => exact adjust_true_id v n (h v rfl).1 (h v rfl).2

theorem indices_neg_of_inAxis (a b : Option Int) (n c : Int) (hc : c < 0) (ha : InAxis n a) (hb : InAxis n b) :
    istart ⟨a, b, some c⟩ n = a.getD (n - 1) ∧ istop ⟨a, b, some c⟩ n = b.getD (-1) := by
  have h := indices_neg a b (some c) n hc
  rwa [ha.getD_adjust, hb.getD_adjust] at h

theorem sel_neg_of_inAxis (a b : Option Int) (n c : Int) (hc : c < 0) (ha : InAxis n a) (hb : InAxis n b) :
    sel ⟨a, b, some c⟩ n = rangeList (a.getD (n - 1)) (b.getD (-1)) c := by
  rw [sel_mk_neg a b _ n c rfl hc, ha.getD_adjust, hb.getD_adjust]

theorem normalizeSlice_neg (s : PySlice) (n : Int) (hn : 0 ≤ n) (hc : s.stp < 0) :
    ∃ a b, normalizeSlice s n = ⟨a, b, some s.stp⟩ ∧ InAxis n a ∧ InAxis n b ∧
      rangeList (a.getD (n - 1)) (b.getD (-1)) s.stp = sel s n := by
  have hA := istart_neg_bounds s n hn hc
  have hB := istop_neg_bounds s n hn hc
  have h1 : ¬ s.stp > 0 := by omega
  unfold normalizeSlice sel
  simp only [h1, hc, if_true, if_false]
  by_cases h2 : s.istart n ≥ n - 1
  · rw [if_pos h2]
    have e : s.istart n = n - 1 := by omega
    by_cases h3 : s.istop n < 0
    · have e' : s.istop n = -1 := by omega
      exact ⟨none, none, by rw [if_pos h3], inAxis_none n, inAxis_none n, by rw [e, e']; rfl⟩
    · exact ⟨none, some (s.istop n), by rw [if_neg h3], inAxis_none n, inAxis_some (by omega) hB.2,
        by rw [e]; rfl⟩
  · rw [if_neg h2]
    by_cases h4 : s.istart n < 0
    · rw [if_pos h4]
      exact ⟨some 0, some 0, rfl, inAxis_some (Int.le_refl 0) (by omega),
        inAxis_some (Int.le_refl 0) (by omega),
        (rangeList_eq_nil_neg hc (Int.le_refl 0)).trans (rangeList_eq_nil_neg hc (by omega)).symm⟩
    · rw [if_neg h4]
      by_cases h3 : s.istop n < 0
      · have e' : s.istop n = -1 := by omega
        exact ⟨some (s.istart n), none, by rw [if_pos h3], inAxis_some (by omega) (by omega),
          inAxis_none n, by rw [e']; rfl⟩
      · exact ⟨some (s.istart n), some (s.istop n), by rw [if_neg h3],
          inAxis_some (by omega) (by omega), inAxis_some (by omega) hB.2, rfl⟩

theorem sel_normalizeSlice (s : PySlice) (n : Int) (hn : 0 ≤ n) (hs : s.stp ≠ 0) :
    sel (normalizeSlice s n) n = sel s n := by
  rcases Int.lt_trichotomy s.stp 0 with hc | hc | hc
  · obtain ⟨a, b, hnorm, ha, hb, hr⟩ := normalizeSlice_neg s n hn hc
    rw [hnorm, sel_neg_of_inAxis a b n _ hc ha hb, hr]
  · exact absurd hc hs
  · have hA := istart_pos_bounds s n hn hc
    have hB := istop_pos_bounds s n hn hc
    have hstp := normalizeSlice_stp s n
    rw [sel_pos _ n hn (by omega), normalizeSlice_start_pos s n hc,
      normalizeSlice_stop_pos s n hn hc, hstp,
      adjust_false_id _ n hA.1 hA.2, adjust_false_id _ n (by omega) (by omega),
      rangeList_max_stop hc]
    rfl

/-- a negative start and a stop past the end, step 2; then a negative step with both bounds clamped away -/
example : sel (normalizeSlice ⟨some (-7), some 100, some 2⟩ 10) 10 = [3, 5, 7, 9] ∧
    normalizeSlice ⟨some (-7), some 100, some 2⟩ 10 = ⟨some 3, none, some 2⟩ ∧
    normalizeSlice ⟨some 20, some (-20), some (-3)⟩ 10 = ⟨none, none, some (-3)⟩ := by decide

example : sel ⟨some (-2), none, some (-3)⟩ 10 = [8, 5, 2] := by decide

theorem composeSlices_eq (outer inner : PySlice) (n : Int) :
    composeSlices outer inner n =
      ⟨some (outer.istart n +
          inner.istart (rangeLen (outer.istart n) (outer.istop n) outer.stp : Int) * outer.stp),
        some (outer.istart n +
          inner.istop (rangeLen (outer.istart n) (outer.istop n) outer.stp : Int) * outer.stp),
        if outer.stp * inner.stp ≠ 1 then some (outer.stp * inner.stp) else none⟩ := by
  unfold composeSlices
  by_cases h : outer.stp ≠ 1 ∨ inner.stp ≠ 1
  · simp only [h, if_true]
  · have h1 : outer.stp = 1 := by omega
    have h2 : inner.stp = 1 := by omega
    simp [h1, h2]

/-- `_compose_slices` on the indices: the inner range `B : Bend : bc` lies within the `rangeLen A Aend ac` outer
positions, so the composite may stop at the image of `Bend` clamped to the axis (`compose_core`, for any stop that cuts there). -/
theorem compose_indices {n A Aend ac B Bend bc : Int} (hA : 0 ≤ A) (hAe : Aend ≤ n) (hac : 0 < ac)
    (hbc : 0 < bc) (hB : 0 ≤ B) (hBe0 : 0 ≤ Bend) (hBe : Bend ≤ (rangeLen A Aend ac : Int)) :
    rangeList (A + B * ac) (adjust (A + Bend * ac) n false) (ac * bc) =
      (rangeList B Bend bc).filterMap (fun i => (rangeList A Aend ac)[i.toNat]?) := by
  have hQ : 0 ≤ Bend * ac := Int.mul_nonneg hBe0 (Int.le_of_lt hac)
  apply compose_core A Aend ac B Bend _ _ hB hac hbc hBe
  intro t ht
  have hcancel : t * ac < Bend * ac ↔ t < Bend := Int.mul_lt_mul_right hac
  rw [lt_adjust_false_iff _ _ n (by omega), Int.add_lt_add_iff_left, hcancel]
  constructor
  · intro h
    have := (lt_rangeLen_pos_int A Aend ac hac t (by omega)).mp (by omega)
    exact ⟨h, by omega⟩
  · exact fun h => h.1

theorem composeSlices_sel (outer inner : PySlice) (n : Int) (hn : 0 ≤ n)
    (ho : 0 < outer.stp) (hi : 0 < inner.stp) :
    sel (composeSlices outer inner n) n =
      (sel inner ((sel outer n).length : Int)).filterMap (fun i => (sel outer n)[i.toNat]?) := by
  rw [sel_length, composeSlices_eq]
  have hacbc : 0 < outer.stp * inner.stp := Int.mul_pos ho hi
  have hA := istart_pos_bounds outer n hn ho
  have hL0 : (0 : Int) ≤ (rangeLen (outer.istart n) (outer.istop n) outer.stp : Int) :=
    Int.natCast_nonneg _
  have hB := istart_pos_bounds inner _ hL0 hi
  have hBe := istop_pos_bounds inner _ hL0 hi
  have hP := Int.mul_nonneg hB.1 (Int.le_of_lt ho)
  rw [sel_mk_pos _ _ _ n _ (by rw [ite_not]; exact stp_mk_ite _ _ _) hacbc]
  simp only [Option.map_some, Option.getD_some]
  rw [rangeList_clamp_start hacbc (by omega) (adjust_false_bounds _ n hn).2]
  exact compose_indices hA.1 (istop_pos_bounds outer n hn ho).2 ho hi hB.1 hBe.1 hBe.2

example : composeSlices ⟨some 1, some 20, some 3⟩ ⟨some 1, none, some 2⟩ 17 =
      ⟨some 4, some 19, some 6⟩ ∧
    sel ⟨some 4, some 19, some 6⟩ 17 = [4, 10, 16] ∧
    (sel ⟨some 1, none, some 2⟩ ((sel ⟨some 1, some 20, some 3⟩ 17).length : Int)).filterMap
      (fun i => (sel ⟨some 1, some 20, some 3⟩ 17)[i.toNat]?) = [4, 10, 16] := by decide

/-- The positivity hypothesis on the outer step is needed: `x[::-1][:]` on an axis of length 3
composes to `slice(2, -1, -1)`, which selects nothing. -/
example : sel (composeSlices ⟨none, none, some (-1)⟩ ⟨none, none, none⟩ 3) 3 ≠
    (sel ⟨none, none, none⟩ ((sel ⟨none, none, some (-1)⟩ 3).length : Int)).filterMap
      (fun i => (sel ⟨none, none, some (-1)⟩ 3)[i.toNat]?) := by decide

/-- the `stop` computed by `fuse_slice` for two normalised slices: where `a` stops, or where the stop of `b`
lands if that comes first. -/
def fusedStop (a b : PySlice) : Option Int :=
  match b.stop with
  | none => a.stop
  | some y => some (match a.stop with
    | none => a.start.getD 0 + a.stp * y
    | some x => min x (a.start.getD 0 + a.stp * y))

theorem fuseSliceSlice_eq (a b : PySlice) : fuseSliceSlice a b =
    if (a.start.getD 0 < 0 ∨ a.stp < 0 ∨ a.stop.getD 0 < 0) ∨
       (b.start.getD 0 < 0 ∨ b.stp < 0 ∨ b.stop.getD 0 < 0) then .error .notImplemented
    else .ok ⟨some (a.start.getD 0 + a.stp * b.start.getD 0), fusedStop a b,
      if a.stp * b.stp = 1 then none else some (a.stp * b.stp)⟩ := by
  unfold fuseSliceSlice normalizeForFusion fusedStop stp
  by_cases ha : (a.start.getD 0 < 0 ∨ a.step.getD 1 < 0 ∨ a.stop.getD 0 < 0)
  · simp [ha, bind, Except.bind]
  · by_cases hb : (b.start.getD 0 < 0 ∨ b.step.getD 1 < 0 ∨ b.stop.getD 0 < 0)
    · simp [ha, hb, bind, Except.bind]
    · simp only [ha, hb, bind, Except.bind, if_false, pure, Except.pure, or_self]
      cases a.stop <;> cases b.stop <;> simp

theorem fuseSliceSlice_ok_iff (a b : PySlice) :
    (∃ f, fuseSliceSlice a b = .ok f) ↔
      (0 ≤ a.start.getD 0 ∧ 0 ≤ a.step.getD 1 ∧ 0 ≤ a.stop.getD 0 ∧
       0 ≤ b.start.getD 0 ∧ 0 ≤ b.step.getD 1 ∧ 0 ≤ b.stop.getD 0) := by
  rw [fuseSliceSlice_eq]
  unfold stp
  split
  · rename_i h
    constructor
    · rintro ⟨f, hf⟩; cases hf
    · intro h'; omega
  · rename_i h
    constructor
    · intro _; omega
    · intro _; exact ⟨_, rfl⟩

example : (∃ f, fuseSliceSlice ⟨some 1, some 20, some 2⟩ ⟨some 1, none, some 3⟩ = .ok f) ∧
    fuseSliceSlice ⟨some 1, some 20, some 2⟩ ⟨some (-1), none, none⟩ = .error .notImplemented := by
  exact ⟨(fuseSliceSlice_ok_iff _ _).mpr (by decide), rfl⟩

theorem adjust_fusedStop (a b : PySlice) (n y : Int) (hb : b.stop = some y) (hn : 0 ≤ n)
    (hx : 0 ≤ a.stop.getD 0) (hz : 0 ≤ a.start.getD 0 + a.stp * y) :
    adjust ((fusedStop a b).getD n) n false =
      min (adjust (a.stop.getD n) n false) (a.start.getD 0 + a.stp * y) := by
  unfold fusedStop
  rw [hb]
  cases hsa : a.stop with
  | none =>
    simp only [Option.getD_some, Option.getD_none]
    rw [adjust_false_eq_min _ n hz, adjust_false_id n n hn (Int.le_refl n), Int.min_comm]
  | some x =>
    rw [hsa, Option.getD_some] at hx
    simp only [Option.getD_some]
    rw [adjust_false_eq_min _ n (Int.le_min.mpr ⟨hx, hz⟩), adjust_false_eq_min x n hx,
      Int.min_assoc, Int.min_comm _ n, ← Int.min_assoc]

/-- `hwin` of `compose_core` for `fuse_slice`; `L` is the length of the intermediate result -/
theorem fusedStop_window (a b : PySlice) (n L t : Int) (hac : 0 < a.stp)
    (ha0 : 0 ≤ a.start.getD 0) (hx : 0 ≤ a.stop.getD 0) (hy : 0 ≤ b.stop.getD 0)
    (hn : 0 ≤ n) (hL : 0 ≤ L)
    (hK : t < L ↔ a.start.getD 0 + t * a.stp < adjust (a.stop.getD n) n false) :
    t < adjust (b.stop.getD L) L false ↔
      a.start.getD 0 + t * a.stp < adjust ((fusedStop a b).getD n) n false := by
  cases hsb : b.stop with
  | none =>
    have e : fusedStop a b = a.stop := by unfold fusedStop; rw [hsb]
    rw [e, Option.getD_none, adjust_false_id L L hL (Int.le_refl L)]
    exact hK
  | some y =>
    rw [hsb, Option.getD_some] at hy
    have hq : 0 ≤ a.stp * y := Int.mul_nonneg (Int.le_of_lt hac) hy
    have hcancel : t < y ↔ t * a.stp < a.stp * y := by
      rw [Int.mul_comm a.stp y]; exact (Int.mul_lt_mul_right hac).symm
    rw [adjust_fusedStop a b n y hsb hn hx (by omega), Option.getD_some, lt_adjust_false_iff _ y L hy,
      Int.lt_min, hK, hcancel]
    omega

theorem fuseSliceSlice_sel (a b f : PySlice) (n : Int) (hn : 0 ≤ n)
    (h : fuseSliceSlice a b = .ok f) :
    sel f n = (sel b ((sel a n).length : Int)).filterMap (fun i => (sel a n)[i.toNat]?) := by
  rw [fuseSliceSlice_eq] at h
  split at h
  · cases h
  · rename_i hneg
    injection h with h
    subst h
    have ha0 : 0 ≤ a.start.getD 0 := by omega
    have hb0 : 0 ≤ b.start.getD 0 := by omega
    have hx : 0 ≤ a.stop.getD 0 := by omega
    have hy : 0 ≤ b.stop.getD 0 := by omega
    by_cases hac0 : a.stp = 0
    · rw [sel_stp_zero a n hac0, List.filterMap_eq_nil_iff.mpr fun _ _ => List.getElem?_nil]
      apply sel_stp_zero
      rw [stp_mk_ite, hac0, Int.zero_mul]
    by_cases hbc0 : b.stp = 0
    · rw [sel_stp_zero b _ hbc0]
      apply sel_stp_zero
      rw [stp_mk_ite, hbc0, Int.mul_zero]
    have hac : 0 < a.stp := by omega
    have hbc : 0 < b.stp := by omega
    have hacbc : 0 < a.stp * b.stp := Int.mul_pos hac hbc
    have hL0 : (0 : Int) ≤ (rangeLen (a.start.getD 0) (adjust (a.stop.getD n) n false) a.stp : Int) :=
      Int.natCast_nonneg _
    have hq : 0 ≤ a.stp * b.start.getD 0 := Int.mul_nonneg (Int.le_of_lt hac) hb0
    rw [sel_from a n hn hac ha0, length_rangeList, sel_from b _ hL0 hbc hb0,
      sel_from _ n hn (by rw [stp_mk_ite]; exact hacbc) (by simp only [Option.getD_some]; omega), stp_mk_ite]
    simp only [Option.getD_some]
    rw [Int.mul_comm a.stp (b.start.getD 0)]
    apply compose_core _ _ _ _ _ _ _ hb0 hac hbc (adjust_false_bounds _ _ hL0).2
    intro t ht
    exact fusedStop_window a b n _ t hac ha0 hx hy hn hL0
      (lt_rangeLen_pos_int _ _ _ hac t (by omega))

example : fuseSliceSlice ⟨some 1, some 20, some 2⟩ ⟨some 1, none, some 3⟩ =
      .ok ⟨some 3, some 20, some 6⟩ ∧
    sel ⟨some 3, some 20, some 6⟩ 17 = [3, 9, 15] ∧
    (sel ⟨some 1, none, some 3⟩ ((sel ⟨some 1, some 20, some 2⟩ 17).length : Int)).filterMap
      (fun i => (sel ⟨some 1, some 20, some 2⟩ 17)[i.toNat]?) = [3, 9, 15] :=
  ⟨rfl, by decide, by decide⟩

theorem fuseSliceInt_eq (a : PySlice) (b : Int) : fuseSliceInt a b =
    if (a.start.getD 0 < 0 ∨ a.stp < 0 ∨ a.stop.getD 0 < 0) ∨ b < 0 then .error .notImplemented
    else .ok (a.start.getD 0 + b * a.stp) := by
  unfold fuseSliceInt normalizeForFusion stp
  by_cases ha : (a.start.getD 0 < 0 ∨ a.step.getD 1 < 0 ∨ a.stop.getD 0 < 0)
  · simp [ha, bind, Except.bind]
  · by_cases hb : b < 0
    · simp [ha, hb, bind, Except.bind]
    · simp [ha, hb, bind, Except.bind, pure, Except.pure]

/-- fuse_slice(a, b) for an integer b in range of the intermediate result `sel a n`; `normalize_index`
has checked that bound before fusion is reached. -/
theorem fuseSliceInt_sel (a : PySlice) (b r : Int) (n : Int) (hn : 0 ≤ n)
    (h : fuseSliceInt a b = .ok r) (hb : b < ((sel a n).length : Int)) :
    (sel a n)[b.toNat]? = some r := by
  rw [fuseSliceInt_eq] at h
  split at h
  · cases h
  · rename_i hneg
    injection h with h
    subst h
    have ha0 : 0 ≤ a.start.getD 0 := by omega
    have hb0 : 0 ≤ b := by omega
    have hac : 0 < a.stp := by
      rcases Int.lt_trichotomy a.stp 0 with hc | hc | hc
      · omega
      · rw [sel_stp_zero a n hc, List.length_nil] at hb; omega
      · exact hc
    rw [sel_from a n hn hac ha0] at hb ⊢
    rw [length_rangeList] at hb
    rw [getElem?_rangeList, if_pos (by omega), Int.toNat_of_nonneg hb0]

example : fuseSliceInt ⟨some 1, some 20, some 2⟩ 3 = .ok 7 ∧
    (3 : Int) < ((sel ⟨some 1, some 20, some 2⟩ 17).length : Int) ∧
    (sel ⟨some 1, some 20, some 2⟩ 17)[(3 : Int).toNat]? = some 7 := ⟨rfl, by decide, by decide⟩

-- the hypotheses of the main theorems are jointly satisfiable on concrete inputs

example : sel (normalizeSlice ⟨some (-7), some 100, some 2⟩ 10) 10 =
    sel ⟨some (-7), some 100, some 2⟩ 10 :=
  sel_normalizeSlice ⟨some (-7), some 100, some 2⟩ 10 (by decide) (by decide)

example : ∀ p ∈ sel ⟨some (-2), none, some (-3)⟩ 10, 0 ≤ p ∧ p < 10 :=
  sel_bounds ⟨some (-2), none, some (-3)⟩ 10 (by decide)

example := fuseSliceSlice_sel ⟨some 1, some 20, some 2⟩ ⟨some 1, none, some 3⟩
  ⟨some 3, some 20, some 6⟩ 17 (by decide) rfl

example := fuseSliceInt_sel ⟨some 1, some 20, some 2⟩ 3 7 17 (by decide) rfl (by decide)

example := composeSlices_sel ⟨some 1, some 20, some 3⟩ ⟨some 1, none, some 2⟩ 17
  (by decide) (by decide) (by decide)

end Dask.Lemmas.SliceAlgebra
