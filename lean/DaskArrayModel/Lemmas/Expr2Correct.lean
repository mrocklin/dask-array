/-
The refinement theorem of the second-layer language `Expr2` (Model/Expr2.lean): for every
well-formed expression and every valid block index the value the task computes (`blockDen2`) is the
block of the NumPy meaning (`den2`) on the extent advertised by `.chunks` (`chunks2`).  Induction on
`Expr2`; the base case is `blockDen_correct` for `Expr`, the context of `node` is `blockDen_agree` (its tasks read the
computed arrays of the sub-expressions, its meaning their meant arrays).
-/
import DaskArrayModel.Lemmas.Expr2Swv
namespace Dask.ND
open Dask.Py Dask.Py.PySlice Dask.Slicing Dask.Reduce

theorem WF2_node {e : Expr} {a b : Expr2} :
    WF2 (.node e a b) ↔ WF2 a ∧ WF2 b ∧ WF e ∧ holesOK a b e = true := by
  simp only [WF2, WF, wf2, Bool.and_eq_true, and_assoc]

theorem WF2_zipB {f : Nat} {a b : Expr2} :
    WF2 (.zipB f a b) ↔ WF2 a ∧ WF2 b ∧
      bcOK (chunks2 a) ((zipBLayout (chunks2 a) (chunks2 b)).drop
        ((zipBLayout (chunks2 a) (chunks2 b)).length - (chunks2 a).length)) = true ∧
      bcOK (chunks2 b) ((zipBLayout (chunks2 a) (chunks2 b)).drop
        ((zipBLayout (chunks2 a) (chunks2 b)).length - (chunks2 b).length)) = true := by
  simp only [WF2, wf2, Bool.and_eq_true, and_assoc]

theorem WF2_take {e : Expr2} {ax : Nat} {idx : List Int} :
    WF2 (.take e ax idx) ↔ WF2 e ∧ ax < (shape2 e).length ∧
      ∀ k ∈ idx, -(((shape2 e).getD ax 0 : Nat) : Int) ≤ k ∧ k < (((shape2 e).getD ax 0 : Nat) : Int) := by
  simp only [WF2, wf2, Bool.and_eq_true, decide_eq_true_eq, List.all_eq_true, and_assoc]

theorem WF2_swvReduce {r : Red} {e : Expr2} {w ax : Nat} :
    WF2 (.swvReduce r e w ax) ↔ WF2 e ∧ ax < (shape2 e).length ∧ 1 ≤ w ∧
      ∀ c ∈ (chunks2 e).getD ax [], w ≤ c := by
  simp only [WF2, wf2, Bool.and_eq_true, decide_eq_true_eq, List.all_eq_true, and_assoc]

theorem meta2_ok : ∀ (e : Expr2), WF2 e →
    (chunks2 e).map List.sum = shape2 e ∧ NonEmptyAxes (chunks2 e)
  | .base e, h => meta_ok e h
  | .node e a b, h => by
    exact meta_ok e (WF2_node.1 h).2.2.1
  | .zipB f a b, h => by
    obtain ⟨ha, hb, _, _⟩ := WF2_zipB.1 h
    obtain ⟨_, a2⟩ := meta2_ok a ha
    obtain ⟨_, b2⟩ := meta2_ok b hb
    exact ⟨rfl, zipBLayout_nonempty _ _ a2 b2⟩
  | .take e ax idx, h => by
    obtain ⟨hwe, hax, hidx'⟩ := WF2_take.1 h
    obtain ⟨m1, m2⟩ := meta2_ok e hwe
    have hn : ((chunks2 e).getD ax []).sum = (shape2 e).getD ax 0 := sum_getD_of_map_sum m1 ax
    rw [← hn] at hidx'
    obtain ⟨hflat, hne⟩ := takeGroups_spec _ ((chunks2 e).getD ax []) idx rfl hidx'
    refine ⟨?_, m2.set (by simpa using hne)⟩
    simp only [chunks2, shape2]
    rw [List.map_set, m1, ← List.length_flatten, hflat, List.length_map]
  | .swvReduce r e w ax, h => by
    obtain ⟨hwe, hax, hw, hall⟩ := WF2_swvReduce.1 h
    obtain ⟨m1, m2⟩ := meta2_ok e hwe
    have haxc : ax < (chunks2 e).length := by rw [length_of_map_sum m1]; exact hax
    have hne := m2.getD ax haxc
    have hn : ((chunks2 e).getD ax []).sum = (shape2 e).getD ax 0 := sum_getD_of_map_sum m1 ax
    refine ⟨?_, m2.set (swvChunks_ne_nil _ w)⟩
    simp only [chunks2, shape2]
    rw [List.map_set, m1, swvChunks_sum _ w hne hw hall, hn]

theorem compute2_of_blockOK (env : Env) (e : Expr2) (m1 : (chunks2 e).map List.sum = shape2 e)
    (h : IsGrid (chunks2 e) (den2 env e) (blockDen2 env e)) : Arr.Equiv (compute2 env e) (den2 env e) :=
  assemble_of_blocks (den2 env e) (chunks2 e) _ (by rw [den2_shape]; exact m1) h

theorem holes_agree (env : Env) (e : Expr) (a b : Expr2) (hh : holesOK a b e = true)
    (ha : Arr.Equiv (compute2 env a) (den2 env a)) (hb : Arr.Equiv (compute2 env b) (den2 env b))
    (ma : (chunks2 a).map List.sum = shape2 a) (mb : (chunks2 b).map List.sum = shape2 b) :
    SrcAgree (env.withHoles (compute2 env a) (compute2 env b))
      (env.withHoles (den2 env a) (den2 env b)) e := by
  intro p hp i hi
  have := List.all_eq_true.mp hh p hp
  simp only [Bool.and_eq_true, Bool.or_eq_true, bne_iff_ne, ne_eq, decide_eq_true_eq] at this
  obtain ⟨h1, h2⟩ := this
  simp only [Env.withHoles]
  by_cases hA : p.1 = holeA
  · rw [if_pos hA, if_pos hA]
    rcases h1 with h1 | h1
    · exact absurd hA h1
    · apply ha.2 i
      show InB i ((chunks2 a).map List.sum)
      rw [ma, ← h1.1]; exact hi
  · rw [if_neg hA, if_neg hA]
    by_cases hB : p.1 = holeB
    · rw [if_pos hB, if_pos hB]
      rcases h2 with h2 | h2
      · exact absurd hB h2
      · apply hb.2 i
        show InB i ((chunks2 b).map List.sum)
        rw [mb, ← h2.1]; exact hi
    · rw [if_neg hB, if_neg hB]

theorem blockDen2_correct (env : Env) (henv : EnvOK env) : ∀ (e : Expr2), WF2 e →
    IsGrid (chunks2 e) (den2 env e) (blockDen2 env e)
  | .base e, h => blockDen_correct env henv e h
  | .node e a b, h => by
    obtain ⟨hwa, hwb, hwe, hh⟩ := WF2_node.1 h
    have iha := blockDen2_correct env henv a hwa
    have ihb := blockDen2_correct env henv b hwb
    obtain ⟨ma, _⟩ := meta2_ok a hwa
    obtain ⟨mb, _⟩ := meta2_ok b hwb
    have ca := compute2_of_blockOK env a ma iha
    have cb := compute2_of_blockOK env b mb ihb
    -- by unfolding: `withHoles` changes `src` only, so `EnvOK` is that of `env` and the meaning below, taken in the
    -- computing environment with the sources of the meant one, is `den2 env (.node e a b)`
    exact blockDen_agree (env.withHoles (compute2 env a) (compute2 env b)) henv
      (env.withHoles (den2 env a) (den2 env b)).src e hwe (holes_agree env e a b hh ca cb ma mb)
  | .zipB f a b, h => by
    obtain ⟨hwa, hwb, hA, hB⟩ := WF2_zipB.1 h
    obtain ⟨ma, na⟩ := meta2_ok a hwa
    obtain ⟨mb, nb⟩ := meta2_ok b hwb
    exact zipB_block env f a b hA hB ma na mb nb (blockDen2_correct env henv a hwa)
      (blockDen2_correct env henv b hwb)
  | .take e ax idx, h => by
    obtain ⟨hwe, hax, hidx⟩ := WF2_take.1 h
    exact take_block env e ax idx (meta2_ok e hwe).1 hax hidx (meta2_ok _ h).1 (blockDen2_correct env henv e hwe)
  | .swvReduce r e w ax, h => by
    obtain ⟨hwe, hax, _, hall⟩ := WF2_swvReduce.1 h
    obtain ⟨m1, m2⟩ := meta2_ok e hwe
    exact swv_block env r e w ax m1 m2 hax hall (blockDen2_correct env henv e hwe)

theorem compute2_eq_den2 (env : Env) (henv : EnvOK env) (e : Expr2) (h : WF2 e) :
    Arr.Equiv (compute2 env e) (den2 env e) :=
  compute2_of_blockOK env e (meta2_ok e h).1 (blockDen2_correct env henv e h)

end Dask.ND
