/-
The slice-through-map_overlap rule (Model/OverlapSlice.lean) on one axis.  The boundary extension `padB` is the axis
between two halos, and the five kinds differ only in where position `q` of a halo reads from; every fact about
`padSrc` is proved region by region from a small fact about that map.  A fired axis is a record `AxRec` of natural
numbers, and what the guards of `acceptAxis` establish about it is `AxRec.Geom`.  From `Geom` alone, inside a requested
window the extended sub-array and the extended axis have the same sources (the periodic guard keeps the wrap-around
out of the windows), hence a window-local function has the same requested outputs on both.  The blocks of the chunked
pipeline are such records too (Lemmas/OverlapPipe.lean).
-/
import DaskArrayModel.Model.OverlapPipe
import DaskArrayModel.Lemmas.SliceAlgebra
import DaskArrayModel.Lemmas.SliceWindow
namespace Dask.Lemmas.OverlapSlice
open Dask.Py Dask.Py.PySlice Dask.OverlapSlice Dask.OverlapPipe Dask.Lemmas.SliceAlgebra

variable {α β γ : Type}

theorem getSl_window {s : PySlice} {x : List α} {lo len : Nat} (W : Window s x.length lo len) :
    getSl s x = (x.drop lo).take len := W.pick x

theorem getSl_sel (s : PySlice) (x : List α) {n : Nat} (hx : x.length = n) (h1 : s.stp = 1) :
    getSl s x = (x.drop (s.istart n).toNat).take (sel s n).length := by
  subst hx
  have W := Window.of_unit s x.length (Int.natCast_nonneg _) h1
  rw [W.length]
  exact getSl_window W

theorem getSl_colon (z : List α) : getSl colon z = z :=
  (getSl_window (s := colon) (Window.full z.length)).trans (by rw [List.drop_zero, List.take_length])

/-- what an entry of the extended axis holds when it reads `x` through a source: `none` = no entry (`out`, or an index
past `x`), `some none` = a "no neighbour" marker -/
def readSrc (x : List α) : Src α → Option (Option α)
  | .idx j => x[j]?.map some
  | .absent => some none
  | .fill c => some (some c)
  | .out => none

/-- where position `q` of the left halo reads from -/
def padL (b : Boundary α) (dl n q : Nat) : Src α :=
  match b with
  | .none => .absent | .constant c => .fill c | .nearest => .idx 0
  | .reflect => .idx (dl - 1 - q) | .periodic => .idx (n - dl + q)

/-- where position `q` of the right halo (counted from the end of the axis) reads from -/
def padR (b : Boundary α) (n q : Nat) : Src α :=
  match b with
  | .none => .absent | .constant c => .fill c | .nearest => .idx (n - 1)
  | .reflect => .idx (n - 1 - q) | .periodic => .idx q

theorem padSrc_eq (b : Boundary α) (dl dr n p : Nat) : padSrc b dl dr n p =
    if p < dl then padL b dl n p else if p - dl < n then .idx (p - dl)
    else if p - dl - n < dr then padR b n (p - dl - n) else .out := by
  have e : padSrc b dl dr n p = if p < dl then padL b dl n p else if p < dl + n then .idx (p - dl)
      else if p < dl + n + dr then padR b n (p - dl - n) else .out := by cases b <;> rfl
  rw [e]
  by_cases h1 : p < dl
  · rw [if_pos h1, if_pos h1]
  rw [if_neg h1, if_neg h1]
  by_cases h2 : p < dl + n
  · rw [if_pos h2, if_pos ((Nat.sub_lt_iff_lt_add' (Nat.le_of_not_lt h1)).mpr h2)]
  rw [if_neg h2, if_neg (mt (Nat.sub_lt_iff_lt_add' (Nat.le_of_not_lt h1)).mp h2), Nat.sub_sub]
  simp only [Nat.sub_lt_iff_lt_add' (Nat.le_of_not_lt h2)]

def Halo (x : List α) (d : Nat) (h : Nat → Src α) (A : List (Option α)) : Prop :=
  A.length = d ∧ ∀ q, q < d → A[q]? = readSrc x (h q)

theorem replicate_halo (x : List α) (d : Nat) (v : Option α) (h : Nat → Src α)
    (hv : ∀ q, readSrc x (h q) = some v) : Halo x d h (List.replicate d v) :=
  ⟨List.length_replicate, fun q hq => (List.getElem?_replicate_of_lt hq).trans (hv q).symm⟩

theorem padB_pieces (b : Boundary α) (dl dr : Nat) (x : List α) (hb : b.kind ≠ .none) :
    padB b dl dr x = (leftPiece b dl x ++ x ++ rightPiece b dr x).map some := by
  cases b <;> first | exact absurd rfl hb | rfl

theorem pieces_halo (b : Boundary α) (dl dr : Nat) (x : List α) (hb : b.kind ≠ .none) (hl : dl ≤ x.length)
    (hr : dr ≤ x.length) : Halo x dl (padL b dl x.length) ((leftPiece b dl x).map some) ∧
      Halo x dr (padR b x.length) ((rightPiece b dr x).map some) := by
  cases b with
  | none => exact absurd rfl hb
  | constant c =>
    exact ⟨List.map_replicate ▸ replicate_halo x dl (some c) _ fun _ => rfl,
      List.map_replicate ▸ replicate_halo x dr (some c) _ fun _ => rfl⟩
  | nearest =>
    cases x with
    | nil =>
      obtain ⟨rfl, rfl⟩ := And.intro (Nat.le_zero.mp hl) (Nat.le_zero.mp hr)
      exact ⟨⟨rfl, nofun⟩, rfl, nofun⟩
    | cons a t =>
      have h1 : (a :: t).length - 1 < (a :: t).length := Nat.lt_succ_self _
      have h2 : (a :: t).length ≤ (a :: t).length - 1 + 1 := Nat.le_refl _
      rw [rightPiece, List.drop_eq_getElem_cons h1, List.drop_of_length_le h2, List.flatMap_singleton,
        show leftPiece .nearest dl (a :: t) = .replicate dl a from List.append_nil _, List.map_replicate,
        List.map_replicate]
      exact ⟨replicate_halo _ dl _ _ fun _ => rfl,
        replicate_halo _ dr _ _ fun _ => congrArg (Option.map some) (List.getElem?_eq_getElem h1)⟩
  | periodic =>
    refine ⟨⟨?_, fun q _ => ?_⟩, ?_, fun q hq => ?_⟩
    · exact (List.length_map _).trans (List.length_drop.trans (Nat.sub_sub_self hl))
    · exact List.getElem?_map.trans (congrArg _ List.getElem?_drop)
    · exact (List.length_map _).trans (List.length_take.trans (Nat.min_eq_left hr))
    · exact List.getElem?_map.trans (congrArg _ (List.getElem?_take.trans (if_pos hq)))
  | reflect =>
    have hL : (x.take dl).length = dl := List.length_take.trans (Nat.min_eq_left hl)
    have hR : (x.drop (x.length - dr)).length = dr := List.length_drop.trans (Nat.sub_sub_self hr)
    refine ⟨⟨by rw [List.length_map, leftPiece, List.length_reverse, hL], fun q hq => ?_⟩,
      by rw [List.length_map, rightPiece, List.length_reverse, hR], fun q hq => ?_⟩
    · rw [List.getElem?_map, leftPiece, List.getElem?_reverse (hL.symm ▸ hq), hL, List.getElem?_take,
        if_pos (Nat.sub_lt_of_lt (Nat.sub_lt (Nat.zero_lt_of_lt hq) Nat.one_pos))]
      rfl
    · rw [List.getElem?_map, rightPiece, List.getElem?_reverse (hR.symm ▸ hq), hR, List.getElem?_drop,
        Nat.sub_sub, Nat.sub_add_sub_cancel hr (Nat.one_add q ▸ hq), ← Nat.sub_sub]
      rfl

theorem pieces_length (b : Boundary α) (dl dr : Nat) (x : List α) (hb : b.kind ≠ .none) (hl : dl ≤ x.length)
    (hr : dr ≤ x.length) : (leftPiece b dl x).length = dl ∧ (rightPiece b dr x).length = dr :=
  have h := pieces_halo b dl dr x hb hl hr
  ⟨List.length_map (f := some) ▸ h.1.1, List.length_map (f := some) ▸ h.2.1⟩

theorem padB_split (b : Boundary α) (dl dr : Nat) (x : List α) (hl : dl ≤ x.length) (hr : dr ≤ x.length) :
    ∃ A B, padB b dl dr x = A ++ x.map some ++ B ∧ Halo x dl (padL b dl x.length) A ∧
      Halo x dr (padR b x.length) B := by
  by_cases hb : b.kind = .none
  · obtain rfl : b = .none := by cases b <;> first | rfl | cases hb
    exact ⟨_, _, rfl, replicate_halo x dl none _ fun _ => rfl, replicate_halo x dr none _ fun _ => rfl⟩
  · exact ⟨_, _, by rw [padB_pieces b dl dr x hb, List.map_append, List.map_append], pieces_halo b dl dr x hb hl hr⟩

theorem padB_getElem? (b : Boundary α) (dl dr : Nat) (x : List α) (hl : dl ≤ x.length)
    (hr : dr ≤ x.length) (p : Nat) : (padB b dl dr x)[p]? = readSrc x (padSrc b dl dr x.length p) := by
  obtain ⟨A, B, hp, ⟨hA, hAq⟩, hB, hBq⟩ := padB_split b dl dr x hl hr
  rw [hp, padSrc_eq, List.append_assoc, List.getElem?_append, List.getElem?_append, hA, List.length_map]
  split
  · exact hAq p ‹_›
  split
  · exact List.getElem?_map
  split
  · exact hBq _ ‹_›
  · exact List.getElem?_eq_none (hB ▸ Nat.le_of_not_lt ‹_›)

theorem padB_length (b : Boundary α) (dl dr : Nat) (x : List α) (hl : dl ≤ x.length)
    (hr : dr ≤ x.length) : (padB b dl dr x).length = dl + x.length + dr := by
  obtain ⟨A, B, hp, ⟨hA, -⟩, hB, -⟩ := padB_split b dl dr x hl hr
  rw [hp, List.length_append, List.length_append, List.length_map, hA, hB]

theorem pad_idx_lt (b : Boundary α) {d n q j : Nat} (hd : d ≤ n) (hq : q < d) :
    (padL b d n q = .idx j → j < n) ∧ (padR b n q = .idx j → j < n) := by
  have hn : 0 < n := Nat.lt_of_lt_of_le (Nat.zero_lt_of_lt hq) hd
  have hn1 : n - 1 < n := Nat.sub_one_lt (Nat.ne_of_gt hn)
  cases b with
  | none => exact ⟨nofun, nofun⟩
  | constant c => exact ⟨nofun, nofun⟩
  | nearest => exact ⟨fun h => Src.idx.inj h ▸ hn, fun h => Src.idx.inj h ▸ hn1⟩
  | reflect =>
    exact ⟨fun h => Src.idx.inj h ▸ Nat.sub_lt_of_lt (Nat.lt_of_le_of_lt (Nat.sub_le_sub_right hd 1) hn1),
      fun h => Src.idx.inj h ▸ Nat.sub_lt_of_lt hn1⟩
  | periodic => exact ⟨fun h => Src.idx.inj h ▸ (by omega), fun h => Src.idx.inj h ▸ Nat.lt_of_lt_of_le hq hd⟩

theorem padSrc_idx_lt (b : Boundary α) (dl dr n p j : Nat) (hl : dl ≤ n) (hr : dr ≤ n)
    (h : padSrc b dl dr n p = .idx j) : j < n := by
  rw [padSrc_eq] at h
  split at h
  · exact (pad_idx_lt b hl ‹_›).1 h
  split at h
  · exact Src.idx.inj h ▸ ‹p - dl < n›
  split at h
  · exact (pad_idx_lt b hr ‹_›).2 h
  · cases h

/-- the first source, in the sub-array that starts at `es`, and the second, in the whole axis, read the same thing -/
def srcRel (es : Nat) : Src α → Src α → Prop
  | .idx q, .idx j => j = es + q
  | .absent, .absent => True
  | .fill c, .fill c' => c = c'
  | .out, .out => True
  | _, _ => False

/-- a source of the sub-array that starts at `es`, as a source of the whole axis; `srcRel es a c` says `c = a.shift es`
(declared under the model's `Src` only so that `a.shift es` can be written) -/
def _root_.Dask.OverlapSlice.Src.shift (es : Nat) : Src α → Src α
  | .idx q => .idx (es + q)
  | s => s

theorem srcRel_iff {es : Nat} {a c : Src α} : srcRel es a c ↔ c = a.shift es := by
  cases a <;> cases c <;> simp [srcRel, Src.shift, eq_comm]

theorem srcRel_refl (s : Src α) : srcRel 0 s s := by
  cases s <;> simp [srcRel]

theorem srcRel_read (x : List α) (es m : Nat) (a c : Src α) (h : srcRel es a c)
    (ha : ∀ q, a = .idx q → q < m) : readSrc ((x.drop es).take m) a = readSrc x c := by
  obtain rfl := srcRel_iff.mp h
  cases a with
  | idx q => exact congrArg (Option.map some) ((List.getElem?_take.trans (if_pos (ha q rfl))).trans List.getElem?_drop)
  | _ => rfl

theorem pad_shift {b : Boundary α} (hb : b.kind ≠ .periodic) (dl es m n q : Nat) :
    padL b dl m q = padL b dl n q ∧ (q < m → srcRel es (padR b m q) (padR b (es + m) q)) := by
  cases b with
  | periodic => exact absurd rfl hb
  | none => exact ⟨rfl, fun _ => trivial⟩
  | constant c => exact ⟨rfl, fun _ => rfl⟩
  | nearest => exact ⟨rfl, fun hq => Nat.add_sub_assoc (Nat.zero_lt_of_lt hq) es⟩
  | reflect => exact ⟨rfl, fun hq => show _ = _ by
      rw [Nat.add_sub_assoc (Nat.zero_lt_of_lt hq), Nat.add_sub_assoc (Nat.le_sub_one_of_lt hq)]⟩

/-- `p` may lie in a pad of the sub-array `[es, es + m)` only where the sub-array ends with the axis, and never
when the boundary is periodic: the wrap-around would come from the wrong end. -/
theorem padSrc_shift (b : Boundary α) (dl dr n m es p : Nat) (hm : es + m ≤ n) (hr : dr ≤ m)
    (hleft : p < dl → es = 0 ∧ b.kind ≠ .periodic)
    (hright : dl + m ≤ p → es + m = n ∧ b.kind ≠ .periodic) :
    srcRel es (padSrc b dl dr m p) (padSrc b dl dr n (es + p)) := by
  rw [padSrc_eq, padSrc_eq]
  by_cases h1 : p < dl
  · obtain ⟨rfl, hb⟩ := hleft h1
    rw [Nat.zero_add, if_pos h1, if_pos h1, (pad_shift hb dl 0 m n p).1]
    exact srcRel_refl _
  rw [if_neg h1, if_neg (fun h => h1 (Nat.lt_of_le_of_lt (Nat.le_add_left p es) h)),
    Nat.add_sub_assoc (Nat.le_of_not_lt h1) es]
  by_cases h2 : p - dl < m
  · rw [if_pos h2, if_pos (Nat.lt_of_lt_of_le (Nat.add_lt_add_left h2 es) hm)]
    exact rfl
  obtain ⟨rfl, hb⟩ := hright (by omega)
  rw [if_neg h2, if_neg (mt Nat.add_lt_add_iff_left.mp h2), Nat.add_sub_add_left]
  split
  · exact (pad_shift hb dl es m m _).2 (Nat.lt_of_lt_of_le ‹_› hr)
  · trivial

theorem window_getElem? (w : Nat) (e : List γ) (i t : Nat) :
    (window w e i)[t]? = if t < w then e[i + t]? else none := by
  unfold window
  simp [List.getElem?_take, List.getElem?_drop]

theorem winLocal_transfer {dl dr : Nat} {g : List γ → List β} (hg : WinLocal dl dr g)
    (E E' : List γ) (s s' L : Nat)
    (h1 : s + L + (dl + dr) ≤ E.length) (h2 : s' + L + (dl + dr) ≤ E'.length)
    (hw : ∀ j, j < L → window (dl + dr + 1) E (s + j) = window (dl + dr + 1) E' (s' + j)) :
    ((g E).drop s).take L = ((g E').drop s').take L := by
  apply List.ext_getElem?
  intro j
  simp only [List.getElem?_take, List.getElem?_drop]
  by_cases hj : j < L
  · simp only [hj, if_true]
    exact hg.2 E E' (s + j) (s' + j) (by omega) (by omega) (hw j hj)
  · simp [hj]

theorem mapOverlap1_length {dl dr : Nat} {g : List (Option α) → List β} (hg : WinLocal dl dr g) (b : Boundary α)
    (x : List α) (hl : dl ≤ x.length) (hr : dr ≤ x.length) : (mapOverlap1 g b dl dr x).length = x.length := by
  unfold mapOverlap1
  rw [hg.1, padB_length b dl dr x hl hr]
  omega

theorem stencil_winLocal (k : List γ → β) (dl dr : Nat) : WinLocal dl dr (stencil k dl dr) := by
  constructor
  · intro e; simp [stencil]
  · intro e e' i j hi hj hw
    unfold stencil
    simp only [List.getElem?_map]
    rw [List.getElem?_range (by omega), List.getElem?_range (by omega)]
    simp [hw]

/-- one axis of a fired rewrite, in natural numbers -/
structure AxRec (α : Type) where
  b : Boundary α
  dl : Nat
  dr : Nat
  n : Nat
  /-- length of the pushed sub-array -/
  m : Nat
  /-- first requested position -/
  s : Nat
  /-- first position of the input slice -/
  es : Nat
  /-- first position of the trim slice -/
  ts : Nat
  /-- number of requested positions -/
  L : Nat

/-- the windows of the requested outputs read the same sources in the sub-array and in the whole axis.  Weaker than
`Geom`, and what the n-D statements ask: the full slice of a periodic axis with some depth fires and satisfies `Shift`
(same array on both sides) but not `Geom.left`. -/
def AxRec.Shift (r : AxRec α) : Prop :=
  ∀ j t, j < r.L → t ≤ r.dl + r.dr →
    srcRel r.es (padSrc r.b r.dl r.dr r.m (r.ts + j + t)) (padSrc r.b r.dl r.dr r.n (r.s + j + t))

/-- What the guards of `acceptAxis` establish: the request lies in the sub-array at offset `ts`, both depths fit
in the sub-array, and the sub-array carries the full halo of the request on each side unless it is cut off by
the end of the axis there, which a periodic axis does not allow. -/
structure AxRec.Geom (r : AxRec α) : Prop where
  start : r.s = r.es + r.ts
  sub : r.es + r.m ≤ r.n
  req : r.ts + r.L ≤ r.m
  depthL : r.dl ≤ r.m
  depthR : r.dr ≤ r.m
  left : r.ts < r.dl → r.es = 0 ∧ r.b.kind ≠ .periodic
  right : 0 < r.L → r.ts + r.L + r.dr ≤ r.m ∨ (r.es + r.m = r.n ∧ r.b.kind ≠ .periodic)

namespace AxRec.Geom

theorem shift {r : AxRec α} (h : r.Geom) : r.Shift := by
  intro j t hj ht
  rw [h.start, Nat.add_assoc r.es, Nat.add_assoc r.es]
  apply padSrc_shift _ _ _ _ _ _ _ h.sub h.depthR
  · intro hp
    exact h.left (Nat.lt_of_le_of_lt (Nat.le_trans (Nat.le_add_right _ j) (Nat.le_add_right _ t)) hp)
  · intro hp
    rcases h.right (Nat.zero_lt_of_lt hj) with h' | h'
    · omega
    · exact h'

theorem depth_axis {r : AxRec α} (h : r.Geom) : r.dl ≤ r.n ∧ r.dr ≤ r.n :=
  have hm : r.m ≤ r.n := Nat.le_trans (Nat.le_add_left _ _) h.sub
  ⟨Nat.le_trans h.depthL hm, Nat.le_trans h.depthR hm⟩

theorem sub_length {r : AxRec α} (h : r.Geom) (x : List α) (hx : x.length = r.n) :
    ((x.drop r.es).take r.m).length = r.m := by
  rw [List.length_take, List.length_drop, hx]
  exact Nat.min_eq_left (Nat.le_sub_of_add_le' h.sub)

theorem slice_push {r : AxRec α} (h : r.Geom) {g : List (Option α) → List β}
    (hg : WinLocal r.dl r.dr g) (x : List α) (hx : x.length = r.n) :
    ((g (padB r.b r.dl r.dr x)).drop r.s).take r.L =
      ((g (padB r.b r.dl r.dr ((x.drop r.es).take r.m))).drop r.ts).take r.L := by
  have ⟨hstart, hsub, hreq, _, _, _, _⟩ := h
  have hlen := h.sub_length x hx
  have hl : r.dl ≤ x.length := hx ▸ h.depth_axis.1
  have hr : r.dr ≤ x.length := hx ▸ h.depth_axis.2
  have hl' : r.dl ≤ ((x.drop r.es).take r.m).length := hlen.symm ▸ h.depthL
  have hr' : r.dr ≤ ((x.drop r.es).take r.m).length := hlen.symm ▸ h.depthR
  apply winLocal_transfer hg
  · rw [padB_length _ _ _ x hl hr, hx]
    omega
  · rw [padB_length _ _ _ _ hl' hr', hlen]
    omega
  · intro j hj
    apply List.ext_getElem?
    intro t
    rw [window_getElem?, window_getElem?]
    by_cases ht : t < r.dl + r.dr + 1
    · simp only [ht, if_true]
      rw [padB_getElem? _ _ _ x hl hr, padB_getElem? _ _ _ _ hl' hr', hlen, hx]
      exact (srcRel_read x _ _ _ _ (h.shift j t hj (Nat.le_of_lt_succ ht))
        (fun q hq => padSrc_idx_lt _ _ _ _ _ _ h.depthL h.depthR hq)).symm
    · simp [ht]

end AxRec.Geom

/-- the guards of `acceptAxis` on an overlap axis: `allow_rechunk=False`, a periodic axis whose expanded slice
touches an end, an expanded extent shorter than the depth, or (boundary `none`) one that does not span a window -/
def Blocked (n dl dr : Int) (bk : BKind) (al : Bool) (idx : PySlice) : Prop :=
  al = false ∨
  (bk = .periodic ∧ (max 0 (idx.istart n - dl) = 0 ∨ min n (idx.istop n + dr) = n)) ∨
  max dl dr > min n (idx.istop n + dr) - max 0 (idx.istart n - dl) ∨
  (bk = .none ∧ min n (idx.istop n + dr) - max 0 (idx.istart n - dl) ≤ dl + dr)

theorem acceptAxis_colon (n dl dr : Int) (bk : BKind) (al : Bool) :
    acceptAxis n dl dr bk al colon = .ok colon colon false := by
  simp [acceptAxis]

theorem acceptAxis_step {n dl dr : Int} {bk : BKind} {al : Bool} {idx : PySlice} (hc : idx ≠ colon)
    (h1 : idx.stp ≠ 1) : acceptAxis n dl dr bk al idx = .decline := by
  simp [acceptAxis, hc, h1]

theorem acceptAxis_depth0 {n dl dr : Int} {bk : BKind} {al : Bool} {idx : PySlice} (hc : idx ≠ colon)
    (h1 : idx.stp = 1) (h0 : max dl dr = 0) : acceptAxis n dl dr bk al idx = .ok idx colon false := by
  simp [acceptAxis, hc, h1, h0]

theorem acceptAxis_blocked {n dl dr : Int} {bk : BKind} {al : Bool} {idx : PySlice} (hc : idx ≠ colon)
    (h1 : idx.stp = 1) (h0 : max dl dr ≠ 0) (hb : Blocked n dl dr bk al idx) :
    acceptAxis n dl dr bk al idx = .decline := by
  unfold acceptAxis
  simp only [hc, h1, h0, if_false, ne_eq, not_true_eq_false]
  rcases hb with rfl | hb | hb | hb
  · simp
  · simp [hb]
  · simp [hb]
  · simp [hb]

theorem acceptAxis_push {n dl dr : Int} {bk : BKind} {al : Bool} {idx : PySlice} (hc : idx ≠ colon)
    (h1 : idx.stp = 1) (h0 : max dl dr ≠ 0) (hb : ¬ Blocked n dl dr bk al idx) :
    acceptAxis n dl dr bk al idx =
      .ok ⟨some (max 0 (idx.istart n - dl)), some (min n (idx.istop n + dr)), none⟩
        ⟨if idx.istart n - max 0 (idx.istart n - dl) = 0 then none
            else some (idx.istart n - max 0 (idx.istart n - dl)),
          some (idx.istart n - max 0 (idx.istart n - dl) + (idx.istop n - idx.istart n)), none⟩ true := by
  unfold Blocked at hb
  simp only [not_or] at hb
  obtain ⟨hb1, hb2, hb3, hb4⟩ := hb
  unfold acceptAxis
  simp only [hc, h1, h0, hb1, hb2, hb3, hb4, if_false, ne_eq, not_true_eq_false]
  simp

theorem acceptAxis_ok {n dl dr : Int} {bk : BKind} {al : Bool} {idx inp trim : PySlice} {t : Bool}
    (h : acceptAxis n dl dr bk al idx = .ok inp trim t) :
    (idx = colon ∧ inp = colon ∧ trim = colon ∧ t = false) ∨
    (idx ≠ colon ∧ idx.stp = 1 ∧ max dl dr = 0 ∧ inp = idx ∧ trim = colon ∧ t = false) ∨
    (idx ≠ colon ∧ idx.stp = 1 ∧ max dl dr ≠ 0 ∧ ¬ Blocked n dl dr bk al idx ∧
      inp = ⟨some (max 0 (idx.istart n - dl)), some (min n (idx.istop n + dr)), none⟩ ∧
      trim = ⟨if idx.istart n - max 0 (idx.istart n - dl) = 0 then none
                else some (idx.istart n - max 0 (idx.istart n - dl)),
              some (idx.istart n - max 0 (idx.istart n - dl) + (idx.istop n - idx.istart n)), none⟩ ∧
      t = true) := by
  by_cases hc : idx = colon
  · subst hc
    rw [acceptAxis_colon] at h
    cases h
    exact .inl ⟨rfl, rfl, rfl, rfl⟩
  by_cases h1 : idx.stp = 1
  · by_cases h0 : max dl dr = 0
    · rw [acceptAxis_depth0 hc h1 h0] at h
      cases h
      exact .inr (.inl ⟨hc, h1, h0, rfl, rfl, rfl⟩)
    · by_cases hb : Blocked n dl dr bk al idx
      · rw [acceptAxis_blocked hc h1 h0 hb] at h
        cases h
      · rw [acceptAxis_push hc h1 h0 hb] at h
        cases h
        exact .inr (.inr ⟨hc, h1, h0, hb, rfl, rfl, rfl⟩)
  · rw [acceptAxis_step hc h1] at h
    cases h

def axRec (b : Boundary α) (dl dr n : Nat) (idx inp trim : PySlice) : AxRec α :=
  { b := b, dl := dl, dr := dr, n := n, m := (sel inp n).length,
    s := (idx.istart n).toNat, es := (inp.istart n).toNat,
    ts := (trim.istart ((sel inp n).length : Nat)).toNat, L := (sel idx n).length }

theorem geom_depth0 (b : Boundary α) (n s L : Nat) (h : s + L ≤ n) :
    AxRec.Geom ⟨b, 0, 0, n, L, s, s, 0, L⟩ :=
  ⟨rfl, h, Nat.le_of_eq (Nat.zero_add L), Nat.zero_le L, Nat.zero_le L, fun h => absurd h (Nat.not_lt_zero 0),
    fun _ => .inl (Nat.le_of_eq (Nat.zero_add L))⟩

theorem istart_nat (lo n : Nat) (h : lo ≤ n) (y : Option Int) : istart ⟨some (lo : Int), y, none⟩ n = lo := by
  rw [istart_some_nonneg none Int.one_pos (Int.natCast_nonneg lo), Int.min_eq_left (Int.ofNat_le.mpr h)]

theorem istop_nat (hi n : Nat) (h : hi ≤ n) (x : Option Int) : istop ⟨x, some (hi : Int), none⟩ n = hi := by
  rw [istop_some_nonneg none Int.one_pos _ (Int.natCast_nonneg hi), Int.min_eq_left (Int.ofNat_le.mpr h)]

/-- `trim_start or None` -/
theorem istart_or_none (v n : Nat) (h : v ≤ n) (y : Option Int) :
    istart ⟨if (v : Int) = 0 then none else some (v : Int), y, none⟩ n = v := by
  split
  · rename_i h0
    rw [istart_none none Int.one_pos, h0]
  · exact istart_nat v n h y

theorem clampL_cast (s dl : Nat) : max 0 ((s : Int) - dl) = ((s - dl : Nat) : Int) := by
  rw [Int.max_comm, ← Int.toNat_eq_max, Int.toNat_sub]

theorem clampR_cast (n e dr : Nat) : min (n : Int) (e + dr) = ((min n (e + dr) : Nat) : Int) := by omega

theorem fit_nat {dl dr es ee : Nat} (h : ¬ (max (dl : Int) dr > ee - es)) : es + dl ≤ ee ∧ es + dr ≤ ee := by omega

theorem clampL {es ts dl : Nat} (h : es + ts - dl = es) : ts ≤ dl ∧ (ts < dl → es = 0) := by omega

theorem clampR {n es k dr m : Nat} (h : min n (es + k + dr) = es + m) (hk : es + k ≤ n) :
    k ≤ m ∧ es + m ≤ n ∧ (es + m = n ∨ m = k + dr) := by omega

theorem trim_start_cast (es ts : Nat) : ((es + ts : Nat) : Int) - es = ts := by omega

theorem trim_stop_cast (es ts k : Nat) : (ts : Int) + (((es + k : Nat) : Int) - ((es + ts : Nat) : Int)) = k := by omega

theorem geom_clamped (b : Boundary α) {dl dr n es ts k m : Nat}
    (hes : es + ts - dl = es) (hee : min n (es + k + dr) = es + m) (hk : es + k ≤ n)
    (hdl : dl ≤ m) (hdr : dr ≤ m) (hper : ¬ (b.kind = .periodic ∧ (es = 0 ∨ es + m = n))) :
    AxRec.Geom ⟨b, dl, dr, n, m, es + ts, es, ts, k - ts⟩ := by
  obtain ⟨hts, hes0⟩ := clampL hes
  obtain ⟨hkm, hsub, hright⟩ := clampR hee hk
  clear hes hee hk
  refine ⟨rfl, hsub, ?_, hdl, hdr, fun h => ⟨hes0 h, fun hp => hper ⟨hp, .inl (hes0 h)⟩⟩, fun h => ?_⟩
  · exact (show ts + (k - ts) ≤ m by omega)
  · rcases hright with hc | hc
    · exact .inr ⟨hc, fun hp => hper ⟨hp, .inr hc⟩⟩
    · have h : 0 < k - ts := h
      exact .inl (show ts + (k - ts) + dr ≤ m by omega)

theorem acceptAxis_geom (b : Boundary α) (dl dr n : Nat) (al : Bool) (idx inp trim : PySlice) (t : Bool)
    (h : acceptAxis n dl dr b.kind al idx = .ok inp trim t) (hc : idx ≠ colon) :
    (axRec b dl dr n idx inp trim).Geom ∧ idx.stp = 1 ∧ inp.stp = 1 ∧ trim.stp = 1 ∧
      (sel trim ((sel inp n).length : Nat)).length = (sel idx n).length := by
  have hn : (0 : Int) ≤ n := Int.natCast_nonneg _
  rcases acceptAxis_ok h with ⟨h0, -⟩ | ⟨-, h1, hmax, rfl, rfl, -⟩ | ⟨-, h1, -, hb, rfl, rfl, -⟩
  · exact absurd h0 hc
  · obtain ⟨rfl, rfl⟩ : dl = 0 ∧ dr = 0 := by omega
    clear h hmax
    have hS := istart_pos_bounds inp n hn (by omega)
    have hE := istop_pos_bounds inp n hn (by omega)
    have hL := sel_length_unit inp n h1
    exact ⟨geom_depth0 b n _ _ (by omega), h1, h1, rfl, (Window.full _).length⟩
  · -- in naturals the clamps of the code are `s - dl` (truncated) and `min n (e + dr)`
    obtain ⟨s, hs⟩ := Int.eq_ofNat_of_zero_le (istart_pos_bounds idx n hn (h1 ▸ Int.one_pos)).1
    have hE := istop_pos_bounds idx n hn (h1 ▸ Int.one_pos)
    obtain ⟨e, he⟩ := Int.eq_ofNat_of_zero_le hE.1
    have hen : e ≤ n := Int.ofNat_le.mp (he ▸ hE.2)
    unfold Blocked at hb
    unfold axRec
    rw [hs, he, clampL_cast, clampR_cast] at hb ⊢
    have hper := fun hk => hb (.inr (.inl hk))
    have hfit := fit_nat (fun h => hb (.inr (.inr (.inl h))))
    clear hb h hE
    -- every extent as an offset from the expanded start (`s = es + ts`, `e = es + k`, expanded stop `es + m`), so that
    -- no subtraction is left
    generalize hes : s - dl = es at hper hfit ⊢
    obtain ⟨ts, rfl⟩ := Nat.exists_eq_add_of_le (hes ▸ Nat.sub_le s dl)
    generalize hee : min n (e + dr) = ee at hper hfit ⊢
    obtain ⟨k, rfl⟩ := Nat.exists_eq_add_of_le
      (Nat.le_of_add_le_add_right (Nat.le_trans hfit.2 (hee ▸ Nat.min_le_right n (e + dr))))
    obtain ⟨m, rfl⟩ := Nat.exists_eq_add_of_le (Nat.le_trans (Nat.le_add_right es dl) hfit.1)
    have hdl : dl ≤ m := Nat.le_of_add_le_add_left hfit.1
    have hdr : dr ≤ m := Nat.le_of_add_le_add_left hfit.2
    obtain ⟨hkm, hsub, -⟩ := clampR hee hen
    have hts : ts ≤ m := Nat.le_trans (clampL hes).1 hdl
    rw [trim_start_cast, trim_stop_cast]
    have Wi := Window.of_indices hn h1 hs he
    have Wp : Window ⟨some (es : Int), some ((es + m : Nat) : Int), none⟩ n es m :=
      Window.unit rfl (Int.natCast_add es m) hsub
    have Wt := Window.of_indices (Int.natCast_nonneg m) rfl (istart_or_none ts m hts (some (k : Int)))
      (istop_nat k m hkm _)
    rw [Nat.add_sub_add_left] at Wi
    rw [Wp.length, Wi.length, Int.toNat_natCast, istart_nat es n (Nat.le_trans (Nat.le_add_right es m) hsub),
      Int.toNat_natCast, istart_or_none ts m hts, Int.toNat_natCast]
    exact ⟨geom_clamped b hes hee hen hdl hdr
        (fun ⟨hk, h⟩ => hper ⟨hk, h.imp Int.natCast_eq_zero.mpr (congrArg Nat.cast)⟩), h1, rfl, rfl, Wt.length⟩

/-- over the integers, as the code computes them (`hS hES hD` serve only to make `EE` non-negative) -/
theorem pushed_depth_fits {n D S dl ES EE : Int} (hS : 0 ≤ S) (h0 : 0 ≤ ES) (hES : S - dl ≤ ES) (hD : dl ≤ D)
    (hEE : EE ≤ n) (hfit : D ≤ EE - ES) : D ≤ ((sel ⟨some ES, some EE, none⟩ n).length : Int) := by
  rw [sel_length_unit _ _ rfl, istart_some_nonneg none Int.one_pos h0,
    istop_some_nonneg none Int.one_pos _ (by omega), Int.min_eq_left hEE]
  exact Int.le_trans hfit (Int.le_trans (Int.sub_le_sub_left (Int.min_le_left ES n) EE) (Int.self_le_toNat _))

theorem acceptAxis_shift (b : Boundary α) (dl dr n : Nat) (al : Bool) (idx inp trim : PySlice) (t : Bool)
    (h : acceptAxis n dl dr b.kind al idx = .ok inp trim t) :
    (axRec b dl dr n idx inp trim).Shift ∧
      (sel trim ((sel inp n).length : Nat)).length = (sel idx n).length := by
  by_cases hc : idx = colon
  · subst hc
    rw [acceptAxis_colon] at h
    cases h
    have hlen : (sel colon (n : Int)).length = n := (Window.full n).length
    refine ⟨?_, by rw [hlen]; exact hlen⟩
    intro j t _ _
    simp only [axRec, hlen]
    exact srcRel_refl _
  · obtain ⟨hg, -, -, -, hlen⟩ := acceptAxis_geom b dl dr n al idx inp trim t h hc
    exact ⟨hg.shift, hlen⟩

/-- moving sum of the present entries (a halo-reading kernel) -/
def ksum (w : List (Option Int)) : Int := w.foldl (fun a o => a + o.getD 0) 0

def xs20 : List Int := (List.range 20).map (fun (i : Nat) => (i : Int))

end Dask.Lemmas.OverlapSlice
