/-
The builders of permutations (`swapaxes`, `moveaxis`, `.T`): for in-range arguments (negative ones
included) the argument handling of each returns the permutation of `Model/ExprDerived.lean` on the normalised axes
(`swapPerm`, `moveaxisPerm`), whose NumPy meaning is stated as the index map.  For `rollaxis` the file has the
words of the statement (`rollDest`, `StartOK`) and the two results of its branches (`isMoveaxis_range`,
`pyInsert_filter_eq`); the case analysis on `start` is the proof of `C02p_builders_rollaxis` (Props/C02Perm.lean).
Core Lean only.
-/
import DaskArrayModel.Lemmas.Perm
namespace Dask.Perm
open Dask.Py Dask.Slicing Dask.ND

/-- NumPy's axis normalisation: `a + n` for a negative axis -/
def normI (n : Nat) (a : Int) : Nat := (if a < 0 then a + n else a).toNat

/-- the axis is accepted by NumPy -/
def AxisOK (n : Nat) (a : Int) : Prop := -(n : Int) ≤ a ∧ a < n

instance (n : Nat) (a : Int) : Decidable (AxisOK n a) := by unfold AxisOK; infer_instance

/-- the axes NumPy's `normalize_axis_tuple` accepts: every axis in `[-n, n)`, no axis named twice -/
def AxesOK (n : Nat) (as : List Int) : Prop := (∀ a ∈ as, AxisOK n a) ∧ (as.map (normI n)).Nodup

instance (n : Nat) (as : List Int) : Decidable (AxesOK n as) := by unfold AxesOK; infer_instance

theorem normI_lt {n : Nat} {a : Int} (h : AxisOK n a) : normI n a < n := by
  unfold normI AxisOK at *; split <;> omega

theorem normI_cast {n : Nat} {a : Int} (h : AxisOK n a) : (if a < 0 then a + n else a) = (normI n a : Int) := by
  unfold normI
  rw [Int.toNat_of_nonneg]
  unfold AxisOK at h
  split <;> omega

theorem normAxis_ok {n : Nat} {a : Int} (h : AxisOK n a) : normAxis n a = .ok (normI n a) := by
  unfold normAxis normI; exact if_pos h

theorem normAxes_ok (n : Nat) : ∀ (as : List Int), (∀ a ∈ as, AxisOK n a) → normAxes n as = .ok (as.map (normI n))
  | [], _ => rfl
  | a :: r, h => by
    unfold normAxes
    rw [List.map_cons, normAxis_ok (h a List.mem_cons_self), normAxes_ok n r fun x hx => h x (List.mem_cons_of_mem _ hx)]

theorem normAxisTuple_ok (n : Nat) (as : List Int) (h : AxesOK n as) :
    normAxisTuple n as = .ok (as.map (normI n)) := by
  unfold normAxisTuple
  rw [normAxes_ok n as h.1]
  simp only []
  rw [if_pos (by simpa using h.2)]

theorem mem_map_normI_lt {n : Nat} {as : List Int} (h : ∀ a ∈ as, AxisOK n a) {x : Nat}
    (hx : x ∈ as.map (normI n)) : x < n := by
  obtain ⟨a, ha, rfl⟩ := List.mem_map.mp hx
  exact normI_lt (h a ha)

theorem pyIdx_natCast {n k : Nat} (h : k < n) : pyIdx n (k : Int) = some k := by
  unfold pyIdx
  rw [if_pos ⟨Int.natCast_nonneg k, Int.ofNat_lt.mpr h⟩]
  rfl

theorem isSwapaxes_swapPerm (n i j : Nat) : IsSwapaxes n i j (swapPerm n i j) := by
  refine ⟨by simp [swapPerm], ?_⟩
  intro k hk
  rw [swapPerm_getD _ _ _ _ hk]; rfl

theorem swapPerm_self (n i : Nat) : swapPerm n i i = List.range n := by
  unfold swapPerm
  conv => rhs; rw [← List.map_id (List.range n)]
  apply List.map_congr_left
  intro k _
  simp only [id]
  split <;> (try split) <;> omega

theorem swapaxesPerm_eq (n : Nat) (a1 a2 : Int) (h1 : AxisOK n a1) (h2 : AxisOK n a2) :
    swapaxesPerm n a1 a2 = .ok (swapPerm n (normI n a1) (normI n a2)) := by
  unfold swapaxesPerm
  by_cases he : a1 = a2
  · subst he
    rw [if_pos rfl, swapPerm_self]
  · rw [if_neg he]
    simp only []
    rw [normI_cast h1, normI_cast h2, pyIdx_natCast (normI_lt h1), pyIdx_natCast (normI_lt h2)]

theorem range_filter_length {n a : Nat} (ha : a < n) :
    ((List.range n).filter (fun k => k != a)).length = n - 1 := by
  rw [← List.Nodup.erase_eq_filter List.nodup_range, List.length_erase_of_mem (List.mem_range.mpr ha),
    List.length_range]

theorem isMoveaxis_moveaxisPerm (n s d : Nat) (hs : s < n) (hd : d < n) : IsMoveaxis n s d (moveaxisPerm n s d) :=
  ⟨getD_insertIdx_self _ _ s 0 (by rw [range_filter_length hs]; omega), List.eraseIdx_insertIdx_self _⟩

theorem isMoveaxis_range (n a : Nat) (ha : a < n) : IsMoveaxis n a a (List.range n) :=
  ⟨getD_range _ _ ha, by
    rw [← List.erase_eq_eraseIdx_of_idxOf (range_idxOf ha), List.Nodup.erase_eq_filter List.nodup_range]⟩

theorem pyInsert_eq (l : List Nat) (pos x : Nat) (h : pos ≤ l.length) : pyInsert l pos x = l.insertIdx pos x := by
  unfold pyInsert; rw [Nat.min_eq_left h]

/-- `axes.remove(s); axes.insert(d, s)` on `range n`, the removal written as a filter -/
theorem pyInsert_filter_eq {n s d : Nat} (hs : s < n) (hd : d < n) :
    pyInsert ((List.range n).filter (fun k => k != s)) d s = moveaxisPerm n s d :=
  pyInsert_eq _ _ _ (by rw [range_filter_length hs]; omega)

theorem moveaxisPermN_eq (n : Nat) (src dst : List Int) (hs : AxesOK n src) (hd : AxesOK n dst)
    (hlen : src.length = dst.length) :
    moveaxisPermN n src dst = .ok ((sortPairs ((dst.map (normI n)).zip (src.map (normI n)))).foldl
      (fun o p => pyInsert o p.1 p.2) ((List.range n).filter (fun k => !(src.map (normI n)).contains k))) := by
  unfold moveaxisPermN
  rw [normAxisTuple_ok n src hs, normAxisTuple_ok n dst hd]
  simp only []
  rw [if_neg (by simp [hlen])]

theorem moveaxisPermN_one (n : Nat) (s d : Int) (hs : AxisOK n s) (hd : AxisOK n d) :
    moveaxisPermN n [s] [d] = .ok (moveaxisPerm n (normI n s) (normI n d)) := by
  rw [moveaxisPermN_eq n [s] [d] ⟨fun _ hx => List.mem_singleton.mp hx ▸ hs, List.pairwise_singleton _ _⟩
    ⟨fun _ hx => List.mem_singleton.mp hx ▸ hd, List.pairwise_singleton _ _⟩ rfl]
  show Except.ok (List.foldl _ _ [(normI n d, normI n s)]) = _
  have hf : (List.range n).filter (fun k => !([s].map (normI n)).contains k) = (List.range n).filter (fun k => k != normI n s) := by
    apply List.filter_congr
    intro x _
    by_cases hx : x = normI n s <;> simp [hx]
  simp only [List.foldl_cons, List.foldl_nil]
  rw [hf, pyInsert_filter_eq (normI_lt hs) (normI_lt hd)]

/-- the start position after `if start < 0: start += n` and `if axis < start: start -= 1` -/
def rollDest (n : Nat) (axis start : Int) : Nat :=
  let st := if start < 0 then start + n else start
  (if (normI n axis : Int) < st then st - 1 else st).toNat

/-- `start` is accepted by NumPy: `-n ≤ start ≤ n` -/
def StartOK (n : Nat) (start : Int) : Prop := -(n : Int) ≤ start ∧ start ≤ n

instance (n : Nat) (a : Int) : Decidable (StartOK n a) := by unfold StartOK; infer_instance

theorem reversePerm_getD {n k : Nat} (hk : k < n) : (reversePerm n).getD k 0 = n - 1 - k := by
  unfold reversePerm
  rw [getD_eq_getElem _ _ _ (by simpa using hk), List.getElem_reverse]
  simp

end Dask.Perm
