/-
`Expr2.zipB` (binary elementwise with NumPy broadcasting): the block the task computes from
the operand blocks named by `bcBid` (`coord % numblocks` on the trailing coordinates), combined with
NumPy broadcasting of the two block shapes, is the block of the NumPy meaning.  The per-axis facts come
from the gather construction of `broadcast_to` (`broadcastSpecs`), to which the task is related by
`broadcastSpecs_ids`.
-/
import DaskArrayModel.Lemmas.ExprCorrect
namespace Dask.ND
open Dask.Py Dask.Py.PySlice Dask.Slicing

theorem gBidPos_newSpecs_append : ∀ (ol : Layout) (rest : List AxSpec) (bid i : List Nat),
    ol.length ≤ bid.length → ol.length ≤ i.length →
    gBid (ol.map (fun oc => AxSpec.new (fun j => oc.getD j 0)) ++ rest) bid i
        = gBid rest (bid.drop ol.length) (i.drop ol.length) ∧
      gPos (ol.map (fun oc => AxSpec.new (fun j => oc.getD j 0)) ++ rest) bid i
        = gPos rest (bid.drop ol.length) (i.drop ol.length)
  | [], _, _, _, _, _ => ⟨rfl, rfl⟩
  | _ :: ol, rest, _ :: bid, _ :: i, h1, h2 =>
    gBidPos_newSpecs_append ol rest bid i (Nat.le_of_succ_le_succ h1) (Nat.le_of_succ_le_succ h2)
  | _ :: _, _, [], _, h1, _ => nomatch h1
  | _ :: _, _, _ :: _, [], _, h2 => nomatch h2

theorem unitChunk_getD_mod (j : Nat) : ([1] : List Nat).getD (j % ([1] : List Nat).length) 0 = 1 := by
  show ([1] : List Nat).getD (j % 1) 0 = 1
  rw [Nat.mod_one]; rfl

theorem bcAxis_ids {cc oc : List Nat} (h : cc = [1] ∨ cc = oc) {j x : Nat} (hj : j < oc.length)
    (hx : x < oc.getD j 0) :
    ∃ m, (if cc = [1] then AxSpec.keep (bcastAxis oc) else AxSpec.keep (idAxis cc)) = AxSpec.keep m ∧
      m.blk j x = j % cc.length ∧ m.pos j x = if cc.getD (j % cc.length) 0 = 1 then 0 else x := by
  by_cases h1 : cc = [1]
  · subst h1
    refine ⟨_, if_pos rfl, (Nat.mod_one j).symm, ?_⟩
    rw [unitChunk_getD_mod, if_pos rfl]
    rfl
  · have h2 : cc = oc := h.resolve_left h1
    subst h2
    refine ⟨_, if_neg h1, (Nat.mod_eq_of_lt hj).symm, ?_⟩
    rw [Nat.mod_eq_of_lt hj]
    show x = _
    split
    · rename_i hs
      rw [hs] at hx
      exact Nat.lt_one_iff.mp hx
    · rfl

theorem bcZip_ids : ∀ (cl ol : Layout) (bid i : List Nat), bcOK cl ol = true → validBid ol bid →
    InB i (blockShape ol bid) →
    gBid (List.zipWith (fun cc oc =>
        if cc = [1] then AxSpec.keep (bcastAxis oc) else AxSpec.keep (idAxis cc)) cl ol) bid i
      = List.zipWith (fun nb j => j % nb) (numblocks cl) bid ∧
    gPos (List.zipWith (fun cc oc =>
        if cc = [1] then AxSpec.keep (bcastAxis oc) else AxSpec.keep (idAxis cc)) cl ol) bid i
      = bcIdx (blockShape cl (List.zipWith (fun nb j => j % nb) (numblocks cl) bid)) i
  | [], [], [], [], _, _, _ => ⟨rfl, rfl⟩
  | cc :: cl, oc :: ol, b :: bid, x :: i, h, hb, hi => by
    rw [bcOK_cons] at h
    rw [validBid_cons] at hb
    obtain ⟨m, em, e1, e2⟩ := bcAxis_ids h.1 hb.1 hi.1
    obtain ⟨ih1, ih2⟩ := bcZip_ids cl ol bid i h.2 hb.2 hi.2
    rw [List.zipWith_cons_cons, em]
    refine ⟨?_, ?_⟩
    · show m.blk b x :: gBid _ bid i = _
      rw [e1, ih1]
      rfl
    · show m.pos b x :: gPos _ bid i = _
      rw [e2, ih2]
      rfl
  | [], _ :: _, _, _, h, _, _ => nomatch h
  | _ :: _, [], _, _, h, _, _ => nomatch h
  | _ :: _, _ :: _, [], _, _, hb, _ => False.elim hb
  | _ :: _, _ :: _, _ :: _, [], _, _, hi => False.elim hi
  | [], [], _ :: _, _, _, hb, _ => False.elim hb
  | [], [], [], _ :: _, _, _, hi => False.elim hi

theorem validBid_drop (k : Nat) (l : Layout) (bid : List Nat) (h : validBid l bid) :
    validBid (l.drop k) (bid.drop k) := by
  unfold validBid numblocks
  rw [List.map_drop]
  exact InB_drop k _ _ h

theorem blockShape_drop (k : Nat) (l : Layout) (bid : List Nat) :
    blockShape (l.drop k) (bid.drop k) = (blockShape l bid).drop k := by
  unfold blockShape; rw [List.drop_zipWith]

theorem broadcastSpecs_ids (cl ol : Layout) (bid i : List Nat)
    (h : bcOK cl (ol.drop (ol.length - cl.length)) = true) (hb : validBid ol bid)
    (hi : InB i (blockShape ol bid)) :
    gBid (broadcastSpecs cl ol) bid i = bcBid (numblocks cl) bid ∧
    gPos (broadcastSpecs cl ol) bid i
      = bcIdx (blockShape cl (bcBid (numblocks cl) bid)) (i.drop (ol.length - cl.length)) := by
  have hbl : bid.length = ol.length := hb.length_eq
  have hil : i.length = ol.length := by rw [hi.length_eq, blockShape_length hbl]
  have hk : (ol.take (ol.length - cl.length)).length = ol.length - cl.length := by
    rw [List.length_take]; exact Nat.min_eq_left (Nat.sub_le _ _)
  have hkb : (ol.take (ol.length - cl.length)).length ≤ bid.length := by
    rw [hk, hbl]; exact Nat.sub_le _ _
  have hki : (ol.take (ol.length - cl.length)).length ≤ i.length := by
    rw [hk, hil]; exact Nat.sub_le _ _
  unfold broadcastSpecs bcBid
  dsimp only
  rw [(gBidPos_newSpecs_append _ _ bid i hkb hki).1, (gBidPos_newSpecs_append _ _ bid i hkb hki).2, hk]
  have hnb : (numblocks cl).length = cl.length := by simp [numblocks]
  rw [hnb, hbl]
  have hi' : InB (i.drop (ol.length - cl.length))
      (blockShape (ol.drop (ol.length - cl.length)) (bid.drop (ol.length - cl.length))) := by
    rw [blockShape_drop]; exact InB_drop _ _ _ hi
  exact bcZip_ids cl _ _ _ h (validBid_drop _ _ _ hb) hi'

theorem getD_replicate_append {α} (n : Nat) (v : α) (l : List α) (k : Nat) (d : α) :
    (List.replicate n v ++ l).getD k d = if k < n then v else l.getD (k - n) d := by
  by_cases h : k < n
  · rw [if_pos h]; simp [List.getD_eq_getElem?_getD, List.getElem?_append_left, h]
  · rw [if_neg h]
    simp [List.getD_eq_getElem?_getD, List.getElem?_append_right, Nat.le_of_not_lt h]

theorem padLay_length (r : Nat) (c : Layout) (h : c.length ≤ r) : (padLay r c).length = r := by
  unfold padLay
  rw [List.length_append, List.length_replicate, Nat.sub_add_cancel h]

theorem padSh_length (r : Nat) (s : List Nat) (h : s.length ≤ r) : (padSh r s).length = r := by
  unfold padSh
  rw [List.length_append, List.length_replicate, Nat.sub_add_cancel h]

theorem zipBLayout_length (ca cb : Layout) : (zipBLayout ca cb).length = max ca.length cb.length := by
  unfold zipBLayout
  simp only [List.length_zipWith]
  rw [padLay_length _ _ (Nat.le_max_left _ _), padLay_length _ _ (Nat.le_max_right _ _), Nat.min_self]

theorem zipBLayout_getD (ca cb : Layout) (k : Nat) (hk : k < max ca.length cb.length) :
    (zipBLayout ca cb).getD k []
      = if (padLay (max ca.length cb.length) ca).getD k [] = [1]
        then (padLay (max ca.length cb.length) cb).getD k []
        else (padLay (max ca.length cb.length) ca).getD k [] := by
  unfold zipBLayout
  dsimp only
  rw [getD_zipWith _ _ _ k [] [] [] (by rw [padLay_length _ _ (Nat.le_max_left _ _)]; exact hk)
    (by rw [padLay_length _ _ (Nat.le_max_right _ _)]; exact hk)]

theorem padLay_getD (r : Nat) (c : Layout) (k : Nat) :
    (padLay r c).getD k [] = if k < r - c.length then [1] else c.getD (k - (r - c.length)) [] := by
  unfold padLay; exact getD_replicate_append _ _ _ _ _

theorem padSh_getD (r : Nat) (s : List Nat) (k : Nat) :
    (padSh r s).getD k 0 = if k < r - s.length then 1 else s.getD (k - (r - s.length)) 0 := by
  unfold padSh; exact getD_replicate_append _ _ _ _ _

theorem sub_pad_lt {len r k : Nat} (hr : len ≤ r) (hk : k < r) (h : ¬k < r - len) : k - (r - len) < len :=
  Nat.sub_lt_left_of_lt_add (Nat.le_of_not_lt h) (by rw [Nat.sub_add_cancel hr]; exact hk)

theorem bcOK_drop_iff (cl l : Layout) (hle : cl.length ≤ l.length) :
    bcOK cl (l.drop (l.length - cl.length)) = true ↔ ∀ k, k < l.length →
      (padLay l.length cl).getD k [] = [1] ∨ (padLay l.length cl).getD k [] = l.getD k [] := by
  rw [bcOK_iff]
  constructor
  · rintro ⟨_, h⟩ k hk
    rw [padLay_getD]
    split
    · exact Or.inl rfl
    · rename_i hlt
      have := h (k - (l.length - cl.length)) (sub_pad_lt hle hk hlt)
      rwa [getD_drop, Nat.add_sub_cancel' (Nat.le_of_not_lt hlt)] at this
  · intro h
    refine ⟨by rw [List.length_drop, Nat.sub_sub_self hle], fun m hm => ?_⟩
    have := h (l.length - cl.length + m) (Nat.add_lt_of_lt_sub' (by rw [Nat.sub_sub_self hle]; exact hm))
    rwa [padLay_getD, if_neg (Nat.not_lt.mpr (Nat.le_add_right _ _)), Nat.add_sub_cancel_left, ← getD_drop] at this

theorem zipBLayout_nonempty (ca cb : Layout) (ha : NonEmptyAxes ca) (hb : NonEmptyAxes cb) :
    NonEmptyAxes (zipBLayout ca cb) := by
  intro c hc
  unfold zipBLayout at hc
  dsimp only at hc
  rw [List.mem_iff_getElem] at hc
  obtain ⟨k, hk, rfl⟩ := hc
  rw [List.getElem_zipWith]
  have mem_pad : ∀ (r : Nat) (cl : Layout), NonEmptyAxes cl → ∀ x ∈ padLay r cl, x ≠ [] := by
    intro r cl hcl x hx
    unfold padLay at hx
    rcases List.mem_append.mp hx with h | h
    · rw [List.mem_replicate] at h; rw [h.2]; simp
    · exact hcl x h
  split
  · exact mem_pad _ cb hb _ (List.getElem_mem _)
  · exact mem_pad _ ca ha _ (List.getElem_mem _)

theorem bcBid_length (cl : Layout) (bid : List Nat) (h : cl.length ≤ bid.length) :
    (bcBid (numblocks cl) bid).length = cl.length := by
  unfold bcBid numblocks
  rw [List.length_zipWith, List.length_drop, List.length_map, Nat.sub_sub_self h, Nat.min_self]

theorem bcBid_getD (cl : Layout) (bid : List Nat) (h : cl.length ≤ bid.length) (m : Nat) (hm : m < cl.length) :
    (bcBid (numblocks cl) bid).getD m 0
      = bid.getD (bid.length - cl.length + m) 0 % (cl.getD m []).length := by
  unfold bcBid
  have hnb : (numblocks cl).length = cl.length := by simp [numblocks]
  rw [getD_zipWith _ _ _ m 0 0 0 (by rw [hnb]; exact hm)
      (by rw [List.length_drop, hnb, Nat.sub_sub_self h]; exact hm),
    hnb, getD_drop, numblocks, getD_map List.length cl m [] 0 hm]

theorem padSh_blockShape (cl : Layout) (bid : List Nat) {r : Nat} (hr : bid.length = r) (h : cl.length ≤ r) :
    (padSh r (blockShape cl (bcBid (numblocks cl) bid))).length = r ∧ ∀ k, k < r →
      (padSh r (blockShape cl (bcBid (numblocks cl) bid))).getD k 0
        = ((padLay r cl).getD k []).getD (bid.getD k 0 % ((padLay r cl).getD k []).length) 0 := by
  subst hr
  have hl := bcBid_length cl bid h
  refine ⟨padSh_length _ _ (by rw [blockShape_length hl]; exact h), fun k hk => ?_⟩
  rw [padSh_getD, padLay_getD, blockShape_length hl]
  split
  · rw [unitChunk_getD_mod]
  · rename_i hlt
    have hm := sub_pad_lt h hk hlt
    rw [blockShape_getD hl _ hm, bcBid_getD cl bid h _ hm, Nat.add_sub_cancel' (Nat.le_of_not_lt hlt)]

theorem npBcShape_axis (c d lk : List Nat) (j : Nat) (hc : c = [1] ∨ c = lk) (hd : d = [1] ∨ d = lk)
    (hl : lk = if c = [1] then d else c) (hj : j < lk.length) :
    (if c.getD (j % c.length) 0 = 1 then d.getD (j % d.length) 0 else c.getD (j % c.length) 0)
      = lk.getD j 0 := by
  by_cases h1 : c = [1]
  · subst h1
    rw [if_pos rfl] at hl
    subst hl
    rw [unitChunk_getD_mod, if_pos rfl, Nat.mod_eq_of_lt hj]
  · rw [if_neg h1] at hl
    subst hl
    rw [Nat.mod_eq_of_lt hj]
    split
    · rename_i hp
      rcases hd with hd | hd
      · subst hd; rw [unitChunk_getD_mod, hp]
      · subst hd; rw [Nat.mod_eq_of_lt hj]
    · rfl

theorem zipB_block_shape (ca cb : Layout) (bid : List Nat)
    (hA : bcOK ca ((zipBLayout ca cb).drop ((zipBLayout ca cb).length - ca.length)) = true)
    (hB : bcOK cb ((zipBLayout ca cb).drop ((zipBLayout ca cb).length - cb.length)) = true)
    (hb : validBid (zipBLayout ca cb) bid) :
    npBcShape bid.length (blockShape ca (bcBid (numblocks ca) bid))
        (blockShape cb (bcBid (numblocks cb) bid))
      = blockShape (zipBLayout ca cb) bid := by
  have hbl : bid.length = (zipBLayout ca cb).length := hb.length_eq
  have hL := zipBLayout_length ca cb
  have hla : ca.length ≤ (zipBLayout ca cb).length := by rw [hL]; exact Nat.le_max_left _ _
  have hlb : cb.length ≤ (zipBLayout ca cb).length := by rw [hL]; exact Nat.le_max_right _ _
  rw [hbl]
  obtain ⟨la, ga⟩ := padSh_blockShape ca bid hbl hla
  obtain ⟨lb, gb⟩ := padSh_blockShape cb bid hbl hlb
  unfold npBcShape
  apply ext_getD 0
  · rw [List.length_zipWith, la, lb, Nat.min_self, blockShape_length hbl]
  · intro k hk
    rw [List.length_zipWith, la, lb, Nat.min_self] at hk
    rw [getD_zipWith _ _ _ k 0 0 0 (la.symm ▸ hk) (lb.symm ▸ hk), ga k hk, gb k hk, blockShape_getD hbl k hk]
    apply npBcShape_axis _ _ _ _ ((bcOK_drop_iff ca _ hla).1 hA k hk) ((bcOK_drop_iff cb _ hlb).1 hB k hk)
    · rw [hL]; exact zipBLayout_getD ca cb k (hL ▸ hk)
    · exact hb.getD_lt k hk

theorem den2_shape (env : Env) : ∀ e : Expr2, (den2 env e).shape = shape2 e
  | .base _ => rfl
  | .node _ _ _ => rfl
  | .zipB _ _ _ => rfl
  | .take _ _ _ => rfl
  | .swvReduce _ _ _ _ => rfl

theorem validBid_bcBid (cl : Layout) (bid : List Nat) (hne : NonEmptyAxes cl) (h : cl.length ≤ bid.length) :
    validBid cl (bcBid (numblocks cl) bid) := by
  apply validBid.of_getD (bcBid_length cl bid h)
  intro m hm
  rw [bcBid_getD cl bid h m hm]
  apply Nat.mod_lt
  have := hne.getD m hm
  exact List.length_pos_iff.mpr this

/-- What output block `bid` of a layout `L` reads from the operand `c` broadcast to `L`: `gather_ok` for
`broadcastSpecs` of the operand against `L`, with `broadcastSpecs_ids` turning `gBid` / `gPos` into `bcBid` / `bcIdx`. -/
theorem bcOperand_get (env : Env) (c : Expr2) (L : Layout) (bid : List Nat)
    (hle : (chunks2 c).length ≤ L.length)
    (hC : bcOK (chunks2 c) (L.drop (L.length - (chunks2 c).length)) = true)
    (mc : (chunks2 c).map List.sum = shape2 c) (nc : NonEmptyAxes (chunks2 c))
    (ih : IsGrid (chunks2 c) (den2 env c) (blockDen2 env c))
    (hb : validBid L bid) :
    (blockDen2 env c (bcBid (numblocks (chunks2 c)) bid)).shape
        = blockShape (chunks2 c) (bcBid (numblocks (chunks2 c)) bid) ∧
      ∀ i, InB i (blockShape L bid) →
        (blockDen2 env c (bcBid (numblocks (chunks2 c)) bid)).get
            (bcIdx (blockDen2 env c (bcBid (numblocks (chunks2 c)) bid)).shape
              (i.drop (bid.length - (blockDen2 env c (bcBid (numblocks (chunks2 c)) bid)).shape.length)))
          = (den2 env c).get (bcIdx (shape2 c)
              ((vadd (origin L bid) i).drop ((L.map List.sum).length - (shape2 c).length))) := by
  have hbl : bid.length = L.length := hb.length_eq
  have hx : (blockDen2 env c (bcBid (numblocks (chunks2 c)) bid)).shape
      = blockShape (chunks2 c) (bcBid (numblocks (chunks2 c)) bid) :=
    (ih _ (validBid_bcBid (chunks2 c) bid nc (hbl ▸ hle))).1
  refine ⟨hx, fun i hi => ?_⟩
  have G := gather_ok (broadcast_gathers (chunks2 c) L hC) ih
    ⟨L.map List.sum, fun g => (den2 env c).get (bcIdx ((chunks2 c).map List.sum) (g.drop (L.length - (chunks2 c).length)))⟩
    rfl (fun _ _ => rfl) bid hb
  obtain ⟨c1, c2⟩ := broadcastSpecs_ids (chunks2 c) L bid i hC hb hi
  have hg := G.2 i (by rw [G.1]; exact hi)
  simp only [gatherBlock, restrict, extent] at hg
  rw [c1, c2, mc] at hg
  rw [hx, blockShape_length (bcBid_length _ _ (hbl ▸ hle)), hbl, List.length_map,
    ← length_of_map_sum mc]
  exact hg

theorem zipB_block (env : Env) (f : Nat) (a b : Expr2)
    (hA : bcOK (chunks2 a) ((zipBLayout (chunks2 a) (chunks2 b)).drop
      ((zipBLayout (chunks2 a) (chunks2 b)).length - (chunks2 a).length)) = true)
    (hB : bcOK (chunks2 b) ((zipBLayout (chunks2 a) (chunks2 b)).drop
      ((zipBLayout (chunks2 a) (chunks2 b)).length - (chunks2 b).length)) = true)
    (ma : (chunks2 a).map List.sum = shape2 a) (na : NonEmptyAxes (chunks2 a))
    (mb : (chunks2 b).map List.sum = shape2 b) (nb : NonEmptyAxes (chunks2 b))
    (iha : IsGrid (chunks2 a) (den2 env a) (blockDen2 env a)) (ihb : IsGrid (chunks2 b) (den2 env b) (blockDen2 env b)) :
    IsGrid (chunks2 (.zipB f a b)) (den2 env (.zipB f a b)) (blockDen2 env (.zipB f a b)) := by
  intro bid hb
  have hb' : validBid (zipBLayout (chunks2 a) (chunks2 b)) bid := hb
  have hLl := zipBLayout_length (chunks2 a) (chunks2 b)
  obtain ⟨sa, ga⟩ := bcOperand_get env a _ bid (by rw [hLl]; exact Nat.le_max_left _ _) hA ma na iha hb'
  obtain ⟨sb, gb⟩ := bcOperand_get env b _ bid (by rw [hLl]; exact Nat.le_max_right _ _) hB mb nb ihb hb'
  have hshape : (blockDen2 env (.zipB f a b) bid).shape
      = blockShape (zipBLayout (chunks2 a) (chunks2 b)) bid := by
    show npBcShape _ (blockDen2 env a _).shape (blockDen2 env b _).shape = _
    rw [sa, sb]
    exact zipB_block_shape _ _ bid hA hB hb'
  refine ⟨hshape, fun i hi => ?_⟩
  rw [hshape] at hi
  show env.bin f ((blockDen2 env a _).get _) ((blockDen2 env b _).get _) = _
  rw [ga i hi, gb i hi]
  rfl

end Dask.ND
