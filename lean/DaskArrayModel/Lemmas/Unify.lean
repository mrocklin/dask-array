/-
Chunk unification (model: Model/Unify.lean).  The invariant of the loop of `common_blockdim` (`cbLoop_spec`) gives
`CommonSpec`: the result only splits every input and has no boundary of its own; `coarse_blockdim` returns that or an
input which all others refine.  `LiveIndex` says what the refinement is on the label of a live axis and what every
admissible oracle value is there; `Unified` what a successful `unify_chunks_expr` on well-formed operands returned:
the size guard's outcome on the layouts chosen before it, which under `refine` are the refinement.
-/
import DaskArrayModel.Model.Unify
import DaskArrayModel.Lemmas.PyBasic
namespace Dask.Lemmas.Unify
open Dask.Py Dask.Unify

theorem mem_dedupe (x : Layout) : ∀ l : List Layout, x ∈ dedupe l ↔ x ∈ l
  | [] => Iff.rfl
  | y :: ys => by
    have ih := mem_dedupe x ys
    show x ∈ (if y ∈ ys then dedupe ys else y :: dedupe ys) ↔ _
    by_cases h : y ∈ ys
    · simp only [h, if_true, ih, List.mem_cons]
      exact ⟨Or.inr, fun hx => hx.elim (fun e => e ▸ h) id⟩
    · simp only [h, if_false, List.mem_cons, ih]

theorem mem_nonTrivial (x : Layout) (bd : List Layout) :
    x ∈ nonTrivial bd ↔ x ∈ bd ∧ x.length > 1 := by
  unfold nonTrivial
  rw [mem_dedupe, List.mem_filter]
  simp

theorem imax_le_iff (l : List Int) (b : Int) : imax l ≤ b ↔ 0 ≤ b ∧ ∀ x ∈ l, x ≤ b :=
  maxFold_le_iff rfl (fun _ _ => rfl) l b

theorem imax_nonneg (l : List Int) : 0 ≤ imax l := ((imax_le_iff l _).mp (Int.le_refl _)).1

theorem le_imax : ∀ (l : List Int) (x : Int), x ∈ l → x ≤ imax l :=
  fun l => ((imax_le_iff l _).mp (Int.le_refl _)).2

theorem imax_le (l : List Int) (b : Int) (hb : 0 ≤ b) (h : ∀ x ∈ l, x ≤ b) : imax l ≤ b :=
  (imax_le_iff l b).mpr ⟨hb, h⟩

theorem zero_mem_bnds : ∀ l : Layout, (0 : Int) ∈ bnds l
  | [] => List.mem_cons_self
  | _ :: _ => List.mem_cons_self

theorem isum_mem_bnds : ∀ l : Layout, isum l ∈ bnds l
  | [] => List.mem_cons_self
  | _ :: xs => List.mem_cons_of_mem _ (List.mem_map.mpr ⟨isum xs, isum_mem_bnds xs, rfl⟩)

theorem mem_bnds_cons (x b : Int) (xs : Layout) :
    b ∈ bnds (x :: xs) ↔ b = 0 ∨ ∃ b', b' ∈ bnds xs ∧ b = x + b' := by
  show b ∈ 0 :: (bnds xs).map (x + ·) ↔ _
  simp only [List.mem_cons, List.mem_map]
  constructor
  · rintro (h | ⟨b', h1, h2⟩)
    · exact Or.inl h
    · exact Or.inr ⟨b', h1, h2.symm⟩
  · rintro (h | ⟨b', h1, h2⟩)
    · exact Or.inl h
    · exact Or.inr ⟨b', h1, h2.symm⟩

theorem bnds_all_zero : ∀ c : Layout, (∀ x ∈ c, x = 0) → ∀ b ∈ bnds c, b = 0
  | [], _, b, hb => List.mem_singleton.mp hb
  | x :: xs, h, b, hb => by
    rcases (mem_bnds_cons x b xs).mp hb with h0 | ⟨b', hb', rfl⟩
    · exact h0
    · have := bnds_all_zero xs (fun y hy => h y (List.mem_cons_of_mem _ hy)) b' hb'
      have := h x List.mem_cons_self
      omega

theorem map_add_bnds : ∀ (a : Int) (l : Layout), (bnds l).map (a + ·) = a :: cumsumFrom a l
  | a, [] => congrArg (· :: []) (Int.add_zero a)
  | a, x :: xs => by
    have ih := map_add_bnds (a + x) xs
    show (0 :: (bnds xs).map (x + ·)).map (a + ·) = _
    simp only [cumsumFrom, List.map_cons, List.map_map, Int.add_zero, List.cons.injEq, true_and]
    rw [← ih]
    apply List.map_congr_left
    intro b _
    exact (Int.add_assoc a x b).symm

theorem cumsumFrom_dropLast : ∀ (a : Int) (l : Layout), l ≠ [] →
    cumsumFrom a l = cumsumFrom a l.dropLast ++ [a + isum l]
  | _, [], h => absurd rfl h
  | a, [x], _ => by simp [cumsumFrom, isum]
  | a, x :: y :: ys, _ => by
    have ih := cumsumFrom_dropLast (a + x) (y :: ys) (List.cons_ne_nil _ _)
    rw [List.dropLast_cons_cons]
    show (a + x) :: cumsumFrom (a + x) (y :: ys) = (a + x) :: cumsumFrom (a + x) (y :: ys).dropLast ++ _
    rw [ih, isum, Int.add_assoc]
    rfl

theorem mem_bnds_iff (c : Layout) (hc : c ≠ []) (b : Int) :
    b ∈ bnds c ↔ (b = 0 ∨ b ∈ interior c ∨ b = isum c) := by
  have h := map_add_bnds 0 c
  rw [cumsumFrom_dropLast 0 c hc] at h
  have hid : (bnds c).map (0 + ·) = bnds c := by simp
  rw [hid] at h
  rw [h]
  simp [interior, cumsum]

theorem bnds_sub_of_interior_sub (r c : Layout) (hr : r ≠ []) (hc : c ≠ []) (hs : isum r = isum c)
    (h : ∀ b ∈ interior r, b ∈ interior c) : ∀ b ∈ bnds r, b ∈ bnds c := by
  intro b hb
  rcases (mem_bnds_iff r hr b).mp hb with h0 | h1 | h2
  · subst h0; exact zero_mem_bnds c
  · exact (mem_bnds_iff c hc b).mpr (Or.inr (Or.inl (h b h1)))
  · exact (mem_bnds_iff c hc b).mpr (Or.inr (Or.inr (by omega)))

theorem splits_isum {f c : Layout} (h : Splits f c) : isum f = isum c := by
  induction h with
  | done c hz => simp [isum, (isum_eq_zero_iff c fun x hx => Int.le_of_eq (hz x hx).symm).mpr hz]
  | full m f c _ ih => simp only [isum, ih]
  | part m x f c _ _ _ ih => simp only [isum] at ih ⊢; omega

theorem splits_bnds {f c : Layout} (h : Splits f c) : ∀ b ∈ bnds c, b ∈ bnds f := by
  induction h with
  | done c hz =>
    intro b hb
    have := bnds_all_zero c hz b hb
    subst this; exact zero_mem_bnds []
  | full m f c _ ih =>
    intro b hb
    rcases (mem_bnds_cons m b c).mp hb with h0 | ⟨b', hb', rfl⟩
    · subst h0; exact zero_mem_bnds _
    · exact (mem_bnds_cons m _ f).mpr (Or.inr ⟨b', ih b' hb', rfl⟩)
  | part m x f c _ _ _ ih =>
    intro b hb
    rcases (mem_bnds_cons x b c).mp hb with h0 | ⟨b', hb', rfl⟩
    · subst h0; exact zero_mem_bnds _
    · have h1 : (x - m) + b' ∈ bnds ((x - m) :: c) :=
        (mem_bnds_cons (x - m) _ c).mpr (Or.inr ⟨b', hb', rfl⟩)
      exact (mem_bnds_cons m _ f).mpr (Or.inr ⟨(x - m) + b', ih _ h1, by omega⟩)

theorem splits_imax {f c : Layout} (h : Splits f c) : imax f ≤ imax c := by
  induction h with
  | done c _ => exact imax_nonneg c
  | full m f c _ ih => show max m (imax f) ≤ max m (imax c); omega
  | part m x f c _ _ _ ih =>
    change imax f ≤ max (x - m) (imax c) at ih
    show max m (imax f) ≤ max x (imax c); omega

theorem splits_len {f c : Layout} (h : Splits f c) (hp : ∀ x ∈ c, 0 < x) :
    c.length ≤ f.length ∧ (f.length ≤ c.length → f = c) := by
  induction h with
  | done c hz =>
    cases c with
    | nil => exact ⟨Nat.le_refl _, fun _ => rfl⟩
    | cons y ys =>
      have h1 := hz y List.mem_cons_self
      have h2 := hp y List.mem_cons_self
      omega
  | full m f c _ ih =>
    obtain ⟨h1, h2⟩ := ih (fun y hy => hp y (List.mem_cons_of_mem _ hy))
    exact ⟨Nat.succ_le_succ h1, fun hl => by rw [h2 (Nat.le_of_succ_le_succ hl)]⟩
  | part m x f c _ hlt _ ih =>
    obtain ⟨h1, _⟩ := ih (by
      intro y hy
      rcases List.mem_cons.mp hy with rfl | hy
      · omega
      · exact hp y (List.mem_cons_of_mem _ hy))
    simp only [List.length_cons] at h1 ⊢
    exact ⟨by omega, fun hl => by omega⟩

theorem splits_refl : ∀ c : Layout, Splits c c
  | [] => Splits.done [] (by intro x hx; cases hx)
  | x :: xs => Splits.full x xs xs (splits_refl xs)

/-- `min(c[-1] for c in rchunks)` on non-empty lists: a lower bound of all heads, attained by one -/
theorem minHead_ok : ∀ (rch : List Layout), rch ≠ [] → (∀ c ∈ rch, c ≠ []) →
    ∃ m, minHead rch = some m ∧ (∀ c ∈ rch, ∃ x xs, c = x :: xs ∧ m ≤ x) ∧ (∃ c ∈ rch, ∃ xs, c = m :: xs)
  | [], h, _ => absurd rfl h
  | [c], _, hne => by
    cases c with
    | nil => exact absurd rfl (hne [] List.mem_cons_self)
    | cons x xs =>
      exact ⟨x, rfl, fun c hc => ⟨x, xs, List.mem_singleton.mp hc, Int.le_refl _⟩,
        _, List.mem_cons_self, xs, rfl⟩
  | c :: d :: ds, _, hne => by
    cases c with
    | nil => exact absurd rfl (hne [] List.mem_cons_self)
    | cons x xs =>
      obtain ⟨b, hb, hall, c', hc', ys, e⟩ :=
        minHead_ok (d :: ds) (List.cons_ne_nil _ _) (fun c hc => hne c (List.mem_cons_of_mem _ hc))
      -- `minHead` of two or more layouts is this `match` on the first head and `minHead` of the rest
      refine ⟨min x b,
        congrArg (fun o => match some x, o with | some a, some b => some (min a b) | _, _ => none) hb, ?_, ?_⟩
      · intro c'' hc''
        rcases List.mem_cons.mp hc'' with rfl | h
        · exact ⟨x, xs, rfl, by omega⟩
        · obtain ⟨y, ys', e', hle⟩ := hall c'' h
          exact ⟨y, ys', e', by omega⟩
      · by_cases hxb : x ≤ b
        · rw [Int.min_eq_left hxb]; exact ⟨_, List.mem_cons_self, xs, rfl⟩
        · rw [Int.min_eq_right (by omega)]; exact ⟨c', List.mem_cons_of_mem _ hc', ys, e⟩

theorem cbStep_len_le (m : Int) : ∀ c : Layout, (cbStep m c).length ≤ c.length
  | [] => by simp [cbStep]
  | x :: xs => by
    simp only [cbStep]; split <;> simp

theorem fuelFor_step_le (m : Int) : ∀ rch : List Layout, fuelFor (rch.map (cbStep m)) ≤ fuelFor rch
  | [] => by simp [fuelFor]
  | c :: cs => by
    have := fuelFor_step_le m cs
    have := cbStep_len_le m c
    simp only [fuelFor, List.map_cons, List.sum_cons] at *
    omega

theorem fuelFor_step_lt (m : Int) : ∀ rch : List Layout, (∃ c ∈ rch, ∃ xs, c = m :: xs) →
    fuelFor (rch.map (cbStep m)) < fuelFor rch
  | [], h => by obtain ⟨c, hc, _⟩ := h; cases hc
  | c :: cs, h => by
    obtain ⟨c', hc', xs, e⟩ := h
    rcases List.mem_cons.mp hc' with rfl | hc'
    · subst e
      have := fuelFor_step_le m cs
      simp only [fuelFor, List.map_cons, List.sum_cons, cbStep, Int.sub_self, if_true, List.length_cons] at *
      omega
    · have := fuelFor_step_lt m cs ⟨c', hc', xs, e⟩
      have := cbStep_len_le m c
      simp only [fuelFor, List.map_cons, List.sum_cons] at *
      omega

structure CbStepOK (m : Int) (c : Layout) : Prop where
  sum : isum (cbStep m c) = isum c - m
  splits : ∀ f, Splits f (cbStep m c) → Splits (m :: f) c
  bound : ∀ b' ∈ bnds (cbStep m c), b' = 0 ∨ m + b' ∈ bnds c
  entry : ∀ y ∈ cbStep m c, 0 < y ∨ y ∈ c

theorem cbStep_ok (m : Int) (c : Layout) (h0 : 0 ≤ m) (hc : ∃ x xs, c = x :: xs ∧ m ≤ x) : CbStepOK m c := by
  obtain ⟨x, xs, rfl, hle⟩ := hc
  by_cases hx : x - m = 0
  · have hxm : x = m := by omega
    subst hxm
    have e : cbStep x (x :: xs) = xs := by simp only [cbStep, hx, if_true]
    refine ⟨?_, ?_, ?_, ?_⟩
    all_goals rw [e]
    · simp only [isum]; omega
    · exact fun f hf => Splits.full _ f xs hf
    · exact fun b' hb' => Or.inr ((mem_bnds_cons x _ xs).mpr (Or.inr ⟨b', hb', rfl⟩))
    · exact fun y hy => Or.inr (List.mem_cons_of_mem _ hy)
  · have e : cbStep m (x :: xs) = (x - m) :: xs := by simp only [cbStep, hx, if_false]
    refine ⟨?_, ?_, ?_, ?_⟩
    all_goals rw [e]
    · simp only [isum]; omega
    · exact fun f hf => Splits.part m x f xs h0 (by omega) hf
    · intro b' hb'
      rcases (mem_bnds_cons (x - m) b' xs).mp hb' with h | ⟨b'', hb'', e⟩
      · exact Or.inl h
      · exact Or.inr ((mem_bnds_cons x _ xs).mpr (Or.inr ⟨b'', hb'', by omega⟩))
    · intro y hy
      rcases List.mem_cons.mp hy with rfl | hy
      · exact Or.inl (by omega)
      · exact Or.inr (List.mem_cons_of_mem _ hy)

/-- `total - i` is what is left of the axis; every list in `rch` sums
to it.  Every size put out is a size of an input or a remainder `x - m` with `m < x`, hence positive: so
the output is non-negative, and positive when the inputs are. -/
theorem cbLoop_spec : ∀ (fuel : Nat) (rch : List Layout) (total i : Int),
    fuelFor rch ≤ fuel → rch ≠ [] →
    (∀ c ∈ rch, isum c = total - i) → (∀ c ∈ rch, ∀ x ∈ c, 0 ≤ x) →
    ∃ out, cbLoop fuel total i rch = .ok out ∧
      (∀ c ∈ rch, Splits out c) ∧
      (∀ b ∈ bnds out, ∃ c ∈ rch, b ∈ bnds c) ∧
      (∀ x ∈ out, 0 < x ∨ ∃ c ∈ rch, x ∈ c)
  | 0, rch, total, i, hf, _, _, _ => absurd hf (Nat.not_succ_le_zero _)
  | fuel + 1, rch, total, i, hf, hne, hsum, hnn => by
    show ∃ out, ite (i < total) _ _ = Except.ok out ∧ _
    by_cases hi : i < total
    · rw [if_pos hi]
      -- every list is non-empty since its sum is positive
      have hne' : ∀ c ∈ rch, c ≠ [] := by
        intro c hc e
        have := hsum c hc
        subst e
        simp only [isum] at this; omega
      obtain ⟨m, hm, hall, c0, hc0, xs0, e0⟩ := minHead_ok rch hne hne'
      have hm0 : 0 ≤ m := hnn c0 hc0 m (e0 ▸ List.mem_cons_self)
      have hstep := fun c hc => cbStep_ok m c hm0 (hall c hc)
      obtain ⟨out', hout', hsp, hb, hent⟩ :=
        cbLoop_spec fuel (rch.map (cbStep m)) total (i + m)
          (Nat.le_of_lt_succ (Nat.lt_of_lt_of_le (fuelFor_step_lt m rch ⟨c0, hc0, xs0, e0⟩) hf))
          (fun e => hne (List.map_eq_nil_iff.mp e))
          (List.forall_mem_map.mpr fun c hc => by rw [(hstep c hc).sum, hsum c hc, Int.sub_sub])
          (List.forall_mem_map.mpr fun c hc y hy => ((hstep c hc).entry y hy).elim Int.le_of_lt (hnn c hc y))
      rw [List.forall_mem_map] at hsp
      refine ⟨m :: out', by simp only [hm, hout'], fun c hc => (hstep c hc).splits out' (hsp c hc), ?_, ?_⟩
      · intro b hb'
        rcases (mem_bnds_cons m b out').mp hb' with h | ⟨b', hb'', rfl⟩
        · subst h; exact ⟨c0, hc0, zero_mem_bnds _⟩
        · obtain ⟨c', hc', hbc'⟩ := hb b' hb''
          obtain ⟨c, hc, rfl⟩ := List.mem_map.mp hc'
          rcases (hstep c hc).bound b' hbc' with h | h
          · subst h
            refine ⟨c0, hc0, ?_⟩
            rw [e0]
            exact (mem_bnds_cons m _ xs0).mpr (Or.inr ⟨0, zero_mem_bnds _, rfl⟩)
          · exact ⟨_, hc, h⟩
      · intro x hx
        rcases List.mem_cons.mp hx with rfl | hx
        · exact Or.inr ⟨c0, hc0, e0 ▸ List.mem_cons_self⟩
        · rcases hent x hx with h | ⟨c', hc', hxc'⟩
          · exact Or.inl h
          · obtain ⟨c, hc, rfl⟩ := List.mem_map.mp hc'
            exact ((hstep c hc).entry x hxc').imp id fun h => ⟨c, hc, h⟩
    · rw [if_neg hi]
      refine ⟨[], rfl, ?_, ?_, (by intro x hx; cases hx)⟩
      · intro c hc
        have h0 : isum c = 0 := by
          have h1 := hsum c hc
          have h2 := isum_nonneg c (hnn c hc)
          omega
        exact Splits.done c ((isum_eq_zero_iff c (hnn c hc)).mp h0)
      · intro b hb
        obtain ⟨c, hc⟩ := List.exists_mem_of_ne_nil rch hne
        obtain rfl := List.mem_singleton.mp hb
        exact ⟨c, hc, zero_mem_bnds c⟩

/-- the input of `common_blockdim` on one label -/
structure WF (bd : List Layout) (T : Int) : Prop where
  ne : bd ≠ []
  nonempty : ∀ c ∈ bd, c ≠ []
  sum : ∀ c ∈ bd, isum c = T
  nonneg : ∀ c ∈ bd, ∀ x ∈ c, 0 ≤ x

theorem foldl_pick_mem {α} (p : α → α → Bool) : ∀ (ds : List α) (d : α),
    ds.foldl (fun best e => if p e best then e else best) d ∈ d :: ds
  | [], d => by simp
  | e :: es, d => by
    simp only [List.foldl_cons]
    have := foldl_pick_mem p es (if p e d then e else d)
    rcases List.mem_cons.mp this with h | h
    · rw [h]; split <;> simp
    · exact List.mem_cons_of_mem _ (List.mem_cons_of_mem _ h)

theorem imax_le_isum : ∀ l : List Int, (∀ x ∈ l, 0 ≤ x) → imax l ≤ isum l
  | [], _ => Int.le_refl 0
  | x :: xs, h => by
    have h1 := h x List.mem_cons_self
    have h2 := imax_le_isum xs (fun y hy => h y (List.mem_cons_of_mem _ hy))
    have h3 := isum_nonneg xs (fun y hy => h y (List.mem_cons_of_mem _ hy))
    show max x (imax xs) ≤ x + isum xs; omega

theorem anyTruthy_of_wf {bd : List Layout} {T : Int} (h : WF bd T) : anyTruthy bd = true := by
  obtain ⟨c, hc⟩ := List.exists_mem_of_ne_nil bd h.ne
  unfold anyTruthy
  rw [List.any_eq_true]
  refine ⟨c, hc, ?_⟩
  have := h.nonempty c hc
  cases c with
  | nil => exact absurd rfl this
  | cons _ _ => rfl

theorem eq_single : ∀ (c : Layout) (T : Int), c ≠ [] → isum c = T → ¬ c.length > 1 → c = [T]
  | [], _, hne, _, _ => absurd rfl hne
  | [x], _, _, hs, _ => by simp only [isum] at hs; rw [← hs]; simp
  | _ :: _ :: _, _, _, _, hl => by simp at hl

theorem trivial_eq {bd : List Layout} {T : Int} (h : WF bd T) (c : Layout) (hc : c ∈ bd)
    (hl : ¬ c.length > 1) : c = [T] :=
  eq_single c T (h.nonempty c hc) (h.sum c hc) hl

theorem bnds_single_sub (T : Int) (r : Layout) (hr : isum r = T) : ∀ b ∈ bnds [T], b ∈ bnds r := by
  intro b hb
  rcases List.mem_cons.mp hb with rfl | hb
  · exact zero_mem_bnds r
  · rw [List.mem_singleton.mp hb, ← hr]; simpa using isum_mem_bnds r

/-- the result `r` of `common_blockdim` on layouts of total `T`: the coarsest common refinement -/
structure CommonSpec (bd : List Layout) (T : Int) (r : Layout) : Prop where
  sum : isum r = T
  refines : ∀ c ∈ bd, ∀ b ∈ bnds c, b ∈ bnds r
  union : ∀ b ∈ bnds r, ∃ c ∈ bd, b ∈ bnds c
  splits : ∀ c ∈ bd, c.length > 1 → Splits r c
  nonneg : ∀ x ∈ r, 0 ≤ x
  pos : (∀ c ∈ bd, ∀ x ∈ c, 0 < x) → ∀ x ∈ r, 0 < x
  imax_le : ∀ c ∈ bd, imax r ≤ imax c

theorem commonBlockdim_ok {bd : List Layout} {T : Int} (h : WF bd T) :
    ∃ r, commonBlockdim bd = .ok r ∧ CommonSpec bd T r := by
  unfold commonBlockdim
  simp only [anyTruthy_of_wf h, Bool.not_true, Bool.false_eq_true, if_false]
  -- the three facts the loop establishes give the whole specification
  have key : ∀ r, isum r = T → (∀ c ∈ nonTrivial bd, Splits r c) → (∀ b ∈ bnds r, ∃ c ∈ bd, b ∈ bnds c) →
      (∀ x ∈ r, 0 < x ∨ ∃ c ∈ bd, x ∈ c) → CommonSpec bd T r := by
    intro r hsum hnt hun hent
    have hsp : ∀ c ∈ bd, c.length > 1 → Splits r c := fun c hc hl => hnt c ((mem_nonTrivial c bd).mpr ⟨hc, hl⟩)
    have hnn : ∀ x ∈ r, 0 ≤ x := fun x hx =>
      (hent x hx).elim Int.le_of_lt fun ⟨c, hc, hxc⟩ => h.nonneg c hc x hxc
    refine ⟨hsum, ?_, hun, hsp, hnn, fun hp x hx => (hent x hx).elim id fun ⟨c, hc, hxc⟩ => hp c hc x hxc, ?_⟩
    · intro c hc
      by_cases hl : c.length > 1
      · exact splits_bnds (hsp c hc hl)
      · rw [trivial_eq h c hc hl]; exact bnds_single_sub T r hsum
    · intro c hc
      by_cases hl : c.length > 1
      · exact splits_imax (hsp c hc hl)
      · rw [trivial_eq h c hc hl]
        have := imax_le_isum r hnn
        show imax r ≤ max T 0; omega
  -- the answer is an input that every multi-block input equals
  have ofMem : ∀ r ∈ bd, (∀ c ∈ nonTrivial bd, c = r) → CommonSpec bd T r := fun r hr hall =>
    key r (h.sum r hr) (fun c hc => by rw [hall c hc]; exact splits_refl r) (fun b hb => ⟨r, hr, hb⟩)
      (fun x hx => Or.inr ⟨r, hr, hx⟩)
  cases hnt : nonTrivial bd with
  | nil =>
    simp only
    unfold maxByFirst
    have hany : (bd.any fun d => d.isEmpty) = false := by
      rw [List.any_eq_false]
      intro c hc
      have := h.nonempty c hc
      cases c with
      | nil => exact absurd rfl this
      | cons _ _ => simp
    simp only [hany, Bool.false_eq_true, if_false]
    cases hbd : bd with
    | nil => exact absurd hbd h.ne
    | cons d ds =>
      simp only
      have hmem := foldl_pick_mem (fun e best : Layout => decide (e.headD 0 > best.headD 0)) ds d
      simp only [decide_eq_true_eq] at hmem
      rw [← hbd] at hmem
      refine ⟨_, rfl, ?_⟩
      rw [← hbd]
      apply ofMem _ hmem
      rw [hnt]
      intro c hc
      cases hc
  | cons d ds =>
    have hd : d ∈ bd ∧ d.length > 1 := (mem_nonTrivial d bd).mp (by rw [hnt]; exact List.mem_cons_self)
    cases ds with
    | nil =>
      simp only
      refine ⟨d, rfl, ofMem d hd.1 ?_⟩
      rw [hnt]
      exact fun c hc => List.mem_singleton.mp hc
    | cons d' ds' =>
      simp only
      have hmemnt : ∀ c ∈ d :: d' :: ds', c ∈ bd ∧ c.length > 1 := by
        intro c hc; rw [← hnt] at hc; exact (mem_nonTrivial c bd).mp hc
      have hall : (d :: d' :: ds').all (fun e => decide (isum e = isum d)) = true := by
        rw [List.all_eq_true]
        intro c hc
        simp only [decide_eq_true_eq]
        rw [h.sum c (hmemnt c hc).1, h.sum d hd.1]
      simp only [hall, Bool.not_true, Bool.false_eq_true, if_false]
      obtain ⟨out, hout, hsp, hun, hent⟩ :=
        cbLoop_spec (fuelFor (d :: d' :: ds')) (d :: d' :: ds') (isum d) 0
          (Nat.le_refl _) (by simp)
          (by intro c hc; rw [h.sum c (hmemnt c hc).1, h.sum d hd.1]; omega)
          (by intro c hc; exact h.nonneg c (hmemnt c hc).1)
      refine ⟨out, hout, key out ?_ (by rw [hnt]; exact hsp) ?_ ?_⟩
      · rw [splits_isum (hsp d List.mem_cons_self)]; exact h.sum d hd.1
      · intro b hb
        obtain ⟨c, hc, hbc⟩ := hun b hb
        exact ⟨c, (hmemnt c hc).1, hbc⟩
      · intro x hx
        exact (hent x hx).imp id fun ⟨c, hc, hxc⟩ => ⟨c, (hmemnt c hc).1, hxc⟩

theorem minByLen_mem (d : Layout) (ds : List Layout) : minByLen d ds ∈ d :: ds := by
  have := foldl_pick_mem (fun e best : Layout => decide (e.length < best.length)) ds d
  simpa [minByLen] using this

theorem minByLen_le : ∀ (ds : List Layout) (d : Layout), ∀ c ∈ d :: ds, (minByLen d ds).length ≤ c.length
  | [], d, c, hc => by rw [List.mem_singleton.mp hc]; exact Nat.le_refl _
  | e :: es, d, c, hc => by
    show (minByLen (if e.length < d.length then e else d) es).length ≤ c.length
    have ih := minByLen_le es (if e.length < d.length then e else d)
    have h0 := ih _ List.mem_cons_self
    rcases List.mem_cons.mp hc with rfl | hc
    · exact Nat.le_trans h0 (by split <;> omega)
    · rcases List.mem_cons.mp hc with rfl | hc
      · exact Nat.le_trans h0 (by split <;> omega)
      · exact ih c (List.mem_cons_of_mem _ hc)

/-- `coarse_blockdim` either falls through to `common_blockdim` or returns the non-trivial input with the fewest
blocks, and then every other non-trivial input has all its interior boundaries -/
theorem coarseBlockdim_cases (bd : List Layout) :
    coarseBlockdim bd = commonBlockdim bd ∨
    ∃ r, coarseBlockdim bd = .ok r ∧ r ∈ bd ∧ r.length > 1 ∧
      (∀ c ∈ bd, c.length > 1 → r.length ≤ c.length) ∧
      (∀ c ∈ bd, c.length > 1 → c = r ∨ ∀ b ∈ interior r, b ∈ interior c) := by
  unfold coarseBlockdim
  by_cases hany : anyTruthy bd = true
  · simp only [hany, Bool.not_true, Bool.false_eq_true, if_false]
    cases hnt : nonTrivial bd with
    | nil => left; simp [commonBlockdim, hany, hnt]
    | cons d ds =>
      cases ds with
      | nil => left; simp [commonBlockdim, hany, hnt]
      | cons d' ds' =>
        simp only
        by_cases hall : (d :: d' :: ds').all (fun e => decide (isum e = isum d)) = true
        · simp only [hall, Bool.not_true, Bool.false_eq_true, if_false]
          by_cases hal : alignsAll (minByLen d (d' :: ds')) (d :: d' :: ds') = true
          · right
            simp only [hal, if_true]
            have hmem := minByLen_mem d (d' :: ds')
            rw [← hnt] at hmem
            have hm := (mem_nonTrivial _ bd).mp hmem
            refine ⟨_, rfl, hm.1, hm.2, ?_, ?_⟩
            · intro c hc hl
              apply minByLen_le (d' :: ds') d
              rw [← hnt]; exact (mem_nonTrivial c bd).mpr ⟨hc, hl⟩
            · intro c hc hl
              have hcnt : c ∈ d :: d' :: ds' := by
                rw [← hnt]; exact (mem_nonTrivial c bd).mpr ⟨hc, hl⟩
              unfold alignsAll at hal
              rw [List.all_eq_true] at hal
              have := hal c hcnt
              simp only [Bool.or_eq_true, decide_eq_true_eq, List.all_eq_true] at this
              rcases this with h | h
              · exact Or.inl h
              · exact Or.inr h
          · left
            simp only [hal, Bool.false_eq_true, if_false]
        · left
          simp only [hall, Bool.not_false, if_true]
          simp [commonBlockdim, hany, hnt, hall]
  · left
    simp only [Bool.not_eq_true] at hany
    simp [commonBlockdim, hany]

theorem coarseBlockdim_ok {bd : List Layout} {T : Int} (h : WF bd T) :
    ∃ r, coarseBlockdim bd = .ok r ∧
      (commonBlockdim bd = .ok r ∨
        (r ∈ bd ∧ r.length > 1 ∧ (∀ c ∈ bd, c.length > 1 → r.length ≤ c.length) ∧
          ∀ c ∈ bd, c.length > 1 → ∀ b ∈ bnds r, b ∈ bnds c)) := by
  rcases coarseBlockdim_cases bd with heq | ⟨r, hr, hmem, hlen, hmin, hsub⟩
  · obtain ⟨r, hr, _⟩ := commonBlockdim_ok h
    exact ⟨r, by rw [heq, hr], Or.inl hr⟩
  · refine ⟨r, hr, Or.inr ⟨hmem, hlen, hmin, ?_⟩⟩
    intro c hc hl
    rcases hsub c hc hl with rfl | hsub
    · exact fun b hb => hb
    · exact bnds_sub_of_interior_sub r c (h.nonempty r hmem) (h.nonempty c hc)
        (by rw [h.sum r hmem, h.sum c hc]) hsub

theorem worstLoop_le_iff (lay : Nat → Layout) (b : Int) : ∀ (ops : List Opd) (w : Int),
    worstLoop lay ops w ≤ b ↔ w ≤ b ∧ ∀ a ∈ ops, targetBytes lay a > currentBytes a → targetBytes lay a ≤ b
  | [], w => ⟨fun h => ⟨h, fun _ ha => absurd ha List.not_mem_nil⟩, fun h => h.1⟩
  | a :: rest, w => by
    show worstLoop lay rest _ ≤ b ↔ _
    rw [worstLoop_le_iff lay b rest, List.forall_mem_cons]
    by_cases hgt : targetBytes lay a > currentBytes a
    · simp only [hgt, if_true, Int.max_le, forall_const, and_assoc]
    · simp only [hgt, if_false, false_implies, true_and]

theorem iprod_map_le {α} (f g : α → Int) : ∀ (l : List α), (∀ x ∈ l, 0 ≤ f x ∧ f x ≤ g x) →
    0 ≤ iprod (l.map f) ∧ iprod (l.map f) ≤ iprod (l.map g) :=
  prodFold_map_le rfl (fun _ _ => rfl) f g

theorem targetBytes_congr {lay lay' : Nat → Layout} (a : Opd)
    (h : ∀ ax ∈ a.axes, ax.live = true → lay ax.label = lay' ax.label) : targetBytes lay a = targetBytes lay' a := by
  unfold targetBytes
  apply congrArg
  apply congrArg
  apply List.map_congr_left
  intro ax hax
  have hmem := List.mem_filter.mp hax
  rw [h ax hmem.1 hmem.2]

theorem targetBytes_le_current {lay : Nat → Layout} (a : Opd) (hit : 0 ≤ a.itemsize)
    (h : ∀ ax ∈ a.axes, ax.live = true → imax (lay ax.label) ≤ imax ax.chunks) :
    targetBytes lay a ≤ currentBytes a := by
  have h2 := iprod_map_le (fun ax : Ax => imax (lay ax.label)) (fun ax : Ax => imax ax.chunks)
    (a.axes.filter Ax.live) (by
      intro ax hax
      have hmem := List.mem_filter.mp hax
      exact ⟨imax_nonneg _, h ax hmem.1 hmem.2⟩)
  exact Int.mul_le_mul_of_nonneg_left h2.2 hit

theorem sizeGuard_eq_or (limit : Option Int) (chunkss fine : Nat → Layout) (ops : List Opd) (j : Nat) :
    sizeGuard limit chunkss fine ops j = chunkss j ∨ sizeGuard limit chunkss fine ops j = fine j := by
  unfold sizeGuard
  cases limit with
  | none => exact Or.inl rfl
  | some lim =>
    dsimp only
    split
    · exact Or.inr rfl
    · exact Or.inl rfl

/-- **C17 limit, abstract form.**  `chunkss` are the layouts chosen before the guard (any
oracle value), `fine` the refinement.  Hypotheses: `fine` only splits every participating
operand axis (`hfine`), and a chosen layout that has at least as many blocks as the
refinement *is* the refinement (`hco`; true whenever the chosen layout is a coarsening of the
refinement -- see `C17_limit` where both are derived for the concrete model).  Then after the
guard no operand's largest block exceeds `max limit (its own largest block)`. -/
theorem sizeGuard_limit (limit : Int) (hlim : limit ≠ 0) (chunkss fine : Nat → Layout) (ops : List Opd)
    (hit : ∀ a ∈ ops, 0 ≤ a.itemsize)
    (hfine : ∀ a ∈ ops, ∀ ax ∈ a.axes, ax.live = true → imax (fine ax.label) ≤ imax ax.chunks)
    (hco : ∀ a ∈ ops, ∀ ax ∈ a.axes, ax.live = true →
      (fine ax.label).length ≤ (chunkss ax.label).length → chunkss ax.label = fine ax.label) :
    ∀ a ∈ ops, targetBytes (sizeGuard (some limit) chunkss fine ops) a ≤ max limit (currentBytes a) := by
  intro a ha
  by_cases hw : worstOf chunkss ops > limit
  · -- guard fires: every participating index ends at the refinement
    have h1 : targetBytes (sizeGuard (some limit) chunkss fine ops) a = targetBytes fine a := by
      apply targetBytes_congr
      intro ax hax hlv
      simp only [sizeGuard, hw, hlim, ne_eq, not_false_eq_true, true_and]
      by_cases hc : coarsened chunkss fine ax.label = true
      · simp only [hc, if_true]
      · simp only [hc, Bool.false_eq_true, if_false]
        have : (fine ax.label).length ≤ (chunkss ax.label).length := by
          simp only [coarsened, decide_eq_true_eq] at hc; omega
        exact hco a ha ax hax hlv this
    have h3 := targetBytes_le_current a (hit a ha) (hfine a ha)
    omega
  · -- guard does not fire: the chosen layouts stay, and `worst ≤ limit`
    have h1 : targetBytes (sizeGuard (some limit) chunkss fine ops) a = targetBytes chunkss a := by
      apply targetBytes_congr
      intro ax _ _
      simp only [sizeGuard, hw, false_and, and_false, if_false]
    rw [h1]
    by_cases hgt : targetBytes chunkss a > currentBytes a
    · have := ((worstLoop_le_iff chunkss _ ops 0).mp (Int.le_refl _)).2 a ha hgt
      unfold worstOf at hw
      omega
    · omega

/-- well-formed operand list: non-negative itemsizes, non-empty positive chunk tuples, and
NumPy broadcast compatibility (axes sharing an index label have the same length unless one of
them has length 1). -/
structure OpsWF (ops : List Opd) : Prop where
  itemsize : ∀ a ∈ ops, 0 ≤ a.itemsize
  nonempty : ∀ a ∈ ops, ∀ ax ∈ a.axes, ax.chunks ≠ []
  pos : ∀ a ∈ ops, ∀ ax ∈ a.axes, ∀ x ∈ ax.chunks, 0 < x
  shapes : ∀ a ∈ ops, ∀ ax ∈ a.axes, ∀ b ∈ ops, ∀ bx ∈ b.axes, ax.label = bx.label →
    ax.live = true → bx.live = true → ax.shape = bx.shape

theorem live_iff (ax : Ax) : ax.live = true ↔ isum ax.chunks > 1 := by
  unfold Ax.live Ax.shape
  exact decide_eq_true_iff

theorem look_range_map (g : Nat → Layout) (n j : Nat) (h : j < n) :
    look ((List.range n).map g) j = g j := by
  simp [look, List.getD_eq_getElem?_getD, List.getElem?_map, List.getElem?_range h]

theorem tabE_ok (f : Nat → Except Err Layout) (n : Nat) (t : List Layout) (h : tabE f n = .ok t) :
    t.length = n ∧ ∀ j, j < n → f j = .ok (look t j) := by
  induction n generalizing t with
  | zero => cases h; exact ⟨rfl, fun j hj => absurd hj (Nat.not_lt_zero j)⟩
  | succ n ih =>
    rw [tabE] at h
    split at h
    · cases h
    · rename_i t' ht
      split at h
      · cases h
      · rename_i v hv
        cases h
        obtain ⟨hl, hj⟩ := ih t' ht
        refine ⟨by rw [List.length_append, hl]; rfl, fun j hjn => ?_⟩
        rw [look, List.getD_eq_getElem?_getD]
        rcases Nat.lt_succ_iff_lt_or_eq.mp hjn with hlt | rfl
        · rw [List.getElem?_append_left (hl ▸ hlt), ← List.getD_eq_getElem?_getD]; exact hj j hlt
        · rw [List.getElem?_append_right (Nat.le_of_eq hl), hl, Nat.sub_self]; exact hv

theorem mem_layoutsAt (ops : List Opd) (j : Nat) (c : Layout) :
    c ∈ layoutsAt ops j ↔ ∃ a ∈ ops, ∃ ax ∈ a.axes, ax.label = j ∧ ax.chunks = c := by
  unfold layoutsAt
  simp only [List.mem_flatMap, List.mem_map, List.mem_filter, decide_eq_true_eq]
  constructor
  · rintro ⟨a, ha, ax, ⟨hax, hl⟩, e⟩; exact ⟨a, ha, ax, hax, hl, e⟩
  · rintro ⟨a, ha, ax, hax, hl, e⟩; exact ⟨a, ha, ax, ⟨hax, hl⟩, e⟩

theorem dedupe_nodup : ∀ l : List Layout, (dedupe l).Nodup
  | [] => List.nodup_nil
  | x :: xs => by
    show (if x ∈ xs then dedupe xs else x :: dedupe xs).Nodup
    by_cases h : x ∈ xs
    · simp only [h, if_true]; exact dedupe_nodup xs
    · simp only [h, if_false, List.nodup_cons]
      exact ⟨fun hx => h ((mem_dedupe x xs).mp hx), dedupe_nodup xs⟩

theorem exists_ne_of_nodup (l : List Layout) (x : Layout) (hn : l.Nodup) (hl : l.length > 1) :
    ∃ y ∈ l, y ≠ x := by
  match l, hn, hl with
  | a :: b :: _, hn, _ =>
    have hab : a ≠ b := by
      intro e; subst e
      simp at hn
    by_cases ha : a = x
    · exact ⟨b, by simp, fun hb => hab (by rw [ha, hb])⟩
    · exact ⟨a, by simp, ha⟩

theorem eq_one_of_sum_le_one : ∀ c : Layout, c ≠ [] → (∀ x ∈ c, 0 < x) → isum c ≤ 1 → c = [1]
  | [], h, _, _ => absurd rfl h
  | [x], _, hp, hs => by
    have := hp x (by simp)
    simp only [isum] at hs
    have : x = 1 := by omega
    rw [this]
  | x :: y :: ys, _, hp, hs => by
    have h1 := hp x (by simp)
    have h2 := hp y (by simp)
    have h3 := isum_nonneg ys (fun z hz => Int.le_of_lt (hp z (by simp [hz])))
    simp only [isum] at hs
    omega

theorem mem_g2 (v : List Layout) (c : Layout) :
    c ∈ g2 v ↔ c ∈ v ∧ ((dedupe v).length > 1 → c ≠ [1]) := by
  unfold g2
  by_cases h : (dedupe v).length > 1
  · simp only [h, if_true, List.mem_filter, mem_dedupe, decide_eq_true_eq]
    constructor
    · rintro ⟨h1, h2⟩; exact ⟨h1, fun _ => h2⟩
    · rintro ⟨h1, h2⟩; exact ⟨h1, h2 trivial⟩
  · simp only [h, if_false, mem_dedupe]
    constructor
    · intro h1; exact ⟨h1, fun h' => False.elim h'⟩
    · rintro ⟨h1, _⟩; exact h1

/-- what `broadcast_dimensions` hands to the consolidation function on a used index -/
theorem g2_wf {ops : List Opd} (hwf : OpsWF ops) (j : Nat)
    (hused : ∃ a ∈ ops, ∃ ax ∈ a.axes, ax.label = j) :
    (∃ T, WF (g2 (layoutsAt ops j)) T) ∧
    (∀ c ∈ g2 (layoutsAt ops j), ∀ x ∈ c, 0 < x) ∧
    (∀ a ∈ ops, ∀ ax ∈ a.axes, ax.label = j → ax.live = true → ax.chunks ∈ g2 (layoutsAt ops j)) := by
  have hV : ∀ c ∈ g2 (layoutsAt ops j), ∃ a ∈ ops, ∃ ax ∈ a.axes, ax.label = j ∧ ax.chunks = c := by
    intro c hc
    exact (mem_layoutsAt ops j c).mp ((mem_g2 _ c).mp hc).1
  have hpos : ∀ c ∈ g2 (layoutsAt ops j), ∀ x ∈ c, 0 < x := by
    intro c hc
    obtain ⟨a, ha, ax, hax, _, e⟩ := hV c hc
    rw [← e]; exact hwf.pos a ha ax hax
  have hne : ∀ c ∈ g2 (layoutsAt ops j), c ≠ [] := by
    intro c hc
    obtain ⟨a, ha, ax, hax, _, e⟩ := hV c hc
    rw [← e]; exact hwf.nonempty a ha ax hax
  have hlive : ∀ a ∈ ops, ∀ ax ∈ a.axes, ax.label = j → ax.live = true →
      ax.chunks ∈ g2 (layoutsAt ops j) := by
    intro a ha ax hax hl hlv
    refine (mem_g2 _ _).mpr ⟨(mem_layoutsAt ops j _).mpr ⟨a, ha, ax, hax, hl, rfl⟩, ?_⟩
    intro _ e
    rw [live_iff, e] at hlv
    simp [isum] at hlv
  refine ⟨?_, hpos, hlive⟩
  by_cases hD : (dedupe (layoutsAt ops j)).length > 1
  · -- several layouts: the sentinel (1,) is removed, all that remain are live axes
    have hlv : ∀ c ∈ g2 (layoutsAt ops j), isum c > 1 := by
      intro c hc
      have hc1 := ((mem_g2 _ c).mp hc).2 hD
      have := eq_one_of_sum_le_one c (hne c hc) (hpos c hc)
      by_cases h : isum c ≤ 1
      · exact absurd (this h) hc1
      · omega
    obtain ⟨y, hy, hy1⟩ := exists_ne_of_nodup _ [1] (dedupe_nodup (layoutsAt ops j)) hD
    have hyg : y ∈ g2 (layoutsAt ops j) :=
      (mem_g2 _ y).mpr ⟨(mem_dedupe y _).mp hy, fun _ => hy1⟩
    refine ⟨isum y, ⟨?_, hne, ?_, fun c hc x hx => Int.le_of_lt (hpos c hc x hx)⟩⟩
    · intro e; rw [e] at hyg; cases hyg
    · intro c hc
      obtain ⟨a, ha, ax, hax, hl, e⟩ := hV c hc
      obtain ⟨b, hb, bx, hbx, hl', e'⟩ := hV y hyg
      have h1 := hlv c hc
      have h2 := hlv y hyg
      rw [← e, ← e']
      apply hwf.shapes a ha ax hax b hb bx hbx (by rw [hl, hl'])
      · rw [live_iff, e]; exact h1
      · rw [live_iff, e']; exact h2
  · -- a single layout
    obtain ⟨a, ha, ax, hax, hl⟩ := hused
    have hmem : ax.chunks ∈ g2 (layoutsAt ops j) :=
      (mem_g2 _ _).mpr ⟨(mem_layoutsAt ops j _).mpr ⟨a, ha, ax, hax, hl, rfl⟩, fun h => absurd h hD⟩
    have hg : g2 (layoutsAt ops j) = dedupe (layoutsAt ops j) := by
      unfold g2; simp only [hD, if_false]
    have hsingle : ∀ c ∈ g2 (layoutsAt ops j), c = ax.chunks := by
      intro c hc
      rw [hg] at hc hmem
      match hdd : dedupe (layoutsAt ops j), hc, hmem with
      | [], hc, _ => cases hc
      | [z], hc, hmem =>
        simp only [List.mem_singleton] at hc hmem
        rw [hc, hmem]
      | _ :: _ :: _, _, _ => rw [hdd] at hD; simp at hD
    refine ⟨isum ax.chunks, ⟨?_, hne, ?_, fun c hc x hx => Int.le_of_lt (hpos c hc x hx)⟩⟩
    · intro e; rw [e] at hmem; cases hmem
    · intro c hc; rw [hsingle c hc]

def LayoutOf (ax : Ax) (c : Layout) : Prop := isum c = isum ax.chunks ∧ ∀ x ∈ c, 0 < x

/-- what `common_blockdim` returns on the label of the live axis `ax`: `CommonSpec` read at this operand, and what
every `coarse` choice `ch` that passes the oracle check is -/
structure LiveIndex (ops : List Opd) (ax : Ax) (f : Layout) : Prop where
  layout : LayoutOf ax f
  imax_le : imax f ≤ imax ax.chunks
  refines : ∀ b ∈ bnds ax.chunks, b ∈ bnds f
  union : ∀ b ∈ bnds f, ∃ c ∈ layoutsAt ops ax.label, b ∈ bnds c
  admissible : ∀ co, coarseBlockdim (g2 (layoutsAt ops ax.label)) = .ok co →
    ∀ ch, oracleOK ch co f (g2 (layoutsAt ops ax.label)) = true →
      LayoutOf ax ch ∧ (f.length ≤ ch.length → ch = f)

theorem liveIndex_spec {ops : List Opd} (hwf : OpsWF ops) (a : Opd) (ha : a ∈ ops) (ax : Ax) (hax : ax ∈ a.axes)
    (hlv : ax.live = true) (f : Layout) (hf : commonBlockdim (g2 (layoutsAt ops ax.label)) = .ok f) :
    LiveIndex ops ax f := by
  obtain ⟨⟨T, hW⟩, hpos, hlive⟩ := g2_wf hwf ax.label ⟨a, ha, ax, hax, rfl⟩
  obtain ⟨r, hr, spec⟩ := commonBlockdim_ok hW
  have hrf : r = f := by rw [hr] at hf; exact Except.ok.inj hf
  subst hrf
  have hmem := hlive a ha ax hax rfl hlv
  have hT : T = isum ax.chunks := (hW.sum _ hmem).symm
  have gf : LayoutOf ax r := ⟨by rw [spec.sum, hT], spec.pos hpos⟩
  refine ⟨gf, spec.imax_le _ hmem, spec.refines _ hmem, ?_, ?_⟩
  · intro b hb
    obtain ⟨c, hc, hbc⟩ := spec.union b hb
    exact ⟨c, ((mem_g2 _ c).mp hc).1, hbc⟩
  · intro co hco ch hok
    -- an input layout is a layout of the axis; with as many blocks as the refinement it is the refinement
    have hin : ∀ c ∈ g2 (layoutsAt ops ax.label), LayoutOf ax c ∧ (r.length ≤ c.length → c = r) := by
      intro c hc
      refine ⟨⟨by rw [hW.sum c hc, hT], hpos c hc⟩, fun hle => ?_⟩
      by_cases hcl : c.length > 1
      · exact ((splits_len (spec.splits c hc hcl) (hpos c hc)).2 hle).symm
      · have hcT := trivial_eq hW c hc hcl
        have hTpos : 0 < T := hpos c hc T (by rw [hcT]; simp)
        rw [hcT] at hle ⊢
        have hr0 : r ≠ [] := by
          intro e
          have := spec.sum
          simp only [e, isum] at this; omega
        exact (eq_single r T hr0 spec.sum (by simpa using hle)).symm
    simp only [oracleOK, Bool.or_eq_true, decide_eq_true_eq] at hok
    rcases hok with (h | h) | h
    · -- the coarse choice: the refinement or an input layout
      obtain ⟨r', hr', hcase⟩ := coarseBlockdim_ok hW
      have : r' = co := by rw [hr'] at hco; exact Except.ok.inj hco
      subst this
      rw [h]
      rcases hcase with hc | ⟨hc, _⟩
      · rw [hr] at hc
        rw [← Except.ok.inj hc]
        exact ⟨gf, fun _ => rfl⟩
      · exact hin r' hc
    · rw [h]; exact ⟨gf, fun _ => rfl⟩
    · exact hin ch h

/-- what a successful `unifyModel` on well-formed operands returned: `fine` is the refinement, `chosen` the layouts in
force before the size guard (under `refine` the refinement itself), the final layout of an operand axis is the
guard's outcome; on a live axis `fine` is as `LiveIndex` says and, when `oracleOk`, `chosen` is a layout of the axis
that is `fine` or has fewer blocks -/
structure Unified (limit : Option Int) (ops : List Opd) (res : UnifyResult) (chosen fine : Nat → Layout) : Prop where
  final : ∀ a ∈ ops, ∀ ax ∈ a.axes, look res.final ax.label = sizeGuard limit chosen fine ops ax.label
  live : ∀ a ∈ ops, ∀ ax ∈ a.axes, ax.live = true → LiveIndex ops ax (fine ax.label)
  adm : res.oracleOk = true → ∀ a ∈ ops, ∀ ax ∈ a.axes, ax.live = true →
    LayoutOf ax (chosen ax.label) ∧ ((fine ax.label).length ≤ (chosen ax.label).length → chosen ax.label = fine ax.label)

theorem unifyModel_spec {policy : Policy} {limit : Option Int} {pre : List Layout} {ops : List Opd}
    {nlabels : Nat} {res : UnifyResult} (hwf : OpsWF ops) (hlab : ∀ a ∈ ops, ∀ ax ∈ a.axes, ax.label < nlabels)
    (hres : unifyModel policy limit pre ops nlabels = .ok res) :
    ∃ chosen fine : Nat → Layout, (policy = .refine → chosen = fine) ∧ Unified limit ops res chosen fine := by
  unfold unifyModel at hres
  cases hfT : tabE (fun j => commonBlockdim (g2 (layoutsAt ops j))) nlabels with
  | error e => simp [hfT] at hres
  | ok fineT =>
    obtain ⟨_, hfine⟩ := tabE_ok _ nlabels fineT hfT
    simp only [hfT] at hres
    have hlive : ∀ a ∈ ops, ∀ ax ∈ a.axes, ax.live = true → LiveIndex ops ax (look fineT ax.label) :=
      fun a ha ax hax hlv => liveIndex_spec hwf a ha ax hax hlv _ (hfine _ (hlab a ha ax hax))
    by_cases hpol : policy = .refine
    · simp only [hpol, if_true, Except.ok.injEq] at hres
      subst hres
      refine ⟨look fineT, look fineT, fun _ => rfl, ⟨fun a ha ax hax => ?_, hlive, fun _ a ha ax hax hlv =>
        ⟨(hlive a ha ax hax hlv).layout, fun _ => rfl⟩⟩⟩
      exact (sizeGuard_eq_or limit _ _ ops ax.label).elim Eq.symm Eq.symm
    · simp only [hpol, if_false] at hres
      cases hcT : tabE (fun j => coarseBlockdim (g2 (layoutsAt ops j))) nlabels with
      | error e => simp [hcT] at hres
      | ok coarseT =>
        obtain ⟨_, hcoarse⟩ := tabE_ok _ nlabels coarseT hcT
        simp only [hcT, Except.ok.injEq] at hres
        subst hres
        refine ⟨look (if policy = .coarse then coarseT else pre), look fineT, fun h => absurd h hpol,
          ⟨fun a ha ax hax => look_range_map _ _ _ (hlab a ha ax hax), hlive, fun hrel a ha ax hax hlv => ?_⟩⟩
        have hj := hlab a ha ax hax
        simp only [List.all_eq_true, List.mem_range] at hrel
        exact (hlive a ha ax hax hlv).admissible _ (hcoarse _ hj) _ (hrel _ hj)

/-- policy `refine`: on a live axis the final layout has the axis' total, every boundary of the operand, only
boundaries of the operands, and no wider block -/
theorem unifyModel_refine (limit : Option Int) (pre : List Layout)
    (ops : List Opd) (nlabels : Nat) (hwf : OpsWF ops)
    (hlab : ∀ a ∈ ops, ∀ ax ∈ a.axes, ax.label < nlabels)
    (res : UnifyResult) (hres : unifyModel .refine limit pre ops nlabels = .ok res) :
    ∀ a ∈ ops, ∀ ax ∈ a.axes, ax.live = true →
      isum (look res.final ax.label) = isum ax.chunks ∧
      (∀ b ∈ bnds ax.chunks, b ∈ bnds (look res.final ax.label)) ∧
      (∀ b ∈ bnds (look res.final ax.label), ∃ c ∈ layoutsAt ops ax.label, b ∈ bnds c) ∧
      imax (look res.final ax.label) ≤ imax ax.chunks := by
  obtain ⟨chosen, fine, href, U⟩ := unifyModel_spec hwf hlab hres
  intro a ha ax hax hlv
  have li := U.live a ha ax hax hlv
  have e : look res.final ax.label = fine ax.label := by
    rw [U.final a ha ax hax, href rfl]
    exact (sizeGuard_eq_or limit fine fine ops ax.label).elim id id
  rw [e]
  exact ⟨li.layout.1, li.refines, li.union, li.imax_le⟩

theorem final_layoutOf (policy : Policy) (limit : Option Int) (pre : List Layout)
    (ops : List Opd) (nlabels : Nat) (hwf : OpsWF ops)
    (hlab : ∀ a ∈ ops, ∀ ax ∈ a.axes, ax.label < nlabels)
    (res : UnifyResult) (hres : unifyModel policy limit pre ops nlabels = .ok res)
    (hrel : res.oracleOk = true) :
    ∀ a ∈ ops, ∀ ax ∈ a.axes, ax.live = true → LayoutOf ax (look res.final ax.label) := by
  obtain ⟨chosen, fine, _, U⟩ := unifyModel_spec hwf hlab hres
  intro a ha ax hax hlv
  rw [U.final a ha ax hax]
  rcases sizeGuard_eq_or limit chosen fine ops ax.label with e | e
  · rw [e]; exact (U.adm hrel a ha ax hax hlv).1
  · rw [e]; exact (U.live a ha ax hax hlv).layout

theorem tabE_total (f : Nat → Except Err Layout) : ∀ (n : Nat), (∀ j, j < n → ∃ v, f j = .ok v) →
    ∃ t, tabE f n = .ok t
  | 0, _ => ⟨[], rfl⟩
  | n + 1, h => by
    obtain ⟨t, ht⟩ := tabE_total f n (fun j hj => h j (by omega))
    obtain ⟨v, hv⟩ := h n (by omega)
    exact ⟨t ++ [v], by simp [tabE, ht, hv]⟩

/-- `unify_chunks_expr` does not raise on broadcast-compatible operands with positive chunks -/
theorem unifyModel_total (policy : Policy) (limit : Option Int) (pre : List Layout)
    (ops : List Opd) (nlabels : Nat) (hwf : OpsWF ops)
    (hused : ∀ j, j < nlabels → ∃ a ∈ ops, ∃ ax ∈ a.axes, ax.label = j) :
    ∃ res, unifyModel policy limit pre ops nlabels = .ok res ∧ (policy ≠ .auto → res.oracleOk = true) := by
  obtain ⟨fineT, hfT⟩ := tabE_total (fun j => commonBlockdim (g2 (layoutsAt ops j))) nlabels (by
    intro j hj
    obtain ⟨⟨T, hW⟩, _, _⟩ := g2_wf hwf j (hused j hj)
    obtain ⟨r, hr, _⟩ := commonBlockdim_ok hW
    exact ⟨r, hr⟩)
  obtain ⟨coarseT, hcT⟩ := tabE_total (fun j => coarseBlockdim (g2 (layoutsAt ops j))) nlabels (by
    intro j hj
    obtain ⟨⟨T, hW⟩, _, _⟩ := g2_wf hwf j (hused j hj)
    obtain ⟨r, hr, _⟩ := coarseBlockdim_ok hW
    exact ⟨r, hr⟩)
  unfold unifyModel
  simp only [hfT, hcT]
  by_cases hpol : policy = .refine
  · simp only [hpol, if_true]
    exact ⟨_, rfl, fun _ => rfl⟩
  · simp only [hpol, if_false]
    refine ⟨_, rfl, ?_⟩
    intro hna
    have hco : policy = .coarse := by
      cases policy with
      | auto => exact absurd rfl hna
      | coarse => rfl
      | refine => exact absurd rfl hpol
    simp only [hco, if_true, List.all_eq_true, List.mem_range]
    intro j _
    simp [oracleOK]

end Dask.Lemmas.Unify
