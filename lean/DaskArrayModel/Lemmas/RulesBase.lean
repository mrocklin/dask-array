/-
Rewrite-rule layer, base: `Refines env e' e` (well-formed, same shape, same NumPy values) and
congruence: a refined child may replace the child under every constructor (under grid-sensitive
parents: when `.chunks` is unchanged), since every constructor's index map stays in bounds (here for
`broadcast_to`; for `transpose` in PermAct, for slices and for one axis set, inserted or erased in ExprIndex).
Hence a step anywhere in the tree with ANY list of sound root rules is sound (`stepWith_sound`): `Refines`
is a `Congruence`, and a step is a root rewrite inside constructors (`stepWith_rel`, Model/Rules.lean).
-/
import DaskArrayModel.Model.Rules
import DaskArrayModel.Lemmas.ExprCorrect
import DaskArrayModel.Lemmas.ExprIndex
namespace Dask.ND
open Dask.Py Dask.Py.PySlice Dask.Slicing

structure Refines (env : Env) (e' e : Expr) : Prop where
  isWF : WF e'
  shapeEq : shape e' = shape e
  denEq : ∀ i, InB i (shape e) → denGet env e' i = denGet env e i

theorem Refines.refl {env : Env} {e : Expr} (h : WF e) : Refines env e e := ⟨h, rfl, fun _ _ => rfl⟩

theorem Refines.trans {env : Env} {e'' e' e : Expr} (h2 : Refines env e'' e') (h1 : Refines env e' e) :
    Refines env e'' e :=
  ⟨h2.isWF, h2.shapeEq.trans h1.shapeEq, fun i hi => (h2.denEq i (h1.shapeEq ▸ hi)).trans (h1.denEq i hi)⟩

theorem Refines.equiv {env : Env} {e' e : Expr} (h : Refines env e' e) :
    Arr.Equiv (den env e') (den env e) :=
  ⟨h.shapeEq, fun i hi => h.denEq i (by simpa [den, h.shapeEq] using hi)⟩

theorem Refines.of_equiv {env : Env} {e' e : Expr} (hw : WF e') (h : Arr.Equiv (den env e') (den env e)) :
    Refines env e' e :=
  ⟨hw, h.1, fun i hi => h.2 i (by rw [h.1]; exact hi)⟩

theorem Refines.map {env : Env} {a' a : Expr} (f : Nat) (h : Refines env a' a) :
    Refines env (.map f a') (.map f a) :=
  ⟨h.isWF, h.shapeEq, fun i hi => congrArg (env.un f) (h.denEq i hi)⟩

theorem Refines.zipL {env : Env} {a' a b : Expr} (f : Nat) (h : Refines env a' a)
    (hc : chunks a' = chunks a) (hw : WF (.zip f a b)) : Refines env (.zip f a' b) (.zip f a b) :=
  have ⟨_, hb, hs, hcc⟩ := WF_zip.mp hw
  ⟨WF_zip.mpr ⟨h.isWF, hb, h.shapeEq.trans hs, hc.trans hcc⟩, h.shapeEq,
    fun i hi => congrArg (env.bin f · _) (h.denEq i hi)⟩

theorem Refines.zipR {env : Env} {a b' b : Expr} (f : Nat) (h : Refines env b' b)
    (hc : chunks b' = chunks b) (hw : WF (.zip f a b)) : Refines env (.zip f a b') (.zip f a b) :=
  have ⟨ha, _, hs, hcc⟩ := WF_zip.mp hw
  ⟨WF_zip.mpr ⟨ha, h.isWF, hs.trans h.shapeEq.symm, hcc.trans hc.symm⟩, rfl,
    fun i hi => congrArg (env.bin f _) (h.denEq i (hs ▸ hi))⟩

theorem Refines.slice {env : Env} {a' a : Expr} (idx : List Ix) (h : Refines env a' a)
    (hw : WF (.slice a idx)) : Refines env (.slice a' idx) (.slice a idx) :=
  have ⟨_, hix⟩ := WF_slice.mp hw
  ⟨WF_slice.mpr ⟨h.isWF, h.shapeEq ▸ hix⟩, by simp only [shape, h.shapeEq], fun i hi => by
    simp only [denGet, h.shapeEq]
    exact h.denEq _ (sliceIdx_inB _ _ _ hix hi)⟩

theorem Refines.transpose {env : Env} {a' a : Expr} (perm : List Nat) (h : Refines env a' a)
    (hw : WF (.transpose a perm)) : Refines env (.transpose a' perm) (.transpose a perm) :=
  have ⟨_, hp⟩ := WF_transpose.mp hw
  ⟨WF_transpose.mpr ⟨h.isWF, h.shapeEq ▸ hp⟩, by simp only [shape, h.shapeEq],
    fun i hi => h.denEq _ (InB.unperm (isPerm_ok hp) hi)⟩

theorem Refines.rechunk {env : Env} {a' a : Expr} (l : Layout) (h : Refines env a' a)
    (hw : WF (.rechunk a l)) : Refines env (.rechunk a' l) (.rechunk a l) :=
  ⟨WF_rechunk.mpr ⟨h.isWF, h.shapeEq ▸ (WF_rechunk.mp hw).2⟩, h.shapeEq, h.denEq⟩

theorem Refines.expandDims {env : Env} {a' a : Expr} (ax : Nat) (h : Refines env a' a)
    (hw : WF (.expandDims a ax)) : Refines env (.expandDims a' ax) (.expandDims a ax) :=
  have ⟨_, hax⟩ := WF_expandDims.mp hw
  ⟨WF_expandDims.mpr ⟨h.isWF, h.shapeEq ▸ hax⟩, by simp only [shape, h.shapeEq],
    fun i hi => h.denEq _ (InB_eraseIdx_insertIdx ax _ i 1 hax hi)⟩

theorem Refines.squeeze {env : Env} {a' a : Expr} (ax : Nat) (h : Refines env a' a)
    (hc : chunks a' = chunks a) (hw : WF (.squeeze a ax)) :
    Refines env (.squeeze a' ax) (.squeeze a ax) := by
  obtain ⟨ha, hax, hone⟩ := WF_squeeze.mp hw
  have h1 : (shape a).getD ax 0 = 1 := by
    rw [← sum_getD_of_map_sum (meta_ok a ha).1 ax, hone]
    rfl
  exact ⟨WF_squeeze.mpr ⟨h.isWF, h.shapeEq ▸ hax, hc ▸ hone⟩, by simp only [shape, h.shapeEq],
    fun i hi => h.denEq _ (InB_insertIdx_eraseIdx ax _ i hax (by rw [h1]; exact Nat.one_pos) hi)⟩

theorem Refines.cumsum {env : Env} {a' a : Expr} (ax : Nat) (h : Refines env a' a)
    (hw : WF (.cumsum a ax)) : Refines env (.cumsum a' ax) (.cumsum a ax) :=
  ⟨WF_cumsum.mpr ⟨h.isWF, h.shapeEq ▸ (WF_cumsum.mp hw).2⟩, h.shapeEq, fun _ hi =>
    congrArg Red.sum.list (List.map_congr_left fun t ht =>
      h.denEq _ (InB_set_le hi (WF_cumsum.mp hw).2 (Nat.le_of_lt_succ (List.mem_range.mp ht))))⟩

theorem Refines.reduce {env : Env} {a' a : Expr} (r : Red) (ax k : Nat) (h : Refines env a' a)
    (hc : chunks a' = chunks a) (hw : WF (.reduce r a ax k)) :
    Refines env (.reduce r a' ax k) (.reduce r a ax k) :=
  have ⟨_, hax, hk, hpos⟩ := WF_reduce.mp hw
  ⟨WF_reduce.mpr ⟨h.isWF, h.shapeEq ▸ hax, hk, hc ▸ hpos⟩, by simp only [shape, h.shapeEq], fun i hi => by
    simp only [denGet, h.shapeEq]
    exact congrArg r.list (List.map_congr_left fun t ht => h.denEq _ (InB_set_of hi (List.mem_range.mp ht)))⟩

theorem gGlob_inB {specs : List AxSpec} {ol cl : Layout} (h : SpecsOK specs ol cl) (g : List Nat)
    (hg : InB g (ol.map List.sum)) : InB (gGlob specs g) (cl.map List.sum) := by
  obtain ⟨r1, r2, r3⟩ := locate_spec hg
  obtain ⟨_, hi⟩ := axisLift h _ r1
  obtain ⟨q1, q2, q3⟩ := hi _ r2
  rw [r3] at q3
  rw [← q3]
  exact InB_vadd_origin q1 q2

theorem bcIdx_inB {a : Expr} {sh : List Nat} {l : Layout} (hw : WF (.broadcastTo a sh l)) {i : List Nat}
    (hi : InB i sh) : InB (bcIdx (shape a) (i.drop (sh.length - (shape a).length))) (shape a) := by
  obtain ⟨hG, o1⟩ := broadcastTo_specs hw
  have := gGlob_inB hG.ok i (o1 ▸ hi)
  rwa [hG.glob i (o1 ▸ hi), (meta_ok a (WF_broadcastTo.mp hw).1).1] at this

theorem mapBlocks_get_congr {env : Env} (henv : EnvOK env) {a : Expr} (hw : WF a) (f : Nat) {g g' : List Nat → Int}
    (h : ∀ j, InB j (shape a) → g j = g' j) {i : List Nat} (hi : InB i (shape a)) :
    (env.blk f (restrict ⟨shape a, g⟩ (extent (chunks a) (bidOf (chunks a) i)))).get (localOf (chunks a) i)
      = (env.blk f (restrict ⟨shape a, g'⟩ (extent (chunks a) (bidOf (chunks a) i)))).get (localOf (chunks a) i) := by
  obtain ⟨i1, _⟩ := meta_ok a hw
  obtain ⟨r1, r2, _⟩ := locate_spec (l := chunks a) (g := i) (by rw [i1]; exact hi)
  obtain ⟨hq, hs⟩ := henv f _ _ (restrict_congr _ _ _ _ _ i1 r1 h)
  exact hq.2 _ (by rw [hs]; exact r2)

theorem Refines.broadcastTo {env : Env} {a' a : Expr} (sh : List Nat) (l : Layout)
    (h : Refines env a' a) (hc : chunks a' = chunks a) (hw : WF (.broadcastTo a sh l)) :
    Refines env (.broadcastTo a' sh l) (.broadcastTo a sh l) :=
  have ⟨_, hwl, hle, hbc⟩ := WF_broadcastTo.mp hw
  ⟨WF_broadcastTo.mpr ⟨h.isWF, hwl, h.shapeEq ▸ hle, by rw [hc, h.shapeEq]; exact hbc⟩, rfl, fun i hi => by
    simp only [denGet, h.shapeEq]
    exact h.denEq _ (bcIdx_inB hw hi)⟩

theorem Refines.mapBlocks {env : Env} (henv : EnvOK env) {a' a : Expr} (f : Nat)
    (h : Refines env a' a) (hc : chunks a' = chunks a) (hw : WF (.mapBlocks f a)) :
    Refines env (.mapBlocks f a') (.mapBlocks f a) :=
  ⟨h.isWF, h.shapeEq, fun i hi => by
    simp only [denGet, hc, h.shapeEq]
    exact mapBlocks_get_congr henv hw f h.denEq hi⟩

theorem Refines.concatL {env : Env} {a' a b : Expr} (ax : Nat) (h : Refines env a' a)
    (hc : chunks a' = chunks a) (hw : WF (.concat a b ax)) :
    Refines env (.concat a' b ax) (.concat a b ax) :=
  have ⟨_, hb, hax, hshp, hchk⟩ := WF_concat.mp hw
  ⟨WF_concat.mpr ⟨h.isWF, hb, h.shapeEq ▸ hax, h.shapeEq ▸ hshp, hc ▸ hchk⟩,
    by simp only [shape, h.shapeEq], fun i hi => by
      simp only [denGet, h.shapeEq]
      split
      · rename_i hlt
        exact h.denEq i (InB_of_set hi hlt)
      · rfl⟩

theorem Refines.concatR {env : Env} {a b' b : Expr} (ax : Nat) (h : Refines env b' b)
    (hc : chunks b' = chunks b) (hw : WF (.concat a b ax)) :
    Refines env (.concat a b' ax) (.concat a b ax) :=
  have ⟨ha, _, hax, hshp, hchk⟩ := WF_concat.mp hw
  ⟨WF_concat.mpr ⟨ha, h.isWF, hax, h.shapeEq ▸ hshp, hc ▸ hchk⟩,
    by simp only [shape, h.shapeEq], fun i hi => by
      simp only [denGet]
      split
      · rfl
      · rename_i hge
        exact h.denEq _ (InB_concat_right hax hshp hi hge)⟩

def Sound (r : Expr → Option Expr) : Prop :=
  ∀ (env : Env) (e e' : Expr), WF e → r e = some e' → Refines env e' e

theorem refines_congruence (env : Env) (henv : EnvOK env) :
    Congruence (fun a' a => WF a → Refines env a' a) where
  map f _ _ h hw := (h hw).map f
  zipL f _ _ _ h hc hw := (h (WF_zip.mp hw).1).zipL f hc hw
  zipR f _ _ _ h hc hw := (h (WF_zip.mp hw).2.1).zipR f hc hw
  slice idx h hw := (h (WF_slice.mp hw).1).slice idx hw
  transpose perm h hw := (h (WF_transpose.mp hw).1).transpose perm hw
  rechunk l h hw := (h (WF_rechunk.mp hw).1).rechunk l hw
  concatL _ ax h hc hw := (h (WF_concat.mp hw).1).concatL ax hc hw
  concatR _ _ _ ax h hc hw := (h (WF_concat.mp hw).2.1).concatR ax hc hw
  expandDims ax h hw := (h (WF_expandDims.mp hw).1).expandDims ax hw
  squeeze ax h hc hw := (h (WF_squeeze.mp hw).1).squeeze ax hc hw
  broadcastTo sh l h hc hw := (h (WF_broadcastTo.mp hw).1).broadcastTo sh l hc hw
  reduce r _ _ ax k h hc hw := (h (WF_reduce.mp hw).1).reduce r ax k hc hw
  cumsum ax h hw := (h (WF_cumsum.mp hw).1).cumsum ax hw
  mapBlocks f _ _ h hc hw := (h hw).mapBlocks henv f hc hw

theorem stepWith_sound (rs : List (String × (Expr → Option Expr))) (h : ∀ r ∈ rs, Sound r.2)
    (env : Env) (henv : EnvOK env) : ∀ e p, WF e → stepWith rs e = some p → Refines env p.2 e :=
  fun e p hw hp => stepWith_rel (refines_congruence env henv) rs
    (fun e => firstRule_elim fun r hr e' he hw => h r hr env e e' hw he) e p hp hw

end Dask.ND
