/-
The loop invariant of `reshape_rechunk` (`Model/Reshape.lean`): whatever the `while ii >= 0 or oi >= 0`
loop has filled in so far (slots right of `ii` / `oi`) is `Grouped` (Model/ReshapeSpec.lean).  Proved on the
line-by-line model itself, Python index wrap-around included: once one side is exhausted the implementation
keeps reading `inshape[-1]`, `inshape[-2]`, … ; for arrays without zero-length axes and equal sizes the
remaining lengths are all 1 and those reads only re-write `(1,)` over `(1,)`.
What every reshape theorem about `plan` starts from is the last statement, `plan_facts`: `plan_grouped` composed with
Lemmas/ReshapeMath.lean (`Grouped` layouts are block for block, element for element the same flat data, and valid).
-/
import DaskArrayModel.Lemmas.ReshapeSlots
import DaskArrayModel.Lemmas.ReshapeMath
namespace Dask.Reshape
open Dask.ND

/-- first processed slot for a running index `x` -/
def pidx (x : Int) : Nat := (x + 1).toNat

theorem pidx_nat (k : Nat) : pidx (k : Int) = k + 1 := Int.toNat_natCast_add_one
theorem pidx_pred (k : Nat) : pidx ((k : Int) - 1) = k := by unfold pidx; rw [Int.sub_add_cancel, Int.toNat_natCast]
theorem pidx_neg {x : Int} (h : x < 0) : pidx x = 0 := Int.toNat_eq_zero.mpr (Int.add_one_le_iff.mpr h)

theorem pred_lt {x y : Int} (h : x < y) : x - 1 < y := Int.lt_trans (Int.sub_lt_self x (by decide)) h

def SomeFrom (p : Nat) (r : Slots) : Prop := ∀ k, p ≤ k → k < r.length → ∃ c, r[k]? = some (some c)

/-- from `p` on, an axis of length 1 has the slot `(1,)`: what makes the wrapped reads of an exhausted side harmless,
they re-write `(1,)` over `(1,)` -/
def OnesFrom (shape : List Nat) (p : Nat) (r : Slots) : Prop :=
  ∀ k, p ≤ k → shape[k]? = some 1 → r[k]? = some (some [1])

/-- one side of the loop state: running index `x` (may have gone negative), result slots `r` filled right of it -/
structure Side (shape : List Nat) (x : Int) (r : Slots) : Prop where
  len : r.length = shape.length
  bound : x < shape.length
  filled : SomeFrom (pidx x) r
  ones : OnesFrom shape (pidx x) r

/-- the loop invariant of `reshape_rechunk`; the axes already written are those right of the two running indices -/
structure Inv (inshape outshape : List Nat) (s : St) : Prop where
  sin : Side inshape s.ii s.rin
  sout : Side outshape s.oi s.rout
  grp : Grouped ((axes inshape s.rin).drop (pidx s.ii)) ((axes outshape s.rout).drop (pidx s.oi))

theorem wf_get {inshape : List Nat} {inchunks : List Chunks} (hwf : WFIn inshape inchunks) {k d : Nat}
    (h : inshape[k]? = some d) : ∃ c, inchunks[k]? = some c ∧ NormAxis c ∧ c.sum = d := by
  obtain ⟨hk, _⟩ := List.getElem?_eq_some_iff.mp h
  obtain ⟨c, hc⟩ : ∃ c, inchunks[k]? = some c := ⟨_, List.getElem?_eq_getElem (hwf.1 ▸ hk)⟩
  obtain ⟨h1, h2⟩ := hwf.2 k hk
  rw [getD_of_getElem? hc] at h1 h2
  rw [getD_of_getElem? h] at h2
  exact ⟨c, hc, h1, h2⟩

theorem wf_pyGet {inshape : List Nat} {inchunks : List Chunks} (hwf : WFIn inshape inchunks) {x : Int}
    {d : Nat} {c : Chunks} (hd : pyGet inshape x = .ok d) (hc : pyGet inchunks x = .ok c) :
    NormAxis c ∧ c.sum = d := by
  obtain ⟨w, hw, hv⟩ := pyGet_ok hd
  obtain ⟨w', hw', hv'⟩ := pyGet_ok hc
  rw [hwf.1, hw] at hw'
  simp only [Option.some.injEq] at hw'
  subst hw'
  obtain ⟨c', h1, h2, h3⟩ := wf_get hwf hv
  rw [hv'] at h1
  simp only [Option.some.injEq] at h1
  subst h1
  exact ⟨h2, h3⟩

theorem norm_len_ones {c : Chunks} (h : NormAxis c) (hs : c.sum = c.length) : allOnes c = true := by
  rcases h with h | ⟨_, hp⟩
  · subst h; simp at hs
  · exact (pos_sum_len hp).2 hs

theorem prodL_eq_one : ∀ (l : List Nat), prodL l = 1 → ∀ x ∈ l, x = 1
  | [], _ => by simp
  | y :: ys, h => by
    simp only [prodL] at h
    have h1 : y = 1 := Nat.eq_one_of_mul_eq_one_right h
    have h2 : prodL ys = 1 := Nat.eq_one_of_mul_eq_one_left h
    intro x hx
    rcases List.mem_cons.mp hx with e | e
    · rw [e]; exact h1
    · exact prodL_eq_one ys h2 x e

theorem prodL_pos_iff : ∀ (l : List Nat), 0 < prodL l ↔ ∀ d ∈ l, 0 < d
  | [] => ⟨fun _ _ h => (nomatch h), fun _ => Nat.one_pos⟩
  | y :: ys => by
    rw [List.forall_mem_cons, ← prodL_pos_iff ys]
    exact ⟨fun h => ⟨Nat.pos_of_mul_pos_right h, Nat.pos_of_mul_pos_left h⟩, fun h => Nat.mul_pos h.1 h.2⟩

theorem exhausted_ones {X Y : List Nat} {p : Nat} (hg : prodL X = prodL (Y.drop p))
    (hprod : prodL X = prodL Y) (hpos : 0 < prodL X) : ∀ k, k < p → ∀ d, Y[k]? = some d → d = 1 := by
  have h1 : 1 * prodL X = prodL (Y.take p) * prodL X := by
    rw [Nat.one_mul, hg, ← prodL_append, List.take_append_drop, ← hprod, hg]
  intro k hk d hd
  exact prodL_eq_one _ (Nat.eq_of_mul_eq_mul_right hpos h1).symm d
    (List.mem_iff_getElem?.mpr ⟨k, (List.getElem?_take_of_lt hk).trans hd⟩)

theorem Side.init (shape : List Nat) :
    Side shape ((shape.length : Int) - 1) (List.replicate shape.length none) ∧
      (axes shape (List.replicate shape.length none)).drop (pidx ((shape.length : Int) - 1)) = [] := by
  rw [pidx_pred]
  refine ⟨⟨List.length_replicate, Int.sub_lt_self _ (by decide), ?_, ?_⟩, ?_⟩
  · intro k hk hkl
    rw [pidx_pred] at hk
    rw [List.length_replicate] at hkl
    exact absurd hkl (Nat.not_lt_of_le hk)
  · intro k hk hk1
    rw [pidx_pred] at hk
    exact absurd (List.getElem?_eq_some_iff.mp hk1).1 (Nat.not_lt_of_le hk)
  · exact List.drop_eq_nil_of_le (Nat.le_of_eq (axes_length List.length_replicate))

theorem Side.set {shape : List Nat} {r : Slots} {k d : Nat} {c : Chunks} (h : Side shape (k : Int) r)
    (hd : shape[k]? = some d) (h1 : d = 1 → c = [1]) :
    Side shape ((k : Int) - 1) (r.set k (some c)) ∧
      (axes shape (r.set k (some c))).drop (pidx ((k : Int) - 1)) = (d, c) :: (axes shape r).drop (pidx (k : Int)) := by
  have hk : k < r.length := h.len ▸ (List.getElem?_eq_some_iff.mp hd).1
  have hf := h.filled
  have ho := h.ones
  rw [pidx_nat] at hf ho
  rw [pidx_pred, pidx_nat]
  refine ⟨⟨(List.length_set ..).trans h.len, pred_lt h.bound, ?_, ?_⟩, axes_drop_set hd hk⟩
  · rw [pidx_pred]
    intro j hj hjl
    rcases Nat.eq_or_lt_of_le hj with rfl | hlt
    · exact ⟨c, List.getElem?_set_self hk⟩
    · rw [List.getElem?_set_ne (Nat.ne_of_lt hlt)]
      exact hf j hlt ((List.length_set ..) ▸ hjl)
  · rw [pidx_pred]
    intro j hj hj1
    rcases Nat.eq_or_lt_of_le hj with rfl | hlt
    · cases hd.symm.trans hj1
      rw [List.getElem?_set_self hk, h1 rfl]
    · rw [List.getElem?_set_ne (Nat.ne_of_lt hlt)]
      exact ho j hlt hj1

theorem Side.group {shape : List Nat} {r r' : Slots} {L i : Nat} (h : Side shape (i : Int) r)
    (hlen' : r'.length = r.length) (hL : L ≤ i)
    (hframe : ∀ k, i + 1 ≤ k → r'[k]? = r[k]?) (g : SlotGroup shape L i r') :
    Side shape ((L : Int) - 1) r' ∧
      ∃ G, PivotForm G ∧ (∀ a ∈ G, ValidAx a) ∧
        (axes shape r').drop (pidx ((L : Int) - 1)) = G ++ (axes shape r).drop (pidx (i : Int)) ∧
        sizeA G = prodL ((shape.drop L).take (i + 1 - L)) ∧
        chunksA G = ((val r').drop L).take (i + 1 - L) := by
  have hf := h.filled
  have ho := h.ones
  rw [pidx_nat] at hf ho
  have hlen2 : r'.length = shape.length := hlen'.trans h.len
  obtain ⟨g1, g2, g3⟩ := g.toAxes hL
  rw [pidx_pred, pidx_nat]
  refine ⟨⟨hlen2, pred_lt (Int.lt_of_le_of_lt (Int.ofNat_le.mpr hL) h.bound), ?_, ?_⟩, _, g1, g2, ?_, ?_, chunksA_axes_seg hlen2 L _⟩
  · rw [pidx_pred]
    intro k hk hkl
    rcases Nat.lt_or_ge i k with h' | h'
    · rw [hframe k h']; exact hf k h' (hlen' ▸ hkl)
    · obtain ⟨c, _, h1, _⟩ := g.slot k hk h'
      exact ⟨c, h1⟩
  · rw [pidx_pred]
    intro k hk hk1
    rcases Nat.lt_or_ge i k with h' | h'
    · rw [hframe k h']; exact ho k h' hk1
    · obtain ⟨c, d, h1, h2, _, h4⟩ := g.slot k hk h'
      cases h2.symm.trans hk1
      rw [h1, h4 rfl]
  · exact g3.trans (by rw [axes_drop_congr hframe])
  · unfold sizeA; rw [shapeA_axes_seg hlen2]

theorem Side.write {shape : List Nat} {r r' : Slots} {x : Int} {d : Nat} {c : Chunks} (h : Side shape x r)
    (hd : pyGet shape x = .ok d) (hc : d = 1 → c = [1]) (hneg : x < 0 → d = 1)
    (hset : pySet r x (some c) = .ok r') :
    Side shape (x - 1) r' ∧
      ((0 ≤ x ∧ (axes shape r').drop (pidx (x - 1)) = (d, c) :: (axes shape r).drop (pidx x)) ∨
       (x < 0 ∧ (axes shape r').drop (pidx (x - 1)) = (axes shape r).drop (pidx x))) := by
  rcases Int.lt_or_le x 0 with hx | hx
  · -- a wrapped index reaches a length-1 axis right of the front: `(1,)` is written over `(1,)`
    have hf := h.filled
    have ho := h.ones
    rw [pidx_neg hx] at hf ho
    obtain ⟨w, hw, hv⟩ := pyGet_ok hd
    obtain ⟨w', hw', rfl⟩ := pySet_ok hset
    rw [h.len, hw] at hw'
    cases hw'
    rw [hc (hneg hx), ← getD_of_getElem? (d := none) (ho w (Nat.zero_le _) (by rw [hv, hneg hx])),
      Dask.Py.set_getD_same]
    refine ⟨⟨h.len, pred_lt h.bound, ?_, ?_⟩, Or.inr ⟨hx, ?_⟩⟩
    · rw [pidx_neg (pred_lt hx)]; exact hf
    · rw [pidx_neg (pred_lt hx)]; exact ho
    · rw [pidx_neg hx, pidx_neg (pred_lt hx)]
  · obtain ⟨k, rfl⟩ := Int.eq_ofNat_of_zero_le hx
    obtain ⟨_, hr'⟩ := pySet_nat_ok hset
    subst hr'
    obtain ⟨g1, g2⟩ := h.set (pyGet_nat_ok hd) hc
    exact ⟨g1, Or.inl ⟨hx, g2⟩⟩

theorem val_seg_eq {r : Slots} {l : List Chunks} {L i : Nat}
    (h : ∀ k, L ≤ k → k ≤ i → ∃ c, r[k]? = some (some c) ∧ l[k]? = some c) :
    ((val r).drop L).take (i + 1 - L) = (l.drop L).take (i + 1 - L) := by
  apply List.ext_getElem?
  intro j
  simp only [List.getElem?_take, List.getElem?_drop]
  split
  · rename_i hj
    obtain ⟨c, h1, h2⟩ := h (L + j) (Nat.le_add_right L j) (Nat.le_of_lt_succ (Nat.add_lt_of_lt_sub' hj))
    rw [val_getElem?, h1, h2]; rfl
  · rfl

theorem val_seg_of_some {r : Slots} {cs : List Chunks} {L cnt : Nat}
    (h : (r.drop L).take cnt = cs.map some) : ((val r).drop L).take cnt = cs := by
  unfold val
  rw [← List.map_drop, ← List.map_take, h, List.map_map]
  have : ((fun (o : Option Chunks) => o.getD []) ∘ some) = id := by funext x; rfl
  rw [this]; simp

theorem crossProd_ones_prefix (pre : List Chunks) (c : Chunks) : (∀ x ∈ pre, allOnes x = true) →
    crossProd (pre ++ [c]) = repeatL c (prodL (pre.map List.length)) := by
  induction pre with
  | nil => intro _; rw [List.nil_append, crossProd_single]; exact (List.append_nil c).symm
  | cons x pre ih =>
    intro h
    obtain ⟨d, rfl⟩ : ∃ d, x = List.replicate d 1 :=
      ⟨x.length, List.eq_replicate_iff.mpr ⟨rfl, (allOnes_iff x).mp (h x List.mem_cons_self)⟩⟩
    rw [List.cons_append, crossProd_ones_cons, ih fun y hy => h y (List.mem_cons_of_mem _ hy), repeatL_mul,
      List.map_cons, List.length_replicate]
    rfl

/-- what `for k in range(L + 1, i + 1): r[k] = (shape[k],)` followed by `r[L] = e` leaves in the slots: a group
whose free slot is `L` -/
theorem fulls_then_set {shape : List Nat} {r r1 r2 : Slots} {L i dL : Nat} {e : Chunks} (hLi : L ≤ i)
    (hr1 : setMany (fun k => do let d ← pyGet shape k; pure [d]) r (pyRange ((L : Int) + 1) ((i : Int) + 1)) = .ok r1)
    (hr2 : pySet r1 (L : Int) (some e) = .ok r2)
    (hdL : shape[L]? = some dL) (hesum : e.sum = dL) (he1 : dL = 1 → e = [1]) :
    r2.length = r.length ∧ (∀ k, i + 1 ≤ k → r2[k]? = r[k]?) ∧ SlotGroup shape L i r2 := by
  rw [← Int.natCast_add_one, ← Int.natCast_add_one] at hr1
  obtain ⟨l1, fr1, in1⟩ := setMany_range hr1
  obtain ⟨hL1, hr2⟩ := pySet_nat_ok hr2
  subst hr2
  have hfull : ∀ k, L < k → k ≤ i → ∃ d, shape[k]? = some d ∧ (r1.set L (some e))[k]? = some (some [d]) := by
    intro k hk1 hk2
    obtain ⟨_, v, hv, hr⟩ := in1 k hk1 (Nat.lt_succ_of_le hk2)
    rw [bind_ok] at hv
    obtain ⟨d, hd, hv⟩ := hv
    rw [pure_ok] at hv
    refine ⟨d, pyGet_nat_ok hd, ?_⟩
    rw [List.getElem?_set_ne (Nat.ne_of_lt hk1), hr, hv]
  refine ⟨(List.length_set ..).trans l1, fun k hk => ?_, fun k hk1 hk2 => ?_,
    L, Nat.le_refl _, hLi, fun k _ hk1 hk2 => absurd hk1 (Nat.not_le_of_lt hk2), fun k hk1 hk2 => ?_⟩
  · rw [List.getElem?_set_ne (Nat.ne_of_lt (Nat.lt_of_le_of_lt hLi hk))]; exact fr1 k (Or.inr hk)
  · rcases Nat.eq_or_lt_of_le hk1 with rfl | hlt
    · exact ⟨e, dL, List.getElem?_set_self hL1, hdL, hesum, he1⟩
    · obtain ⟨d, h1, h2⟩ := hfull k hlt hk2
      exact ⟨[d], d, h2, h1, Nat.add_zero d, fun hd => hd ▸ rfl⟩
  · obtain ⟨d, h1, h2⟩ := hfull k hk1 hk2
    rw [h2, getD_of_getElem? h1]

/-- The common core of the merge branch (on the input side) and the split branch (on the output side):
slots `L+1..i` are set to one whole chunk each and slot `L` to a valid chunking `e` of its axis; after
`_smooth_chunks` and `_calc_lower_dimension_chunks` the slots `L..i` are a group in pivot form and `low` is the
list of its block sizes. -/
theorem smoothed_group {shape : List Nat} {r r1 r2 r3 : Slots} {L i dL mx fuel : Nat} {e low : Chunks}
    (h : Side shape (i : Int) r) (hL : L ≤ i)
    (hr1 : setMany (fun k => do let d ← pyGet shape k; pure [d]) r
      (pyRange ((L : Int) + 1) ((i : Int) + 1)) = .ok r1)
    (hr2 : pySet r1 (L : Int) (some e) = .ok r2)
    (hdL : shape[L]? = some dL) (hesum : e.sum = dL) (he1 : dL = 1 → e = [1])
    (hsm : smooth fuel (L : Int) (i : Int) mx r2 = .ok r3)
    (hlow : calcLower r3 (L : Int) (i : Int) = .ok low) :
    Side shape ((L : Int) - 1) r3 ∧
      ∃ G, PivotForm G ∧ (∀ a ∈ G, ValidAx a) ∧
        (axes shape r3).drop (pidx ((L : Int) - 1)) = G ++ (axes shape r).drop (pidx (i : Int)) ∧
        mergedAx G = (prodL ((shape.drop L).take (i + 1 - L)), low) := by
  obtain ⟨hlen2, hframe, g2⟩ := fulls_then_set hL hr1 hr2 hdL hesum he1
  have hi : i < shape.length := Int.ofNat_lt.mp h.bound
  have rel := smooth_rel _ _ _ _ _ _ hsm
  have hlen3 : r3.length = r.length := rel.length.trans hlen2
  obtain ⟨side3, G, pf, vG, hGeq, hGsize, hGchunks⟩ := h.group hlen3 hL
    (fun k hk => (rel.frame k (Or.inr hk)).trans (hframe k hk)) (rel.group g2)
  refine ⟨side3, G, pf, vG, hGeq, ?_⟩
  obtain ⟨cs, hcs, hl⟩ := calcLower_ok hlow (hlen3.trans h.len ▸ hi)
  unfold mergedAx blockSizes
  rw [hGsize, hGchunks, val_seg_of_some hcs, hl]

section
variable {inshape outshape : List Nat} {inchunks : List Chunks}

/-- Once one side is exhausted the axis read on the OTHER side has length 1: all of the exhausted side is grouped
against the filled part of the other, and the sizes are equal. -/
theorem live_side_reads_one (hpos : Pos inshape) (hprod : prodL inshape = prodL outshape) {s : St}
    (hinv : Inv inshape outshape s) (hgo : 0 ≤ s.ii ∨ 0 ≤ s.oi) {din dout : Nat}
    (hdin : pyGet inshape s.ii = .ok din) (hdout : pyGet outshape s.oi = .ok dout) :
    (s.ii < 0 → dout = 1) ∧ (s.oi < 0 → din = 1) := by
  have hp : 0 < prodL inshape := (prodL_pos_iff _).mpr hpos
  have hsz := (grouped_equiv hinv.grp).size
  unfold sizeA at hsz
  rw [shapeA_axes_drop hinv.sin.len, shapeA_axes_drop hinv.sout.len] at hsz
  constructor
  · intro hneg
    obtain ⟨o, ho⟩ := Int.eq_ofNat_of_zero_le (hgo.resolve_left (Int.not_le.mpr hneg))
    rw [ho] at hdout
    rw [pidx_neg hneg] at hsz
    exact exhausted_ones hsz hprod hp o (by rw [ho, pidx_nat]; exact Nat.lt_succ_self o) dout
      (pyGet_nat_ok hdout)
  · intro hneg
    obtain ⟨i, hi⟩ := Int.eq_ofNat_of_zero_le (hgo.resolve_right (Int.not_le.mpr hneg))
    rw [hi] at hdin
    rw [pidx_neg hneg] at hsz
    exact exhausted_ones hsz.symm hprod.symm (hprod ▸ hp) i (by rw [hi, pidx_nat]; exact Nat.lt_succ_self i)
      din (pyGet_nat_ok hdin)

/-- slot `k ≤ i` after `for k in range(0, i + 1): rin[k] = inchunks[k]` in the "moving around blocks" case: it
holds the normalised chunking `c` of its axis of length `d`, cut into single elements when `k < i` -/
structure CopiedSlot (inshape : List Nat) (inchunks : List Chunks) (r : Slots) (i k : Nat) (c : Chunks) (d : Nat) :
    Prop where
  slot : r[k]? = some (some c)
  chunk : inchunks[k]? = some c
  len : inshape[k]? = some d
  norm : NormAxis c
  sum : c.sum = d
  ones : k < i → allOnes c = true

/-- the merge branch, "moving around blocks" case -/
theorem merge_special (hwf : WFIn inshape inchunks) {i o L : Nat} {rin rout rin1 rout1 : Slots}
    {din dout : Nat} {cii : Chunks}
    (hinv : Inv inshape outshape ⟨(i : Int), (o : Int), rin, rout⟩)
    (hdin : inshape[i]? = some din) (hdout : outshape[o]? = some dout) (hd1 : dout ≠ 1)
    (hLi : L < i) (hprodL : prodL ((inshape.drop L).take (i + 1 - L)) = dout)
    (hb : allFull inshape inchunks (pyRange 0 (i : Int)) = .ok true)
    (hrin1 : setMany (fun k => pyGet inchunks k) rin (pyRange 0 ((i : Int) + 1)) = .ok rin1)
    (hcii : pyGet inchunks (i : Int) = .ok cii)
    (hrout1 : pySet rout (o : Int)
      (some (repeatL cii (prodL ((pySlice inchunks (L : Int) (i : Int)).map List.length)))) = .ok rout1) :
    Inv inshape outshape ⟨(L : Int) - 1, (o : Int) - 1, rin1, rout1⟩ := by
  have hi : i < inshape.length := (List.getElem?_eq_some_iff.mp hdin).1
  have hLi' : L ≤ i := Nat.le_of_lt hLi
  rw [← Int.natCast_add_one] at hrin1
  obtain ⟨l1, fr1, in1⟩ := setMany_range (a := 0) hrin1
  have hfull := allFull_range (a := 0) hb
  have hslot : ∀ k, k ≤ i → ∃ c d, CopiedSlot inshape inchunks rin1 i k c d := by
    intro k hk
    obtain ⟨_, v, hv, hr⟩ := in1 k (Nat.zero_le _) (Nat.lt_succ_of_le hk)
    obtain ⟨d, hd⟩ : ∃ d, inshape[k]? = some d := ⟨_, List.getElem?_eq_getElem (Nat.lt_of_le_of_lt hk hi)⟩
    obtain ⟨c, h1, h2, h3⟩ := wf_get hwf hd
    cases h1.symm.trans (pyGet_nat_ok hv)
    refine ⟨_, d, hr, h1, hd, h2, h3, fun hlt => ?_⟩
    obtain ⟨c', d', g1, g2, g3⟩ := hfull k (Nat.zero_le _) hlt
    cases h1.symm.trans g1
    cases hd.symm.trans g2
    exact norm_len_ones h2 (h3.trans g3.symm)
  obtain ⟨sideIn, G, pf, vG, hGeq, hGsize, hGchunks⟩ := hinv.sin.group (r' := rin1) (L := L) l1 hLi'
    (fun k hk => fr1 k (Or.inr hk))
    ⟨fun k _ hk2 => by
      obtain ⟨c, d, hs⟩ := hslot k hk2
      exact ⟨c, d, hs.slot, hs.len, hs.sum, fun hd => normAxis_one hs.norm (hs.sum.trans hd)⟩,
    i, hLi', Nat.le_refl _, fun k c _ hk2 hk => by
      obtain ⟨c', _, hs⟩ := hslot k (Nat.le_of_lt hk2)
      cases hs.slot.symm.trans hk
      exact hs.ones hk2, fun k hk1 hk2 => absurd hk2 (Nat.not_le_of_lt hk1)⟩
  obtain ⟨_, hr1⟩ := pySet_nat_ok hrout1
  obtain ⟨sideOut, hOeq⟩ := hinv.sout.set
    (c := repeatL cii (prodL ((pySlice inchunks (L : Int) (i : Int)).map List.length)))
    hdout (fun h => absurd h hd1)
  rw [← hr1] at sideOut hOeq
  refine ⟨sideIn, sideOut, ?_⟩
  dsimp only
  rw [hGeq, hOeq]
  -- the written tuple is the list of block sizes of the group
  have hseg : chunksA G = (inchunks.drop L).take (i - L) ++ [cii] := by
    rw [hGchunks, val_seg_eq (l := inchunks) (fun k _ hk2 => by
      obtain ⟨c, _, hs⟩ := hslot k hk2
      exact ⟨c, hs.slot, hs.chunk⟩)]
    rw [seg_split hLi' (Nat.le_refl i) (pyGet_nat_ok hcii), Nat.sub_self, List.take_zero]
  have hpre : ∀ x ∈ (inchunks.drop L).take (i - L), allOnes x = true := by
    intro x hx
    obtain ⟨k, _, hk2, hk⟩ := mem_seg hx
    obtain ⟨c, _, hs⟩ := hslot k (Nat.le_of_lt hk2)
    cases hs.chunk.symm.trans hk
    exact hs.ones hk2
  have g := Grouped.merge G pf vG hinv.grp
  unfold mergedAx blockSizes at g
  rw [hGsize, hprodL, hseg, crossProd_ones_prefix _ _ hpre] at g
  rw [pySlice_nat inchunks L i (hwf.1 ▸ Nat.le_of_lt hi)]
  exact g

/-- the merge branch `elif din < dout` -/
theorem merge_inv (hwf : WFIn inshape inchunks) {i o : Nat} {rin rout : Slots} {din dout : Nat} {s' : St}
    (hinv : Inv inshape outshape ⟨(i : Int), (o : Int), rin, rout⟩)
    (hdin : inshape[i]? = some din) (hdout : outshape[o]? = some dout) (hd1 : dout ≠ 1) (hne : din ≠ dout)
    (h : mergeStep inshape inchunks ⟨(i : Int), (o : Int), rin, rout⟩ dout = .ok s') :
    Inv inshape outshape s' := by
  have hi : i < inshape.length := (List.getElem?_eq_some_iff.mp hdin).1
  unfold mergeStep at h
  simp only [bind_ok] at h
  obtain ⟨ileft, hgl, p, hp, h⟩ := h
  by_cases hpd : p ≠ dout
  · rw [if_pos hpd] at h; cases h
  rw [if_neg hpd] at h
  obtain ⟨L, rfl, hLi, hprodL⟩ := group_left hdin hne hgl hp (Decidable.not_not.mp hpd)
  rw [bind_ok] at h
  obtain ⟨b, hb, h⟩ := h
  cases b with
  | true =>
    rw [if_pos rfl] at h
    simp only [bind_ok, pure_ok] at h
    obtain ⟨rin1, hrin1, cii, hcii, rout1, hrout1, rfl⟩ := h
    exact merge_special hwf hinv hdin hdout hd1 hLi hprodL hb hrin1 hcii hrout1
  | false =>
    -- `expand_tuple`, `_smooth_chunks`, `_calc_lower_dimension_chunks`
    rw [if_neg Bool.false_ne_true] at h
    simp only [bind_ok, pure_ok] at h
    obtain ⟨rin1, hrin1, cr, _, cl, hcl, e, he, rin2, hrin2, mx, _, rin3, hsm, low, hlow, rout1, hrout1, rfl⟩ := h
    obtain ⟨dL, hdL⟩ : ∃ d, inshape[L]? = some d := ⟨_, List.getElem?_eq_getElem (Nat.lt_trans hLi hi)⟩
    obtain ⟨c, h1, h2, h3⟩ := wf_get hwf hdL
    cases h1.symm.trans (pyGet_nat_ok hcl)
    have hes : e.sum = dL := (expandTuple_sum_pos he).1.trans h3
    obtain ⟨sideIn, G, pf, vG, hGeq, hGm⟩ := smoothed_group hinv.sin (Nat.le_of_lt hLi) hrin1 hrin2 hdL hes
      (fun h1' => pos_sum_one ((expandTuple_sum_pos he).2 (by rw [normAxis_one h2 (h3.trans h1')]; simp)) (hes.trans h1'))
      hsm hlow
    obtain ⟨_, hr1⟩ := pySet_nat_ok hrout1
    obtain ⟨sideOut, hOeq⟩ := hinv.sout.set (c := low) hdout (fun h => absurd h hd1)
    rw [← hr1] at sideOut hOeq
    refine ⟨sideIn, sideOut, ?_⟩
    dsimp only
    rw [hGeq, hOeq, ← hprodL, ← hGm]
    exact Grouped.merge G pf vG hinv.grp

/-- the split branch `elif din > dout` -/
theorem split_inv (hwf : WFIn inshape inchunks) {i o : Nat} {rin rout : Slots} {din dout : Nat} {noExpand : Bool}
    {s' : St} (hinv : Inv inshape outshape ⟨(i : Int), (o : Int), rin, rout⟩)
    (hdin : inshape[i]? = some din) (hdout : outshape[o]? = some dout) (hd1 : din ≠ 1) (hne : dout ≠ din)
    (h : splitStep outshape inchunks noExpand ⟨(i : Int), (o : Int), rin, rout⟩ din = .ok s') :
    Inv inshape outshape s' := by
  have ho : o < outshape.length := (List.getElem?_eq_some_iff.mp hdout).1
  unfold splitStep at h
  by_cases hx : noExpand = true
  · rw [if_pos hx] at h; cases h
  rw [if_neg hx] at h
  simp only [bind_ok] at h
  obtain ⟨oleft, hgl, p, hp, h⟩ := h
  by_cases hpd : p ≠ din
  · rw [if_pos hpd] at h; cases h
  rw [if_neg hpd] at h
  obtain ⟨L, rfl, hLo, hprodL⟩ := group_left hdout hne hgl hp (Decidable.not_not.mp hpd)
  simp only [bind_ok, pure_ok] at h
  obtain ⟨cs, hcs, cii, hcii, ct, hct, rin1, hrin1, rout1, hrout1, rout2, hrout2, mx, _, rout3, hsm, low, hlow,
    rin2, hrin2, rfl⟩ := h
  obtain ⟨dL, hdL⟩ : ∃ d, outshape[L]? = some d := ⟨_, List.getElem?_eq_getElem (Nat.lt_trans hLo ho)⟩
  -- `cs` is the product of the trailing output lengths: `din = outshape[L] * cs`
  rw [← Int.natCast_add_one, ← Int.natCast_add_one, pySlice_nat outshape _ _ ho] at hcs
  have hdecomp : din = dL * cs := by
    rw [← hprodL, seg_split (Nat.le_refl L) (Nat.le_of_lt hLo) hdL, Nat.sub_self, List.take_zero,
      (reduceMul_ok hcs).2]
    rfl
  obtain ⟨c, h1, h2, h3⟩ := wf_get hwf hdin
  cases h1.symm.trans (pyGet_nat_ok hcii)
  obtain ⟨hq, hqpos⟩ := contractTuple_quot hct (h3.trans hdecomp)
  obtain ⟨sideOut, G, pf, vG, hGeq, hGm⟩ := smoothed_group hinv.sout (Nat.le_of_lt hLo) hrout1 hrout2 hdL hq
    (fun h1' => pos_sum_one hqpos (hq.trans h1')) hsm hlow
  obtain ⟨_, hr1⟩ := pySet_nat_ok hrin1
  obtain ⟨_, hr2⟩ := pySet_nat_ok hrin2
  have hr2' : rin2 = rin.set i (some low) := by rw [hr2, hr1, List.set_set]
  obtain ⟨sideIn, hIeq⟩ := hinv.sin.set (c := low) hdin (fun h => absurd h hd1)
  rw [← hr2'] at sideIn hIeq
  refine ⟨sideIn, sideOut, ?_⟩
  dsimp only
  rw [hGeq, hIeq, ← hprodL, ← hGm]
  exact Grouped.split G pf vG hinv.grp

theorem step_inv (hwf : WFIn inshape inchunks) (hpos : Pos inshape) (hprod : prodL inshape = prodL outshape)
    {noExpand : Bool} {s s' : St} (hinv : Inv inshape outshape s) (hgo : 0 ≤ s.ii ∨ 0 ≤ s.oi)
    (h : step inshape outshape inchunks noExpand s = .ok s') : Inv inshape outshape s' := by
  obtain ⟨ii, oi, rin, rout⟩ := s
  unfold step at h
  simp only [bind_ok] at h
  obtain ⟨din, hdin, dout, hdout, h⟩ := h
  obtain ⟨t1, t2⟩ := live_side_reads_one hpos hprod hinv hgo hdin hdout
  simp only at t1 t2 hgo hdin hdout
  have sin0 : Side inshape ii rin := hinv.sin
  have sout0 : Side outshape oi rout := hinv.sout
  have grp0 := hinv.grp
  dsimp only at grp0
  by_cases heq : din = dout
  · -- `inshape[ii] == outshape[oi]`
    rw [if_pos heq] at h
    simp only [bind_ok, pure_ok] at h
    obtain ⟨c, hc, rin', hrin', rout', hrout', rfl⟩ := h
    obtain ⟨hnorm, hsum⟩ := wf_pyGet hwf hdin hc
    have hc1 : din = 1 → c = [1] := fun h1 => normAxis_one hnorm (hsum.trans h1)
    obtain ⟨sIn, cIn⟩ := sin0.write hdin hc1 (fun hx => heq.trans (t1 hx)) hrin'
    obtain ⟨sOut, cOut⟩ := sout0.write hdout (fun h1 => hc1 (heq.trans h1)) (fun hx => heq.symm.trans (t2 hx)) hrout'
    refine ⟨sIn, sOut, ?_⟩
    dsimp only
    rcases cIn with ⟨hi0, eIn⟩ | ⟨hi0, eIn⟩ <;> rcases cOut with ⟨ho0, eOut⟩ | ⟨ho0, eOut⟩
    · rw [eIn, eOut, ← heq]; exact Grouped.eq (din, c) hsum grp0
    · have h1 := t2 ho0
      rw [eIn, eOut, hc1 h1, h1]; exact Grouped.in1 grp0
    · have h1 := t1 hi0
      rw [eIn, eOut, hc1 (heq.trans h1), h1]; exact Grouped.out1 grp0
    · rcases hgo with h0 | h0
      · exact absurd hi0 (Int.not_lt.mpr h0)
      · exact absurd ho0 (Int.not_lt.mpr h0)
  rw [if_neg heq] at h
  by_cases hd1 : din = 1
  · rw [if_pos hd1] at h
    simp only [bind_ok, pure_ok] at h
    obtain ⟨rin', hrin', rfl⟩ := h
    obtain ⟨sIn, cIn⟩ := sin0.write (c := [1]) hdin (fun _ => rfl) (fun _ => hd1) hrin'
    refine ⟨sIn, sout0, ?_⟩
    dsimp only
    rcases cIn with ⟨_, eIn⟩ | ⟨hx, _⟩
    · rw [eIn, hd1]; exact Grouped.in1 grp0
    · exact absurd (hd1.trans (t1 hx).symm) heq
  rw [if_neg hd1] at h
  by_cases hd2 : dout = 1
  · rw [if_pos hd2] at h
    simp only [bind_ok, pure_ok] at h
    obtain ⟨rout', hrout', rfl⟩ := h
    obtain ⟨sOut, cOut⟩ := sout0.write (c := [1]) hdout (fun _ => rfl) (fun _ => hd2) hrout'
    refine ⟨sin0, sOut, ?_⟩
    dsimp only
    rcases cOut with ⟨_, eOut⟩ | ⟨hx, _⟩
    · rw [eOut, hd2]; exact Grouped.out1 grp0
    · exact absurd (t2 hx) hd1
  rw [if_neg hd2] at h
  -- merge or split: both running indices are non-negative
  obtain ⟨i, rfl⟩ := Int.eq_ofNat_of_zero_le (Int.not_lt.mp (fun hx => hd2 (t1 hx)))
  obtain ⟨o, rfl⟩ := Int.eq_ofNat_of_zero_le (Int.not_lt.mp (fun hx => hd1 (t2 hx)))
  by_cases hlt : din < dout
  · rw [if_pos hlt] at h
    exact merge_inv hwf hinv (pyGet_nat_ok hdin) (pyGet_nat_ok hdout) hd2 heq h
  · rw [if_neg hlt] at h
    exact split_inv hwf hinv (pyGet_nat_ok hdin) (pyGet_nat_ok hdout) hd1 (Ne.symm heq) h

theorem loop_inv (hwf : WFIn inshape inchunks) (hpos : Pos inshape) (hprod : prodL inshape = prodL outshape)
    {noExpand : Bool} (fuel : Nat) : ∀ s s' : St, Inv inshape outshape s →
    loop inshape outshape inchunks noExpand fuel s = .ok s' → Inv inshape outshape s' ∧ s'.ii < 0 ∧ s'.oi < 0 := by
  induction fuel with
  | zero => exact fun _ _ _ h => nomatch h
  | succ fuel ih =>
    intro s s' hinv h
    -- `loop … (fuel + 1) s` is `if 0 ≤ s.ii ∨ 0 ≤ s.oi then step … s >>= loop … fuel else pure s`, by definition
    by_cases hgo : 0 ≤ s.ii ∨ 0 ≤ s.oi
    · obtain ⟨s1, hs1, h⟩ := bind_ok.mp ((if_pos hgo).symm.trans h)
      exact ih s1 s' (step_inv hwf hpos hprod hinv hgo hs1) h
    · cases pure_ok.mp ((if_neg hgo).symm.trans h)
      exact ⟨hinv, Int.not_le.mp fun h => hgo (Or.inl h), Int.not_le.mp fun h => hgo (Or.inr h)⟩

end

theorem unslot_val (r : Slots) : SomeFrom 0 r → unslot r = .ok (val r) := by
  induction r with
  | nil => exact fun _ => rfl
  | cons o r ih =>
    intro h
    obtain ⟨c, hc⟩ := h 0 (Nat.le_refl _) (Nat.succ_pos _)
    cases (Option.some.inj hc : o = some c)
    show (unslot r >>= fun cs => pure (c :: cs)) = _
    rw [ih fun k _ hk => h (k + 1) (Nat.zero_le _) (Nat.succ_lt_succ hk)]; rfl

theorem plan_grouped {inshape outshape : List Nat} {inchunks ic oc : List Chunks}
    (hwf : WFIn inshape inchunks) (hpos : Pos inshape) (hprod : prodL inshape = prodL outshape)
    (h : plan inshape outshape inchunks = .ok (ic, oc)) :
    ic.length = inshape.length ∧ oc.length = outshape.length ∧
      Grouped (List.zip inshape ic) (List.zip outshape oc) := by
  unfold plan planRaw at h
  simp only [bind_ok, pure_ok] at h
  obtain ⟨r, ⟨sF, hloop, hr⟩, a, ha, b, hb, hab⟩ := h
  obtain ⟨si, ei⟩ := Side.init inshape
  obtain ⟨so, eo⟩ := Side.init outshape
  have hinit : Inv inshape outshape ⟨(inshape.length : Int) - 1, (outshape.length : Int) - 1,
      List.replicate inshape.length none, List.replicate outshape.length none⟩ :=
    ⟨si, so, by
      dsimp only
      rw [ei, eo]; exact Grouped.nil⟩
  obtain ⟨hF, hi, ho⟩ := loop_inv hwf hpos hprod _ _ _ hinit hloop
  have fi := hF.sin.filled
  have fo := hF.sout.filled
  have gF := hF.grp
  rw [pidx_neg hi] at fi gF
  rw [pidx_neg ho] at fo gF
  rw [← hr] at ha hb
  simp only at ha hb
  rw [unslot_val _ fi] at ha
  rw [unslot_val _ fo] at hb
  simp only [Except.ok.injEq] at ha hb
  simp only [Prod.mk.injEq] at hab
  obtain ⟨h1, h2⟩ := hab
  subst h1 h2
  rw [← ha, ← hb]
  refine ⟨by rw [val_length, hF.sin.len], by rw [val_length, hF.sout.len], ?_⟩
  simpa [axes] using gF

theorem isLayout_of_valid {shape : List Nat} {cs : List Chunks} (hlen : cs.length = shape.length)
    (hv : ∀ a ∈ List.zip shape cs, ValidAx a) (hp : ∀ d ∈ shape, 0 < d) : IsLayout cs shape := by
  refine ⟨hlen, fun k hk => ?_⟩
  obtain ⟨d, hd⟩ : ∃ d, shape[k]? = some d := ⟨_, List.getElem?_eq_getElem hk⟩
  obtain ⟨c, hc⟩ : ∃ c, cs[k]? = some c := ⟨_, List.getElem?_eq_getElem (hlen ▸ hk)⟩
  have hs : c.sum = d := hv (d, c) (List.mem_iff_getElem?.mpr ⟨k, List.getElem?_zip_eq_some.mpr ⟨hd, hc⟩⟩)
  rw [getD_of_getElem? hc, getD_of_getElem? hd]
  refine ⟨fun hnil => ?_, hs⟩
  rw [hnil] at hs
  exact Nat.ne_of_gt (hp d (List.mem_of_getElem? hd)) hs.symm

section
variable {inshape outshape : List Nat} {inchunks ic oc : List Chunks}

theorem plan_facts (hwf : WFIn inshape inchunks) (hpos : Pos inshape) (hprod : prodL inshape = prodL outshape)
    (h : plan inshape outshape inchunks = .ok (ic, oc)) :
    ic.length = inshape.length ∧ oc.length = outshape.length ∧
      BlockEquiv (List.zip inshape ic) (List.zip outshape oc) ∧
      (∀ a ∈ List.zip inshape ic, ValidAx a) ∧ (∀ b ∈ List.zip outshape oc, ValidAx b) := by
  obtain ⟨h1, h2, hg⟩ := plan_grouped hwf hpos hprod h
  exact ⟨h1, h2, grouped_equiv hg, (grouped_valid hg).1, (grouped_valid hg).2⟩

end

end Dask.Reshape
