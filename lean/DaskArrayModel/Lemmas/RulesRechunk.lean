/-
Soundness of the rules whose product reads the same positions: slice through `map` / `zip`, and the
rechunk family (no-op, rechunk∘rechunk, through map / zip / transpose / expand_dims, into a NumPy
source, into a region read).
-/
import DaskArrayModel.Lemmas.RulesBase
namespace Dask.ND
open Dask.Py Dask.Py.PySlice Dask.Slicing

theorem sliceThroughMap_sound : Sound sliceThroughMap := by
  intro env e e' hw
  fun_cases sliceThroughMap e
  case case1 =>
    intro h
    cases h
    exact ⟨WF_slice.mpr (WF_slice.mp hw), rfl, fun i _ => rfl⟩
  case case2 => exact fun h => nomatch h

theorem sliceThroughZip_sound : Sound sliceThroughZip := by
  intro env e e' hw
  fun_cases sliceThroughZip e
  case case1 f a b idx =>
    intro h
    cases h
    obtain ⟨hz, hi⟩ := WF_slice.mp hw
    obtain ⟨ha, hb, hs, hc⟩ := WF_zip.mp hz
    exact ⟨WF_zip.mpr ⟨WF_slice.mpr ⟨ha, hi⟩, WF_slice.mpr ⟨hb, hs ▸ hi⟩, by simp only [shape, hs],
      by simp only [chunks, hs, hc]⟩, rfl, fun i _ => by simp only [denGet, shape, hs]⟩
  case case2 => exact fun h => nomatch h

theorem rechunkNoop_sound : Sound rechunkNoop := by
  intro env e e' hw
  fun_cases rechunkNoop e
  case case1 =>
    intro h
    cases h
    exact ⟨(WF_rechunk.mp hw).1, rfl, fun i _ => rfl⟩
  all_goals exact fun h => nomatch h

theorem rechunkRechunk_sound : Sound rechunkRechunk := by
  intro env e e' hw
  fun_cases rechunkRechunk e
  case case1 =>
    intro h
    cases h
    obtain ⟨hr, hl⟩ := WF_rechunk.mp hw
    exact ⟨WF_rechunk.mpr ⟨(WF_rechunk.mp hr).1, hl⟩, rfl, fun i _ => rfl⟩
  case case2 => exact fun h => nomatch h

theorem rechunkThroughMap_sound : Sound rechunkThroughMap := by
  intro env e e' hw
  fun_cases rechunkThroughMap e
  case case1 =>
    intro h
    cases h
    exact ⟨WF_rechunk.mpr (WF_rechunk.mp hw), rfl, fun i _ => rfl⟩
  case case2 => exact fun h => nomatch h

theorem rechunkThroughZip_sound : Sound rechunkThroughZip := by
  intro env e e' hw
  fun_cases rechunkThroughZip e
  case case1 f a b l =>
    intro h
    cases h
    obtain ⟨hz, hl⟩ := WF_rechunk.mp hw
    obtain ⟨ha, hb, hs, _⟩ := WF_zip.mp hz
    exact ⟨WF_zip.mpr ⟨WF_rechunk.mpr ⟨ha, hl⟩, WF_rechunk.mpr ⟨hb, hs ▸ hl⟩, hs, rfl⟩, rfl, fun i _ => rfl⟩
  case case2 => exact fun h => nomatch h

theorem rechunkIntoSrc_sound : Sound rechunkIntoSrc := by
  intro env e e' hw
  fun_cases rechunkIntoSrc e
  case case1 =>
    intro h
    cases h
    exact ⟨(WF_rechunk.mp hw).2, rfl, fun i _ => rfl⟩
  case case2 => exact fun h => nomatch h

theorem rechunkIntoRegion_sound : Sound rechunkIntoRegion := by
  intro env e e' hw
  fun_cases rechunkIntoRegion e
  case case1 hc =>
    intro h
    cases h
    exact ⟨WF_slice.mpr ⟨hc.1, (WF_slice.mp (WF_rechunk.mp hw).1).2⟩, rfl, fun i _ => rfl⟩
  all_goals exact fun h => nomatch h

theorem rechunkThroughTranspose_sound : Sound rechunkThroughTranspose := by
  intro env e e' hw
  fun_cases rechunkThroughTranspose e
  case case1 a perm l =>
    intro h
    cases h
    obtain ⟨hwt, hl⟩ := WF_rechunk.mp hw
    obtain ⟨ha, hp⟩ := WF_transpose.mp hwt
    have hp' := isPerm_ok hp
    obtain ⟨l1, l2⟩ := wfLayout_iff.mp hl
    have hll : l.length = (shape a).length := by
      have := length_of_map_sum l1; simpa [shape, hp'.len] using this
    refine ⟨WF_transpose.mpr ⟨WF_rechunk.mpr ⟨ha, wfLayout_iff.mpr ⟨?_, ?_⟩⟩, hp⟩, rfl, fun i _ => rfl⟩
    · -- the sums of the un-permuted chunks are the un-permuted shape
      rw [unpermL_map, l1]
      exact unpermL_perm hp' rfl 0
    · exact fun cs hcs => l2 cs (mem_unpermL hp' hll hcs)
  case case2 => exact fun h => nomatch h

theorem rechunkThroughExpandDims_sound : Sound rechunkThroughExpandDims := by
  intro env e e' hw
  fun_cases rechunkThroughExpandDims e
  -- the rule's guard `l[ax] = [1]` is not used: the values do not need it, it makes `.chunks` of the product `l`
  case case1 a ax l _ =>
    intro h
    cases h
    obtain ⟨he, hl⟩ := WF_rechunk.mp hw
    obtain ⟨ha, hax⟩ := WF_expandDims.mp he
    obtain ⟨l1, l2⟩ := wfLayout_iff.mp hl
    refine ⟨WF_expandDims.mpr ⟨WF_rechunk.mpr ⟨ha, wfLayout_iff.mpr ⟨?_, ?_⟩⟩, hax⟩, rfl, fun i _ => rfl⟩
    · rw [map_eraseIdx', l1]
      exact List.eraseIdx_insertIdx_self 1
    · intro cs hcs
      exact l2 cs (List.mem_of_mem_eraseIdx hcs)
  all_goals exact fun h => nomatch h

end Dask.ND
