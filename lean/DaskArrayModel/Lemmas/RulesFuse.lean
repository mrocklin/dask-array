/-
Soundness of slice∘slice fusion (`fuse_slice` + `normalize_slice`, from the C13 slice algebra),
identity-slice removal, and the integer split (`x[k] = x[k:k+1][0]`); the index facts behind the
last two (`sliceShape_colons` / `sliceIdx_colons`, `splitInts_sound`) are in ExprIndex.
-/
import DaskArrayModel.Lemmas.RulesBase
namespace Dask.ND
open Dask.Py Dask.Py.PySlice Dask.Slicing Dask.Lemmas.SliceAlgebra

theorem fuse_ok_stp_pos {a b f : PySlice} (h : fuseSliceSlice a b = .ok f) (ha : a.stp ≠ 0)
    (hb : b.stp ≠ 0) : f.stp = a.stp * b.stp ∧ 0 < a.stp ∧ 0 < b.stp := by
  obtain ⟨_, ha0, _, _, hb0, _⟩ := (fuseSliceSlice_ok_iff a b).mp ⟨f, h⟩
  have ha0 : 0 ≤ a.stp := ha0
  have hb0 : 0 ≤ b.stp := hb0
  rw [fuseSliceSlice_eq] at h
  split at h
  · cases h
  · injection h with h
    subst h
    exact ⟨stp_mk_ite _ _ _, by omega, by omega⟩

theorem fuse_axis_slc (a b f : PySlice) (n : Nat) (ha : a.stp ≠ 0) (hb : b.stp ≠ 0)
    (h : fuseSliceSlice a b = .ok f) :
    (normalizeSlice f n).stp ≠ 0 ∧
    (sel (normalizeSlice f n) n).length = (sel b ((sel a n).length : Nat)).length ∧
    ∀ x, x < (sel b ((sel a n).length : Nat)).length →
      ((sel (normalizeSlice f n) n).getD x 0).toNat
        = ((sel a n).getD ((sel b ((sel a n).length : Nat)).getD x 0).toNat 0).toNat := by
  obtain ⟨hf, hap, hbp⟩ := fuse_ok_stp_pos h ha hb
  have hfs : f.stp ≠ 0 := by
    rw [hf]; exact Int.ne_of_gt (Int.mul_pos hap hbp)
  have hn : (0 : Int) ≤ n := Int.natCast_nonneg n
  have hsel := fuseSliceSlice_sel a b f n hn h
  rw [← sel_normalizeSlice f n hn hfs] at hsel
  have hmap : (sel b ((sel a n).length : Nat)).filterMap (fun i => (sel a n)[i.toNat]?)
      = (sel b ((sel a n).length : Nat)).map (fun i => (sel a n).getD i.toNat 0) :=
    filterMap_getElem?_eq_map _ _ (sel_bounds b ((sel a n).length : Nat) (Int.natCast_nonneg _))
  rw [hmap] at hsel
  refine ⟨by rw [normalizeSlice_stp f n]; exact hfs, by rw [hsel]; simp, ?_⟩
  intro x hx
  rw [hsel, getD_map _ _ x 0 0 hx]

theorem fuse_axis_int (a : PySlice) (j r : Int) (n : Nat)
    (hj : -(((sel a n).length : Nat) : Int) ≤ j ∧ j < (((sel a n).length : Nat) : Int))
    (h : fuseSliceInt a j = .ok r) :
    (-(n : Int) ≤ r ∧ r < (n : Int)) ∧
    (posifyInt n r).toNat = ((sel a n).getD (posifyInt ((sel a n).length : Nat) j).toNat 0).toNat := by
  have hn : (0 : Int) ≤ n := Int.natCast_nonneg n
  have hj0 : 0 ≤ j := by
    rw [fuseSliceInt_eq] at h
    split at h
    · cases h
    · omega
  have hget := fuseSliceInt_sel a j r n hn h hj.2
  have hlt : j.toNat < (sel a n).length := by omega
  have hr : (sel a n).getD j.toNat 0 = r := by
    simp [List.getD_eq_getElem?_getD, hget]
  have hb := sel_getD_bounds a n hn j.toNat hlt
  rw [hr] at hb
  refine ⟨by omega, ?_⟩
  have e1 : posifyInt n r = r := by unfold posifyInt; rw [if_neg (by omega)]
  have e2 : posifyInt ((sel a n).length : Nat) j = j := by unfold posifyInt; rw [if_neg (by omega)]
  rw [e1, e2, hr]

theorem fuseIx_spec : ∀ (sh : List Nat) (a b f : List Ix), wfIx sh a = true →
    wfIx (sliceShape sh a) b = true → fuseIx sh a b = some f →
    wfIx sh f = true ∧ sliceShape sh f = sliceShape (sliceShape sh a) b ∧
      ∀ i, InB i (sliceShape sh f) → sliceIdx sh f i = sliceIdx sh a (sliceIdx (sliceShape sh a) b i) := by
  intro sh a b
  fun_induction fuseIx sh a b with
  | case1 =>
    intro f _ _ h
    injection h with h; subst h
    refine ⟨rfl, rfl, ?_⟩
    intro i hi
    cases i with
    | nil => rfl
    | cons _ _ => exact hi.elim
  | case2 n ns k ra b ih =>
    intro f ha hb h
    obtain ⟨f', hf', rfl⟩ := Option.map_eq_some_iff.mp h
    rw [wfIx_cons_int] at ha
    obtain ⟨i1, i2, i3⟩ := ih f' ha.2 hb hf'
    exact ⟨by rw [wfIx_cons_int]; exact ⟨ha.1, i1⟩, i2, fun i hi => congrArg (_ :: ·) (i3 i hi)⟩
  | case3 n ns s ra j rb r hr ih =>
    intro f ha hb h
    obtain ⟨f', hf', rfl⟩ := Option.map_eq_some_iff.mp h
    rw [wfIx_cons_slc] at ha
    rw [show sliceShape (n :: ns) (.slc s :: ra) = (sel s n).length :: sliceShape ns ra from rfl, wfIx_cons_int] at hb
    obtain ⟨i1, i2, i3⟩ := ih f' ha.2 hb.2 hf'
    obtain ⟨p1, p2⟩ := fuse_axis_int s j r n hb.1 hr
    exact ⟨by rw [wfIx_cons_int]; exact ⟨p1, i1⟩, i2, fun i hi => List.cons_eq_cons.mpr ⟨p2, i3 i hi⟩⟩
  | case4 n ns s ra j rb e hr =>
    intro f _ _ h
    cases h
  | case5 n ns s ra t rb f0 hr ih =>
    intro f ha hb h
    obtain ⟨f', hf', rfl⟩ := Option.map_eq_some_iff.mp h
    rw [wfIx_cons_slc] at ha
    rw [show sliceShape (n :: ns) (.slc s :: ra) = (sel s n).length :: sliceShape ns ra from rfl, wfIx_cons_slc] at hb
    obtain ⟨i1, i2, i3⟩ := ih f' ha.2 hb.2 hf'
    obtain ⟨p1, p2, p3⟩ := fuse_axis_slc s t f0 n ha.1 hb.1 hr
    refine ⟨by rw [wfIx_cons_slc]; exact ⟨p1, i1⟩, List.cons_eq_cons.mpr ⟨p2, i2⟩, ?_⟩
    intro i hi
    cases i with
    | nil => exact hi.elim
    | cons x i => exact List.cons_eq_cons.mpr ⟨p3 x (p2 ▸ hi.1), i3 i hi.2⟩
  | case6 n ns s ra t rb e hr =>
    intro f _ _ h
    cases h
  | case7 sh a b h1 h2 h3 h4 =>
    intro f _ _ h
    simp at h

theorem sliceSliceFuse_sound : Sound sliceSliceFuse := by
  intro env e e' hw
  fun_cases sliceSliceFuse e
  case case1 e0 a b =>
    intro h
    obtain ⟨f, hf, rfl⟩ := Option.map_eq_some_iff.mp h
    obtain ⟨hs, hb⟩ := WF_slice.mp hw
    obtain ⟨h0, ha⟩ := WF_slice.mp hs
    obtain ⟨i1, i2, i3⟩ := fuseIx_spec (shape e0) a b f ha hb hf
    exact ⟨WF_slice.mpr ⟨h0, i1⟩, i2, fun i hi => congrArg (denGet env e0) (i3 i (i2 ▸ hi))⟩
  case case2 => exact fun h => nomatch h

theorem sliceIdentityDrop_sound : Sound sliceIdentityDrop := by
  intro env e e' hw
  fun_cases sliceIdentityDrop e
  case case1 =>
    intro h
    cases h
    refine ⟨(WF_slice.mp hw).1, (sliceShape_colons _).symm, fun i hi => ?_⟩
    exact congrArg (denGet env e') (sliceIdx_colons _ i (sliceShape_colons (shape e') ▸ hi)).symm
  all_goals exact fun h => nomatch h

theorem sliceIntoSrcKeep_sound : Sound sliceIntoSrcKeep := by
  intro env e e' hw
  fun_cases sliceIntoSrcKeep e
  case case1 =>
    intro h
    cases h
    exact Refines.refl hw
  case case2 => exact fun h => nomatch h

theorem sliceSplitInts_sound : Sound sliceSplitInts := by
  intro env e e' hw
  fun_cases sliceSplitInts e
  case case1 e0 idx _ =>
    intro h
    cases h
    obtain ⟨h0, hi⟩ := WF_slice.mp hw
    obtain ⟨i1, i2, i3, i4⟩ := splitInts_sound (shape e0) idx hi
    exact ⟨WF_slice.mpr ⟨WF_slice.mpr ⟨h0, i1⟩, i2⟩, i3, fun i hi => congrArg (denGet env e0) (i4 i hi)⟩
  all_goals exact fun h => nomatch h

end Dask.ND
