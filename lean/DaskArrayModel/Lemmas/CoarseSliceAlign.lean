/-
The gates of the operand loop of the coarse rule.  Per operand (no `_meta`, a broadcast axis, a zero-width chunk): one
declining operand makes the rule decline.  Across operands (`label_chunks.setdefault(...) != ...`):
the loops that thread `label_chunks` do what the loops without it do, while the dictionary only grows and holds the chunks
of every sliced axis under its label (`Grows`); so the rule with this gate fires only where the rule without it does, with
the same result.  At the end, the nodes of the witnesses of Props/C02Coarse.lean.
-/
import DaskArrayModel.Lemmas.CoarseSliceND
namespace Dask.Lemmas.Coarse
open Dask.Py Dask.Py.PySlice Dask.Slicing Dask.Coarse

theorem mapOpt_none_of_mem {α β : Type} (f : α → Option β) : ∀ (xs : List α) (x : α), x ∈ xs → f x = none →
    mapOpt f xs = none
  | [], _, h, _ => by simp at h
  | y :: ys, x, h, hx => by
    rw [mapOpt_cons]
    rw [List.mem_cons] at h
    rcases h with rfl | h
    · rw [hx]
    · cases f y with
      | none => rfl
      | some v => simp only; rw [mapOpt_none_of_mem f ys x h hx]; rfl

theorem operand_declines (n : Node) (oc : List (List Int)) (idx : List Idx) (o : Opd) (ho : o ∈ n.ops) :
    (o.ind.isSome = true → o.isArr = false → acceptCoarse0 n oc idx = none) ∧
    (∀ plans ind, axisPlans oc (fullIndex idx n.outInd.length) = some plans → o.ind = some ind →
      opAxesSlices n.outInd plans (oc.map List.length) ind o.chunks = none → acceptCoarse0 n oc idx = none) := by
  constructor
  · intro h1 h2
    unfold acceptCoarse0
    cases hp : axisPlans oc (fullIndex idx n.outInd.length) with
    | none => rfl
    | some plans =>
      simp only
      have : opSlice n.outInd plans (oc.map List.length) o = none := by
        unfold opSlice
        cases hi : o.ind with
        | none => rw [hi] at h1; simp at h1
        | some ind => simp [h2]
      rw [mapOpt_none_of_mem _ n.ops o ho this]
  · intro plans ind hp hi hsl
    unfold acceptCoarse0
    rw [hp]
    simp only
    have : opSlice n.outInd plans (oc.map List.length) o = none := by
      unfold opSlice
      rw [hi]
      simp only
      split
      · rfl
      · rw [hsl]; rfl
    rw [mapOpt_none_of_mem _ n.ops o ho this]

/-- some blocks are dropped along output label `lab`: `(labelPlan outInd plans lab).br ≠ none` (`sliced_iff`), written
without the `if` of `labelPlan` -/
def Sliced (outInd : List Nat) (plans : List AxisPlan) (lab : Nat) : Prop :=
  outInd.contains lab = true ∧ (plans.getD (outInd.idxOf lab) ⟨none, .colon⟩).br ≠ none

theorem sliced_iff {outInd : List Nat} {plans : List AxisPlan} {lab : Nat} :
    Sliced outInd plans lab ↔ (labelPlan outInd plans lab).br ≠ none := by
  unfold Sliced labelPlan
  split
  · rename_i h; exact ⟨fun e => e.2, fun e => ⟨h, e⟩⟩
  · rename_i h; exact ⟨fun e => absurd e.1 h, fun e => absurd rfl e⟩

/-- `label_chunks` going from `lc` to `lc'` while the loop passes the operand axes `qs`: no entry changes (`mono`), and
every sliced axis among `qs` has its chunks entered under its label (`reg`) -/
structure Grows (outInd : List Nat) (plans : List AxisPlan) (lc lc' : LabelChunks) (qs : List (Nat × List Int)) :
    Prop where
  mono : ∀ l v, lc.lookup l = some v → lc'.lookup l = some v
  reg : ∀ q ∈ qs, Sliced outInd plans q.1 → lc'.lookup q.1 = some q.2

theorem Grows.refl {outInd : List Nat} {plans : List AxisPlan} {lc : LabelChunks} : Grows outInd plans lc lc [] :=
  ⟨fun _ _ hv => hv, fun _ hq => nomatch hq⟩

theorem Grows.trans {outInd : List Nat} {plans : List AxisPlan} {lc lc1 lc2 : LabelChunks}
    {qs qs' : List (Nat × List Int)} (a : Grows outInd plans lc lc1 qs) (b : Grows outInd plans lc1 lc2 qs') :
    Grows outInd plans lc lc2 (qs ++ qs') :=
  ⟨fun l v hv => b.mono l v (a.mono l v hv),
   fun q hq hsl => (List.mem_append.mp hq).elim (fun h => b.mono _ _ (a.reg q h hsl)) (fun h => b.reg q h hsl)⟩

theorem opAxisSliceS_spec {outInd : List Nat} {plans : List AxisPlan} {nb : List Nat} {lc lc' : LabelChunks}
    {lab : Nat} {ic : List Int} {s : Option (Int × Int)}
    (h : opAxisSliceS outInd plans nb lc lab ic = some (s, lc')) :
    opAxisSlice outInd plans nb lab ic = some s ∧ Grows outInd plans lc lc' [(lab, ic)] := by
  have st := axisStep outInd plans nb lc lab ic
  rw [h] at st
  generalize opAxisSlice outInd plans nb lab ic = a at st
  cases st with
  | uncut hbr =>
    refine ⟨rfl, fun _ _ hv => hv, fun q hq hs => ?_⟩
    obtain rfl := List.mem_singleton.mp hq
    exact absurd hbr (sliced_iff.mp hs)
  | cut f l _ hbr hg hz hb =>
    rcases hb with ⟨_, _, _, e⟩ | ⟨hl, e⟩ | ⟨hl, e⟩
    · exact nomatch e
    · obtain ⟨rfl, rfl⟩ := Prod.mk.inj (Option.some.inj e)
      refine ⟨rfl, fun _ _ hv => hv, fun q hq _ => ?_⟩
      obtain rfl := List.mem_singleton.mp hq
      exact hl
    · obtain ⟨rfl, rfl⟩ := Prod.mk.inj (Option.some.inj e)
      refine ⟨rfl, fun l v hv => ?_, fun q hq _ => ?_⟩
      · rw [List.lookup_cons]
        by_cases hll : (l == lab) = true
        · rw [eq_of_beq hll, hl] at hv
          exact nomatch hv
        · rw [Bool.eq_false_iff.mpr hll]
          exact hv
      · obtain rfl := List.mem_singleton.mp hq
        rw [List.lookup_cons, beq_self_eq_true]

theorem opAxesSlicesS_spec (outInd : List Nat) (plans : List AxisPlan) (nb : List Nat)
    (lc lc' : LabelChunks) (ind : List Nat) (chunks : List (List Int)) (sl : List (Option (Int × Int)))
    (h : opAxesSlicesS outInd plans nb lc ind chunks = some (sl, lc')) :
    opAxesSlices outInd plans nb ind chunks = some sl ∧ Grows outInd plans lc lc' (ind.zip chunks) := by
  induction ind generalizing lc chunks sl with
  | nil =>
    obtain ⟨rfl, rfl⟩ := Prod.mk.inj (Option.some.inj h)
    exact ⟨rfl, .refl⟩
  | cons l ls ih =>
    cases chunks with
    | nil =>
      obtain ⟨rfl, rfl⟩ := Prod.mk.inj (Option.some.inj h)
      exact ⟨rfl, .refl⟩
    | cons ic ics =>
      change (match opAxisSliceS outInd plans nb lc l ic with
        | none => none
        | some (s, lc1) =>
          match opAxesSlicesS outInd plans nb lc1 ls ics with
          | none => none
          | some (ss, lc2) => some (s :: ss, lc2)) = _ at h
      split at h
      · exact nomatch h
      · rename_i s lc1 h1
        split at h
        · exact nomatch h
        · rename_i ss lc2 h2
          obtain ⟨rfl, rfl⟩ := Prod.mk.inj (Option.some.inj h)
          obtain ⟨f1, g1⟩ := opAxisSliceS_spec h1
          obtain ⟨f2, g2⟩ := ih lc1 ics ss h2
          refine ⟨?_, g1.trans g2⟩
          show (match opAxisSlice outInd plans nb l ic with
            | none => none
            | some s => (opAxesSlices outInd plans nb ls ics).map (s :: ·)) = _
          rw [f1, f2]
          rfl

theorem opSliceS_spec {outInd : List Nat} {plans : List AxisPlan} {nb : List Nat} {lc lc' : LabelChunks} {o : Opd}
    {r : Option (List (Option (Int × Int)))} (h : opSliceS outInd plans nb lc o = some (r, lc')) :
    opSlice outInd plans nb o = some r ∧
    Grows outInd plans lc lc' (match o.ind with | none => [] | some ind => ind.zip o.chunks) := by
  unfold opSliceS at h
  unfold opSlice
  cases hi : o.ind with
  | none =>
    rw [hi] at h
    obtain ⟨rfl, rfl⟩ := Prod.mk.inj (Option.some.inj h)
    exact ⟨rfl, .refl⟩
  | some ind =>
    rw [hi] at h
    simp only at h ⊢
    split at h
    · exact nomatch h
    · rename_i ha
      split at h
      · exact nomatch h
      · rename_i sl lc1 h1
        obtain ⟨rfl, rfl⟩ := Prod.mk.inj (Option.some.inj h)
        obtain ⟨f1, g1⟩ := opAxesSlicesS_spec outInd plans nb lc lc1 ind o.chunks sl h1
        exact ⟨by rw [if_neg ha, f1]; rfl, g1⟩

theorem opsSlicesS_spec (outInd : List Nat) (plans : List AxisPlan) (nb : List Nat)
    (lc lc' : LabelChunks) (ops : List Opd) (sls : List (Option (List (Option (Int × Int)))))
    (h : opsSlicesS outInd plans nb lc ops = some (sls, lc')) :
    mapOpt (opSlice outInd plans nb) ops = some sls ∧ Grows outInd plans lc lc' (chunkPairs ops) := by
  induction ops generalizing lc sls with
  | nil =>
    obtain ⟨rfl, rfl⟩ := Prod.mk.inj (Option.some.inj h)
    exact ⟨rfl, .refl⟩
  | cons o os ih =>
    change (match opSliceS outInd plans nb lc o with
      | none => none
      | some (s, lc1) =>
        match opsSlicesS outInd plans nb lc1 os with
        | none => none
        | some (ss, lc2) => some (s :: ss, lc2)) = _ at h
    split at h
    · exact nomatch h
    · rename_i s lc1 h1
      split at h
      · exact nomatch h
      · rename_i ss lc2 h2
        obtain ⟨rfl, rfl⟩ := Prod.mk.inj (Option.some.inj h)
        obtain ⟨f1, g1⟩ := opSliceS_spec h1
        obtain ⟨f2, g2⟩ := ih lc1 ss h2
        exact ⟨by rw [mapOpt_cons, f1, f2]; rfl, g1.trans g2⟩

theorem acceptCoarse_some {n : Node} {oc : List (List Int)} {idx : List Idx} {r : Result}
    (h : acceptCoarse n oc idx = some r) :
    axisPlans oc (fullIndex idx n.outInd.length) = some r.plans ∧
    r.adjust = sliceAdjust n.outInd r.plans n.adjust ∧
    ∃ lc, opsSlicesS n.outInd r.plans (oc.map List.length) [] n.ops = some (r.opSlices, lc) := by
  unfold acceptCoarse at h
  split at h
  · exact nomatch h
  · rename_i plans hp
    split at h
    · exact nomatch h
    · rename_i sl lc hs
      have hr := Option.some.inj h
      subst hr
      exact ⟨hp, rfl, lc, hs⟩

theorem acceptCoarse_le (n : Node) (oc : List (List Int)) (idx : List Idx) (r : Result)
    (h : acceptCoarse n oc idx = some r) : acceptCoarse0 n oc idx = some r := by
  obtain ⟨hp, hadj, lc, hs⟩ := acceptCoarse_some h
  unfold acceptCoarse0
  rw [hp]
  simp only
  rw [(opsSlicesS_spec n.outInd r.plans _ [] lc n.ops r.opSlices hs).1, ← hadj]

theorem acceptCoarse_none_of_0 (n : Node) (oc : List (List Int)) (idx : List Idx)
    (h : acceptCoarse0 n oc idx = none) : acceptCoarse n oc idx = none := by
  cases hr : acceptCoarse n oc idx with
  | none => rfl
  | some r => rw [acceptCoarse_le n oc idx r hr] at h; exact nomatch h

/-- the node the rule would build without the empty-range declines, in the extreme case: every axis of every operand
sliced to `slice(0, 0)`, `adjust_chunks` kept as it is -/
def preFixEmptyNode (n : Node) : Node :=
  { n with ops := n.ops.map (fun o => { o with chunks := o.chunks.map (fun ic => opChunksAfter ic (some (0, 0))) }) }

def wTuple : Node := ⟨[0], [⟨true, some [0], [[2, 2]]⟩], [(0, .tuple [2, 2])], []⟩
def wConst : Node := ⟨[0], [⟨true, some [0], [[1, 1]]⟩], [(0, .const 1)], []⟩
def wUnaligned : Node :=
  ⟨[0], [⟨true, some [0], [[2, 2, 3]]⟩, ⟨true, some [0], [[3, 3, 1]]⟩], [(0, .const 1)], []⟩
def wZero : Node := ⟨[0], [⟨true, some [0], [[1, 2, 0, 3]]⟩], [(0, .tuple [1, 1, 1, 1])], []⟩

end Dask.Lemmas.Coarse
