/-
The old→new crosswalk (`old_to_new` / `_intersect_1d`, one axis) covers each new block exactly once with
contiguous in-bounds pieces of old blocks.  The loop invariant `Inv` is stated on the `View` of the loop
state: Python defers the flush of `ret_next` into `ret` (and the choice of `start`) to the head of the next
iteration; the view is the state with that flush done, and on it one iteration is one equation.  Every piece
the loop appends is `cover old k x b`, the part of old block `k` over the global positions `[x, b)`.
-/
import DaskArrayModel.Model.RechunkSpec
import DaskArrayModel.Lemmas.Layout
import DaskArrayModel.Lemmas.Progression

namespace Dask.Lemmas.Crosswalk
open Dask.Py Dask.Rechunk

theorem oldStart_eq (l : List Int) (j : Nat) : oldStart l j = Layout.start l j := rfl

theorem oldStart_zero (l : List Int) : oldStart l 0 = 0 := rfl

theorem oldStart_succ (l : List Int) (j : Nat) : oldStart l (j + 1) = oldStart l j + l.getD j 0 :=
  Layout.start_succ l j

theorem oldStart_length (l : List Int) : oldStart l l.length = isum l := Layout.start_length l

theorem oldStart_nonneg (l : List Int) (h : ∀ x ∈ l, 0 ≤ x) (j : Nat) : 0 ≤ oldStart l j := Layout.start_nonneg h j

theorem oldStart_le (l : List Int) (h : ∀ x ∈ l, 0 ≤ x) (j : Nat) : oldStart l j ≤ isum l := Layout.start_le_sum h j

theorem oldStart_mono {src : List Int} (h : ∀ c ∈ src, 0 ≤ c) {i j : Nat} (hij : i ≤ j) :
    oldStart src i ≤ oldStart src j :=
  Layout.start_mono h hij

theorem length_cum0 (l : List Int) : (cum0 l).length = l.length + 1 :=
  congrArg (· + 1) (cumsum_length l)

theorem cum0_getElem (l : List Int) (j : Nat) (h : j < (cum0 l).length) : (cum0 l)[j] = oldStart l j := by
  have e : (cum0 l).getD j 0 = oldStart l j := Layout.cumsum0_getD l (Nat.le_of_lt_succ (Nat.lt_of_lt_of_eq h (length_cum0 l)))
  rwa [List.getD_eq_getElem?_getD, List.getElem?_eq_getElem h] at e

theorem drop_cum0 (l : List Int) (j : Nat) (hj : j ≤ l.length) :
    (cum0 l).drop j = oldStart l j :: (cum0 l).drop (j + 1) := by
  have hlt : j < (cum0 l).length := by rw [length_cum0]; exact Nat.lt_succ_of_le hj
  rw [List.drop_eq_getElem_cons hlt, cum0_getElem]

theorem drop_cum0_cons {l : List Int} {j : Nat} {a : Int} {r : List Int}
    (h : a :: r = (cum0 l).drop j) :
    j ≤ l.length ∧ a = oldStart l j ∧ r = (cum0 l).drop (j + 1) := by
  by_cases hj : j ≤ l.length
  · rw [drop_cum0 l j hj] at h
    injection h with h1 h2
    exact ⟨hj, h1, h2⟩
  · rw [List.drop_eq_nil_of_le (by rw [length_cum0]; omega)] at h; cases h

theorem drop_cum0_eq_nil {l : List Int} {j : Nat} (h : [] = (cum0 l).drop j) : l.length < j := by
  by_cases hj : j ≤ l.length
  · rw [drop_cum0 l j hj] at h; cases h
  · omega

theorem getLast?_cum0 (l : List Int) : (cum0 l).getLast? = some (isum l) := by
  have hlt : l.length < (cum0 l).length := by rw [length_cum0]; exact Nat.lt_succ_self _
  rw [List.getLast?_eq_getElem?, length_cum0, Nat.add_sub_cancel, List.getElem?_eq_getElem hlt, cum0_getElem,
    oldStart_length]

theorem piecesPositions_nil (old : List Int) : piecesPositions old [] = [] := rfl

theorem piecesPositions_snoc (old : List Int) (ps : List Piece) (p : Piece) :
    piecesPositions old (ps ++ [p]) = piecesPositions old ps ++
      rangeList (oldStart old p.idx.toNat + p.s) (oldStart old p.idx.toNat + p.e) 1 := by
  simp [piecesPositions, List.flatMap_append]

theorem newBlockPositions_eq (new : List Int) (j : Nat) :
    newBlockPositions new j = rangeList (oldStart new j) (oldStart new (j + 1)) 1 := rfl

theorem mergeBreaks_filter_o (os ns : List Int) :
    (mergeBreaks os ns).filter (fun p => p.1 = Lbl.o) = os.map (fun x => (Lbl.o, x)) := by
  fun_induction mergeBreaks os ns with
  | case1 ns => simp [List.filter_eq_nil_iff]
  | case2 os _ => simp [List.filter_eq_self]
  | case3 a os b ns h ih => simp [ih]
  | case4 a os b ns h ih => simpa [List.filter_cons] using ih

/-- `ret` after the flush performed at the head of an iteration whose previous label is `lab` (after an `n` entry
a non-empty `ret_next` is closed into `ret`); `flushNext` is `ret_next` after it -/
def flushRet (lab : Lbl) (st : IState) : List (List Piece) :=
  if lab = Lbl.n ∧ st.retNext ≠ [] then st.ret ++ [st.retNext] else st.ret

def flushNext (lab : Lbl) (st : IState) : List Piece :=
  if lab = Lbl.n ∧ st.retNext ≠ [] then [] else st.retNext

/-- the Python variable `start` at the head of an iteration -/
def startOf (lab : Lbl) (st : IState) : Int := if lab = Lbl.n then st.lastEnd else 0

/-- the part of old block `k` over the global positions `[x, b)`, as a slice relative to the block's start -/
def cover (old : List Int) (k : Nat) (x b : Int) : Piece :=
  ⟨k, x - oldStart old k, b - oldStart old k⟩

theorem cover_start (old : List Int) (k : Nat) (x b : Int) :
    oldStart old (cover old k x b).idx.toNat + (cover old k x b).s = x := by
  simp only [cover, Int.toNat_natCast]; omega

theorem cover_end (old : List Int) (k : Nat) (x b : Int) :
    oldStart old (cover old k x b).idx.toNat + (cover old k x b).e = b := by
  simp only [cover, Int.toNat_natCast]; omega

theorem cover_ok {old : List Int} {k : Nat} {x b : Int} (hk : k < old.length)
    (h1 : oldStart old k ≤ x) (hxb : x ≤ b) (h2 : b ≤ oldStart old (k + 1)) :
    PieceOK old (cover old k x b) := by
  have := oldStart_succ old k
  unfold PieceOK cover
  simp only [Int.toNat_natCast]
  omega

/-- the Python `end` of a step from `x` to `b` inside old block `i` -/
theorem end_eq {old : List Int} {i : Nat} {x s : Int} (b : Int) (hs : s = x - oldStart old i) :
    b - x + s = b - oldStart old i := by omega

theorem piece_eq_cover (old : List Int) {idx s : Int} {i : Nat} {x : Int} (b : Int)
    (hidx : idx = (i : Int)) (hs : s = x - oldStart old i) :
    (⟨idx, s, b - x + s⟩ : Piece) = cover old i x b := by
  rw [hidx, end_eq b hs, hs]; rfl

/-- the degenerate piece appended at the final boundary is the empty end of the last old block -/
theorem piece_eq_cover_last {old : List Int} (hone : old ≠ []) :
    (⟨(old.length : Int) - 1, old.getD (old.length - 1) 0, old.getD (old.length - 1) 0⟩ : Piece) =
      cover old (old.length - 1) (isum old) (isum old) := by
  have hm1 : 0 < old.length := List.length_pos_iff.mpr hone
  have hsucc := oldStart_succ old (old.length - 1)
  rw [Nat.sub_add_cancel hm1, oldStart_length] at hsucc
  rw [cover, Piece.mk.injEq]
  omega

structure Tiles (old : List Int) (ps : List Piece) (a b : Int) : Prop where
  ok : ∀ p ∈ ps, PieceOK old p
  pos : piecesPositions old ps = rangeList a b 1

namespace Tiles

theorem nil (old : List Int) (a : Int) : Tiles old [] a a :=
  ⟨fun _ h => (List.not_mem_nil h).elim, (rangeList_self a).symm⟩

theorem snoc {old : List Int} {ps : List Piece} {a x b : Int} {k : Nat}
    (T : Tiles old ps a x) (hk : k < old.length) (h1 : oldStart old k ≤ x) (hxb : x ≤ b)
    (h2 : b ≤ oldStart old (k + 1)) (hax : a ≤ x) :
    Tiles old (ps ++ [cover old k x b]) a b where
  ok := fun p hp => by
    rcases List.mem_append.1 hp with h | h
    · exact T.ok p h
    · rw [List.mem_singleton.mp h]; exact cover_ok hk h1 hxb h2
  pos := by
    rw [piecesPositions_snoc, T.pos, cover_start, cover_end]
    exact rangeList_append_one _ _ _ hax hxb

end Tiles

/-- `ps` is a finished row for new block `j` (`oldStart` applied to `new` is the start of a NEW block); non-empty also
for a zero-width block -/
def Good (old new : List Int) (j : Nat) (ps : List Piece) : Prop :=
  Tiles old ps (oldStart new j) (oldStart new (j + 1)) ∧ ps ≠ []

structure Rows (old new : List Int) (R : List (List Piece)) (n : Nat) : Prop where
  len : R.length = n
  good : ∀ j, j < n → Good old new j (R.getD j [])

namespace Rows

theorem snoc {old new : List Int} {R : List (List Piece)} {n : Nat} {T : List Piece}
    (H : Rows old new R n) (G : Good old new n T) : Rows old new (R ++ [T]) (n + 1) where
  len := by rw [List.length_append, H.len]; rfl
  good := fun j hj => by
    rcases Nat.lt_succ_iff_lt_or_eq.mp hj with h | h
    · rw [getD_append_left _ _ _ _ (H.len ▸ h)]; exact H.good j h
    · rw [h, getD_append_right _ _ _ _ (Nat.le_of_eq H.len), H.len, Nat.sub_self]; exact G

end Rows

/-- the loop state as the iteration after a `lab` entry sees it, its flush of `ret_next` done: `start`, `rows`
(Python's `ret`) and `cur` (`ret_next`) are the values that iteration computes first; `idx` is `old_idx`, `oend` is
`last_o_end` -/
structure View where
  idx : Int
  start : Int
  oend : Int
  rows : List (List Piece)
  cur : List Piece

def view (lab : Lbl) (st : IState) : View :=
  ⟨st.oldIdx, startOf lab st, st.lastOEnd, flushRet lab st, flushNext lab st⟩

namespace View

/-- the view after an `o` entry `a` (previous entry at `x`): the old block `v.idx` ends, its part over `[x, a)`
joins the open row unless empty -/
def stepO (v : View) (x a : Int) : View :=
  ⟨v.idx + 1, 0, a - x + v.start, v.rows,
    if a = x then v.cur else v.cur ++ [⟨v.idx, v.start, a - x + v.start⟩]⟩

/-- the pieces of the new block that the `n` entry `b` closes -/
def nextN (lo lb : Int) (lab : Lbl) (v : View) (x b : Int) : List Piece :=
  if b = x ∧ lab = Lbl.o then v.cur
  else v.cur ++
    [if b = x ∧ b = lb then ⟨lo, v.oend, v.oend⟩ else ⟨v.idx, v.start, b - x + v.start⟩]

/-- the view after an `n` entry `b`: the open row, completed by `nextN`, is closed -/
def stepN (lo lb : Int) (lab : Lbl) (v : View) (x b : Int) : View :=
  ⟨v.idx, b - x + v.start, v.oend,
    if v.nextN lo lb lab x b ≠ [] then v.rows ++ [v.nextN lo lb lab x b] else v.rows, []⟩

end View

theorem view_step_o (lo lb : Int) (st : IState) (lab : Lbl) (x a : Int) :
    view Lbl.o (istep lo lb st (lab, x) (Lbl.o, a)) = (view lab st).stepO x a := by
  by_cases h : a = x
  · subst h; simp [view, View.stepO, istep, flushRet, flushNext, startOf]
  · simp [view, View.stepO, istep, flushRet, flushNext, startOf, h]

theorem view_step_n (lo lb : Int) (st : IState) (lab : Lbl) (x b : Int) :
    view Lbl.n (istep lo lb st (lab, x) (Lbl.n, b)) = (view lab st).stepN lo lb lab x b := by
  by_cases h : b = x
  · subst h
    cases lab
    · simp [view, View.stepN, View.nextN, istep, flushRet, flushNext, startOf]
    · by_cases hl : b = lb
      · simp [view, View.stepN, View.nextN, istep, flushRet, flushNext, startOf, hl]
      · simp [view, View.stepN, View.nextN, istep, flushRet, flushNext, startOf, hl]
  · simp [view, View.stepN, View.nextN, istep, flushRet, flushNext, startOf, h]

/-- Invariant at the head of the iteration whose previous entry is `(lab, x)`; `os`/`ns` are the
old/new boundaries not yet consumed, `i` the number of `o` entries consumed minus one, `q` the
number of `n` entries consumed and `v` the view of the loop state.  Old block `i` and new block `q - 1` are the open
ones, `x` lies in both, and `v.cur` tiles the open new block up to `x`; `hoe` is there for the degenerate final piece.
`hoh`, second part: equal boundaries are sorted `o` before `n`, so after an `n` entry the next old boundary is strictly
ahead.  `hend`: the new boundaries run out only at the very end, after an `n` entry (the sums agree).  `hzero`: before
the first `n` entry (the leading 0 of `cum0 new`) nothing has moved, and that entry is at `x`. -/
structure Inv (old new : List Int) (lab : Lbl) (x : Int) (os ns : List Int) (v : View)
    (i q : Nat) : Prop where
  hidx : v.idx = (i : Int)
  hi : i ≤ old.length
  hq : q ≤ new.length + 1
  hos : os = (cum0 old).drop (i + 1)
  hns : ns = (cum0 new).drop q
  hstart : v.start = x - oldStart old i
  hlo : oldStart old i ≤ x
  hzero : q = 0 → lab = Lbl.o ∧ ∃ ns', ns = x :: ns'
  hnlo : oldStart new (q - 1) ≤ x
  hoe : 1 ≤ i → v.oend = old.getD (i - 1) 0
  hoh : ∀ a os', os = a :: os' → x ≤ a ∧ (lab = Lbl.n → x < a)
  hnh : ∀ b ns', ns = b :: ns' → x ≤ b
  hend : ns = [] → lab = Lbl.n ∧ os = []
  hrows : Rows old new v.rows (q - 1)
  hq0 : q = 0 → v.cur = []
  htile : Tiles old v.cur (oldStart new (q - 1)) x
  hne : 1 ≤ q → lab = Lbl.o → v.cur ≠ []

namespace Inv

theorem step_o {old new : List Int} (ho : ∀ c ∈ old, 0 ≤ c)
    {lab : Lbl} {x a : Int} {os' ns : List Int} {v : View} {i q : Nat}
    (I : Inv old new lab x (a :: os') ns v i q) (hm : ∀ b ns', ns = b :: ns' → a ≤ b) :
    Inv old new Lbl.o a os' ns (v.stepO x a) (i + 1) q := by
  obtain ⟨hi1, ha, hos'⟩ := drop_cum0_cons I.hos
  have hsucc := oldStart_succ old i
  have hxa := I.hoh a os' rfl
  have hst := I.hstart
  have h4 : ((v.stepO x a).cur = v.cur ∧ a = x) ∨
      ((v.stepO x a).cur = v.cur ++ [cover old i x a] ∧ a ≠ x) := by
    by_cases hax : a = x
    · exact Or.inl ⟨if_pos hax, hax⟩
    · exact Or.inr ⟨(if_neg hax).trans
        (congrArg (fun p => v.cur ++ [p]) (piece_eq_cover old a I.hidx hst)), hax⟩
  exact
  { hidx := (congrArg (· + 1) I.hidx).trans (Int.natCast_succ i).symm
    hi := hi1
    hq := I.hq
    hos := hos'
    hns := I.hns
    hstart := by rw [← ha, Int.sub_self]; rfl
    hlo := Int.le_of_eq ha.symm
    hzero := fun hq0 => by
      obtain ⟨_, ns', e⟩ := I.hzero hq0
      rw [Int.le_antisymm (hm _ _ e) hxa.1]; exact ⟨rfl, ns', e⟩
    hnlo := Int.le_trans I.hnlo hxa.1
    hoe := fun _ => by
      show a - x + v.start = _
      rw [Nat.add_sub_cancel, end_eq a hst, ha, hsucc, Int.add_comm]; exact Int.add_sub_cancel _ _
    hoh := fun a' os'' e => by
      obtain ⟨_, ha', _⟩ := drop_cum0_cons (e ▸ hos')
      exact ⟨ha ▸ ha' ▸ oldStart_mono ho (Nat.le_succ _), fun h => Lbl.noConfusion h⟩
    hnh := hm
    hend := fun h => by have := (I.hend h).2; cases this
    hrows := I.hrows
    hq0 := fun hq0 => by
      subst hq0
      rcases h4 with ⟨e, _⟩ | ⟨_, hne⟩
      · rw [e]; exact I.hq0 rfl
      · obtain ⟨_, _, hns0⟩ := I.hzero rfl
        exact absurd (Int.le_antisymm (hm _ _ hns0) hxa.1) hne
    htile := by
      rcases h4 with ⟨e, hax⟩ | ⟨e, _⟩ <;> rw [e]
      · exact hax ▸ I.htile
      · exact I.htile.snoc hi1 I.hlo hxa.1 (Int.le_of_eq ha) I.hnlo
    hne := fun hq1 _ => by
      rcases h4 with ⟨e, hax⟩ | ⟨e, _⟩
      · rw [e]; apply I.hne hq1
        cases lab
        · rfl
        · exact absurd hax (Int.ne_of_gt (hxa.2 rfl))
      · rw [e]; simp }

/-- the rows after an `n` entry `b`: the row it closes tiles the open new block, and only the very first `n` entry
(the leading 0 of `cum0 new`) closes an empty one, which is not kept -/
theorem stepN_rows {old new : List Int} (ho : ∀ c ∈ old, 0 ≤ c) (hn : ∀ c ∈ new, 0 ≤ c)
    (hsum : isum old = isum new) (hone : old ≠ []) (lo lb : Int)
    (hlo : lo = (old.length : Int) - 1) (hlb : lb = isum old)
    {lab : Lbl} {x b : Int} {os ns' : List Int} {v : View} {i q : Nat}
    (I : Inv old new lab x os (b :: ns') v i q) (hm : ∀ a os', os = a :: os' → b < a) :
    Rows old new (v.stepN lo lb lab x b).rows q := by
  obtain ⟨_, hb, _⟩ := drop_cum0_cons I.hns
  have hxb := I.hnh b ns' rfl
  have fin : ∀ T, v.nextN lo lb lab x b = T → Tiles old T (oldStart new (q - 1)) b → (q = 0 → T = []) →
      (1 ≤ q → T ≠ []) → Rows old new (v.stepN lo lb lab x b).rows q := fun T hT ht h0 h1 => by
    show Rows old new (if v.nextN lo lb lab x b ≠ [] then v.rows ++ [v.nextN lo lb lab x b]
      else v.rows) _
    rw [hT]
    cases q with
    | zero => rw [if_neg (fun h => h (h0 rfl))]; exact I.hrows
    | succ q' =>
      have hne := h1 (Nat.succ_le_succ (Nat.zero_le q'))
      rw [if_pos hne]
      exact I.hrows.snoc ⟨hb ▸ ht, hne⟩
  by_cases hc : b = x ∧ lab = Lbl.o
  · exact fin _ (if_pos hc) (hc.1 ▸ I.htile) I.hq0 (fun h => I.hne h hc.2)
  · -- otherwise the entry appends the part of some old block `k` over `[x, b)`
    have app : ∀ k, k < old.length → oldStart old k ≤ x → b ≤ oldStart old (k + 1) →
        v.nextN lo lb lab x b = v.cur ++ [cover old k x b] → Rows old new (v.stepN lo lb lab x b).rows q :=
      fun k hk h1 h2 e => fin _ e (I.htile.snoc hk h1 hxb h2 I.hnlo)
        (fun hq0 => by
          subst hq0
          obtain ⟨hl, _, hns0⟩ := I.hzero rfl
          exact absurd ⟨(List.cons.inj hns0).1, hl⟩ hc)
        (fun _ => by simp)
    have hbtot : b ≤ isum old := by
      rw [hb, hsum]; exact oldStart_le new hn q
    have hin : i < old.length → b < oldStart old (i + 1) := fun hi =>
      hm _ _ (I.hos.trans (drop_cum0 old (i + 1) hi))
    have hilt : x < isum old → i < old.length := fun hx =>
      Nat.lt_of_le_of_ne I.hi fun e => by
        have h : oldStart old i ≤ x := I.hlo
        rw [e, oldStart_length] at h
        exact absurd h (Int.not_le.mpr hx)
    by_cases hl : b = x ∧ b = lb
    · -- all old boundaries are consumed (`i = old.length`): the piece is the empty end of the
      -- last old block
      have hi : i = old.length :=
        Nat.le_antisymm I.hi (Nat.le_of_not_lt fun hi =>
          absurd (Int.lt_of_lt_of_le (hin hi) (oldStart_le old ho (i + 1)))
            (Int.not_lt.mpr (Int.le_of_eq (hl.2.trans hlb).symm)))
      have hm1 : 0 < old.length := List.length_pos_iff.mpr hone
      have hk : old.length - 1 + 1 = old.length := Nat.sub_add_cancel hm1
      have hp : (⟨lo, v.oend, v.oend⟩ : Piece) = cover old (old.length - 1) x b := by
        rw [I.hoe (hi ▸ hm1), hi, ← hl.1, hl.2, hlb, hlo]; exact piece_eq_cover_last hone
      refine app (old.length - 1) (Nat.sub_lt hm1 Nat.one_pos) ?_ ?_
        ((if_neg hc).trans (congrArg (fun p => v.cur ++ [p]) ((if_pos hl).trans hp)))
      · exact Int.le_trans (oldStart_mono ho (Nat.sub_le _ _)) (hi ▸ I.hlo)
      · rw [hk, oldStart_length, hl.2, hlb]; exact Int.le_refl _
    · have hi : i < old.length := by
        by_cases hbx : b = x
        · exact hilt (hbx ▸ Int.lt_iff_le_and_ne.mpr ⟨hbtot, fun h => hl ⟨hbx, h.trans hlb.symm⟩⟩)
        · exact hilt (Int.lt_of_lt_of_le (Int.lt_iff_le_and_ne.mpr ⟨hxb, Ne.symm hbx⟩) hbtot)
      exact app i hi I.hlo (Int.le_of_lt (hin hi))
        ((if_neg hc).trans (congrArg (fun p => v.cur ++ [p])
          ((if_neg hl).trans (piece_eq_cover old b I.hidx I.hstart))))

theorem step_n {old new : List Int} (ho : ∀ c ∈ old, 0 ≤ c) (hn : ∀ c ∈ new, 0 ≤ c)
    (hsum : isum old = isum new) (hone : old ≠ []) (lo lb : Int)
    (hlo : lo = (old.length : Int) - 1) (hlb : lb = isum old)
    {lab : Lbl} {x b : Int} {os ns' : List Int} {v : View} {i q : Nat}
    (I : Inv old new lab x os (b :: ns') v i q) (hm : ∀ a os', os = a :: os' → b < a) :
    Inv old new Lbl.n b os ns' (v.stepN lo lb lab x b) i (q + 1) := by
  obtain ⟨hq1, hb, hns'⟩ := drop_cum0_cons I.hns
  have hxb := I.hnh b ns' rfl
  exact
  { hidx := I.hidx
    hi := I.hi
    hq := Nat.succ_le_succ hq1
    hos := I.hos
    hns := hns'
    hstart := end_eq b I.hstart
    hlo := Int.le_trans I.hlo hxb
    hzero := fun h => absurd h (Nat.succ_ne_zero q)
    hnlo := Int.le_of_eq hb.symm
    hoe := I.hoe
    hoh := fun a os' e => ⟨Int.le_of_lt (hm a os' e), fun _ => hm a os' e⟩
    hnh := fun b' ns'' e => by
      obtain ⟨_, hb', _⟩ := drop_cum0_cons (e ▸ hns')
      exact hb ▸ hb' ▸ oldStart_mono hn (Nat.le_succ _)
    hend := fun h => ⟨rfl, by
      -- all of `new` is consumed, so `b` is the total and no old boundary lies beyond it
      subst h
      have hqk : q = new.length := Nat.le_antisymm hq1 (Nat.le_of_lt_succ (drop_cum0_eq_nil hns'))
      cases os with
      | nil => rfl
      | cons a os' =>
        obtain ⟨_, ha, _⟩ := drop_cum0_cons I.hos
        refine absurd (hm a os' rfl) (Int.not_lt.mpr ?_)
        rw [ha, hb, hqk, oldStart_length, ← hsum]
        exact oldStart_le old ho (i + 1)⟩
    hrows := I.stepN_rows ho hn hsum hone lo lb hlo hlb hm
    hq0 := fun h => absurd h (Nat.succ_ne_zero q)
    htile := hb ▸ Tiles.nil old b
    hne := fun _ h => Lbl.noConfusion h }

end Inv

theorem iloop_inv {old new : List Int} (ho : ∀ c ∈ old, 0 ≤ c) (hn : ∀ c ∈ new, 0 ≤ c)
    (hsum : isum old = isum new) (hone : old ≠ []) (lo lb : Int)
    (hlo : lo = (old.length : Int) - 1) (hlb : lb = isum old)
    (os ns : List Int) (lab : Lbl) (x : Int) (st : IState) (i q : Nat)
    (I : Inv old new lab x os ns (view lab st) i q) :
    Rows old new (flushRet Lbl.n (iloop lo lb st ((lab, x) :: mergeBreaks os ns))) new.length := by
  fun_induction mergeBreaks os ns generalizing lab x st i q with
  | case1 ns =>
    induction ns generalizing lab x st i q with
    | nil =>
      -- all boundaries are consumed: the last entry was an `n` entry and closed the row of the last new block
      obtain rfl : lab = Lbl.n := (I.hend rfl).1
      obtain rfl : q = new.length + 1 := Nat.le_antisymm I.hq (drop_cum0_eq_nil I.hns)
      exact I.hrows
    | cons b ns ih =>
      exact ih _ _ _ _ _ (view_step_n .. ▸ I.step_n ho hn hsum hone lo lb hlo hlb
        (fun _ _ e => nomatch e))
  | case2 os h => exact absurd (I.hend rfl).2 (by simpa using h)
  | case3 a os b ns h ih =>
    exact ih _ _ _ _ _ (view_step_o .. ▸ I.step_o ho (fun _ _ e => by cases e; exact h))
  | case4 a os b ns h ih =>
    exact ih _ _ _ _ _ (view_step_n .. ▸ I.step_n ho hn hsum hone lo lb hlo hlb
      (fun _ _ e => by cases e; omega))

theorem inv_init {old new : List Int} (ho : ∀ c ∈ old, 0 ≤ c) :
    Inv old new Lbl.o 0 (cumsum old) (cum0 new) (view Lbl.o {}) 0 0 :=
  { hidx := rfl
    hi := Nat.zero_le _
    hq := Nat.zero_le _
    hos := rfl
    hns := rfl
    hstart := by simp [view, startOf, oldStart_zero]
    hlo := by rw [oldStart_zero]; omega
    hzero := fun _ => ⟨rfl, _, rfl⟩
    hnlo := Int.le_refl _
    hoe := fun h => by omega
    hoh := fun a os' e => by
      have e' : a :: os' = (cum0 old).drop 1 := e.symm
      obtain ⟨_, ha, _⟩ := drop_cum0_cons e'
      have := oldStart_nonneg old ho 1
      exact ⟨by omega, fun h => Lbl.noConfusion h⟩
    hnh := fun b ns' e => by
      have e' : b :: ns' = (cum0 new).drop 0 := e.symm
      obtain ⟨_, hb, _⟩ := drop_cum0_cons e'
      have := oldStart_zero new
      omega
    hend := fun h => by simp [cum0] at h
    hrows := ⟨rfl, fun j hj => absurd hj (Nat.not_lt_zero j)⟩
    hq0 := fun _ => by simp [view, flushNext]
    htile := Tiles.nil old 0
    hne := fun h => by omega }

theorem oldToNew1d_eq (old new : List Int) :
    oldToNew1d old new =
      flushRet Lbl.n (iloop ((old.length : Int) - 1) (isum old) {}
        ((Lbl.o, 0) :: mergeBreaks (cumsum old) (cum0 new))) := by
  have hb : breakpoints old new = (Lbl.o, 0) :: mergeBreaks (cumsum old) (cum0 new) := by
    simp [breakpoints, cum0, mergeBreaks]
  have hf := mergeBreaks_filter_o (cum0 old) (cum0 new)
  have h1 : (((breakpoints old new).filter (fun p => p.1 = Lbl.o)).length : Int) - 2
      = (old.length : Int) - 1 := by
    unfold breakpoints; rw [hf, List.length_map, length_cum0]; omega
  have h2 : ((((breakpoints old new).filter (fun p => p.1 = Lbl.o)).getLast?).map (·.2)).getD 0
      = isum old := by
    unfold breakpoints; rw [hf, List.getLast?_map, getLast?_cum0]; rfl
  unfold oldToNew1d intersect1d
  simp only [h1, h2]
  rw [hb]
  simp [flushRet]

set_option linter.unusedVariables false in
/-- C15 crosswalk: each new block is covered exactly once, in order, by contiguous in-bounds pieces
of old blocks; zero-width chunks are allowed on both sides. -/
theorem crosswalk_exact (old new : List Int)
    (ho : ∀ c ∈ old, 0 ≤ c) (hn : ∀ c ∈ new, 0 ≤ c)
    (hsum : isum old = isum new) (hone : old ≠ []) (hnne : new ≠ []) :
    (oldToNew1d old new).length = new.length ∧
    ∀ j (hj : j < new.length),
      (∀ p ∈ (oldToNew1d old new).getD j [], PieceOK old p) ∧
      (oldToNew1d old new).getD j [] ≠ [] ∧
      piecesPositions old ((oldToNew1d old new).getD j []) = newBlockPositions new j := by
  have R := iloop_inv ho hn hsum hone ((old.length : Int) - 1) (isum old) rfl rfl
    (cumsum old) (cum0 new) Lbl.o 0 {} 0 0 (inv_init ho)
  rw [oldToNew1d_eq]
  exact ⟨R.len, fun j hj => ⟨(R.good j hj).1.ok, (R.good j hj).2, (R.good j hj).1.pos⟩⟩

set_option linter.unusedVariables false in
/-- `crosswalk_exact` read at positive chunks; the whole of its conclusion, no part of it left out -/
theorem crosswalk_exact_pos_partial (old new : List Int)
    (ho : ∀ c ∈ old, 0 < c) (hn : ∀ c ∈ new, 0 < c)
    (hsum : isum old = isum new) (hone : old ≠ []) (hnne : new ≠ []) :
    (oldToNew1d old new).length = new.length ∧
    ∀ j (hj : j < new.length),
      (∀ p ∈ (oldToNew1d old new).getD j [], PieceOK old p) ∧
      (oldToNew1d old new).getD j [] ≠ [] ∧
      piecesPositions old ((oldToNew1d old new).getD j []) = newBlockPositions new j :=
  crosswalk_exact old new (fun c h => Int.le_of_lt (ho c h)) (fun c h => Int.le_of_lt (hn c h))
    hsum hone hnne

example : oldToNew1d [10, 10, 10, 10, 10] [25, 5, 20] =
    [[⟨0, 0, 10⟩, ⟨1, 0, 10⟩, ⟨2, 0, 5⟩], [⟨2, 5, 10⟩], [⟨3, 0, 10⟩, ⟨4, 0, 10⟩]] := by
  simp [oldToNew1d, breakpoints, cum0, cumsum, cumsumFrom, mergeBreaks]
  decide +kernel

example : oldToNew1d [2, 0, 1] [0, 3] = [[⟨0, 0, 0⟩], [⟨0, 0, 2⟩, ⟨2, 0, 1⟩]] := by
  simp [oldToNew1d, breakpoints, cum0, cumsum, cumsumFrom, mergeBreaks]
  decide +kernel

/-- trailing zero-width new chunk: the degenerate `(last_old_chunk_idx, last_o_end)` piece -/
example : oldToNew1d [2, 1] [3, 0] = [[⟨0, 0, 2⟩, ⟨1, 0, 1⟩], [⟨1, 1, 1⟩]] := by
  simp [oldToNew1d, breakpoints, cum0, cumsum, cumsumFrom, mergeBreaks]
  decide +kernel

end Dask.Lemmas.Crosswalk
