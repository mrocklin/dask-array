/-
Model of expression NAMES (C06, C07).   No Mathlib.

Python side (dask/_expr.py, dask_array/_expr.py):
  * an expression node is `type(self)` + `self.operands` (literals and child expressions);
  * `_name = f"{funcname}-{deterministic_token}"`, `deterministic_token = __dask_tokenize__()`
    = `tokenize(type(self), *<the operands the tokenizer chooses>)`; a child operand is tokenized
    through its own `_name`;
  * `SingletonExpr.__new__`, `_LOWER_CACHE`, graph merging: de-duplicate by `_name`.

Model:
  * `Node` = class id + operand list (`Node.mk cls operands`, `Operand := lit v | child n`).
    It is represented as ONE inductive type (the operand list is consed onto the class id) so that
    structural recursion / `induction` work without nested-inductive machinery; `Node.mk`,
    `Node.cls`, `Node.operands` give the `mk cls operands` view (`operands_mk`, `cls_mk`).
  * `Token` is a FREE term algebra: `tokenize` is collision-free (TRUSTED ASSUMPTION: no hash
    collisions) exactly means that a name can be read back as the tree of what was tokenized.
  * `name T n` encodes the class and the operands at positions `T cls` (the "tokenized" positions),
    children through their names.
  * `den S sem n` is an arbitrary function `sem` of the class and of the operands at positions `S cls`
    (the "semantic" positions): literals as they are, children through their `den`.
-/
namespace Dask.Names

/-- free token terms (injective constructors = "tokenize never collides") -/
inductive Token where
  | lit (v : Nat)
  | node (cls : Nat) (args : List (Option Token))

/-- expression node: class id with its operands consed in front -/
inductive Node where
  | nil (cls : Nat)
  | lit (v : Nat) (rest : Node)
  | child (c : Node) (rest : Node)

inductive Operand where
  | lit (v : Nat)
  | child (n : Node)

namespace Node

def cls : Node → Nat
  | .nil c => c
  | .lit _ r => r.cls
  | .child _ r => r.cls

def operands : Node → List Operand
  | .nil _ => []
  | .lit v r => Operand.lit v :: r.operands
  | .child c r => Operand.child c :: r.operands

/-- the `Node := mk (cls) (operands)` view -/
def mk (c : Nat) : List Operand → Node
  | [] => .nil c
  | Operand.lit v :: r => .lit v (mk c r)
  | Operand.child n :: r => .child n (mk c r)

theorem cls_mk (c : Nat) (l : List Operand) : (mk c l).cls = c := by
  induction l with
  | nil => rfl
  | cons o r ih => cases o <;> exact ih

theorem operands_mk (c : Nat) (l : List Operand) : (mk c l).operands = l := by
  induction l with
  | nil => rfl
  | cons o r ih => cases o <;> exact congrArg (_ :: ·) ih

theorem mk_cls_operands (n : Node) : mk n.cls n.operands = n := by
  induction n with
  | nil c => rfl
  | lit v r ih => exact congrArg (Node.lit v) ih
  | child c r _ ih => exact congrArg (Node.child c) ih

end Node

/-- operands at the listed positions (position-aligned: a missing position stays visible as `none`) -/
def sel {α : Type} (pos : List Nat) (l : List α) : List (Option α) := pos.map (fun i => l[i]?)

/-- tokens of all operands, in order: a literal is itself, a child is its NAME -/
def encAll (T : Nat → List Nat) : Node → List Token
  | .nil _ => []
  | .lit v r => Token.lit v :: encAll T r
  | .child c r => Token.node c.cls (sel (T c.cls) (encAll T c)) :: encAll T r

/-- `_name`: class + the tokenized operands -/
def name (T : Nat → List Nat) (n : Node) : Token := Token.node n.cls (sel (T n.cls) (encAll T n))

/-- what a semantic member sees of an operand: a literal, or the child's denotation -/
inductive Val (σ : Type) where
  | lit (v : Nat)
  | sub (s : σ)

def denAll {σ : Type} (S : Nat → List Nat) (sem : Nat → List (Option (Val σ)) → σ) : Node → List (Val σ)
  | .nil _ => []
  | .lit v r => Val.lit v :: denAll S sem r
  | .child c r => Val.sub (sem c.cls (sel (S c.cls) (denAll S sem c))) :: denAll S sem r

/-- denotation (shape, chunks, dtype, block values …): reads only the semantic positions -/
def den {σ : Type} (S : Nat → List Nat) (sem : Nat → List (Option (Val σ)) → σ) (n : Node) : σ :=
  sem n.cls (sel (S n.cls) (denAll S sem n))

/-- chunks (or any other advertised attribute) are a projection of the denotation -/
def chunks {σ κ : Type} (proj : σ → κ) (S : Nat → List Nat) (sem : Nat → List (Option (Val σ)) → σ) (n : Node) : κ :=
  proj (den S sem n)

theorem encAll_child (T : Nat → List Nat) (c r : Node) :
    encAll T (.child c r) = name T c :: encAll T r := rfl

theorem denAll_child {σ : Type} (S : Nat → List Nat) (sem : Nat → List (Option (Val σ)) → σ) (c r : Node) :
    denAll S sem (.child c r) = Val.sub (den S sem c) :: denAll S sem r := rfl

/-! ### name-keyed cache (generic: `SingletonExpr._instances`, `_LOWER_CACHE`, merged graphs) -/

/-- insert-if-absent lookup (`lowered.setdefault(name, out)` / `cache[name]`) -/
def cacheLookup {κ ν : Type} [DecidableEq κ] (cache : List (κ × ν)) (k : κ) : Option ν :=
  match cache with
  | [] => none
  | (k', v) :: rest => if k' = k then some v else cacheLookup rest k

/-- one request: answer from the cache when the name is present, else compute (`lower`) and insert -/
def cacheStep {κ ν : Type} [DecidableEq κ] (nm : ν → κ) (lower : ν → ν) (cache : List (κ × ν)) (n : ν) :
    List (κ × ν) × ν :=
  match cacheLookup cache (nm n) with
  | some v => (cache, v)
  | none => ((nm n, lower n) :: cache, lower n)

/-- a history of requests; returns the final cache and the answers (most recent first) -/
def cacheRun {κ ν : Type} [DecidableEq κ] (nm : ν → κ) (lower : ν → ν) :
    List (κ × ν) → List ν → List (κ × ν) × List (ν × ν)
  | cache, [] => (cache, [])
  | cache, n :: rest =>
    let (cache', v) := cacheStep nm lower cache n
    let (cache'', answers) := cacheRun nm lower cache' rest
    (cache'', (n, v) :: answers)

/-! ### C07: names across processes and pickling

`PNode`: class + operands (literal operands flagged stable/unstable, child nodes) + an optional CARRIED token
(`_determ_token`, passed to `__new__` by `Expr._reconstruct`).  An unstable literal is one whose
token depends on the process (`id(obj)`, a fresh `uuid`): `PTok.env e v`. -/

inductive PTok where
  | lit (v : Nat)
  | env (e : Nat) (v : Nat)
  | node (cls : Nat) (args : List PTok)

inductive PNode where
  | nil (cls : Nat) (carried : Option PTok)
  | lit (stable : Bool) (v : Nat) (rest : PNode)
  | child (c : PNode) (rest : PNode)

namespace PNode

def cls : PNode → Nat
  | .nil c _ => c
  | .lit _ _ r => r.cls
  | .child _ r => r.cls

def carried : PNode → Option PTok
  | .nil _ t => t
  | .lit _ _ r => r.carried
  | .child _ r => r.carried

/-- number of operands -/
def arity : PNode → Nat
  | .nil _ _ => 0
  | .lit _ _ r => r.arity + 1
  | .child _ r => r.arity + 1

end PNode

/-- tokens of the operands in process `e`; a child contributes its name (`funcname-token`) -/
def ptokAll (e : Nat) : PNode → List PTok
  | .nil _ _ => []
  | .lit true v r => PTok.lit v :: ptokAll e r
  | .lit false v r => PTok.env e v :: ptokAll e r
  | .child c r =>
    PTok.node c.cls [c.carried.getD (PTok.node c.cls (ptokAll e c))] :: ptokAll e r

/-- `deterministic_token`: the carried token when there is one, else tokenize the operands now -/
def detToken (e : Nat) (n : PNode) : PTok := n.carried.getD (PTok.node n.cls (ptokAll e n))

/-- `_name = f"{funcname}-{deterministic_token}"` in process `e` -/
def nameEnv (e : Nat) (n : PNode) : PTok := PTok.node n.cls [detToken e n]

theorem ptokAll_child (e : Nat) (c r : PNode) : ptokAll e (.child c r) = nameEnv e c :: ptokAll e r := rfl

/-- all operands stable, recursively, or shielded by a carried token -/
def stable : PNode → Bool
  | .nil _ _ => true
  | .lit s _ r => s && stable r
  | .child c r => (c.carried.isSome || stable c) && stable r

/-- pickle round trip in process `e₁`: `__reduce__` ships (type, *operands, deterministic_token, cache) and
    `_reconstruct` calls `typ(*operands, _determ_token=token)`; child operands are pickled by their
    own `__reduce__`.  `withTok` rebuilds the node with the given carried token. -/
def roundtripWith (e₁ : Nat) (tok : Option PTok) : PNode → PNode
  | .nil c _ => .nil c tok
  | .lit s v r => .lit s v (roundtripWith e₁ tok r)
  | .child c r => .child (roundtripWith e₁ (some (detToken e₁ c)) c) (roundtripWith e₁ tok r)

/-- `reconstruct (reduce e₁ n)` -/
def roundtrip (e₁ : Nat) (n : PNode) : PNode := roundtripWith e₁ (some (detToken e₁ n)) n

/-- the same round trip if `__reduce__` DROPPED the token of the root (children still carry theirs) -/
def roundtripDropToken (e₁ : Nat) (n : PNode) : PNode := roundtripWith e₁ none n

/-- names of all nodes of the tree (pre-order): the graph keys derive from these -/
def allNames (e : Nat) : PNode → List PTok
  | .nil _ _ => []
  | .lit _ _ r => allNames e r
  | .child c r => (nameEnv e c :: allNames e c) ++ allNames e r

def treeNames (e : Nat) (n : PNode) : List PTok := nameEnv e n :: allNames e n

/-! collection state (`Array.__dict__`): the expression plus derived caches -/

structure CollState (ε γ κ : Type) where
  expr : ε
  lowered : Option γ          -- `_lowered_expr`
  keys : Option κ             -- `_cached_dask_keys`
  optimizeFlag : Option Bool  -- `_lowered_expr_optimize_graph` (kept: it is configuration captured, not derived)

/-- `Array.__getstate__`: copy of `__dict__` without `_lowered_expr`, `_cached_dask_keys` -/
def getstate {ε γ κ : Type} (s : CollState ε γ κ) : CollState ε γ κ :=
  { s with lowered := none, keys := none }

/-- `Array.__setstate__`: `self.__dict__.update(state)` on a fresh object -/
def setstate {ε γ κ : Type} (s : CollState ε γ κ) : CollState ε γ κ := s

/-- cache invariant: a populated cache holds exactly what recomputation gives -/
def CacheInv {ε γ κ : Type} (materialize : ε → Bool → γ) (keysOf : ε → κ) (dflt : Bool) (s : CollState ε γ κ) : Prop :=
  (∀ g, s.lowered = some g → g = materialize s.expr (s.optimizeFlag.getD dflt)) ∧
  (∀ k, s.keys = some k → k = keysOf s.expr)

/-- what a user can observe: expression, graph source, keys (cached_property semantics: use the cache, else compute) -/
def observe {ε γ κ : Type} (materialize : ε → Bool → γ) (keysOf : ε → κ) (dflt : Bool) (s : CollState ε γ κ) : ε × γ × κ :=
  (s.expr, s.lowered.getD (materialize s.expr (s.optimizeFlag.getD dflt)), s.keys.getD (keysOf s.expr))

end Dask.Names
