/-
n-D reading of Model/OverlapSlice.lean, by axis independence.

Arrays are functions of the multi-index (`List Nat → α`); the shape only matters through the ranges the theorems
quantify over.  `padSrc` is the boundary extension of one axis as an INDEX MAP (the list-level `padB` reads exactly
this map: `padB_getElem?` in Lemmas/OverlapSlice.lean); `padND` is the loop of `boundaries(x, depth, kind)`
(`for i in range(ndim): x = kind_i(x, i, d_i)`, so a later axis' fill wins in the corners) written by recursion on
the axes; `boxWin` collects the box `∏ [i_a, i_a + dl_a + dr_a]` in C order and `stencilND k` applies a kernel to it.
Core Lean only.
-/
import DaskArrayModel.Model.OverlapSlice
namespace Dask.OverlapSlice

variable {α β γ : Type}

/-- where position `p` of the extended axis reads from -/
inductive Src (α : Type)
  | idx (j : Nat)     -- element `j` of the axis
  | absent            -- no neighbour (kind `none`)
  | fill (c : α)      -- the constant
  | out               -- `p` is outside the extended axis

/-- index map of `padB b dl dr` on an axis of length `n` -/
def padSrc (b : Boundary α) (dl dr n p : Nat) : Src α :=
  if p < dl then
    match b with
    | .none => .absent
    | .constant c => .fill c
    | .nearest => .idx 0
    | .reflect => .idx (dl - 1 - p)
    | .periodic => .idx (n - dl + p)
  else if p < dl + n then .idx (p - dl)
  else if p < dl + n + dr then
    match b with
    | .none => .absent
    | .constant c => .fill c
    | .nearest => .idx (n - 1)
    | .reflect => .idx (n - 1 - (p - dl - n))
    | .periodic => .idx (p - dl - n)
  else .out

/-- one axis of a `map_overlap` node: length, depths, boundary -/
structure AxSpec (α : Type) where
  n : Nat
  dl : Nat
  dr : Nat
  b : Boundary α

/-- `boundaries(x, depth, kind)` over all axes; `G` reads the (already `some`-wrapped) array at SOURCE coordinates. -/
def padND : List (AxSpec α) → (List Nat → Option α) → List Nat → Option α
  | [], G, _ => G []
  | _ :: _, _, [] => none
  | sp :: sps, G, p :: ps =>
    padND sps (fun js =>
      match padSrc sp.b sp.dl sp.dr sp.n p with
      | .idx j => G (j :: js)
      | .absent => none
      | .fill c => some c
      | .out => none) ps

/-- the entries of the box of widths `ws` with corner `I`, C order -/
def boxWin : List Nat → (List Nat → γ) → List Nat → List γ
  | [], E, _ => [E []]
  | _ :: _, _, [] => []
  | w :: ws, E, i :: is => (List.range w).flatMap (fun o => boxWin ws (fun js => E ((i + o) :: js)) is)

def widths (specs : List (AxSpec α)) : List Nat := specs.map (fun sp => sp.dl + sp.dr + 1)

/-- `map_overlap(f, depth, boundary)` followed by the trim, for a block function that is the stencil of kernel `k`:
the output at `I` is `k` of the box of the extended array whose corner is `I`. -/
def mapOverlapND (k : List (Option α) → β) (specs : List (AxSpec α)) (A : List Nat → α) (I : List Nat) : β :=
  k (boxWin (widths specs) (padND specs (fun js => some (A js))) I)

/-- componentwise sum -/
def addv : List Nat → List Nat → List Nat
  | a :: as, b :: bs => (a + b) :: addv as bs
  | _, _ => []

/-- a unit-step basic slice with the given starts: `A[s_0:…, s_1:…, …]` -/
def sliceND (starts : List Nat) (A : List Nat → α) : List Nat → α := fun I => A (addv starts I)

end Dask.OverlapSlice
