/-
C02 (lowering of elemwise nodes) — the rewrite that `Elemwise._lower` performs when the operands of an
elemwise node are chunked differently (`unify_chunks_expr` + one `rechunk` per operand that is not yet in its
target layout) replaces the node by one denoting the same array.

Model: Model/LowerUnify.lean (`unifyTargets`, `lowerZip` for operands of equal shape in the language `Expr`,
`lowerZipB` for NumPy broadcasting in the second language `Expr2`, `ExprU` / `lowerAll` for whole trees); the
unified layout is computed by the model of C17 (Model/Unify.lean; the float cost pass of policy "auto"
is its oracle `pre`, refused with `LErr.oracle` when outside the oracle relation).  The steps of the proofs are
in Lemmas/LowerUnify.lean.  Property theorems and non-vacuity examples.

Every theorem holds for ALL inputs: any rank, shape, chunking (zero-length chunks included in the soundness
theorems), policy, limit, oracle value and itemsizes.  Hypotheses are the decidable predicates `WF` / `WF2`
(of `Expr` / `Expr2`), `posLayout` (no zero-length chunk), `bcCompat` (NumPy broadcast compatibility), `wfU` / `regularU`.
Soundness (`…_wf`, `…_den`, `…_compute`) needs NO hypothesis on the chunks beyond well-formedness: whenever the
model's lowering returns, the result is well-formed and means NumPy's elemwise.  Totality (`…_total`) is where
C17's validity theorems enter: on broadcast-compatible operands with positive chunks the unified layout sums to
the axis length on every axis, so no `rechunk` is refused and nothing raises.
NOT modelled: unknown (nan) chunk sizes, scalar / `where=` / `out=` arguments, more than two operands at
expression level (the layouts of n operands are `unifyTargets`, tied to the code by the `lwu.targets`
correspondence).
-/
import DaskArrayModel.Lemmas.LowerUnify
namespace Dask.Props.C02Lower
open Dask.Py Dask.ND Dask.LowerUnify

/-- Equal shapes, any chunkings: whenever the lowering returns an expression, it is well-formed (both operands
carry the same layout, which sums to the shape on every axis). -/
theorem C02l_lowerZip_wf (p : Params) (pre : List ULayout) (ia ib : Int) (f : Nat) (a b e : Expr)
    (ha : WF a) (hb : WF b) (hs : shape a = shape b) (h : lowerZip p pre ia ib f a b = .ok e) : WF e := by
  obtain ⟨ua, ub, he, U⟩ := lowerZip_ok ha hb h
  subst he
  simp only [WF, wf, Bool.and_eq_true, decide_eq_true_eq]
  refine ⟨⟨⟨rechunkTo_wf ha U.two.suma U.two.nea, rechunkTo_wf hb U.two.sumb U.two.neb⟩, ?_⟩, ?_⟩
  · rw [rechunkTo_shape, rechunkTo_shape, hs]
  · rw [rechunkTo_chunks, rechunkTo_chunks]; exact U.two.same (chunks_sums_eq ha hb hs)

/-- … and its NumPy meaning is the pointwise `f` of the operands' meanings, for every environment. -/
theorem C02l_lowerZip_den (p : Params) (pre : List ULayout) (ia ib : Int) (f : Nat) (a b e : Expr)
    (ha : WF a) (hb : WF b) (h : lowerZip p pre ia ib f a b = .ok e) (env : Env) :
    den env e = ⟨shape a, fun i => env.bin f ((den env a).get i) ((den env b).get i)⟩ := by
  obtain ⟨ua, ub, he, _⟩ := lowerZip_ok ha hb h
  subst he
  simp only [den, shape, denGet, rechunkTo_shape, rechunkTo_denGet]

/-- … hence (`Expr`: `C01_compute_eq_den`) the blocks computed after lowering assemble to it. -/
theorem C02l_lowerZip_compute (p : Params) (pre : List ULayout) (ia ib : Int) (f : Nat) (a b e : Expr)
    (ha : WF a) (hb : WF b) (hs : shape a = shape b) (h : lowerZip p pre ia ib f a b = .ok e)
    (env : Env) (henv : EnvOK env) :
    Arr.Equiv (compute env e) ⟨shape a, fun i => env.bin f ((den env a).get i) ((den env b).get i)⟩ := by
  have := compute_eq_den env henv e (C02l_lowerZip_wf p pre ia ib f a b e ha hb hs h)
  rw [C02l_lowerZip_den p pre ia ib f a b e ha hb h env] at this
  exact this

/-- On operands with positive chunks the lowering never raises: it returns an expression, or — under policy
"auto" only — the model refuses an oracle value outside the oracle relation. -/
theorem C02l_lowerZip_total (p : Params) (pre : List ULayout) (ia ib : Int) (f : Nat) (a b : Expr)
    (ha : WF a) (hb : WF b) (hs : shape a = shape b) (hia : 0 ≤ ia) (hib : 0 ≤ ib)
    (pa : posLayout (chunks a) = true) (pb : posLayout (chunks b) = true) :
    (∃ e, lowerZip p pre ia ib f a b = .ok e) ∨
    (p.policy = .auto ∧ lowerZip p pre ia ib f a b = .error .oracle) := by
  rcases unifyTargets_total p pre (meta_ok a ha).1 (meta_ok b hb).1 hia hib (allTruthy_chunks ha)
    (allTruthy_chunks hb) pa pb (hs ▸ bcCompat_self _) with ⟨ua, ub, hl⟩ | ⟨hp, he⟩
  · exact Or.inl ⟨_, by unfold lowerZip; rw [hl]⟩
  · exact Or.inr ⟨hp, by unfold lowerZip; rw [he]⟩

/-- NumPy broadcasting (lower rank, length-1 axes): whenever the lowering returns, the result is well-formed:
each operand is `(1,)` on an axis or carries the layout of the result. -/
theorem C02l_lowerZipB_wf (p : Params) (pre : List ULayout) (ia ib : Int) (f : Nat) (a b e : Expr2)
    (ha : WF2 a) (hb : WF2 b) (h : lowerZipB p pre ia ib f a b = .ok e) : WF2 e :=
  (lowerZipB_sound ha hb h).1

/-- … and its meaning is NumPy's broadcasting elemwise (`bcDen`) of the operands' meanings. -/
theorem C02l_lowerZipB_den (p : Params) (pre : List ULayout) (ia ib : Int) (f : Nat) (a b e : Expr2)
    (ha : WF2 a) (hb : WF2 b) (h : lowerZipB p pre ia ib f a b = .ok e) (env : Env) :
    den2 env e = bcDen (env.bin f) (den2 env a) (den2 env b) ∧ shape2 e = bcShape (shape2 a) (shape2 b) :=
  ⟨(lowerZipB_sound ha hb h).2.2 env, (lowerZipB_sound ha hb h).2.1⟩

/-- … hence (`Expr2`: `C01x_compute2_eq_den2`) the blocks computed after lowering assemble to it. -/
theorem C02l_lowerZipB_compute (p : Params) (pre : List ULayout) (ia ib : Int) (f : Nat) (a b e : Expr2)
    (ha : WF2 a) (hb : WF2 b) (h : lowerZipB p pre ia ib f a b = .ok e) (env : Env) (henv : EnvOK env) :
    Arr.Equiv (compute2 env e) (bcDen (env.bin f) (den2 env a) (den2 env b)) := by
  obtain ⟨we, _, de⟩ := lowerZipB_sound ha hb h
  rw [← de env]
  exact compute2_eq_den2 env henv e we

/-- On broadcast-compatible operands with positive chunks the lowering never raises. -/
theorem C02l_lowerZipB_total (p : Params) (pre : List ULayout) (ia ib : Int) (f : Nat) (a b : Expr2)
    (ha : WF2 a) (hb : WF2 b) (hc : bcCompat (shape2 a) (shape2 b) = true) (hia : 0 ≤ ia) (hib : 0 ≤ ib)
    (pa : posLayout (chunks2 a) = true) (pb : posLayout (chunks2 b) = true) :
    (∃ e, lowerZipB p pre ia ib f a b = .ok e) ∨
    (p.policy = .auto ∧ lowerZipB p pre ia ib f a b = .error .oracle) :=
  lowerZipB_total p pre f ha hb hc hia hib pa pb

/-- Whole trees: lowering every un-unified elemwise node of a well-formed tree succeeds, the result is
well-formed, has NumPy's broadcast shape and the NumPy meaning of the un-lowered tree, in every environment. -/
theorem C02l_lowerAll_sound (p : Params) (t : ExprU) (h : wfU p t = true) :
    ∃ e2, lowerAll p t = .ok e2 ∧ WF2 e2 ∧ shape2 e2 = shapeU t ∧ ∀ env, den2 env e2 = denU env t :=
  lowerAll_sound p t h

/-- … and the blocks computed from the lowered tree assemble to that meaning. -/
theorem C02l_lowerAll_compute (p : Params) (t : ExprU) (h : wfU p t = true) (env : Env) (henv : EnvOK env) :
    ∃ e2, lowerAll p t = .ok e2 ∧ Arr.Equiv (compute2 env e2) (denU env t) := by
  obtain ⟨e2, he, w, _, d⟩ := lowerAll_sound p t h
  refine ⟨e2, he, ?_⟩
  rw [← d env]
  exact compute2_eq_den2 env henv e2 w

/-- Under the policies `coarse` and `refine` the plain input conditions (`regularU`: positive chunks,
broadcast-compatible shapes, non-negative itemsizes at every elemwise node) imply `wfU`: lowering a tree is
never refused. -/
theorem C02l_lowerAll_regular (p : Params) (hp : p.policy ≠ .auto) (t : ExprU) (h : regularU p t = true) :
    wfU p t = true :=
  wfU_of_regular p hp t h

/-- the embedding is conservative: an `Expr` is lowered to itself -/
theorem C02l_lowerAll_base (p : Params) (e : Expr) (env : Env) :
    lowerAll p (.base e) = .ok (.base e) ∧ (wfU p (.base e) = true ↔ WF e) ∧ denU env (.base e) = den env e :=
  ⟨rfl, Iff.rfl, rfl⟩

/-! ### non-vacuity -/

def exEnv : Env :=
  { src := fun id =>
      if id = 0 then ⟨[4, 6], fun i => (flatIndex [4, 6] i : Int)⟩
      else if id = 1 then ⟨[4, 6], fun i => (100 * flatIndex [4, 6] i : Int)⟩
      else if id = 2 then ⟨[6], fun i => (1000 * flatIndex [6] i : Int)⟩
      else ⟨[4, 1], fun i => (7 * flatIndex [4, 1] i : Int)⟩
    un := fun _ x => -x
    bin := fun _ x y => x + y }

/-- two 4×6 operands whose chunks interleave on axis 1 and nest on axis 0 -/
def a : Expr := .src 0 [4, 6] [[2, 2], [3, 3]]
def b : Expr := .src 1 [4, 6] [[4], [2, 2, 2]]
/-- a finer operand (every boundary of `a` is one of its boundaries) -/
def b' : Expr := .src 1 [4, 6] [[1, 1, 1, 1], [1, 2, 1, 2]]
/-- a vector (lower rank) and a column (length-1 axis) -/
def v : Expr := .src 2 [6] [[4, 2]]
def c : Expr := .src 3 [4, 1] [[1, 3], [1]]

example : WF a ∧ WF b ∧ WF b' ∧ shape a = shape b := by decide +kernel
example : posLayout (chunks a) = true ∧ posLayout (chunks b) = true := by decide +kernel
-- refine: both operands are rechunked to the common refinement
example : lowerZip ⟨.refine, none⟩ [] 8 8 0 a b
    = .ok (.zip 0 (.rechunk a [[2, 2], [2, 1, 1, 2]]) (.rechunk b [[2, 2], [2, 1, 1, 2]])) := rfl
-- coarse: the finer operand is merged up to `a`'s layout; `a` itself gets NO rechunk node
example : lowerZip ⟨.coarse, none⟩ [] 8 8 0 a b' = .ok (.zip 0 a (.rechunk b' [[2, 2], [3, 3]])) := rfl
-- … unless the size guard fires (limit 40 B < 8·2·3 B): fall back to the refinement
example : lowerZip ⟨.coarse, some 40⟩ [] 8 8 0 a b' = .ok (.zip 0 (.rechunk a [[1, 1, 1, 1], [1, 2, 1, 2]]) b') := rfl
-- equal chunks: the node stays as it is
example : lowerZip ⟨.coarse, some 1⟩ [] 8 8 0 a a = .ok (.zip 0 a a) := rfl
-- auto: an admissible oracle value (realign to `a`'s grid) is followed, an inadmissible one is refused
example : lowerZip ⟨.auto, none⟩ [[3, 3], [2, 2]] 8 8 0 a b = .ok (.zip 0 a (.rechunk b [[2, 2], [3, 3]])) := rfl
example : lowerZip ⟨.auto, none⟩ [[6], [2, 2]] 8 8 0 a b = .error .oracle := rfl
-- the lowered node computes NumPy's `a + b`
#guard (lowerZip ⟨.refine, none⟩ [] 8 8 0 a b).toOption.map (fun e => (compute exEnv e).toList.take 4) == some [0, 101, 202, 303]
-- zero-length chunks are inside the soundness theorems
example : WF (.src 0 [3] [[2, 0, 1]]) ∧ lowerZip ⟨.refine, none⟩ [] 8 8 0 (.src 0 [3] [[2, 0, 1]]) (.src 1 [3] [[1, 2]])
    = .ok (.zip 0 (.rechunk (.src 0 [3] [[2, 0, 1]]) [[1, 1, 0, 1]]) (.rechunk (.src 1 [3] [[1, 2]]) [[1, 1, 0, 1]])) :=
  ⟨by decide, rfl⟩

-- broadcasting: the vector is rechunked on the shared axis only; a length-1 axis is left alone
example : WF2 (.base a) ∧ WF2 (.base v) ∧ WF2 (.base c) := by decide +kernel
example : bcCompat (shape2 (.base a)) (shape2 (.base v)) = true ∧ bcCompat (shape2 (.base c)) (shape2 (.base v)) = true := by
  decide +kernel
example : lowerZipB ⟨.refine, none⟩ [] 8 8 0 (.base a) (.base v)
    = .ok (.zipB 0 (.base (.rechunk a [[2, 2], [3, 1, 2]])) (.base (.rechunk v [[3, 1, 2]]))) := rfl
example : lowerZipB ⟨.refine, none⟩ [] 8 8 0 (.base c) (.base v) = .ok (.zipB 0 (.base c) (.base v)) := rfl
example : bcShape [4, 1] [6] = [4, 6] ∧ bcShape [4, 6] [6] = [4, 6] := by decide +kernel
-- shapes that do not broadcast are outside the totality theorem (and the model raises, as the code does)
example : bcCompat [4, 6] [5] = false := by decide +kernel
example : lowerZipB ⟨.refine, none⟩ [] 8 8 0 (.base a) (.base (.src 2 [5] [[2, 3]])) = .error (.unify .valueError) := rfl
#guard (lowerZipB ⟨.refine, none⟩ [] 8 8 0 (.base c) (.base v)).toOption.map (fun e => (compute2 exEnv e).toList.take 7)
  == some [0, 1000, 2000, 3000, 4000, 5000, 7]

/-- a tree: `(x - w).T + v` where `x` is 6×4, `w` a vector of 4 chunked differently, `v` a vector of 6 -/
def t : ExprU :=
  .zipU 0 8 8 []
    (.node (.transpose (.src holeA [6, 4] [[2, 2, 2], [1, 3]]) [1, 0])
      (.zipU 1 8 8 [] (.base (.src 0 [6, 4] [[2, 2, 2], [4]])) (.base (.src 3 [4] [[1, 3]])))
      (.base (.src 3 [4] [[1, 3]])))
    (.base v)
example : wfU ⟨.refine, none⟩ t = true ∧ regularU ⟨.refine, none⟩ t = true ∧ shapeU t = [4, 6] := by decide +kernel
example : (lowerAll ⟨.refine, none⟩ t).toOption.map chunks2 = some [[1, 3], [2, 2, 2]] := by decide +kernel
-- a context whose hole is declared with the chunks BEFORE lowering is refused
example : wfU ⟨.refine, none⟩
    (.node (.transpose (.src holeA [6, 4] [[2, 2, 2], [4]]) [1, 0])
      (.zipU 1 8 8 [] (.base (.src 0 [6, 4] [[2, 2, 2], [4]])) (.base (.src 3 [4] [[1, 3]])))
      (.base (.src 3 [4] [[1, 3]]))) = false := by decide +kernel

end Dask.Props.C02Lower
