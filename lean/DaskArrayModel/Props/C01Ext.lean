/-
C01 (second-layer language `Expr2`) — Array programs compute what NumPy computes, for programs that
ALSO contain binary elementwise ops with NumPy broadcasting (`zipB`: lower rank, length-1 axes; the
block-id rule `coord % numblocks`), integer-list indexing along one axis (`take`: negative indices,
repeats, any order; chunked as `_compute_indexer` + `Shuffle._new_chunks`) and sliding-window
reductions under the OVERLAP plan (`swvReduce`), freely nested with every constructor of `Expr`
(`Expr2.node`: an `Expr` context whose hole sources stand for `Expr2` sub-expressions; its tasks read the
COMPUTED blocks of the sub-expressions).  The property theorems (the steps are in Lemmas/Expr2*.lean)
and non-vacuity examples.  Every theorem holds for EVERY well-formed `Expr2` (any depth, rank, shape,
chunking), every data / function environment, every block.  The base case is `blockDen_correct`
(Lemmas/ExprCorrect.lean, the theorem behind Props/C01's `C01_blockDen_correct`).

NOT covered: the NATIVE sliding-window plan (`SlidingWindowReduction`; its block plan is C19's
`slidingPlan_correct`), the choice of the intermediate chunking that `sliding_window_view` rechunks to
(float heuristics; an explicit `rechunk` in the program), the result of implicit chunk unification
(C17; explicit `rechunk`s in the program), n-d fancy indexing.
-/
import DaskArrayModel.Lemmas.Expr2Correct
namespace Dask.Props.C01Ext
open Dask.Py Dask.ND

/-- Refinement: the value the task for output block `bid` computes is exactly the block of the
NumPy meaning on the extent that `.chunks` advertises for `bid`. -/
theorem C01x_blockDen2_correct (env : Env) (henv : EnvOK env) (e : Expr2) (bid : List Nat)
    (hwf : WF2 e) (hbid : validBid (chunks2 e) bid) :
    Arr.Equiv (blockDen2 env e bid) (restrict (den2 env e) (extent (chunks2 e) bid)) :=
  blockDen2_correct env henv e hwf bid hbid

/-- `compute()` (assembling all computed blocks along `.chunks`) gives the NumPy meaning. -/
theorem C01x_compute2_eq_den2 (env : Env) (henv : EnvOK env) (e : Expr2) (hwf : WF2 e) :
    Arr.Equiv (compute2 env e) (den2 env e) :=
  compute2_eq_den2 env henv e hwf

/-- … hence the same flat data (C order), for every chunking of the same program. -/
theorem C01x_compute2_data (env : Env) (henv : EnvOK env) (e : Expr2) (hwf : WF2 e) :
    (compute2 env e).toList = (den2 env e).toList :=
  (compute2_eq_den2 env henv e hwf).toList_eq

/-- the block computed for `bid` has exactly the advertised size on every axis -/
theorem C03x_block_shape2 (env : Env) (henv : EnvOK env) (e : Expr2) (bid : List Nat)
    (hwf : WF2 e) (hbid : validBid (chunks2 e) bid) :
    (blockDen2 env e bid).shape = blockShape (chunks2 e) bid :=
  (blockDen2_correct env henv e hwf bid hbid).1

/-- `.chunks` sums to `.shape` on every axis and every axis has at least one block -/
theorem C03x_chunks2_sum (e : Expr2) (hwf : WF2 e) :
    (chunks2 e).map List.sum = shape2 e ∧ ∀ cs ∈ chunks2 e, cs ≠ [] :=
  meta2_ok e hwf

/-- the embedding is conservative: on `base` everything is the `Expr` notion -/
theorem C01x_base (env : Env) (e : Expr) (bid : List Nat) :
    (WF2 (.base e) ↔ WF e) ∧ chunks2 (.base e) = chunks e ∧ den2 env (.base e) = den env e ∧
      blockDen2 env (.base e) bid = blockDen env e bid :=
  ⟨Iff.rfl, rfl, rfl, rfl⟩

/-- the groups of positions that make the output blocks of `take` concatenate to the posified index
list (NumPy semantics of negative indices), and there is at least one block -/
theorem C01x_takeGroups (n : Nat) (cs : List Nat) (idx : List Int) (hn : cs.sum = n) (hcs : cs ≠ [])
    (hidx : ∀ k ∈ idx, -(n : Int) ≤ k ∧ k < (n : Int)) :
    (takeGroups n cs idx).flatten = idx.map (Dask.Slicing.posifyInt n) ∧ takeGroups n cs idx ≠ [] :=
  takeGroups_spec n cs idx hn hidx

/-- the block-id rule of the broadcasting binary: a VALID block of the operand -/
theorem C01x_bcBid_valid (cl : Layout) (bid : List Nat) (hne : ∀ cs ∈ cl, cs ≠ []) (h : cl.length ≤ bid.length) :
    validBid cl (bcBid (numblocks cl) bid) :=
  validBid_bcBid cl bid hne h

/-! non-vacuity: 4×5 source `x` with chunks ((2,2),(3,2)), a vector `v` of length 5 chunked (3,2), a
column `c` of shape 4×1 -/

def exEnv : Env :=
  { src := fun id =>
      if id = 0 then ⟨[4, 5], fun i => (flatIndex [4, 5] i : Int)⟩
      else if id = 1 then ⟨[5], fun i => (10 * flatIndex [5] i : Int)⟩
      else ⟨[4, 1], fun i => (100 * flatIndex [4, 1] i : Int)⟩
    un := fun _ x => -x
    bin := fun _ x y => x + y }
def x : Expr2 := .base (.src 0 [4, 5] [[2, 2], [3, 2]])
def v : Expr2 := .base (.src 1 [5] [[3, 2]])
def c : Expr2 := .base (.src 2 [4, 1] [[2, 2], [1]])

-- x + v (lower rank) and c + v (both broadcast: 4×1 with 5 → 4×5)
def xv : Expr2 := .zipB 0 x v
def cv : Expr2 := .zipB 0 c v
example : WF2 xv ∧ WF2 cv := by decide +kernel
example : shape2 xv = [4, 5] ∧ chunks2 xv = [[2, 2], [3, 2]] ∧ chunks2 cv = [[2, 2], [3, 2]] := by decide +kernel
example : bcBid (numblocks (chunks2 v)) [1, 1] = [1] ∧ bcBid (numblocks (chunks2 c)) [1, 1] = [1, 0] := by decide +kernel
#guard (den2 exEnv xv).toList.take 6 == [0, 11, 22, 33, 44, 5]
#guard (blockDen2 exEnv xv [1, 1]).shape == [2, 2] && (blockDen2 exEnv xv [1, 1]).toList == [43, 54, 48, 59]
#guard (compute2 exEnv cv).toList == (den2 exEnv cv).toList
#guard (den2 exEnv cv).toList.drop 15 == [300, 310, 320, 330, 340]
-- chunks that do not line up are refused (the real API rechunks first: an explicit `rechunk`)
example : ¬ WF2 (.zipB 0 x (.base (.src 1 [5] [[2, 3]]))) := by decide +kernel

-- take with negative and repeated indices: the groups follow the input chunks, merged up to the largest
def t : Expr2 := .take x 1 [-1, 0, 0, 3, 1, 2]
example : WF2 t ∧ shape2 t = [4, 6] := by decide +kernel
#guard takeGroups 5 [3, 2] [-1, 0, 0, 3, 1, 2] == [[4, 0, 0], [3, 1, 2]]
#guard chunks2 t == [[2, 2], [3, 3]]
#guard (den2 exEnv t).toList.take 6 == [4, 0, 0, 3, 1, 2]
#guard (blockDen2 exEnv t [1, 1]).toList == [13, 11, 12, 18, 16, 17]
#guard (compute2 exEnv t).toList == (den2 exEnv t).toList
-- `take(x, arange(n))` keeps the chunks; an out-of-range index is refused
#guard chunks2 (.take x 0 [0, 1, 2, 3]) == [[2, 2], [3, 2]]
example : ¬ WF2 (.take x 1 [5]) := by decide +kernel

-- sliding-window sum, window 2 along axis 1: needs chunks ≥ 2 on the axis; output chunks (3, 2-1)
def s : Expr2 := .swvReduce .sum x 2 1
example : WF2 s ∧ shape2 s = [4, 4] ∧ chunks2 s = [[2, 2], [3, 1]] := by decide +kernel
#guard (den2 exEnv s).toList.take 4 == [1, 3, 5, 7]
#guard (blockDen2 exEnv s [0, 0]).toList == [1, 3, 5, 11, 13, 15]   -- position 2 reads block 1
#guard (compute2 exEnv s).toList == (den2 exEnv s).toList
example : ¬ WF2 (.swvReduce .sum x 3 1) := by decide +kernel   -- chunk 2 < window 3: rechunk first

-- `Expr` ops ABOVE the new ops: transpose of (x + v), then take on it, then a window maximum
def nd : Expr2 := .node (.transpose (.src holeA [4, 5] [[2, 2], [3, 2]]) [1, 0]) xv xv
def tt : Expr2 := .take nd 0 [4, 0, -2]
def deep : Expr2 := .swvReduce .max (.node (.rechunk (.src holeA [3, 4] [[3], [2, 2]]) [[3], [4]]) tt tt) 3 1
example : WF2 nd ∧ WF2 tt ∧ WF2 deep := by decide +kernel
#guard chunks2 tt == [[3], [2, 2]] && shape2 deep == [3, 2]
#guard (compute2 exEnv deep).toList == (den2 exEnv deep).toList
#guard (den2 exEnv deep).toList == [54, 59, 10, 15, 43, 48]
-- a context whose hole is declared with the wrong chunks is refused
example : ¬ WF2 (.node (.transpose (.src holeA [4, 5] [[4], [5]]) [1, 0]) xv xv) := by decide +kernel

end Dask.Props.C01Ext
