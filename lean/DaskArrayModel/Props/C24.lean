/-
C24 — Source reads return exactly the requested elements.  The property theorems with their final
assembly (the steps are in Lemmas/SourceIO) and non-vacuity examples.  Per axis (the code is a
`zip` over axes; NumPy basic indexing is a per-axis product); every statement is for ALL
source lengths, ALL chunkings (zero-length chunks included), ALL chains of pushed index
entries and ALL read chunkings.

Vocabulary (Model/SourceIO.lean): `Axis = (dim, region, chunks)` one axis of a `FromArray`;
`acceptSliceAxis`/`acceptChain` = `_accept_slice` (returns `none` where the code declines);
`layerSlices ax` = the `(start, stop)` slices `_layer` emits per block;
`readPositions ax` = the source positions those slices read, block after block;
`npChain xs idxs` = what NumPy returns for applying the chain to `xs`.
-/
import DaskArrayModel.Lemmas.SourceIO
namespace Dask.Props.C24
open Dask.Py Dask.Py.PySlice Dask.Slicing Dask.SourceIO

/-- `slices_from_chunks`: the block slices `[start_b, start_b + c_b)` tile `[0, sum c)` in order. -/
theorem slicesFromChunks_partition (chunks : List Int) (hc : ∀ c ∈ chunks, 0 ≤ c) :
    slicesPositions (slicesFromChunks chunks) = rangeList 0 (isum chunks) 1 :=
  Dask.Lemmas.SourceIO.slicesFromChunks_partition chunks hc

/-- For any chain of accepted index entries pushed into a source axis, the positions read by
the emitted per-block slices, concatenated in block order, are exactly NumPy's positions for
applying the chain to `range(dim)`. -/
theorem C24_region_read (dim : Int) (chunks : List Int) (idxs : List Idx) (ax : Axis)
    (hd : 0 ≤ dim) (hc : ∀ c ∈ chunks, 0 ≤ c) (hsum : isum chunks = dim)
    (hv : ValidChain (rangeList 0 dim 1) idxs)
    (ha : acceptChain ⟨dim, none, chunks⟩ idxs = some ax) :
    readPositions ax = npChain (rangeList 0 dim 1) idxs := by
  have h := Dask.Lemmas.SourceIO.acceptChain_fresh dim chunks idxs ax hd hc hsum hv ha
  rw [Dask.Lemmas.SourceIO.readPositions_eq_region ax h.1, h.2.2]

/-- every emitted read slice `[a, b)` stays inside the source: `0 ≤ a ≤ b ≤ dim`. -/
theorem C24_in_bounds (dim : Int) (chunks : List Int) (idxs : List Idx) (ax : Axis)
    (hd : 0 ≤ dim) (hc : ∀ c ∈ chunks, 0 ≤ c) (hsum : isum chunks = dim)
    (hv : ValidChain (rangeList 0 dim 1) idxs)
    (ha : acceptChain ⟨dim, none, chunks⟩ idxs = some ax) :
    ∀ p ∈ layerSlices ax, 0 ≤ p.1 ∧ p.1 ≤ p.2 ∧ p.2 ≤ dim := by
  have h := Dask.Lemmas.SourceIO.acceptChain_fresh dim chunks idxs ax hd hc hsum hv ha
  rw [← h.2.1]
  exact Dask.Lemmas.SourceIO.layerSlices_in_bounds ax h.1

/-- the advertised chunks of the new node are non-negative and sum to the length of the result -/
theorem C24_chunks_advertised (dim : Int) (chunks : List Int) (idxs : List Idx) (ax : Axis)
    (hd : 0 ≤ dim) (hc : ∀ c ∈ chunks, 0 ≤ c) (hsum : isum chunks = dim)
    (hv : ValidChain (rangeList 0 dim 1) idxs)
    (ha : acceptChain ⟨dim, none, chunks⟩ idxs = some ax) :
    (∀ c ∈ ax.chunks, 0 ≤ c) ∧ isum ax.chunks = ((npChain (rangeList 0 dim 1) idxs).length : Int) := by
  have h := Dask.Lemmas.SourceIO.acceptChain_fresh dim chunks idxs ax hd hc hsum hv ha
  refine ⟨h.1.chunks_nonneg, ?_⟩
  rw [h.1.chunks_sum, Dask.Lemmas.SourceIO.effLen_eq_length ax h.1.dim_nonneg, h.2.2]

/-- `_accept_slice` declines exactly: `None`, fancy entries, and slices whose step is neither
`None` nor `1` (so negative / non-unit steps are never pushed into the read). -/
theorem C24_accept_iff (ax : Axis) (idx : Idx) :
    (∃ ax', acceptSliceAxis ax idx = some ax') ↔
      (match idx with
       | .int _ => True
       | .slc s => s.step = none ∨ s.step = some 1
       | _ => False) := by
  unfold acceptSliceAxis
  cases idx with
  | int i => simp [idxAccepted]
  | slc s =>
    by_cases h : s.step = none ∨ s.step = some 1
    · simp [idxAccepted, h]
    · simp [idxAccepted, h]
  | newaxis => simp [idxAccepted]
  | fancy => simp [idxAccepted]

/-- `_compute_sliced_chunks` for a unit-step slice: sums to the selection length, entries
non-negative, and (non-empty selection) exactly the overlap lengths of the chunks with the
selected interval. -/
theorem computeSlicedChunks_spec (chunks : List Int) (s : PySlice) (n : Int)
    (hn : 0 ≤ n) (hc : ∀ c ∈ chunks, 0 ≤ c) (hsum : isum chunks = n) (hs : s.stp = 1) :
    isum (computeSlicedChunks chunks s n) = ((sel s n).length : Int) ∧
    (∀ c ∈ computeSlicedChunks chunks s n, 0 ≤ c) ∧
    (s ≠ colon → s.istart n < s.istop n →
      computeSlicedChunks chunks s n = overlapSpec (s.istart n) (s.istop n) (slicesFromChunks chunks)) :=
  Dask.Lemmas.SourceIO.computeSlicedChunks_spec chunks s n hn hc hsum hs

/-- Reading the same region with ANY other read chunking (non-negative, summing to the region
length — what `_with_chunks(read_chunks)` installs) reads the same positions, in bounds. -/
theorem C24_rechunk_read (dim : Int) (chunks : List Int) (idxs : List Idx) (ax : Axis)
    (read : List Int)
    (hd : 0 ≤ dim) (hc : ∀ c ∈ chunks, 0 ≤ c) (hsum : isum chunks = dim)
    (hv : ValidChain (rangeList 0 dim 1) idxs)
    (ha : acceptChain ⟨dim, none, chunks⟩ idxs = some ax)
    (hr : ∀ c ∈ read, 0 ≤ c) (hrs : isum read = effLen ax.region ax.dim) :
    readPositions ⟨ax.dim, ax.region, read⟩ = npChain (rangeList 0 dim 1) idxs ∧
    ∀ p ∈ layerSlices ⟨ax.dim, ax.region, read⟩, 0 ≤ p.1 ∧ p.1 ≤ p.2 ∧ p.2 ≤ dim := by
  have h := Dask.Lemmas.SourceIO.acceptChain_fresh dim chunks idxs ax hd hc hsum hv ha
  have hi : Dask.Lemmas.SourceIO.Inv ⟨ax.dim, ax.region, read⟩ := ⟨h.1.dim_nonneg, hr, hrs, h.1.unit⟩
  constructor
  · rw [Dask.Lemmas.SourceIO.readPositions_eq_region _ hi, ← h.2.2]; rfl
  · rw [← h.2.1]
    exact Dask.Lemmas.SourceIO.layerSlices_in_bounds _ hi

/-- The read chunks `_accept_rechunk` chooses on an axis with a unit-step region
`start ≤ stop` (region branch: the target chunks, or boundaries at the storage multiples
inside the region) are such a chunking: non-negative, `sum = stop - start`. -/
theorem C24_storage_read_chunks (target : List Int) (storage : Int) (region : PySlice) (dim : Int)
    (read : List Int) (hs : 0 < storage) (hu : region.stp = 1)
    (hord : region.istart dim ≤ region.istop dim)
    (ht : ∀ c ∈ target, 0 ≤ c) (htsum : isum target = effLen (some region) dim)
    (h : readChunksAxis target storage region dim = some read) :
    (∀ c ∈ read, 0 ≤ c) ∧ isum read = effLen (some region) dim := by
  unfold readChunksAxis at h
  simp only [] at h
  split at h
  · injection h with h; subst h; exact ⟨ht, htsum⟩
  · split at h
    · cases h
    · injection h with h
      subst h
      have := Dask.Lemmas.SourceIO.alignedReadChunks_valid (region.istart dim) (region.istop dim) storage hs hord
      refine ⟨this.1, ?_⟩
      rw [this.2, Dask.Lemmas.SourceIO.effLen_unit region dim hu]
      omega

/-- … and `start ≤ stop` is kept by every accepted push whose own index is ordered
(`normalize_index` hands over slices with `start ≤ stop`, integers `0 ≤ i`). -/
theorem C24_region_ordered (ax ax' : Axis) (idx : Idx) (h : Dask.Lemmas.SourceIO.Inv ax)
    (ha : acceptSliceAxis ax idx = some ax')
    (hord : (regionIndex idx).istart (effLen ax.region ax.dim) ≤ (regionIndex idx).istop (effLen ax.region ax.dim)) :
    ∀ r, ax'.region = some r → r.istart ax'.dim ≤ r.istop ax'.dim := by
  unfold acceptSliceAxis at ha
  by_cases hacc : idxAccepted idx = true
  · simp only [hacc, if_true] at ha
    injection ha with ha
    have := Dask.Lemmas.SourceIO.accept_ordered ax (regionIndex idx) h
      (Dask.Lemmas.SourceIO.stp_regionIndex idx hacc) hord
    subst ha
    intro r hr
    injection hr with hr
    subst hr
    exact this
  · simp [hacc] at ha

/-- no-region branch: the coarse storage-multiple read chunks are a chunking of the axis. -/
theorem C24_coarse_read_chunks (target : List Int) (storage dim : Int) (hs : 0 < storage) (hd : 0 ≤ dim) :
    (∀ c ∈ uniformChunks (coarseReadSize target storage) dim, 0 ≤ c) ∧
    isum (uniformChunks (coarseReadSize target storage) dim) = dim :=
  Dask.Lemmas.SourceIO.uniformChunks_valid _ dim (Dask.Lemmas.SourceIO.coarseReadSize_pos target storage hs) hd

example : slicesPositions (slicesFromChunks [2, 0, 3]) = [0, 1, 2, 3, 4] := by decide +kernel
example :
    let idxs := [Idx.slc ⟨some 2, some 11, none⟩, Idx.slc ⟨some 1, some (-2), some 1⟩, Idx.int 3]
    (acceptChain ⟨12, none, [5, 4, 3]⟩ idxs).map (fun ax => (ax.region, ax.chunks, layerSlices ax, readPositions ax))
      = some (some ⟨some 6, some 7, none⟩, [1], [(6, 7)], [6]) ∧
    npChain (rangeList 0 12 1) idxs = [6] := by decide +kernel
example :
    let idxs := [Idx.slc ⟨some 2, some 11, none⟩, Idx.slc ⟨some 1, some (-2), some 1⟩]
    (acceptChain ⟨12, none, [5, 4, 3]⟩ idxs).map (fun ax => (ax.chunks, layerSlices ax))
      = some ([2, 4], [(3, 5), (5, 9)]) ∧
    npChain (rangeList 0 12 1) idxs = [3, 4, 5, 6, 7, 8] := by decide +kernel
example : acceptSliceAxis ⟨12, none, [5, 4, 3]⟩ (Idx.slc ⟨none, none, some (-1)⟩) = none := by decide +kernel
example : computeSlicedChunks [5, 4, 3] ⟨some 3, some 10, none⟩ 12 = [2, 4, 1] := by decide +kernel
example : readChunksAxis [3, 4] 4 ⟨some 2, some 9, none⟩ 10 = some [2, 4, 1] := by decide +kernel
example : readPositions ⟨10, some ⟨some 2, some 9, none⟩, [2, 4, 1]⟩ = readPositions ⟨10, some ⟨some 2, some 9, none⟩, [3, 4]⟩ := by decide +kernel
/-- `start ≤ stop` in `C24_storage_read_chunks` is needed: a reversed unit-step region (never
produced from normalized indices, see `C24_region_ordered`) would give a negative read chunk. -/
example : readChunksAxis [0] 4 ⟨some 5, some 2, none⟩ 10 = some [-3] := by decide +kernel

end Dask.Props.C24
