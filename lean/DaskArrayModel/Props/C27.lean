/-
C27 — Transfer estimates are well-formed (rechunk-stage estimate and `moved_fraction`).
The loop invariant is in Lemmas/Transfer.lean (`stageAxis_spec`; `moved_fraction` runs the same loops:
`movedNum_cases`).  `movedNum src dst` is the integer numerator of
`moved_fraction(src, dst)` (the fraction is `movedNum / isum src`, the division being the only
float); `stageTransfer` is `_rechunk_stage_transfer` over exact integers.
-/
import DaskArrayModel.Lemmas.Transfer
namespace Dask.Props.C27
open Dask.Py Dask.Rechunk Dask.Lemmas.Transfer

/-- the numerator of the moved fraction is `≥ 0` (all layouts, zero-length blocks allowed) -/
theorem C27_movedNum_nonneg (src dst : List Int)
    (hs : ∀ c ∈ src, 0 ≤ c) (hd : ∀ c ∈ dst, 0 ≤ c) : 0 ≤ movedNum src dst :=
  (movedNum_spec src dst hs hd).1

/-- the numerator is at most the total `isum src`; for `0 < isum src` this is "the moved fraction is `≤ 1`" -/
theorem C27_movedNum_le_total (src dst : List Int)
    (hs : ∀ c ∈ src, 0 ≤ c) (hd : ∀ c ∈ dst, 0 ≤ c) : movedNum src dst ≤ isum src :=
  (movedNum_spec src dst hs hd).2.1

/-- identical layouts move nothing -/
theorem C27_movedNum_self (src : List Int) : movedNum src src = 0 := by
  unfold movedNum; simp

/-- pure splits move nothing: `dst = gs.flatten` refines `src = gs.map isum` (every `dst` block
lies inside one `src` block; zero-length blocks and empty groups allowed) -/
theorem C27_movedNum_split (gs : List (List Int)) (hg : ∀ g ∈ gs, ∀ x ∈ g, 0 ≤ x) :
    movedNum (gs.map isum) gs.flatten = 0 := by
  refine (movedNum_spec _ _ (fun x hx => ?_) (fun x hx => ?_)).2.2 (coarser_flatten gs)
  · obtain ⟨g, hgm, rfl⟩ := List.mem_map.mp hx
    exact isum_nonneg _ (hg g hgm)
  · obtain ⟨g, hgm, hxg⟩ := List.mem_flatten.mp hx
    exact hg g hgm x hxg

/-- per-axis counters of a rechunk stage: `0 ≤ s ≤ l ≤ t` and `0 ≤ u ≤ r` -/
theorem C27_stageAxis_facts (old new : List Int) (ho : ∀ x ∈ old, 0 ≤ x) (hn : ∀ x ∈ new, 0 ≤ x)
    (hne : old ≠ []) (hsum : isum old = isum new) :
    0 ≤ (stageAxis old new).s ∧ (stageAxis old new).s ≤ (stageAxis old new).l ∧
    (stageAxis old new).l ≤ (stageAxis old new).t ∧
    0 ≤ (stageAxis old new).u ∧ (stageAxis old new).u ≤ (stageAxis old new).r := by
  have q := stageAxis_spec old new ho hn hne hsum
  exact ⟨q.s_nonneg, q.s_le, q.l_le, q.u_nonneg, Int.le_trans q.u_le q.r_ge⟩

/-- a rechunk stage of any rank reports `0 ≤ min ≤ max` -/
theorem C27_stageTransfer_bounds (old new : List (List Int)) (it : Int) (hit : 0 ≤ it)
    (h : ∀ p ∈ old.zip new, AxisOK p.1 p.2) :
    0 ≤ (stageTransfer old new it).1 ∧
      (stageTransfer old new it).1 ≤ (stageTransfer old new it).2 :=
  stageTransfer_bounds old new it hit h

/-- a rechunk stage to the same (positive) chunks reports `(0, 0)` -/
theorem C27_stageTransfer_same (old : List (List Int)) (it : Int)
    (hpos : ∀ c ∈ old, ∀ x ∈ c, 0 < x) : stageTransfer old old it = (0, 0) :=
  stageTransfer_same old it fun c hc x hx => Int.le_of_lt (hpos c hc x hx)

-- heal a sliver: (1,719,720) → (720,720) moves 1 of 1440
example : movedNum [1, 719, 720] [720, 720] = 1 ∧ isum [1, 719, 720] = 1440 := by decide +kernel
-- a true merge moves most bytes: 40 of 60; bounds are strict here
example : movedNum [10, 10, 10, 10, 10, 10] [30, 30] = 40 := by decide +kernel
example : 0 < movedNum [10, 10, 10, 10, 10, 10] [30, 30] ∧
    movedNum [10, 10, 10, 10, 10, 10] [30, 30] < isum [10, 10, 10, 10, 10, 10] := by decide +kernel
-- the lower bound is attained by splits
example : movedNum [30, 30] [10, 10, 10, 10, 10, 10] = 0 :=
  C27_movedNum_split [[10, 10, 10], [10, 10, 10]] (by decide)
-- split with a zero-length block and an empty group
example : movedNum ([[2, 0, 1], [], [4]].map isum) [[2, 0, 1], [], [4]].flatten = 0 :=
  C27_movedNum_split _ (by decide)
example : movedNum [100, 100, 100, 100] [100, 100, 100, 100] = 0 := C27_movedNum_self _
-- the hypotheses of the stage theorem are satisfiable and the estimate is non-trivial
example : AxisOK [1, 719, 720] [720, 720] := by
  refine ⟨by decide, by decide, by decide, by decide⟩
example : stageAxis [1, 719, 720] [720, 720] = ⟨1440, 1439, 1440, 1440, 720⟩ := by decide +kernel
example : stageTransfer [[1, 719, 720], [4, 4]] [[720, 720], [8]] 8 = (46112, 92160) := by decide +kernel
example : stageTransfer [[3, 4], [5]] [[3, 4], [5]] 8 = (0, 0) :=
  C27_stageTransfer_same _ _ (by decide)

end Dask.Props.C27
