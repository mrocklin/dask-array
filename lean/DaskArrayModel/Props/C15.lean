/-
C15 — rechunk plans are valid and respect the block-size budget; the old→new crosswalk covers
each new block exactly once with contiguous in-bounds pieces of old blocks.

All theorems are about the models in Model/Rechunk.lean and Model/RechunkPlan.lean (which mirror
dask_array/_rechunk.py: zero-width chunkings are returned unplanned, `_bound_degree` drops an
interpolated step larger than both endpoints; the model is tied to the source on every run
by harness/props/C15.py).  Float-derived planner choices are ORACLE parameters: the theorems
quantify over every oracle value; where a relation on the oracle is needed it is the `rel` flag
the model computes (and the harness checks on the values recorded from the real run).
The final assembly of each proof is here; the steps are in Lemmas/Crosswalk.lean and
Lemmas/RechunkPlan.lean.
-/
import DaskArrayModel.Lemmas.Crosswalk
import DaskArrayModel.Lemmas.RechunkPlan
namespace Dask.Props.C15
open Dask.Py Dask.Rechunk Dask.RechunkPlan
open Dask.Lemmas.RechunkPlan (GroupsOf NonnegChunks PosChunks)

set_option linter.unusedVariables false in
theorem crosswalk_exact (old new : List Int)
    (ho : ∀ c ∈ old, 0 ≤ c) (hn : ∀ c ∈ new, 0 ≤ c)
    (hsum : isum old = isum new) (hone : old ≠ []) (hnne : new ≠ []) :
    (oldToNew1d old new).length = new.length ∧
    ∀ j (hj : j < new.length),
      (∀ p ∈ (oldToNew1d old new).getD j [], PieceOK old p) ∧
      (oldToNew1d old new).getD j [] ≠ [] ∧
      piecesPositions old ((oldToNew1d old new).getD j []) = newBlockPositions new j :=
  Dask.Lemmas.Crosswalk.crosswalk_exact old new ho hn hsum hone hnne

/-- the total is preserved (non-negative widths, `max_width ≥ 1`) -/
theorem divideToWidth_sum (d : List Int) (w : Int) (hd : ∀ c ∈ d, 0 ≤ c) (hw : 1 ≤ w) :
    isum (divideToWidth d w) = isum d :=
  Dask.Lemmas.RechunkPlan.divideToWidth_sum d w hd hw

/-- every produced chunk is at most `max_width` wide -/
theorem divideToWidth_le (d : List Int) (w : Int) (hd : ∀ c ∈ d, 0 ≤ c) (hw : 1 ≤ w) :
    ∀ x ∈ divideToWidth d w, x ≤ w :=
  fun x hx => (Dask.Lemmas.RechunkPlan.divideToWidth_bounds d w hd hw x hx).2

/-- every produced chunk is positive (zero-width input chunks disappear) -/
theorem divideToWidth_pos (d : List Int) (w : Int) (hd : ∀ c ∈ d, 0 ≤ c) (hw : 1 ≤ w) :
    ∀ x ∈ divideToWidth d w, 1 ≤ x :=
  fun x hx => (Dask.Lemmas.RechunkPlan.divideToWidth_bounds d w hd hw x hx).1

example : divideToWidth [5, 0, 7] 3 = [2, 3, 2, 2, 3] := by decide +kernel
example : isum (divideToWidth [5, 0, 7] 3) = isum [5, 0, 7] :=
  divideToWidth_sum [5, 0, 7] 3 (by decide) (by decide)

theorem mergeToNumber_sum (d : List Int) (k : Int) (hd : ∀ c ∈ d, 0 ≤ c) (hk : 1 ≤ k) :
    isum (mergeToNumber d k) = isum d :=
  Dask.Lemmas.RechunkPlan.mergeToNumber_sum d k hd hk

/-- at most `max_number` chunks come out (the `assert len(c) <= max_number` of
`find_split_rechunk` cannot fail) -/
theorem mergeToNumber_length (d : List Int) (k : Int) (hd : ∀ c ∈ d, 0 ≤ c) (hk : 1 ≤ k) :
    ((mergeToNumber d k).length : Int) ≤ k :=
  (Dask.Lemmas.RechunkPlan.mergeToNumber_spec d k hd hk).1

/-- a coarsening: the result lists the sums of consecutive non-empty runs of the input -/
theorem mergeToNumber_groups (d : List Int) (k : Int) (hd : ∀ c ∈ d, 0 < c) (hk : 1 ≤ k) :
    ∃ gs : List (List Int), (∀ g ∈ gs, g ≠ []) ∧ gs.flatten = d ∧ gs.map isum = mergeToNumber d k :=
  Dask.Lemmas.RechunkPlan.mergeToNumber_groups d k hd hk

example : mergeToNumber [1, 2, 3, 4, 5] 3 = [6, 4, 5] := by decide +kernel      -- heap branch
example : mergeToNumber [2, 2, 2, 2, 2] 2 = [6, 4] := by decide +kernel         -- uniform branch
example : ((mergeToNumber [1, 2, 3, 4, 5] 3).length : Int) ≤ 3 :=
  mergeToNumber_length [1, 2, 3, 4, 5] 3 (by decide) (by decide)

theorem stepAxis_sum {old new c : List Int} (ho : ∀ x ∈ old, 0 ≤ x) (hn : ∀ x ∈ new, 0 ≤ x)
    (h : StepAxis old new c) (hs : isum old = isum new) : isum c = isum new :=
  (Dask.Lemmas.RechunkPlan.stepAxis_valid ho hn hs h).2

/-- every step of a plan related to `(old, new)` — whatever the oracle values — is a chunking of
the same shape, and the plan is non-empty and ends in `new` -/
theorem planOK_valid (old new : List (List Int)) (plan : List (List (List Int)))
    (ho : NonnegChunks old) (hn : NonnegChunks new) (hs : old.map isum = new.map isum)
    (h : PlanOK old new plan) :
    plan ≠ [] ∧ plan.getLast? = some new ∧ ∀ s ∈ plan, s.map isum = new.map isum ∧ NonnegChunks s := by
  refine ⟨?_, h.2, fun s hs' => Dask.Lemmas.RechunkPlan.stepOK_valid old new s ho hn hs (h.1 s hs')⟩
  intro e; rw [e] at h; simp [PlanOK] at h

/-- the EXECUTABLE `plan_rechunk` model, every oracle value (candidate order, chunk limits, max numbers,
nsteps, counts — no relation needed): a returned plan ends in `new` and every step is a chunking of the
same shape (same rank, positive widths, same per-axis totals) -/
theorem plan_valid (old new : List (List Int)) (itemsize threshold limBytes dl : Int) (fuel : Nat)
    (os : List PassOracle) (bos : List BDOracle) (plan : List (List (List Int))) (rel : Bool)
    (hpo : PosChunks old) (hpn : PosChunks new) (hshape : old.map isum = new.map isum)
    (h : planRechunk old new itemsize threshold limBytes dl fuel os bos = some (plan, rel)) :
    plan.getLast? = some new ∧
      ∀ s ∈ plan, s.length = new.length ∧ PosChunks s ∧ s.map isum = new.map isum :=
  open Dask.Lemmas.RechunkPlan in
  have hr := planRechunk_planOK hpo hpn (by simpa using congrArg List.length hshape) h
  ⟨hr.2, fun s hs => ⟨(stepOK_length (hr.1 s hs)).2, stepOK_pos hpo hpn (hr.1 s hs),
    (stepOK_valid old new s (fun ax ha x hx => by have := (hpo ax ha).2 x hx; omega)
      (fun ax ha x hx => by have := (hpn ax ha).2 x hx; omega) hshape (hr.1 s hs)).1⟩⟩

/-- the driver's bounded search `rp.reach` (run on every axis of every real plan step) is sound
for the step relation -/
theorem reachDepth_sound (old new c : List Int) (maxDepth k : Nat)
    (h : reachDepth old new c maxDepth = some k) : StepAxis old new c := by
  unfold reachDepth at h
  have := List.find?_some h
  simp only [List.contains_iff_mem] at this
  exact Dask.Lemmas.RechunkPlan.reachSet_sound old new k c (by simpa using this)

open Dask.Lemmas.RechunkPlan (ex_plan ex_pos1 ex_pos2) in
example : ([[[4]]] : List (List (List Int))).getLast? = some [[4]] ∧
    ∀ s ∈ [[[4]]], s.length = [[(4 : Int)]].length ∧ PosChunks s ∧ s.map isum = [[(4 : Int)]].map isum :=
  plan_valid [[2,2]] [[4]] 8 4 64 100 3 [] [] _ _ ex_pos1 ex_pos2 (by decide) ex_plan
example : StepAxis [4, 4, 6, 3] [6, 4, 1, 5, 1] [6, 5, 5, 1] := by
  have : mergeToNumber [6, 4, 1, 5, 1] 4 = [6, 5, 5, 1] := by decide +kernel
  rw [← this]; exact .merge _ 4 (by decide) .new
example : StepAxis [2, 2] [4] [2, 2] := reachDepth_sound _ _ _ 1 0 (by decide)
example : PlanOK [[4, 4]] [[8]] [[[8]]] := by
  refine ⟨?_, rfl⟩
  intro s hs; simp at hs; subst hs; exact ⟨.new, trivial⟩

/-- `find_merge_rechunk`: for every oracle value satisfying the checked relations (`rel = true`)
the result stays within `⌊max(limit/itemsize, lo, ln)⌋`, the running `largest_block_size` is exact
(the function's two final `assert`s hold) and widths stay positive -/
theorem findMerge_budget (cur new : List (List Int)) (b : Budget) (o : PassOracle) (st : FMState)
    (hit : 0 < b.itemsize) (hpc : PosChunks cur) (hpn : PosChunks new) (hlen : cur.length = new.length)
    (hb : largestBlock cur ≤ b.bint) (h : findMerge cur new b o = some (st, true)) :
    largestBlock st.chunks ≤ b.bint ∧ st.lbs = largestBlock st.chunks ∧ PosChunks st.chunks ∧
      st.chunks.length = cur.length :=
  open Dask.Lemmas.RechunkPlan in
  have hs := findMerge_spec (old := cur) h
  have inv := hs.2 rfl hit hpc hpn hlen hb
  ⟨inv.lbs ▸ inv.bud, inv.lbs, stepOK_pos hpc hpn (hs.1 (stepOK_ends hlen).1), inv.len⟩

/-- `max(divide_to_width(c, w)) ≤ w`, which `findMerge_budget` uses (a proved fact, not one of the oracle
relations) -/
theorem imax_divideToWidth_le (d : List Int) (w : Int) (hd : ∀ c ∈ d, 0 ≤ c) (hw : 1 ≤ w) :
    imax (divideToWidth d w) ≤ w :=
  Dask.Lemmas.RechunkPlan.imax_divideToWidth_le d w hd hw

/-- `_bound_degree`, every oracle value: each returned chunking is within the larger
of its two endpoints -/
theorem boundDegree_budget (old new : List (List Int)) (dl : Int) (o : BDOracle) :
    ∀ s ∈ boundDegree old new dl o, largestBlock s ≤ max (largestBlock old) (largestBlock new) := by
  intro s hs
  rcases Dask.Lemmas.RechunkPlan.mem_boundDegree hs with rfl | ⟨h, _⟩
  · exact Int.le_max_right _ _
  · exact h

theorem boundDegree_last (old new : List (List Int)) (dl : Int) (o : BDOracle) :
    (boundDegree old new dl o).getLast? = some new :=
  Dask.Lemmas.RechunkPlan.boundDegree_last old new dl o

/-- whole plan: merge/split passes and the degree pass, every oracle value with `rel = true` -/
theorem plan_budget (old new : List (List Int)) (itemsize threshold limBytes dl : Int) (fuel : Nat)
    (os : List PassOracle) (bos : List BDOracle) (plan : List (List (List Int)))
    (hit : 0 < itemsize) (hpo : PosChunks old) (hpn : PosChunks new) (hlen : old.length = new.length)
    (h : planRechunk old new itemsize threshold limBytes dl fuel os bos = some (plan, true)) :
    ∀ s ∈ plan, largestBlock s ≤ max (max (pyDiv limBytes itemsize) (largestBlock old)) (largestBlock new) :=
  open Dask.Lemmas.RechunkPlan in by
  let b : Budget := ⟨limBytes, itemsize, largestBlock old, largestBlock new⟩
  have hB : b.bint = max (max (pyDiv limBytes itemsize) (largestBlock old)) (largestBlock new) := rfl
  rw [← hB]
  have hbo : largestBlock old ≤ b.bint := Int.le_trans (Int.le_max_right _ _) (Int.le_max_left _ _)
  have hbn : largestBlock new ≤ b.bint := Int.le_max_right _ _
  -- every step is `StepOK old new` (hence positive, as `findMerge_budget` asks of its input); the
  -- split pass does not enlarge the largest block, the merge pass keeps it within the budget and
  -- `_bound_degree` within the larger of its endpoints
  have hplan := planRechunk_spec (Q := fun s => largestBlock s ≤ b.bint ∧ StepOK old new s) (need := True)
    ⟨hbo, (stepOK_ends hlen).1⟩ ⟨hbn, (stepOK_ends hlen).2⟩
    (fun cur g o c hc h => ⟨Int.le_trans (findSplit_spec (old := old) h).2 hc.1, (findSplit_spec h).1 hc.2⟩)
    (fun cur o st r hc h hr => by
      obtain rfl := hr trivial
      exact ⟨(findMerge_budget cur new b o st hit (stepOK_pos hpo hpn hc.2) hpn
          (stepOK_length hc.2).2 hc.1 h).1,
        (findMerge_spec h).1 hc.2⟩)
    (fun prev step o hp hs s hmem =>
      ⟨Int.le_trans (boundDegree_budget prev step dl o s hmem) (Int.max_le.mpr ⟨hp.1, hs.1⟩),
        boundDegree_stepOK hpo hpn hp.2 hs.2 s hmem⟩)
    h (fun _ => rfl)
  exact fun s hs => (hplan.2 s hs).1

open Dask.Lemmas.RechunkPlan (ex_plan ex_pos1 ex_pos2) in
example : ∀ s ∈ [[[4]]], largestBlock s ≤ max (max (pyDiv 64 8) (largestBlock [[2,2]])) (largestBlock [[(4 : Int)]]) :=
  plan_budget [[2,2]] [[4]] 8 4 64 100 3 [] [] _ (by decide) ex_pos1 ex_pos2 rfl ex_plan

example : boundDegree [[1,3,1],[4,4,6,3]] [[2,3],[6,4,1,5,1]] 3 ⟨2, [[2,4]]⟩ = [[[2,3],[6,4,1,5,1]]] :=
  Dask.Lemmas.RechunkPlan.ex_boundDegree

example : zipWith3 bdAxis [[1,3,1],[4,4,6,3]] [[2,3],[6,4,1,5,1]] [2, 4] = [[4,1],[6,5,5,1]] ∧
    largestBlock [[4,1],[6,5,5,1]] = 24 ∧
    max (largestBlock [[1,3,1],[4,4,6,3]]) (largestBlock [[2,3],[6,4,1,5,1]]) = 18 := by decide +kernel

example : ∀ s ∈ boundDegree [[1,3,1],[4,4,6,3]] [[2,3],[6,4,1,5,1]] 3 ⟨2, [[2,4]]⟩, largestBlock s ≤ 18 :=
  boundDegree_budget _ _ _ _

/-- `find_merge_rechunk` where the else-branch runs (`divide_to_width` with `chunk_limit = 2`):
old ((1,1,1,1),(2,2)) → new ((4,),(1,1,1,1)), limit 4 B, itemsize 1: result ((2,2),(2,2)), block 4 ≤ 4 -/
example : findMerge [[1,1,1,1],[2,2]] [[4],[1,1,1,1]] ⟨4, 1, 2, 4⟩ ⟨[0], [2, 0], []⟩ =
    some (⟨[[2,2],[2,2]], 4, true⟩, true) := by decide +kernel

end Dask.Props.C15
