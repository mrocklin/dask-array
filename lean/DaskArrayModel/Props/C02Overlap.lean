/-
C02 (extension "slice through map_overlap") — "Every fired rewrite preserves values":
`MapOverlap._accept_slice` (dask_array/_overlap.py).  The property theorems, assembled from
Lemmas/OverlapSlice.lean (one axis) and Lemmas/OverlapSliceND.lean (the loop over the axes, n-D), and
non-vacuity examples.

Model: Model/OverlapSlice.lean (`acceptAxis` = the body of the per-axis loop, `accept` = the whole function,
`padB` = `boundaries(x, depth, kind)` on one axis, `WinLocal dl dr g` = the block function followed by the trim is
a translation-invariant stencil of radius `(dl, dr)`, `getSl` = NumPy's `x[slice]`), Model/OverlapSliceND.lean
(`padSrc` = the extension as an index map, `padND` / `boxWin` / `mapOverlapND` = the n-D reading).

What the theorems say
  * `C02o_accept_sound` — one axis, EVERY boundary kind, every axis length, every depth pair, every slice on which
    the rule fires (full slice, depth-0 axis, overlap axis; slices clamped at either end; empty and reversed-empty
    ranges), every window-local `g`:   `(g (padB b x))[idx] = (g (padB b (x[inp])))[trim]`
    — the pushed node keeps the SAME boundary kind `b`, as the code does.
  * `C02o_stencil_winLocal` — the class `WinLocal` is inhabited by every kernel applied to the full windows (`stencil`).
  * `C02o_periodic_guard_necessary` — with the periodic guard tested on the REQUESTED slice (`acceptAxisRequestedGuard`, a
    deliberately wrong variant of the rule kept as a witness that the guard is needed) the rewritten expression differs: n = 20, depth 2, `[1:7]`, moving sum; the real guard declines there.
  * `C02o_decline_cases`, `C02o_decline_cases_node` — exactly when the rule declines.
  * `C02o_loop_fires_per_axis` — when the whole function fires, every axis fired with the slices it returned.
  * `C02o_accept_sound_nd` — n-D by axis independence: for axes on each of which `acceptAxis` fired, the rewritten
    n-D expression and the slice of the original agree at every multi-index of the requested region;
    `C02o_axis_shape` gives, for a fired axis, the hypothesis `Shift` of that theorem and the equal extents.
  * `C02o_accept_sound_node` — the same for the whole function: `accept nd index = ok inps trim` on a node as
    `map_overlap` builds it (`NodeWf`: non-negative extents and depths, `bs` has the node's boundary kinds) ⇒ the
    n-D equation with the records read off `inps` and the loop's trim slices; `C02o_no_trim_is_full`: when no trim
    is left on top the trim slices are all full slices.
  * `C02o_pushed_depth_fits` — the pushed node can be built (depth ≤ the pushed extent on overlap axes).
  * `C02o_pad_index` — the list-level `padB` reads exactly the index map `padSrc` used by the n-D statement.

Hypotheses, all explicit: `WinLocal` (the code cannot check it; it declines only for functions that take
`block_id` / `block_info`); depths are naturals.  The code allows `dl ≠ dr` only with boundary `none`; the
theorems hold for every pair.

The meaning used here, `g ∘ padB`, is what the chunked pipeline `rechunk → boundaries → overlap_internal →
map_blocks → trim_internal` computes for every chunking: `C19o_pipeline_eq_global` (Props/C19Overlap.lean).
NOT proved (search only, harness/props_ext/c02_overlap.py): the chunks the rewritten node advertises.
-/
import DaskArrayModel.Lemmas.OverlapSliceND
namespace Dask.Props.C02Overlap
open Dask.Py Dask.Py.PySlice Dask.OverlapSlice Dask.Lemmas.OverlapSlice

variable {α β γ : Type}

/-- **The slice pushed through `map_overlap` is sound (one axis, every boundary kind).** -/
theorem C02o_accept_sound (g : List (Option α) → List β) (dl dr : Nat) (hg : WinLocal dl dr g)
    (b : Boundary α) (x : List α) (allowRechunk : Bool) (idx inp trim : PySlice) (needsTrim : Bool)
    (h : acceptAxis x.length dl dr b.kind allowRechunk idx = .ok inp trim needsTrim) :
    getSl idx (mapOverlap1 g b dl dr x) = getSl trim (mapOverlap1 g b dl dr (getSl inp x)) := by
  by_cases hc : idx = colon
  · subst hc
    rw [acceptAxis_colon] at h
    cases h
    simp only [getSl_colon]
  · obtain ⟨hgeo, h1, h2, h3, hlen⟩ := acceptAxis_geom b dl dr x.length allowRechunk idx inp trim needsTrim h hc
    have hy : (getSl inp x).length = (sel inp x.length).length :=
      (congrArg List.length (getSl_sel inp x rfl h2)).trans (hgeo.sub_length x rfl)
    rw [getSl_sel idx _ (mapOverlap1_length hg b x hgeo.depth_axis.1 hgeo.depth_axis.2) h1,
      getSl_sel trim _ ((mapOverlap1_length hg b _ (hy ▸ hgeo.depthL) (hy ▸ hgeo.depthR)).trans hy) h3, hlen,
      getSl_sel inp x rfl h2]
    exact hgeo.slice_push hg x rfl

/-- every kernel applied to the full windows is in the class -/
theorem C02o_stencil_winLocal (k : List γ → β) (dl dr : Nat) : WinLocal dl dr (stencil k dl dr) :=
  stencil_winLocal k dl dr

/-- **The periodic guard must test the EXPANDED slice.**  With the guard on the requested slice the rule fires on
`[1:7]` of a periodic axis of length 20 with depth 2, and the rewritten expression is not the slice of the original
for the moving sum (the wrap-around is taken from the sub-array `x[0:9]`); the guard of the code declines. -/
theorem C02o_periodic_guard_necessary :
    WinLocal 2 2 (stencil ksum 2 2) ∧
    acceptAxisRequestedGuard 20 2 2 .periodic true ⟨some 1, some 7, none⟩ =
      .ok ⟨some 0, some 9, none⟩ ⟨some 1, some 7, none⟩ true ∧
    getSl ⟨some 1, some 7, none⟩ (mapOverlap1 (stencil ksum 2 2) .periodic 2 2 xs20) ≠
      getSl ⟨some 1, some 7, none⟩
        (mapOverlap1 (stencil ksum 2 2) .periodic 2 2 (getSl ⟨some 0, some 9, none⟩ xs20)) ∧
    acceptAxis 20 2 2 .periodic true ⟨some 1, some 7, none⟩ = .decline :=
  ⟨stencil_winLocal _ _ _, by decide, by decide +kernel, by decide⟩

/-- **When the rule declines on an axis**: not the full slice, and a non-unit step, or an overlap axis with
`allow_rechunk=False`, a periodic axis whose expanded slice touches an end, an expanded extent shorter than the
depth, or (boundary `none`) an expanded extent that does not span one full window. -/
theorem C02o_decline_cases (n dl dr : Int) (bk : BKind) (allowRechunk : Bool) (idx : PySlice) :
    acceptAxis n dl dr bk allowRechunk idx = .decline ↔
      idx ≠ colon ∧
      (idx.stp ≠ 1 ∨
        (max dl dr ≠ 0 ∧
          (allowRechunk = false ∨
           (bk = .periodic ∧ (max 0 (idx.istart n - dl) = 0 ∨ min n (idx.istop n + dr) = n)) ∨
           max dl dr > min n (idx.istop n + dr) - max 0 (idx.istart n - dl) ∨
           (bk = .none ∧ min n (idx.istop n + dr) - max 0 (idx.istart n - dl) ≤ dl + dr)))) := by
  show _ ↔ idx ≠ colon ∧ (idx.stp ≠ 1 ∨ (max dl dr ≠ 0 ∧ Blocked n dl dr bk allowRechunk idx))
  by_cases hc : idx = colon
  · subst hc
    simp [acceptAxis_colon]
  by_cases h1 : idx.stp = 1
  · by_cases h0 : max dl dr = 0
    · simp [acceptAxis_depth0 hc h1 h0, h1, h0]
    · by_cases hb : Blocked n dl dr bk allowRechunk idx
      · simp [acceptAxis_blocked hc h1 h0 hb, hc, h0, hb]
      · simp [acceptAxis_push hc h1 h0 hb, h1, hb]
  · simp [acceptAxis_step hc h1, hc, h1]

/-- **When the whole function declines**: `None` or an integer in the index, several arrays, a function that
takes `block_id` / `block_info`, or some axis declines. -/
theorem C02o_decline_cases_node (nd : Node) (index : List Ix) :
    accept nd index = .decline ↔
      index.any Ix.isNewaxis = true ∨ index.any Ix.isInt = true ∨ nd.nArrays ≠ 1 ∨ nd.posAware = true ∨
      ∃ axis, ∃ h : axis < (fullIndex nd index).length,
        axisCall nd axis (fullIndex nd index)[axis] = .decline := by
  rw [accept_eq]
  split
  · rename_i hg
    exact ⟨fun _ => hg.imp_right (Or.imp_right (Or.imp_right .inl)), fun _ => rfl⟩
  · rename_i hg
    simp only [not_or] at hg
    have hloop := acceptLoop_none_iff nd (fullIndex nd index) 0
    simp only [Nat.zero_add] at hloop
    rw [← hloop]
    cases acceptLoop nd 0 (fullIndex nd index) with
    | none => simp
    | some v => simp [hg]

/-- when the loop completes, every axis fired, with the input and trim slices returned for it -/
theorem C02o_loop_fires_per_axis (nd : Node) (l : List PySlice) (axis : Nat) (is ts : List PySlice) (b : Bool)
    (h : acceptLoop nd axis l = some (is, ts, b)) :
    is.length = l.length ∧ ts.length = l.length ∧
    ∀ i, ∀ _ : i < l.length,
      ∃ t, axisCall nd (axis + i) l[i] = .ok (is.getD i colon) (ts.getD i colon) t := by
  fun_induction acceptLoop nd axis l generalizing is ts b with
  | case1 => cases h; exact ⟨rfl, rfl, fun _ h => nomatch h⟩
  | case2 => cases h
  | case3 => cases h
  | case4 axis idx rest inp trim t hc is' ts' b' hl ih =>
    cases h
    obtain ⟨h1, h2, h3⟩ := ih is' ts' b' hl
    refine ⟨congrArg Nat.succ h1, congrArg Nat.succ h2, fun i hi => ?_⟩
    cases i with
    | zero => exact ⟨t, hc⟩
    | succ i =>
      obtain ⟨t', ht'⟩ := h3 i (Nat.lt_of_succ_lt_succ hi)
      exact ⟨t', by rwa [Nat.add_right_comm] at ht'⟩

/-- a fired axis gives a per-axis record that satisfies `Shift` (the windows of the requested outputs read the
same sources in the pushed sub-array and in the whole axis), and the trimmed extent is the requested extent -/
theorem C02o_axis_shape (b : Boundary α) (dl dr n : Nat) (allowRechunk : Bool) (idx inp trim : PySlice)
    (needsTrim : Bool) (h : acceptAxis n dl dr b.kind allowRechunk idx = .ok inp trim needsTrim) :
    (axRec b dl dr n idx inp trim).Shift ∧
      (sel trim ((sel inp n).length : Nat)).length = (sel idx n).length :=
  acceptAxis_shift b dl dr n allowRechunk idx inp trim needsTrim h

/-- **n-D, by axis independence.**  `recs` = one record per axis (`axRec` of a fired axis, by `C02o_axis_shape`);
for every array `A`, every stencil kernel `k` over the box, every multi-index `J` of the requested region:
`(map_overlap(k)(A[inp]))[trim][J] = (map_overlap(k)(A))[idx][J]`. -/
theorem C02o_accept_sound_nd (k : List (Option α) → β) (recs : List (AxRec α))
    (hrec : ∀ r ∈ recs, r.Shift) (A : List Nat → α) (J : List Nat) (hJ : InRange recs J) :
    sliceND (recs.map (·.ts)) (mapOverlapND k (specsSub recs) (sliceND (recs.map (·.es)) A)) J =
      sliceND (recs.map (·.s)) (mapOverlapND k (specsOrig recs) A) J := by
  unfold sliceND mapOverlapND
  rw [boxWin_shift recs hrec (fun js => some (A js)) _ (fun js => rfl) J hJ]

/-- **Whole function, n-D.**  `accept nd index = ok inps trim` ⇒ the loop completed with trim slices `ts`
(`trim = some ts` iff a trim is needed), and for every array, box kernel and multi-index of the requested region the
rewritten expression has the value of the slice of the original. -/
theorem C02o_accept_sound_node (k : List (Option α) → β) (nd : Node) (bs : List (Boundary α))
    (hwf : NodeWf nd bs) (index : List Ix) (inps : List PySlice) (trim : Option (List PySlice))
    (h : accept nd index = .ok inps trim) :
    ∃ ts needsTrim, acceptLoop nd 0 (fullIndex nd index) = some (inps, ts, needsTrim) ∧
      trim = (if needsTrim then some ts else none) ∧
      ∀ (A : List Nat → α) (J : List Nat),
        InRange (nodeRecs nd bs 0 (fullIndex nd index) inps ts) J →
        sliceND ((nodeRecs nd bs 0 (fullIndex nd index) inps ts).map (·.ts))
            (mapOverlapND k (specsSub (nodeRecs nd bs 0 (fullIndex nd index) inps ts))
              (sliceND ((nodeRecs nd bs 0 (fullIndex nd index) inps ts).map (·.es)) A)) J =
          sliceND ((nodeRecs nd bs 0 (fullIndex nd index) inps ts).map (·.s))
            (mapOverlapND k (specsOrig (nodeRecs nd bs 0 (fullIndex nd index) inps ts)) A) J := by
  rw [accept_eq] at h
  split at h
  · cases h
  · cases hl : acceptLoop nd 0 (fullIndex nd index) with
    | none => rw [hl] at h; cases h
    | some v =>
      obtain ⟨is, ts, b⟩ := v
      rw [hl] at h
      cases h
      exact ⟨ts, b, rfl, rfl, fun A J hJ =>
        C02o_accept_sound_nd k _ (nodeRecs_shift nd bs hwf _ 0 inps ts b hl) A J hJ⟩

/-- when no axis set `needs_trim` every trim entry is the full slice: returning the bare new node is right -/
theorem C02o_no_trim_is_full (nd : Node) (l : List PySlice) (axis : Nat) (is ts : List PySlice)
    (h : acceptLoop nd axis l = some (is, ts, false)) : ∀ t ∈ ts, t = colon := by
  generalize hb : false = b at h
  fun_induction acceptLoop nd axis l generalizing is ts b with
  | case1 => cases h; exact fun _ h => nomatch h
  | case2 => cases h
  | case3 => cases h
  | case4 axis idx rest inp trim t hc is' ts' b' hl ih =>
    cases h
    obtain ⟨rfl, rfl⟩ := Bool.or_eq_false_iff.mp hb.symm
    refine List.forall_mem_cons.mpr ⟨?_, ih is' ts' false rfl hl⟩
    -- the three ways `acceptAxis` fires: full slice and depth-0 axis say `trim = colon`, an overlap axis sets the flag
    rcases acceptAxis_ok hc with ⟨-, -, h3, -⟩ | ⟨-, -, -, -, h3, -⟩ | ⟨-, -, -, -, -, -, h4⟩
    · exact h3
    · exact h3
    · cases h4

/-- the pushed node can be built: on a fired overlap axis both depths fit in the pushed extent -/
theorem C02o_pushed_depth_fits (n dl dr : Int) (bk : BKind) (allowRechunk : Bool) (idx inp trim : PySlice)
    (hn : 0 ≤ n) (h : acceptAxis n dl dr bk allowRechunk idx = .ok inp trim true) :
    max dl dr ≤ ((sel inp n).length : Int) := by
  -- full slice and depth-0 axis return the flag `false`; on an overlap axis `hb : ¬ Blocked …`, whose third
  -- alternative is `max dl dr >` the expanded extent
  rcases acceptAxis_ok h with ⟨-, -, -, h4⟩ | ⟨-, -, -, -, -, h4⟩ | ⟨-, h1, -, hb, rfl, -, -⟩
  · cases h4
  · cases h4
  · exact pushed_depth_fits (Dask.Lemmas.SliceAlgebra.istart_pos_bounds idx n hn (h1 ▸ Int.one_pos)).1
      (Int.le_max_left 0 _) (Int.le_max_right 0 _) (Int.le_max_left dl dr) (Int.min_le_left n _)
      (Int.not_lt.mp (fun h => hb (.inr (.inr (.inl h)))))

/-- the list-level boundary extension reads exactly the index map of the n-D statement -/
theorem C02o_pad_index (b : Boundary α) (dl dr : Nat) (x : List α) (hl : dl ≤ x.length) (hr : dr ≤ x.length)
    (p : Nat) :
    (padB b dl dr x)[p]? =
      match padSrc b dl dr x.length p with
      | .idx j => x[j]?.map some
      | .absent => some none
      | .fill c => some (some c)
      | .out => none := by
  rw [padB_getElem? b dl dr x hl hr p]
  rfl

-- interior (periodic, none)
example : acceptAxis 20 2 2 .periodic true ⟨some 3, some 7, none⟩ = .ok ⟨some 1, some 9, none⟩ ⟨some 2, some 6, none⟩ true := by decide +kernel
example : acceptAxis 20 2 2 .none true ⟨some 3, some 7, none⟩ = .ok ⟨some 1, some 9, none⟩ ⟨some 2, some 6, none⟩ true := by decide +kernel
-- clamped at the left end (reflect: trim start `None`; nearest)
example : acceptAxis 20 2 2 .reflect true ⟨some 0, some 7, none⟩ = .ok ⟨some 0, some 9, none⟩ ⟨none, some 7, none⟩ true := by decide +kernel
example : acceptAxis 20 2 2 .nearest true ⟨some 1, some 7, none⟩ = .ok ⟨some 0, some 9, none⟩ ⟨some 1, some 7, none⟩ true := by decide +kernel
-- clamped at the right end, negative bounds
example : acceptAxis 20 3 3 .constant true ⟨some (-5), none, none⟩ = .ok ⟨some 12, some 20, none⟩ ⟨some 3, some 8, none⟩ true := by decide +kernel
-- asymmetric depth (boundary none), both ends
example : acceptAxis 20 3 0 .none true ⟨some 1, some 20, none⟩ = .ok ⟨some 0, some 20, none⟩ ⟨some 1, some 20, none⟩ true := by decide +kernel
example : acceptAxis 20 0 2 .none true ⟨some 5, some 9, none⟩ = .ok ⟨some 5, some 11, none⟩ ⟨none, some 4, none⟩ true := by decide +kernel
-- empty reversed range that still fires: the trim is empty too
example : acceptAxis 20 3 3 .reflect true ⟨some 5, some 3, none⟩ = .ok ⟨some 2, some 6, none⟩ ⟨some 3, some 1, none⟩ true := by decide +kernel
-- depth-0 axis and full slice
example : acceptAxis 20 0 0 .periodic true ⟨some (-4), none, none⟩ = .ok ⟨some (-4), none, none⟩ colon false := by decide +kernel
example : acceptAxis 20 2 2 .periodic true colon = .ok colon colon false := by decide +kernel
-- periodic declines at an end, fires one step further in
example : acceptAxis 20 2 2 .periodic true ⟨some 2, some 7, none⟩ = .decline := by decide +kernel
example : acceptAxis 20 2 2 .periodic true ⟨some 3, some 17, none⟩ = .ok ⟨some 1, some 19, none⟩ ⟨some 2, some 16, none⟩ true := by decide +kernel
example : acceptAxis 20 2 2 .periodic true ⟨some 3, some 18, none⟩ = .decline := by decide +kernel
-- the whole function on a 2-d node: axis 0 overlaps (reflect), axis 1 does not
example : accept ⟨[20, 5], [(2, 2), (0, 0)], [.reflect, .none], true, 1, false⟩
    [.slc ⟨some 1, some 7, none⟩, .slc ⟨some 1, some 3, none⟩] =
    .ok [⟨some 0, some 9, none⟩, ⟨some 1, some 3, none⟩] (some [⟨some 1, some 7, none⟩, colon]) := by decide +kernel
example : accept ⟨[20, 5], [(2, 2), (0, 0)], [.reflect, .none], true, 1, true⟩
    [.slc ⟨some 1, some 7, none⟩] = .decline := by decide +kernel
example : NodeWf ⟨[20, 5], [(2, 2), (0, 0)], [.reflect, .none], true, 1, false⟩
    [(.reflect : Boundary Int), .none] := by
  refine ⟨?_, ?_, ?_⟩ <;> intro axis <;>
    (match axis with
     | 0 => decide +kernel
     | 1 => decide +kernel
     | _ + 2 => simp [Boundary.kind])
-- the soundness statement on a concrete halo-reading function, clamped at the left end under `reflect`: the theorem
-- applied to the firing `acceptAxis 20 2 2 .reflect true [1:7] = .ok [0:9] [1:7] true` (its last argument, by evaluation)
example : getSl ⟨some 1, some 7, none⟩ (mapOverlap1 (stencil ksum 2 2) .reflect 2 2 xs20) =
    getSl ⟨some 1, some 7, none⟩
      (mapOverlap1 (stencil ksum 2 2) .reflect 2 2 (getSl ⟨some 0, some 9, none⟩ xs20)) :=
  C02o_accept_sound _ 2 2 (stencil_winLocal _ _ _) .reflect xs20 true _ _ _ true (by decide +kernel)
-- a two-axis record list satisfying the hypothesis of the n-D theorem: `C02o_axis_shape` at the two firings of the
-- 2-d node above (`[1:7]` on the `reflect` axis as before, `acceptAxis 5 0 0 .none true [1:3] = .ok [1:3] colon false`)
example : ∀ r ∈ [axRec (.reflect : Boundary Int) 2 2 20 ⟨some 1, some 7, none⟩ ⟨some 0, some 9, none⟩ ⟨some 1, some 7, none⟩,
                 axRec (.none : Boundary Int) 0 0 5 ⟨some 1, some 3, none⟩ ⟨some 1, some 3, none⟩ colon], r.Shift := by
  intro r hr
  simp only [List.mem_cons, List.not_mem_nil, or_false] at hr
  rcases hr with rfl | rfl
  · exact (C02o_axis_shape _ 2 2 20 true _ _ _ true (by decide +kernel)).1
  · exact (C02o_axis_shape _ 0 0 5 true _ _ _ false (by decide +kernel)).1

end Dask.Props.C02Overlap
