/-
C01 — Array programs compute what NumPy computes, whatever chunking the inputs have.
The property theorems (the steps are in Lemmas/Expr*.lean) and non-vacuity
examples.  The statements hold for EVERY well-formed `Expr` (any depth, rank, shape — 0- and
1-length axes included — and any chunking, zero-length chunks included), every data / function
environment, every block.

Ops covered by the FULL theorem = ALL constructors of `Expr`: `src`, `map`, `zip` (same shape,
same chunks; NumPy broadcasting = explicit `broadcastTo` of the operands), `slice` (ints, slices
of any sign / step), `transpose`, `rechunk` (one crosswalk step), `concat` (binary; n-ary =
`Expr.concatN`), `expandDims`, `squeeze`, `broadcastTo`, `reduce` (sum / max / min, one axis,
keepdims, tree with any `split_every ≥ 2`; several axes = `Expr.reduceN`, keepdims=False =
`squeeze`), `cumsum` (sequential), `mapBlocks` (shape-preserving block function; its meaning is
per block by definition), and the derived `Expr.flip`.  `Expr.concatN`, `Expr.reduceN`, `Expr.flip` are
compositions of these constructors, covered as any `Expr` is: computed blocks = blocks of `den` of the composition;
that this `den` is NumPy's n-ary concatenate / several-axes reduction / flip is not stated by a theorem.

`EnvOK env` only constrains the `map_blocks` functions (`env.blk`): they must be functions of the
block's value and keep its shape; it holds for every environment whose `blk` is the default.
-/
import DaskArrayModel.Lemmas.ExprCorrect
namespace Dask.Props.C01
open Dask.Py Dask.ND

/-- Refinement: the value the task for output block `bid` computes is exactly the block of the
NumPy meaning on the extent that `.chunks` advertises for `bid`. -/
theorem C01_blockDen_correct (env : Env) (henv : EnvOK env) (e : Expr) (bid : List Nat)
    (hwf : WF e) (hbid : validBid (chunks e) bid) :
    Arr.Equiv (blockDen env e bid) (restrict (den env e) (extent (chunks e) bid)) :=
  blockDen_correct env henv e hwf bid hbid

/-- `compute()` (assembling all computed blocks along `.chunks`) gives the NumPy meaning. -/
theorem C01_compute_eq_den (env : Env) (henv : EnvOK env) (e : Expr) (hwf : WF e) :
    Arr.Equiv (assemble (chunks e) (fun bid => blockDen env e bid)) (den env e) :=
  compute_eq_den env henv e hwf

/-- … hence the same flat data (C order), for every chunking of the same program. -/
theorem C01_compute_data (env : Env) (henv : EnvOK env) (e : Expr) (hwf : WF e) :
    (compute env e).toList = (den env e).toList :=
  (compute_eq_den env henv e hwf).toList_eq

/-- the hypothesis on the environment is satisfiable: identity block functions -/
theorem C01_envOK_default (src : Nat → Arr Int) (un : Nat → Int → Int) (bin : Nat → Int → Int → Int) :
    EnvOK { src := src, un := un, bin := bin } :=
  fun _ _ _ h => ⟨h, rfl⟩

/-- splitting an array into blocks and assembling them is the identity -/
theorem C01_assemble_blocksOf (a : Arr Int) (l : Layout) (h : l.map List.sum = a.shape) :
    Arr.Equiv (assemble l (blocksOf a l)) a :=
  assemble_of_blocks a l (blocksOf a l) h (fun _ _ => Arr.Equiv.refl _)

/-! non-vacuity: a 2-D source 4×5 with chunks ((2,2),(3,2)), sliced `[1:4:2, ::-1]`, transposed,
rechunked, concatenated with itself, then indexed with an integer; `WF` holds, the blocks are
non-trivial, and the assembled result is the NumPy value.  (`decide +kernel` where the kernel can
evaluate; `#guard` = compiled evaluation where the rechunk crosswalk, defined by well-founded
recursion, does not reduce in the kernel.) -/

def exEnv : Env :=
  { src := fun _ => ⟨[4, 5], fun i => (flatIndex [4, 5] i : Int)⟩
    un := fun _ x => -x
    bin := fun _ x y => x + y }
def exSrc : Expr := .src 0 [4, 5] [[2, 2], [3, 2]]
def exSlice : Expr := .slice exSrc [.slc ⟨some 1, some 4, some 2⟩, .slc ⟨none, none, some (-1)⟩]
def exT : Expr := .transpose exSlice [1, 0]
def exR : Expr := .rechunk exT [[1, 4], [2]]
def exC : Expr := .concat exR (.map 0 exR) 0
def exI : Expr := .slice (.zip 0 exC exC) [.int (-3), .slc ⟨none, none, none⟩]

example : WF exC := by decide +kernel
example : WF exI := by decide +kernel
example : shape exC = [10, 2] ∧ chunks exC = [[1, 4, 1, 4], [2]] := by decide +kernel
example : chunks exSlice = [[1, 1], [2, 3]] := by decide +kernel
example : validBid (chunks exC) [3, 0] := by decide +kernel
example : (den exEnv exSlice).toList = [9, 8, 7, 6, 5, 19, 18, 17, 16, 15] := by decide +kernel
example : (blockDen exEnv exSlice [1, 1]).shape = [1, 3] ∧
    (blockDen exEnv exSlice [1, 1]).toList = [17, 16, 15] := by decide +kernel
#guard (blockDen exEnv exC [1, 0]).toList == [8, 18, 7, 17, 6, 16, 5, 15]
#guard (blockDen exEnv exC [3, 0]).toList == [-8, -18, -7, -17, -6, -16, -5, -15]
#guard (compute exEnv exC).toList == (den exEnv exC).toList
#guard (den exEnv exI).toList == [-14, -34] && (compute exEnv exI).toList == [-14, -34]
/-- reduce (tree, split_every 2, three blocks), squeeze, broadcast, cumsum, flip -/
def exRed : Expr := .reduce .sum (.src 0 [4, 5] [[2, 2], [3, 1, 1]]) 1 2
def exSq : Expr := .squeeze exRed 1
def exBc : Expr := .zip 0 exSrc (.broadcastTo (.reduce .max exSrc 1 4) [4, 5] [[2, 2], [3, 2]])
def exCum : Expr := .cumsum (Expr.flip exSrc 2 0) 1
example : WF exSq ∧ WF exBc ∧ WF exCum := by decide +kernel
example : chunks exRed = [[2, 2], [1]] ∧ chunks exSq = [[2, 2]] := by decide +kernel
example : (den exEnv exSq).toList = [10, 35, 60, 85] := by decide +kernel
#guard (compute exEnv exSq).toList == [10, 35, 60, 85]
#guard (blockDen exEnv exSq [1]).toList == [60, 85]
#guard (compute exEnv exBc).toList == (den exEnv exBc).toList
#guard (den exEnv exBc).toList.take 5 == [4, 5, 6, 7, 8]
#guard (compute exEnv exCum).toList == (den exEnv exCum).toList
#guard (den exEnv exCum).toList.take 5 == [15, 31, 48, 66, 85]
#guard (blockDen exEnv exCum [0, 1]).toList == [66, 85, 46, 60]
/-- a program with a zero-length axis and a zero-length chunk is well-formed (so the theorems speak of it; no value is
computed here) -/
example : WF (.slice (.src 0 [3, 0] [[2, 0, 1], [0]]) [.slc ⟨none, none, some (-1)⟩, .slc ⟨none, none, none⟩]) := by
  decide +kernel
/-- ill-formed programs are rejected: out-of-range integer, non-permutation, chunk mismatch -/
example : ¬ WF (.slice exSrc [.int 4, .slc ⟨none, none, none⟩]) := by decide +kernel
example : ¬ WF (.transpose exSrc [0, 0]) := by decide +kernel
example : ¬ WF (.zip 0 exSrc (.rechunk exSrc [[4], [5]])) := by decide +kernel

end Dask.Props.C01
