/-
C01 (derived forms) — `roll`, `stack`, `diff`, `swapaxes`, `moveaxis`, `atleast_nd` are
built from the constructors of `Expr` exactly as the implementation builds them from its own public
ops (Model/ExprDerived.lean).  The property theorems, with their final assembly (the
slice, roll, stack and permutation steps are in Lemmas/ExprDerived.lean), and non-vacuity examples.  For each form:
  `C01d_wf_<op>`    the derived form is well-formed when the arguments satisfy the obvious conditions;
  `C01d_den_<op>`   its NumPy meaning `den` IS the NumPy-style spec of the op (index arithmetic)
                    (`moveaxis`: `C01d_moveaxis_perm` instead, the order it builds is a permutation);
and, with `blockDen_correct` (which holds for EVERY well-formed `Expr`), the blocks the
tasks compute assemble to the spec (`C01d_compute_roll`, stated once for `roll`; the same one-liner
works for every form).
-/
import DaskArrayModel.Lemmas.ExprDerived
namespace Dask.Props.C01Derived
open Dask.Py Dask.ND

theorem C01d_wf_roll (e : Expr) (shift : Int) (ax : Nat) (hw : WF e) (hax : ax < (shape e).length) :
    WF (e.roll shift ax) := by
  refine WF_concat.2 ⟨WF_slice.2 ⟨hw, wfIx_axisIx _ _ _ _⟩, WF_slice.2 ⟨hw, wfIx_axisIx _ _ _ _⟩, ?_, ?_, ?_⟩
  · simp only [shape]; rw [sliceShape_axisIx, List.length_set]; exact hax
  · simp only [shape]
    rw [sliceShape_axisIx, sliceShape_axisIx, List.set_set, List.set_set]
  · simp only [chunks]; exact sliceChunks_axisIx_off _ _ _ _ _

/-- `den (roll e s ax) = np.roll`: `out[.., i, ..] = x[.., (i - s) mod n, ..]` -/
theorem C01d_den_roll (env : Env) (e : Expr) (shift : Int) (ax : Nat) (hax : ax < (shape e).length) :
    Arr.Equiv (den env (e.roll shift ax)) (rollArr (den env e) shift ax) := by
  obtain ⟨k, hk, hkn, hmod⟩ := rollStart_spec ((shape e).getD ax 0) shift
  obtain ⟨s1, g1⟩ := axisIx_window hax (Lemmas.SliceAlgebra.Window.from k _ hkn)
  obtain ⟨s2, g2⟩ := axisIx_window hax (Lemmas.SliceAlgebra.Window.upto k _ hkn)
  have hshape : shape (e.roll shift ax) = shape e := by
    unfold Expr.roll
    simp only [shape, hk]
    rw [s1, s2, List.set_set, getD_set_eq _ _ _ _ hax, getD_set_eq _ _ _ _ hax, Nat.sub_add_cancel hkn,
      set_getD_same]
  refine ⟨hshape, ?_⟩
  intro i hi
  have hi' : InB i (shape e) := by simpa only [den, hshape] using hi
  have hx := hi'.getD_lt ax hax
  simp only [den, rollArr]
  unfold Expr.roll
  simp only [denGet, shape, hk]
  rw [s1, getD_set_eq _ _ _ _ hax, hmod _ hx]
  -- the position lies in the first piece `x[k:]` or in the second `x[:k]`
  by_cases hc : i.getD ax 0 < (shape e).getD ax 0 - k
  · have hin := hi'.set (ax := ax) hc
    rw [set_getD_same] at hin
    rw [if_pos hc, if_pos hc, g1 i hin, Nat.add_comm]
  · have hlt : i.getD ax 0 - ((shape e).getD ax 0 - k) < k :=
      Nat.sub_lt_left_of_lt_add (Nat.le_of_not_lt hc) (by rw [Nat.sub_add_cancel hkn]; exact hx)
    rw [if_neg hc, if_neg hc, g2 _ (hi'.set hlt), getD_set_eq _ _ _ _ (by rw [hi'.length_eq]; exact hax),
      Nat.zero_add, List.set_set]

/-- … hence the computed blocks of the concatenate-of-two-slices graph assemble to `np.roll` -/
theorem C01d_compute_roll (env : Env) (henv : EnvOK env) (e : Expr) (shift : Int) (ax : Nat)
    (hw : WF e) (hax : ax < (shape e).length) :
    Arr.Equiv (compute env (e.roll shift ax)) (rollArr (den env e) shift ax) :=
  (compute_eq_den env henv _ (C01d_wf_roll e shift ax hw hax)).trans (C01d_den_roll env e shift ax hax)

theorem C01d_wf_stack (sh : List Nat) (cl : Layout) (ax : Nat) (es : List Expr) (r : Expr)
    (hes : ∀ e ∈ es, WF e ∧ shape e = sh ∧ chunks e = cl) (hax : ax ≤ sh.length)
    (h : Expr.stackN es ax = some r) : WF r :=
  (stackN_inv sh cl ax es r hes hax h).isWF

/-- `den (stack es ax) = np.stack`: `out[.., k, ..] = es[k][..]` -/
theorem C01d_den_stack (env : Env) (sh : List Nat) (cl : Layout) (ax : Nat) (es : List Expr) (r : Expr)
    (hes : ∀ e ∈ es, WF e ∧ shape e = sh ∧ chunks e = cl) (hax : ax ≤ sh.length)
    (h : Expr.stackN es ax = some r) :
    Arr.Equiv (den env r) (stackArr sh (es.map (den env)) ax) := by
  have inv := stackN_inv sh cl ax es r hes hax h
  refine ⟨?_, ?_⟩
  · simp only [den, stackArr]; rw [inv.shapeEq, List.length_map]
  · intro i hi
    simp only [den] at hi
    simp only [den, stackArr]
    have hlt := hi.getD_lt ax (by rw [inv.shapeEq, List.length_insertIdx, if_pos hax]; omega)
    rw [inv.shapeEq, getD_insertIdx_self _ _ _ _ hax] at hlt
    rw [inv.get env i hlt, getD_map (den env) es _ (.src 0 [] []) _ hlt]
    rfl

/-- well-formed when the two shifted slices carry the same chunks (e.g. one block on the axis) … -/
theorem C01d_wf_diff (f : Nat) (e : Expr) (ax : Nat) (hw : WF e) (hax : ax < (shape e).length)
    (hc : chunks (.slice e (axisIx (shape e).length ax ⟨some 1, none, none⟩))
      = chunks (.slice e (axisIx (shape e).length ax ⟨none, some (-1), none⟩))) :
    WF (Expr.diff f e ax) := by
  refine WF_zip.2 ⟨WF_slice.2 ⟨hw, wfIx_axisIx _ _ _ _⟩, WF_slice.2 ⟨hw, wfIx_axisIx _ _ _ _⟩, ?_, hc⟩
  simp only [shape]
  rw [(axisIx_window hax (Lemmas.SliceAlgebra.Window.from1 _)).1,
    (axisIx_window hax (Lemmas.SliceAlgebra.Window.upto_m1 _)).1]

/-- … and for every chunking once both slices are rechunked to a common layout `l` of the result
shape (what `Elemwise` does after chunk unification; the choice of `l` is C17's subject) -/
theorem C01d_wf_diffU (f : Nat) (e : Expr) (ax : Nat) (l : Layout) (hw : WF e) (hax : ax < (shape e).length)
    (hl : wfLayout ((shape e).set ax ((shape e).getD ax 0 - 1)) l = true) :
    WF (Expr.diffU f e ax l) := by
  have hhi := (axisIx_window hax (Lemmas.SliceAlgebra.Window.from1 _)).1
  have hlo := (axisIx_window hax (Lemmas.SliceAlgebra.Window.upto_m1 _)).1
  refine WF_zip.2 ⟨WF_rechunk.2 ⟨WF_slice.2 ⟨hw, wfIx_axisIx _ _ _ _⟩, ?_⟩,
    WF_rechunk.2 ⟨WF_slice.2 ⟨hw, wfIx_axisIx _ _ _ _⟩, ?_⟩, ?_, rfl⟩
  · simp only [shape]; rw [hhi]; exact hl
  · simp only [shape]; rw [hlo]; exact hl
  · simp only [shape]; rw [hhi, hlo]

/-- `den (diff e ax) = np.diff`: `out[.., i, ..] = x[.., i + 1, ..] - x[.., i, ..]` -/
theorem C01d_den_diff (env : Env) (f : Nat) (e : Expr) (ax : Nat) (hax : ax < (shape e).length) :
    Arr.Equiv (den env (Expr.diff f e ax)) (diffArr (env.bin f) (den env e) ax) :=
  den_diff_of env f e ax hax _ rfl (fun _ => rfl)

theorem C01d_den_diffU (env : Env) (f : Nat) (e : Expr) (ax : Nat) (l : Layout) (hax : ax < (shape e).length) :
    Arr.Equiv (den env (Expr.diffU f e ax l)) (diffArr (env.bin f) (den env e) ax) :=
  den_diff_of env f e ax hax _ rfl (fun _ => rfl)

theorem C01d_wf_swapaxes (e : Expr) (a b : Nat) (hw : WF e) (ha : a < (shape e).length)
    (hb : b < (shape e).length) : WF (e.swapaxes a b) := by
  exact WF_transpose.2 ⟨hw, isPerm_of_ok (swapPerm_ok _ a b ha hb)⟩

/-- `den (swapaxes e a b) = np.swapaxes`: `out[i] = x[i with entries a and b exchanged]` -/
theorem C01d_den_swapaxes (env : Env) (e : Expr) (a b : Nat) (ha : a < (shape e).length)
    (hb : b < (shape e).length) :
    Arr.Equiv (den env (e.swapaxes a b)) (swapArr (den env e) a b) := by
  have hp := swapPerm_ok (shape e).length a b ha hb
  refine ⟨rfl, ?_⟩
  intro i _
  unfold Expr.swapaxes
  simp only [den, denGet, swapArr]
  congr 1
  unfold unperm
  rw [hp.len, swapPerm_eq, List.map_map]
  apply List.map_congr_left
  intro x hx
  have hx' := List.mem_range.mp hx
  simp only [Function.comp]
  congr 1
  -- position of `x` in the permutation
  have := hp.idxOf_getD (swapFn_lt ha hb hx')
  rw [swapPerm_getD _ _ _ _ (swapFn_lt ha hb hx'), swapFn_invol] at this
  exact this

/-- the order built by `moveaxis` is a permutation of the axes -/
theorem C01d_moveaxis_perm (rank src dst : Nat) (hs : src < rank) (hd : dst < rank) :
    (moveaxisPerm rank src dst).Perm (List.range rank) :=
  moveaxisPerm_perm rank src dst hs hd

theorem C01d_wf_moveaxis (e : Expr) (src dst : Nat) (hw : WF e) (hs : src < (shape e).length)
    (hd : dst < (shape e).length) : WF (e.moveaxis src dst) := by
  exact WF_transpose.2 ⟨hw, isPerm_of_perm (moveaxisPerm_perm _ src dst hs hd)⟩

theorem C01d_wf_atleastNd (e : Expr) (ndim : Nat) (hw : WF e) : WF (e.atleastNd ndim) :=
  wf_leadingAxes e hw _

/-- `den (atleast_nd e ndim)`: `ndim - rank` leading axes of length 1 -/
theorem C01d_den_atleastNd (env : Env) (e : Expr) (ndim : Nat) :
    Arr.Equiv (den env (e.atleastNd ndim)) (leadingArr (den env e) (ndim - (shape e).length)) :=
  den_leadingAxes env e _

/-! non-vacuity: a 2-D source 4×5 with chunks ((2,2),(3,2)) -/

def exEnv : Env :=
  { src := fun _ => ⟨[4, 5], fun i => (flatIndex [4, 5] i : Int)⟩
    un := fun _ x => -x
    bin := fun _ x y => x - y }
def exSrc : Expr := .src 0 [4, 5] [[2, 2], [3, 2]]

-- roll by 2 (and by -3, the same rotation) along axis 1: chunks follow the two slices
example : WF (exSrc.roll 2 1) ∧ chunks (exSrc.roll 2 1) = [[2, 2], [2, 3]] := by decide +kernel
example : (den exEnv (exSrc.roll 2 1)).toList.take 5 = [3, 4, 0, 1, 2] := by decide +kernel
example : (rollArr (den exEnv exSrc) 2 1).toList.take 5 = [3, 4, 0, 1, 2] := by decide +kernel
example : (den exEnv (exSrc.roll (-3) 1)).toList.take 5 = [3, 4, 0, 1, 2] := by decide +kernel
#guard (compute exEnv (exSrc.roll 2 1)).toList == (rollArr (den exEnv exSrc) 2 1).toList
-- shift 7 on an axis of length 4: s = -7 % 4 = 1, chunks (1,2) ++ (1,)
example : chunks (exSrc.roll 7 0) = [[1, 2, 1], [3, 2]] := by decide +kernel
#guard (blockDen exEnv (exSrc.roll 7 0) [1, 1]).toList == [13, 14, 18, 19]
-- a zero-length axis rolls to itself
example : WF ((Expr.src 0 [0, 2] [[0], [2]]).roll 3 0) := by decide +kernel
-- stack of two arrays along a new middle axis
def exStack : Expr := (Expr.stackN [exSrc, .map 0 exSrc] 1).getD exSrc
example : WF exStack ∧ shape exStack = [4, 2, 5] ∧ chunks exStack = [[2, 2], [1, 1], [3, 2]] := by decide +kernel
example : (den exEnv exStack).toList.take 10 = [0, 1, 2, 3, 4, 0, -1, -2, -3, -4] := by decide +kernel
#guard (blockDen exEnv exStack [1, 1, 0]).toList == [-10, -11, -12, -15, -16, -17]
-- diff along axis 0 needs a common layout: x[1:] has chunks (1,2), x[:-1] has chunks (2,1)
example : chunks (.slice exSrc (axisIx 2 0 ⟨some 1, none, none⟩)) = [[1, 2], [3, 2]] ∧
    chunks (.slice exSrc (axisIx 2 0 ⟨none, some (-1), none⟩)) = [[2, 1], [3, 2]] := by decide +kernel
example : ¬ WF (Expr.diff 0 exSrc 0) := by decide +kernel
example : WF (Expr.diffU 0 exSrc 0 [[1, 1, 1], [3, 2]]) := by decide +kernel
#guard (den exEnv (Expr.diffU 0 exSrc 0 [[1, 1, 1], [3, 2]])).toList == List.replicate 15 5
#guard (compute exEnv (Expr.diffU 0 exSrc 0 [[1, 1, 1], [3, 2]])).toList == List.replicate 15 5
-- … along axis 1 of a single-chunk axis the plain form is well-formed
example : WF (Expr.diff 0 (.src 0 [4, 5] [[2, 2], [5]]) 1) := by decide +kernel
example : swapPerm 4 1 3 = [0, 3, 2, 1] ∧ moveaxisPerm 4 0 2 = [1, 2, 0, 3] ∧ moveaxisPerm 4 3 0 = [3, 0, 1, 2] := by
  decide +kernel
example : WF (exSrc.swapaxes 0 1) ∧ shape (exSrc.swapaxes 0 1) = [5, 4] := by decide +kernel
example : (den exEnv (exSrc.swapaxes 0 1)).toList.take 4 = [0, 5, 10, 15] := by decide +kernel
example : (swapArr (den exEnv exSrc) 0 1).toList.take 4 = [0, 5, 10, 15] := by decide +kernel
example : shape (exSrc.atleastNd 4) = [1, 1, 4, 5] ∧ chunks (exSrc.atleastNd 4) = [[1], [1], [2, 2], [3, 2]] ∧
    exSrc.atleastNd 1 = exSrc := by decide +kernel

end Dask.Props.C01Derived
