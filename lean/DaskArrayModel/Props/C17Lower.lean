/-
C17 (lowering of elemwise nodes) — when the operands of an elemwise operation have different chunkings, the
lowered node's operands are brought to ONE common layout per index (broadcast axes excepted): the layout the
Unify model of C17 computes (`unifyModel`, Model/Unify.lean), with `(1,)` on length-1 axes; an operand that
already has its layout gets no `Rechunk` node; under policy `refine` each operand's rechunk is a pure split.
That the result computes the same values is Props/C02Lower.lean.

Model: Model/LowerUnify.lean; the steps of the proofs: Lemmas/LowerUnify.lean.  Property theorems and
non-vacuity examples.  All inputs: any rank, shape, chunking, policy, limit, admissible oracle value.
`OnlySplits c c'` = every boundary of `c` is a boundary of `c'` and the largest block does not grow
(the vocabulary of `C17_refine_only_splits`).
-/
import DaskArrayModel.Lemmas.LowerUnify
namespace Dask.Props.C17Lower
open Dask.Py Dask.ND Dask.LowerUnify

/-- Equal shapes: the lowered node is `zip f a' b'` where both operands carry the node's layout, and each
operand is the original array when it already has that layout (no no-op rechunk), else ONE rechunk to it. -/
theorem C17l_chunks (p : Params) (pre : List ULayout) (ia ib : Int) (f : Nat) (a b e : Expr)
    (ha : WF a) (hb : WF b) (hs : shape a = shape b) (h : lowerZip p pre ia ib f a b = .ok e) :
    ∃ a' b', e = .zip f a' b' ∧ chunks a' = chunks e ∧ chunks b' = chunks e ∧
      (a' = if chunks e = chunks a then a else .rechunk a (chunks e)) ∧
      (b' = if chunks e = chunks b then b else .rechunk b (chunks e)) := by
  obtain ⟨ua, ub, he, U⟩ := lowerZip_ok ha hb h
  subst he
  have hab : ua = ub := U.two.same (chunks_sums_eq ha hb hs)
  refine ⟨_, _, rfl, ?_, ?_, ?_, ?_⟩
  · simp only [chunks, rechunkTo_chunks]
  · simp only [chunks, rechunkTo_chunks]; exact hab.symm
  · simp only [chunks, rechunkTo_chunks]; rfl
  · simp only [chunks, rechunkTo_chunks]; rw [hab]; rfl

/-- … and that layout is the Unify model's: nothing changes when the chunks are equal; otherwise `unifyModel`
returns `res` (for the two operands with index labels counted from the right) and on every axis the node's
layout is `(1,)` when the axis has length 1 and `res.final` of the axis' label otherwise. -/
theorem C17l_layout (p : Params) (pre : List ULayout) (ia ib : Int) (f : Nat) (a b e : Expr)
    (ha : WF a) (hb : WF b) (hs : shape a = shape b) (h : lowerZip p pre ia ib f a b = .ok e) :
    (chunks a = chunks b ∧ e = .zip f a b) ∨
    (chunks a ≠ chunks b ∧ ∃ res, Dask.Unify.unifyModel p.policy p.limit pre
        [opdOf ⟨ia, chunks a⟩, opdOf ⟨ib, chunks b⟩] (shape a).length = .ok res ∧ res.oracleOk = true ∧
      ∀ n, n < (shape a).length → (chunks e).getD n [] =
        if (shape a).getD n 0 = 1 then [1]
        else (Dask.Unify.look res.final ((shape a).length - 1 - n)).map Int.toNat) := by
  obtain ⟨ua, ub, he, U⟩ := lowerZip_ok ha hb h
  subst he
  rcases U.layout with ⟨h1, h2, h3⟩ | ⟨hne, res, hres, hok, r1, _⟩
  · left
    refine ⟨h1, ?_⟩
    rw [h2, h3]
    simp [rechunkTo]
  · right
    rw [← hs, Nat.max_self] at hres
    refine ⟨hne, res, hres, hok, ?_⟩
    simp only [chunks, rechunkTo_chunks]
    exact r1

/-- Broadcasting: the lowered node is `zipB f a' b'`; its chunks are the broadcast of the operands' chunks; on
every axis of the result (operands aligned at the right, missing leading axes padded with `(1,)`) the two
operands carry the SAME layout unless one of them is `(1,)` there; no no-op rechunk is inserted. -/
theorem C17l_chunksB (p : Params) (pre : List ULayout) (ia ib : Int) (f : Nat) (a b e : Expr2)
    (ha : WF2 a) (hb : WF2 b) (h : lowerZipB p pre ia ib f a b = .ok e) :
    ∃ a' b', e = .zipB f a' b' ∧ chunks2 e = zipBLayout (chunks2 a') (chunks2 b') ∧
      (a' = if chunks2 a' = chunks2 a then a else rechunk2 a (chunks2 a')) ∧
      (b' = if chunks2 b' = chunks2 b then b else rechunk2 b (chunks2 b')) ∧
      (∀ k, k < (chunks2 e).length →
        (padLay (chunks2 e).length (chunks2 a')).getD k [] = [1] ∨
        (padLay (chunks2 e).length (chunks2 b')).getD k [] = [1] ∨
        (padLay (chunks2 e).length (chunks2 a')).getD k [] = (padLay (chunks2 e).length (chunks2 b')).getD k []) := by
  obtain ⟨ua, ub, he, U⟩ := lowerZipB_ok ha hb h
  subst he
  refine ⟨_, _, rfl, rfl, ?_, ?_, ?_⟩
  · rw [rechunkTo2_chunks2]; rfl
  · rw [rechunkTo2_chunks2]; rfl
  · simp only [chunks2, rechunkTo2_chunks2, zipBLayout_length]
    exact U.two.aligned

/-- … and the operands' layouts are the Unify model's: per axis `(1,)` on a length-1 axis (left alone),
otherwise `res.final` of the axis' index label (counted from the right, so a lower-rank operand shares the
trailing labels). -/
theorem C17l_layoutB (p : Params) (pre : List ULayout) (ia ib : Int) (f : Nat) (a b e : Expr2)
    (ha : WF2 a) (hb : WF2 b) (h : lowerZipB p pre ia ib f a b = .ok e) :
    (chunks2 a = chunks2 b ∧ e = .zipB f a b) ∨
    (chunks2 a ≠ chunks2 b ∧ ∃ a' b' res, e = .zipB f a' b' ∧
      Dask.Unify.unifyModel p.policy p.limit pre [opdOf ⟨ia, chunks2 a⟩, opdOf ⟨ib, chunks2 b⟩]
        (max (shape2 a).length (shape2 b).length) = .ok res ∧ res.oracleOk = true ∧
      (∀ n, n < (shape2 a).length → (chunks2 a').getD n [] =
        if (shape2 a).getD n 0 = 1 then [1]
        else (Dask.Unify.look res.final ((shape2 a).length - 1 - n)).map Int.toNat) ∧
      (∀ n, n < (shape2 b).length → (chunks2 b').getD n [] =
        if (shape2 b).getD n 0 = 1 then [1]
        else (Dask.Unify.look res.final ((shape2 b).length - 1 - n)).map Int.toNat)) := by
  obtain ⟨ua, ub, he, U⟩ := lowerZipB_ok ha hb h
  rcases U.layout with ⟨h1, h2, h3⟩ | ⟨hne, res, hres, hok, r1, r2⟩
  · left
    refine ⟨h1, ?_⟩
    subst he
    rw [h2, h3]
    simp [rechunkTo2]
  · right
    refine ⟨hne, _, _, res, he, hres, hok, ?_, ?_⟩
    · rw [rechunkTo2_chunks2]; exact r1
    · rw [rechunkTo2_chunks2]; exact r2

/-- Policy `refine`, equal shapes, positive chunks: on every axis the node's layout only splits the blocks of
either operand (from the Unify model's `unifyModel_refine`, the fact behind `C17_refine_only_splits`). -/
theorem C17l_refine_only_splits (p : Params) (hp : p.policy = .refine) (pre : List ULayout) (ia ib : Int) (f : Nat)
    (a b e : Expr) (ha : WF a) (hb : WF b) (hs : shape a = shape b) (hia : 0 ≤ ia) (hib : 0 ≤ ib)
    (pa : posLayout (chunks a) = true) (pb : posLayout (chunks b) = true)
    (h : lowerZip p pre ia ib f a b = .ok e) :
    ∀ n, n < (shape a).length →
      OnlySplits ((chunks a).getD n []) ((chunks e).getD n []) ∧
      OnlySplits ((chunks b).getD n []) ((chunks e).getD n []) := by
  obtain ⟨ua, ub, he, U⟩ := lowerZip_ok ha hb h
  subst he
  obtain ⟨r1, r2⟩ := U.splits hp hia hib pa pb (hs ▸ bcCompat_self _)
  intro n hn
  simp only [chunks, rechunkTo_chunks]
  refine ⟨r1 n hn, ?_⟩
  rw [U.two.same (chunks_sums_eq ha hb hs)]
  exact r2 n (hs ▸ hn)

/-- … and under broadcasting: each operand's new layout only splits that operand's blocks, on every axis. -/
theorem C17l_refine_only_splitsB (p : Params) (hp : p.policy = .refine) (pre : List ULayout) (ia ib : Int) (f : Nat)
    (a b e : Expr2) (ha : WF2 a) (hb : WF2 b) (hc : bcCompat (shape2 a) (shape2 b) = true)
    (hia : 0 ≤ ia) (hib : 0 ≤ ib) (pa : posLayout (chunks2 a) = true) (pb : posLayout (chunks2 b) = true)
    (h : lowerZipB p pre ia ib f a b = .ok e) :
    ∃ a' b', e = .zipB f a' b' ∧
      (∀ n, n < (shape2 a).length → OnlySplits ((chunks2 a).getD n []) ((chunks2 a').getD n [])) ∧
      (∀ n, n < (shape2 b).length → OnlySplits ((chunks2 b).getD n []) ((chunks2 b').getD n [])) := by
  obtain ⟨ua, ub, he, U⟩ := lowerZipB_ok ha hb h
  obtain ⟨r1, r2⟩ := U.splits hp hia hib pa pb hc
  refine ⟨_, _, he, ?_, ?_⟩
  · rw [rechunkTo2_chunks2]; exact r1
  · rw [rechunkTo2_chunks2]; exact r2

/-- `unifyTargets` (`unify_chunks_expr` as `Elemwise._lower` calls it) on two operands of equal shape: both are
given the same layout (the fact behind `C17l_chunks`). -/
theorem C17l_targets_same (p : Params) (pre : List ULayout) (ia ib : Int) (ca cb : Layout) (l : List Layout)
    (na : allTruthy ca = true) (nb : allTruthy cb = true) (hs : ca.map List.sum = cb.map List.sum)
    (h : unifyTargets p pre [⟨ia, ca⟩, ⟨ib, cb⟩] = .ok l) :
    ∃ u, l = [u, u] ∧ u.map List.sum = ca.map List.sum := by
  obtain ⟨ua, ub, hl, U⟩ := unifyTargets_two rfl rfl na nb h
  have := U.two.same hs
  subst this
  exact ⟨ua, hl, U.two.suma⟩

/-! ### non-vacuity -/

def a : Expr := .src 0 [4, 6] [[2, 2], [3, 3]]
def b : Expr := .src 1 [4, 6] [[4], [2, 2, 2]]
def v : Expr := .src 2 [6] [[4, 2]]
def c : Expr := .src 3 [4, 1] [[1, 3], [1]]

example : WF a ∧ WF b ∧ shape a = shape b ∧ posLayout (chunks a) = true ∧ posLayout (chunks b) = true := by decide +kernel
example : (lowerZip ⟨.refine, none⟩ [] 8 8 0 a b).toOption.map chunks = some [[2, 2], [2, 1, 1, 2]] := by decide +kernel
-- the Unify model's answer for the two operands (labels from the right: axis 1 = label 0)
example : (Dask.Unify.unifyModel .refine none [] [opdOf ⟨8, chunks a⟩, opdOf ⟨8, chunks b⟩] 2).toOption.map (·.final)
    = some [[2, 1, 1, 2], [2, 2]] := by decide +kernel
-- `OnlySplits` on the interleaved axis: (3,3) and (2,2,2) are both split into (2,1,1,2)
example : Dask.Unify.bnds (toI [3, 3]) = [0, 3, 6] ∧ Dask.Unify.bnds (toI [2, 1, 1, 2]) = [0, 2, 3, 4, 6] := by decide +kernel
-- broadcasting: label 0 (the last axis) is shared by the matrix and the vector, the column's length-1 axis is
-- left alone and does not constrain the layout
example : WF2 (.base a) ∧ WF2 (.base v) ∧ WF2 (.base c) ∧ bcCompat (shape2 (.base c)) (shape2 (.base v)) = true := by decide +kernel
example : (lowerZipB ⟨.refine, none⟩ [] 8 8 0 (.base a) (.base v)).toOption.map chunks2 = some [[2, 2], [3, 1, 2]] := by decide +kernel
example : (lowerZipB ⟨.refine, none⟩ [] 8 8 0 (.base c) (.base v)).toOption.map chunks2 = some [[1, 3], [4, 2]] := by decide +kernel
example : padLay 2 (chunks v) = [[1], [4, 2]] := by decide +kernel
-- three operands (`where`): the layouts `unify_chunks_expr` returns
example : unifyTargets ⟨.refine, none⟩ [] [⟨1, [[4, 2]]⟩, ⟨8, [[2, 2], [3, 3]]⟩, ⟨8, [[1, 3], [1]]⟩]
    = .ok [[[3, 1, 2]], [[1, 1, 2], [3, 1, 2]], [[1, 1, 2], [1]]] := rfl

end Dask.Props.C17Lower
