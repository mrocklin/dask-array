/-
C22 — native Rust layers vs Python layers (PARTIAL: pure planning kernels only).

The extension `dask_array._rust` cannot be built offline (pyo3 missing), so the expansion code
inside `#[pymethods]` and the `to_records_chunk` encoding are NOT executed by any check.
What is tied: the std-only planning kernels of crates/dask-array-python/src/*.rs
(`rechunk.rs: cum, breakpoints, intersect_1d`; `reduction.rs: partition_all`;
`shuffle.rs: searchsorted_right`), extracted from the current source on every run, compiled with
`rustc -O` and compared three-way (Rust vs this Lean model vs the Python original) by
harness/props/C22.py.  ONE model serves Python and Rust:
  cum ↦ `cum0`, breakpoints ↦ `mergeBreaks`/`breakpoints`, intersect_1d ↦ `intersect1d`,
  partition_all(size, n) ↦ `partitionAll size (List.range n)`, searchsorted_right ↦ `bisectRight`
(compared by the harness only; no theorem here).  So the theorems below are those of the Python
helpers, restated on the Rust call shapes.
-/
import DaskArrayModel.Lemmas.Crosswalk
import DaskArrayModel.Lemmas.Reduce
namespace Dask.Props.C22
open Dask.Py Dask.Rechunk

set_option linter.unusedVariables false in
/-- `intersect_1d(breakpoints(cum(old), cum(new)))`: each new block is covered exactly once, in
order, by contiguous in-bounds pieces of old blocks (all chunkings incl. zero-width) -/
theorem rust_crosswalk_exact (old new : List Int)
    (ho : ∀ c ∈ old, 0 ≤ c) (hn : ∀ c ∈ new, 0 ≤ c)
    (hsum : isum old = isum new) (hone : old ≠ []) (hnne : new ≠ []) :
    (intersect1d (mergeBreaks (cum0 old) (cum0 new))).length = new.length ∧
    ∀ j (hj : j < new.length),
      (∀ p ∈ (intersect1d (mergeBreaks (cum0 old) (cum0 new))).getD j [], PieceOK old p) ∧
      (intersect1d (mergeBreaks (cum0 old) (cum0 new))).getD j [] ≠ [] ∧
      piecesPositions old ((intersect1d (mergeBreaks (cum0 old) (cum0 new))).getD j []) =
        newBlockPositions new j :=
  Dask.Lemmas.Crosswalk.crosswalk_exact old new ho hn hsum hone hnne

/-- `partition_all(size, n)`: the runs concatenate to `0..n` -/
theorem rust_partitionAll_flatten (size n : Nat) (hk : 0 < size) :
    (partitionAll size (List.range n)).flatten = List.range n :=
  partitionAll_flatten hk (List.range n)

/-- every run is non-empty and at most `size` long -/
theorem rust_partitionAll_parts (size n : Nat) (hk : 0 < size) :
    ∀ p ∈ partitionAll size (List.range n), p ≠ [] ∧ p.length ≤ size :=
  partitionAll_parts hk (List.range n)

example : intersect1d (mergeBreaks (cum0 [2, 0, 1]) (cum0 [0, 3])) = [[⟨0, 0, 0⟩], [⟨0, 0, 2⟩, ⟨2, 0, 1⟩]] := by
  simp [cum0, cumsum, cumsumFrom, mergeBreaks]
  decide +kernel

example : (partitionAll 2 (List.range 5)).flatten = List.range 5 := rust_partitionAll_flatten 2 5 (by decide)

example : partitionAll 2 (List.range 5) = [[0, 1], [2, 3], [4]] := by
  simp [partitionAll, List.range, List.range.loop]

end Dask.Props.C22
