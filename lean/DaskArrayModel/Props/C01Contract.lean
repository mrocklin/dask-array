/-
C01 (extension "contraction") — `matmul` / `@`, `tensordot`, `dot`, `einsum` compute what NumPy
computes, whatever the chunking of the operands, the fan-in (`split_every`) and the depth of the
reduction tree.  Property theorems (assembled from Lemmas/Contract*.lean) and non-vacuity
examples.  Model: Model/Contract.lean (read its header for the Python ↔ Lean table), tied to
dask_array/linalg/_tensordot.py, dask_array/_einsum.py, `Blockwise`, `Reduction._lower` /
`PartialReduce` by harness/props_ext/c01_contract.py (driver family `ctr.*`, Drv/Contract.lean).

Reading guide.  A `Plan` is what the code builds: operands (value, chunks AFTER alignment, position
of every operand axis in the blockwise index tuple `out_ind`), the label chunks `full` per position
of `out_ind`, `split` (`split_every` at the contracted positions, 0 elsewhere), `depth` (number of
`PartialReduce` layers), `direct` (matmul's squeeze shortcut).
  `contractDen P`   the NumPy meaning: `out[j] = Σ_c Π_operands operand[labels(j, c)]`
                    (size-1 axes broadcast) — chunks, fan-in, depth do not occur in it;
  `blockProd P bid` the task of the blockwise product: THE SAME NumPy contraction applied to one
                    block of every operand (`_compute_block_id`), contracted axes kept with length 1;
  `outBlock P ob`   the task for result block `ob`: per-block sums, the n-d `partition_all` cascade
                    over the contracted block axes, `keepdims=False`.
`P.WF` (decidable): lengths agree, every axis has a block, every operand axis has its label's chunks or
is a broadcast axis `(1,)`, every label is carried by some operand with its own chunks (the contracted
index has THE SAME chunks on all operands that carry it), fan-in ≥ 2 and `#blocks ≤ fan-in ^ depth` on
every contracted position (true for the depth the code computes: `C01c_planDepth_suffices`), `1 ≤ depth`
(asked for; no proof reads it), and `direct` only when every contracted position has a single block.
All theorems hold for every rank, every number of operands, every shape (0- and 1-length axes
included), every chunking (zero-length chunks included); none is restricted to a sub-case
(`C01c_blockProd_partial` is a complete statement about the partial contraction one product task holds).
-/
import DaskArrayModel.Lemmas.Contract2D
namespace Dask.Props.C01Contract
open Dask.Py Dask.ND Dask.Reduce Dask.Contract Dask.Lemmas.Reduce

/-! ### the general theorem (any rank, any number of operands, any contracted index set) -/

/-- Refinement: every result block the plan computes is the block of the NumPy contraction on the
extent that the result's `.chunks` advertise. -/
theorem C01c_block_correct (P : Plan) (hwf : P.WF) (ob : List Nat) (hob : validBid (outChunks P) ob) :
    Arr.Equiv (outBlock P ob) (restrict (contractDen P) (extent (outChunks P) ob)) :=
  outBlock_refines P (PlanOK.of_wf hwf) ob hob

/-- `compute()`: the blocks assemble to the NumPy contraction. -/
theorem C01c_assemble (P : Plan) (hwf : P.WF) : Arr.Equiv (computeOut P) (contractDen P) :=
  computeOut_correct P (PlanOK.of_wf hwf)

/-- … hence the same flat data (C order) for every chunking / fan-in / depth of the same operation. -/
theorem C01c_compute_data (P : Plan) (hwf : P.WF) : (computeOut P).toList = (contractDen P).toList :=
  (computeOut_correct P (PlanOK.of_wf hwf)).toList_eq

/-- What one task of the blockwise product holds: the partial contraction over THAT block's stretch of
every contracted index, at the block's global position (`i` is a local index; its entries at the
contracted positions are ignored — those axes have length 1). -/
theorem C01c_blockProd_partial (P : Plan) (hwf : P.WF) (bid : List Nat) (hb : validBid P.full bid)
    (i : List Nat) (hi : InB i (blockProd P bid).shape) :
    (blockProd P bid).get i
      = isum ((allIdx (pick P.mask (blockShape P.full bid))).map (fun c =>
          npTerm (P.ops.map (fun o => (o.pos, o.arr)))
            (vadd (origin P.full bid) (merge P.mask (keep P.mask i) c)))) := by
  have hP := PlanOK.of_wf hwf
  have hsl := blockShape_len_mask P hP bid hb
  rw [blockProd_shape P hP bid hb] at hi
  have hk := InB_keep P.mask i _ (setMasked_length _ _ _ hsl) hi
  rw [setMasked_eq_merge _ _ _ hsl,
    keep_merge _ _ _ (keep_length _ _ hsl) (by rw [List.length_map]; exact pick_length _ _ hsl)] at hk
  exact blockProd_partial P hP bid hb i hk

/-- The cascade is independent of fan-in and depth: for ANY block grid `G` (all blocks of the
contracted grid of `ob` of one shape), any per-position fan-in ≥ 2 and any depth with
`#blocks ≤ fan-in ^ depth`, the single block left for `ob` is the pointwise sum of all blocks of the
contracted grid — each exactly once. -/
theorem C01c_tree_any_fanin (sp nb ob : List Nat) (d : Nat) (G : List Nat → Arr Int) (S : List Nat)
    (h : okOb sp nb ob) (hd : depthOK sp nb d)
    (hG : ∀ kb, InB kb (pick (maskOf sp) nb) → (G (merge (maskOf sp) ob kb)).shape = S) :
    (tree addBlocks sp d nb G (merge (maskOf sp) ob (zerosOf (maskOf sp)))).shape = S ∧
    ∀ i, (tree addBlocks sp d nb G (merge (maskOf sp) ob (zerosOf (maskOf sp)))).get i
      = isum ((allIdx (pick (maskOf sp) nb)).map (fun kb => (G (merge (maskOf sp) ob kb)).get i)) :=
  tree_blocks sp nb ob d G S h hd hG

/-- One contracted position with `n` blocks and fan-in `k ≥ 2`: the depth `_build_tree_reduce_expr` computes for
it, `max(1, ceil(log_k n))`, satisfies `n ≤ k ^ depth` (the bound `Plan.WF` asks of every contracted position;
the code takes the maximum over positions, which only raises the exponent). -/
theorem C01c_planDepth_suffices {n k : Nat} (hk : 2 ≤ k) : n ≤ k ^ (max (depthOf n k) 1) :=
  depth_one_axis hk

/-- A zero-length contracted index: every entry of every result block is 0 (the empty sum). -/
theorem C01c_zero_contracted (P : Plan) (hwf : P.WF) (h0 : 0 ∈ pick P.mask (P.full.map List.sum))
    (ob : List Nat) (hob : validBid (outChunks P) ob) (j : List Nat) (hj : InB j (outBlock P ob).shape) :
    (outBlock P ob).get j = 0 := by
  have hE := C01c_block_correct P hwf ob hob
  rw [hE.2 j hj]
  exact contractDen_zero P (PlanOK.of_wf hwf) h0 _

/-! ### C03 for contractions: advertised chunks are what the tasks produce -/

theorem C03c_block_shape (P : Plan) (hwf : P.WF) (ob : List Nat) (hob : validBid (outChunks P) ob) :
    (outBlock P ob).shape = blockShape (outChunks P) ob :=
  (C01c_block_correct P hwf ob hob).1

/-- the blocks of the blockwise product have the shape its `.chunks` (`adjust_chunks → 1`) advertise -/
theorem C03c_prod_block_shape (P : Plan) (hwf : P.WF) (bid : List Nat) (hb : validBid P.full bid) :
    (blockProd P bid).shape = blockShape (prodChunks P) bid := by
  rw [blockProd_shape P (PlanOK.of_wf hwf) bid hb, prodChunks_blockShape P (PlanOK.of_wf hwf) bid hb]

/-- the result's chunks sum to the NumPy shape on every axis -/
theorem C03c_chunks_sum (P : Plan) (hwf : P.WF) : (outChunks P).map List.sum = (contractDen P).shape :=
  (contractDen_shape P (PlanOK.of_wf hwf)).symm

/-! ### the 2-d reading: `a @ b`, chunkings `ri` (rows), `ck` (contracted, THE SAME on both
operands after unification), `cj` (columns), fan-in `k` -/

/-- the plan's NumPy meaning is the textbook product `out[i,j] = Σ_k a[i,k] * b[k,j]` -/
theorem C01c_matmul_den (a b : Arr Int) (ri ck cj : List Nat) (k : Nat)
    (ha : a.shape = [ri.sum, ck.sum]) (hb : b.shape = [ck.sum, cj.sum])
    (hri : ri ≠ []) (hck : ck ≠ []) (hcj : cj ≠ []) (hk : 2 ≤ k) :
    Arr.Equiv (contractDen (matmulPlan a b ri ck cj k)) (matmulDen a b) :=
  matmulPlan_den a b ri ck cj k ha hb hri hck hcj hk

/-- every output block `(bi, bj)` of the plan is the block of `matmulDen a b`; output chunks `(ri, cj)` -/
theorem C01c_matmul_block (a b : Arr Int) (ri ck cj : List Nat) (k : Nat)
    (ha : a.shape = [ri.sum, ck.sum]) (hb : b.shape = [ck.sum, cj.sum])
    (hri : ri ≠ []) (hck : ck ≠ []) (hcj : cj ≠ []) (hk : 2 ≤ k)
    (bi bj : Nat) (hbi : bi < ri.length) (hbj : bj < cj.length) :
    Arr.Equiv (outBlock (matmulPlan a b ri ck cj k) [bi, bj])
      (restrict (matmulDen a b) (extent [ri, cj] [bi, bj])) := by
  exact block_vs_den _ (matmulPlan_ok a b ri ck cj k ha hb hri hck hcj hk) _
    (matmulPlan_den a b ri ck cj k ha hb hri hck hcj hk) _ (matmulPlan_outChunks a b ri ck cj k hk) [bi, bj]
    (by simp [validBid, numblocks, InB, hbi, hbj])

/-- the blocks assemble to `a @ b` -/
theorem C01c_matmul_assemble (a b : Arr Int) (ri ck cj : List Nat) (k : Nat)
    (ha : a.shape = [ri.sum, ck.sum]) (hb : b.shape = [ck.sum, cj.sum])
    (hri : ri ≠ []) (hck : ck ≠ []) (hcj : cj ≠ []) (hk : 2 ≤ k) :
    Arr.Equiv (computeOut (matmulPlan a b ri ck cj k)) (matmulDen a b) :=
  (computeOut_correct _ (matmulPlan_ok a b ri ck cj k ha hb hri hck hcj hk)).trans
    (matmulPlan_den a b ri ck cj k ha hb hri hck hcj hk)

/-- `K = 0`: `a @ b` is all zeros -/
theorem C01c_matmul_zero_K (a b : Arr Int) (ij : List Nat) (h : a.shape.getD 1 0 = 0) :
    (matmulDen a b).get ij = 0 := by
  show isum ((List.range (a.shape.getD 1 0)).map _) = 0
  rw [h]; rfl

/-! ### 1-d operands, as the code treats them -/

/-- `dot(a, b)` of two vectors (`tensordot(a, b, axes=((0,), (-1,)))`): a 0-d result, one block -/
theorem C01c_vdot_block (a b : Arr Int) (ck : List Nat) (k : Nat)
    (ha : a.shape = [ck.sum]) (hb : b.shape = [ck.sum]) (hck : ck ≠ []) (hk : 2 ≤ k) :
    Arr.Equiv (outBlock (vdotPlan a b ck k) []) (vdotDen a b) := by
  refine (block_vs_den _ (vdotPlan_ok a b ck k ha hb hck hk) _ (vdotPlan_den a b ck k ha hb hck hk) _
    (vdotPlan_outChunks a b ck k hk) [] validBid_nil).trans ⟨rfl, ?_⟩
  intro i hi
  match i, hi with
  | [], _ => rfl

/-- `dot(a, v)` matrix · vector (`tensordot(a, v, axes=((1,), (-1,)))`): `out[i] = Σ_k a[i,k] v[k]` -/
theorem C01c_matvec_block (a v : Arr Int) (ri ck : List Nat) (k : Nat)
    (ha : a.shape = [ri.sum, ck.sum]) (hv : v.shape = [ck.sum])
    (hri : ri ≠ []) (hck : ck ≠ []) (hk : 2 ≤ k) (bi : Nat) (hbi : bi < ri.length) :
    Arr.Equiv (outBlock (matvecPlan a v ri ck k) [bi]) (restrict (matvecDen a v) (extent [ri] [bi])) := by
  exact block_vs_den _ (matvecPlan_ok a v ri ck k ha hv hri hck hk) _
    (matvecPlan_den a v ri ck k ha hv hri hck hk) _ (matvecPlan_outChunks a v ri ck k hk) [bi]
    (by simp [validBid, numblocks, InB, hbi])

/-- `v @ b` through `matmul`: `v[newaxis, :]` (chunks `(1,)`), the 2-d plan, `squeeze(axis=-2)` -/
theorem C01c_matmul_vecmat (v b : Arr Int) (ck cj : List Nat) (k : Nat)
    (hv : v.shape = [ck.sum]) (hb : b.shape = [ck.sum, cj.sum])
    (hck : ck ≠ []) (hcj : cj ≠ []) (hk : 2 ≤ k) (bj : Nat) (hbj : bj < cj.length) :
    Arr.Equiv (squeezeAt 0 (outBlock (matmulPlan (expandFront v) b [1] ck cj k) [0, bj]))
      (restrict (vecmatDen v b) (extent [cj] [bj])) := by
  have ha : (expandFront v).shape = [[1].sum, ck.sum] := congrArg (1 :: ·) hv
  have hE := C01c_matmul_block (expandFront v) b [1] ck cj k ha hb (List.cons_ne_nil _ _) hck hcj hk
    0 bj Nat.zero_lt_one hbj
  have hsh : (outBlock (matmulPlan (expandFront v) b [1] ck cj k) [0, bj]).shape = [1, cj.getD bj 0] := hE.1
  refine ⟨congrArg (List.eraseIdx · 0) hsh, ?_⟩
  intro i hi
  have hi' : InB i [cj.getD bj 0] := (congrArg (fun s => InB i (List.eraseIdx s 0)) hsh).mp hi
  match i, hi' with
  | [x], hi' =>
    have hin : InB [0, x] (outBlock (matmulPlan (expandFront v) b [1] ck cj k) [0, bj]).shape :=
      hsh ▸ ⟨Nat.zero_lt_one, hi'.1, trivial⟩
    exact (hE.2 _ hin).trans rfl

/-- `a @ v` through `matmul`: `v[:, newaxis]`, the 2-d plan, `squeeze(axis=-1)` -/
theorem C01c_matmul_matvec (a v : Arr Int) (ri ck : List Nat) (k : Nat)
    (ha : a.shape = [ri.sum, ck.sum]) (hv : v.shape = [ck.sum])
    (hri : ri ≠ []) (hck : ck ≠ []) (hk : 2 ≤ k) (bi : Nat) (hbi : bi < ri.length) :
    Arr.Equiv (squeezeAt 1 (outBlock (matmulPlan a (expandBack v) ri ck [1] k) [bi, 0]))
      (restrict (matvecDen a v) (extent [ri] [bi])) := by
  have hb : (expandBack v).shape = [ck.sum, [1].sum] := congrArg (· ++ [1]) hv
  have hE := C01c_matmul_block a (expandBack v) ri ck [1] k ha hb hri hck (List.cons_ne_nil _ _) hk
    bi 0 hbi Nat.zero_lt_one
  have hsh : (outBlock (matmulPlan a (expandBack v) ri ck [1] k) [bi, 0]).shape = [ri.getD bi 0, 1] := hE.1
  refine ⟨congrArg (List.eraseIdx · 1) hsh, ?_⟩
  intro i hi
  have hi' : InB i [ri.getD bi 0] := (congrArg (fun s => InB i (List.eraseIdx s 1)) hsh).mp hi
  match i, hi' with
  | [x], hi' =>
    have hin : InB [x, 0] (outBlock (matmulPlan a (expandBack v) ri ck [1] k) [bi, 0]).shape :=
      hsh ▸ ⟨hi'.1, Nat.zero_lt_one, trivial⟩
    refine (hE.2 _ hin).trans ?_
    show isum _ = isum _
    rw [ha]
    rfl

def exA : Arr Int := ⟨[4, 5], fun i => (flatIndex [4, 5] i : Int)⟩
def exB : Arr Int := ⟨[5, 6], fun i => (flatIndex [5, 6] i : Int) - 7⟩
/-- 4×5 @ 5×6, rows (2,2), contracted (3,2) [one operand had (2,2,1) before unification], columns (4,2) -/
def exMM : Plan := matmulPlan exA exB [2, 2] [3, 2] [4, 2] 16
/-- the same with five unit blocks on the contracted axis and fan-in 2: a three-layer tree -/
def exMM3 : Plan := matmulPlan exA exB [2, 2] [1, 1, 1, 1, 1] [4, 2] 2
/-- tensordot over two axes, rank 3 × rank 3, axes=([1,2],[1,0]): labels a=(0,1,2) b=(2,1,5),
out_ind=(0,1,2,5), per-axis fan-in 2 -/
def exT : Arr Int := ⟨[2, 3, 2], fun i => (flatIndex [2, 3, 2] i : Int) - 5⟩
def exU : Arr Int := ⟨[2, 3, 2], fun i => 2 * (flatIndex [2, 3, 2] i : Int) + 1⟩
def exTD : Plan :=
  { ops := [⟨exT, [[1, 1], [2, 1], [1, 1]], [0, 1, 2]⟩, ⟨exU, [[1, 1], [2, 1], [2]], [2, 1, 3]⟩]
    full := [[1, 1], [2, 1], [1, 1], [2]], split := [0, 2, 2, 0], depth := 1 }
/-- batched matmul with a broadcast batch axis: (1,2,3) @ (2,3,2), the first operand's batch axis is `(1,)` -/
def exBa : Arr Int := ⟨[1, 2, 3], fun i => (flatIndex [1, 2, 3] i : Int)⟩
def exBb : Arr Int := ⟨[2, 3, 2], fun i => (flatIndex [2, 3, 2] i : Int) - 3⟩
def exBM : Plan :=
  { ops := [⟨exBa, [[1], [1, 1], [2, 1]], [0, 1, 2]⟩, ⟨exBb, [[1, 1], [2, 1], [2]], [0, 2, 3]⟩]
    full := [[1, 1], [1, 1], [2, 1], [2]], split := [0, 0, 16, 0], depth := 1 }
/-- a zero-length contracted axis -/
def exZ : Plan := matmulPlan ⟨[2, 0], fun _ => 1⟩ ⟨[0, 3], fun _ => 1⟩ [1, 1] [0] [3] 16

example : exMM.WF ∧ exMM3.WF ∧ exTD.WF ∧ exBM.WF ∧ exZ.WF := by decide +kernel
example : exMM.depth = 1 ∧ exMM3.depth = 3 := by decide +kernel
example : validBid (outChunks exMM) [1, 1] ∧ validBid (outChunks exTD) [1, 0] := by decide +kernel
example : outChunks exMM = [[2, 2], [4, 2]] ∧ prodChunks exMM = [[2, 2], [1, 1], [4, 2]] := by decide +kernel
example : ¬ (matmulPlan exA exB [2, 2] [3, 2] [4, 2] 1).WF := by decide +kernel
/-- mismatched contracted chunks are not well-formed (the code rechunks first) -/
example : ¬ ({ exMM with ops := [⟨exA, [[2, 2], [3, 2]], [0, 1]⟩, ⟨exB, [[2, 2, 1], [4, 2]], [1, 2]⟩] } : Plan).WF := by
  decide +kernel
/-- too few layers are not well-formed -/
example : ¬ ({ exMM3 with depth := 2 } : Plan).WF := by decide +kernel
#guard (contractDen exMM).toList == (matmulDen exA exB).toList
#guard (blockProd exMM [0, 1, 1]).shape == [2, 1, 2]
#guard (blockProd exMM [0, 1, 1]).toList == [129, 136, 309, 326]
#guard (outBlock exMM [1, 1]).toList == (restrict (matmulDen exA exB) (extent [[2, 2], [4, 2]] [1, 1])).toList
#guard (computeOut exMM3).toList == (matmulDen exA exB).toList
#guard (levelBlocks exMM3 1 [0, 2, 0]).shape == [2, 1, 4]
#guard (computeOut exTD).toList == (contractDen exTD).toList
#guard (contractDen exTD).shape == [2, 2]
#guard (computeOut exBM).toList == (contractDen exBM).toList
#guard (contractDen exBM).shape == [2, 2, 2]
#guard (computeOut exZ).toList == [0, 0, 0, 0, 0, 0]
example := C01c_block_correct exMM3 (by decide +kernel) [1, 0] (by decide +kernel)
example := C01c_block_correct exTD (by decide +kernel) [1, 0] (by decide +kernel)
example := C01c_zero_contracted exZ (by decide +kernel) (by decide +kernel) [1, 0] (by decide +kernel)
example := C01c_matmul_block exA exB [2, 2] [1, 1, 1, 1, 1] [4, 2] 2 rfl rfl (by simp) (by simp) (by simp)
  (by decide +kernel) 1 0 (by decide +kernel) (by decide +kernel)
example : okOb [0, 2, 2, 0] [2, 2, 2, 1] [1, 0] ∧ depthOK [0, 2, 2, 0] [2, 2, 2, 1] 1 :=
  show (1 < 2 ∧ 0 < 1 ∧ True) ∧ 1 ≤ 1 ∧ 1 ≤ 2 ∧ 2 ≤ 2 ^ 1 ∧ 1 ≤ 1 ∧ 1 ≤ 2 ∧ 2 ≤ 2 ^ 1 ∧ True by decide

/-! the index bookkeeping of the front ends -/
example : tensordotInds 2 2 [1] [0] = .ok ⟨[0, 1], [1, 3], [0, 1, 3], [1]⟩ := by rfl
example : tensordotInds 3 3 [1, 2] [1, 0] = .ok ⟨[0, 1, 2], [2, 1, 5], [0, 1, 2, 5], [1, 2]⟩ := by rfl
example : tensordotInds 1 1 [0] [-1] = .ok ⟨[0], [0], [0], [0]⟩ := by rfl
example : tensordotInds 2 2 [1] [2] = .error .indexError := by rfl
example : (matmulInds 1 2).map (·.inds) = .ok ⟨[0, 1], [1, 2], [0, 1, 2], [1]⟩ := by rfl
example : (matmulInds 2 3).map (fun m => (m.padA, m.inds.bInd)) = .ok (1, [0, 2, 3]) := by rfl
example : posOf [0, 1, 2, 5] [2, 1, 5] = [2, 1, 3] := by decide +kernel
example : alignChunks 1 [3, 2] = [1] ∧ alignChunks 5 [3, 2] = [3, 2] ∧ alignChunks 0 [0] = [0] := by decide +kernel

end Dask.Props.C01Contract
