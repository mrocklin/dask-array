/-
C26 — xarray integration is strictly opt-in.

Decided over the table `Generated/ImportGraph.lean`, which harness/translate/imports.py regenerates from
/repo's working tree on every run (module-scope import edges, name-resolved call edges, the functions whose
own code writes into xarray's chunk-manager registry, pyproject entry-point groups).  Nodes `0 … M-1` are the
modules of dask_array (their module-scope code), `M …` the functions/methods.

The finite closedness checks are evaluated by the kernel (`kernel_decide`, Lemmas/KernelDecide.lean; the one over the
joint graph in Lemmas/ImportGraph.lean); the lift to paths of ANY length is `closed_set_sound` /
`backward_closed_sound`, proved in general in Lemmas/Closure.lean.  `C26_registering_complete` says that the generated
set `canReachSeedMask` contains every node with a path to a registry write, so the Python fix-point is checked, not
trusted (the list `canReachSeed` is only shown to lie inside that set, in an example below).
Thin spots (honest): the call graph is name-resolved (calls through objects of unknown type are invisible);
the fresh-interpreter experiment in harness/props/C26.py is the tie to the running code.
-/
import DaskArrayModel.Lemmas.ImportGraph
namespace Dask.Props.C26
open Dask.Closure Dask.Generated.ImportGraph

/-- imports ∪ calls over the joint node space -/
def graph : Edges := importEdges ++ callEdges

/-- Every import order: whatever module `m` is imported (first, last, alone), every module `n` that its
import executes — through module-scope imports, any depth — makes no module-scope call into a
registering function. -/
theorem C26_import_never_registers :
    ∀ m, m < modules.length → ∀ n, Reach importEdges m n → n ∉ moduleScopeCallsIntoRegistering :=
  importSafe_sound (by kernel_decide)

/-- Over imports AND calls: importing any module of dask_array cannot reach (by any chain of module-scope
imports, module-scope calls, nested calls, function-level imports) code that writes xarray's registry. -/
theorem C26_no_import_reaches_registry :
    ∀ m, m < modules.length → ∀ s ∈ registrySeeds, ¬ Reach graph m s :=
  (noRootReachesSeed_sound Dask.Lemmas.ImportGraph.graph_check).2

/-- The generated set of registering functions is complete (every node that reaches a registry write
by any path is in it). -/
theorem C26_registering_complete :
    ∀ a, ∀ s ∈ registrySeeds, Reach graph a s → inMask canReachSeedMask a = true :=
  (noRootReachesSeed_sound Dask.Lemmas.ImportGraph.graph_check).1

/-- The modules that contain the registry-writing code are import-safe themselves:
importing `dask_array._xarray` registers nothing (only calling `register()` does). -/
theorem C26_xarray_module_import_safe :
    ∀ m ∈ seedModules, m < modules.length ∧ ∀ s ∈ registrySeeds, ¬ Reach graph m s := by
  intro m hm
  have hlt : m < modules.length := by
    have h : seedModules.all (fun m => decide (m < modules.length)) = true := by kernel_decide
    exact of_decide_eq_true ((List.all_eq_true.mp h) m hm)
  exact ⟨hlt, C26_no_import_reaches_registry m hlt⟩

/-- no `xarray.chunkmanagers` entry point is shipped (installing the package activates nothing) -/
theorem C26_no_entry_point : "xarray.chunkmanagers" ∉ entryPointGroups := by decide +kernel

/-! ### non-vacuity: the decision procedures can say NO, and a NO is a real path -/

/-- tiny graph: a → b → c, module c calls a registering function at module scope -/
example : importSafe 3 [(0, 1), (1, 2)] [2] = false := by decide +kernel

/-- … and the obligation really FAILS there (not just the checker): c is reachable from a -/
example : ¬ (∀ m, m < 3 → ∀ n, Reach [(0, 1), (1, 2)] m n → n ∉ [2]) := by
  intro h
  have h01 : ((0 : Nat), (1 : Nat)) ∈ [((0 : Nat), (1 : Nat)), (1, 2)] := by decide +kernel
  have h12 : ((1 : Nat), (2 : Nat)) ∈ [((0 : Nat), (1 : Nat)), (1, 2)] := by decide +kernel
  exact h 0 (by decide) 2 (Reach.step (Reach.edge h01) h12) (by decide)

/-- the computed closure finds it: `reachable` from root 0 lists node 2 (and by `reachable_sound`
everything it lists is reachable) -/
example : (reachable [(0, 1), (1, 2)] [0]).contains 2 = true := by decide +kernel

/-- call-graph version: module 0 imports module 1, which at module scope calls function 3, which calls
the registry-writing function 4 (2 modules, nodes 2.. are functions): the check rejects every candidate
closure that omits a module … -/
example : noRootReachesSeed 2 [(0, 1), (1, 3), (3, 4)] [4] (maskOf [4, 3]) = false := by decide +kernel
example : noRootReachesSeed 2 [(0, 1), (1, 3), (3, 4)] [4] (maskOf [4, 3, 1, 0]) = false := by decide +kernel
/-- … and accepts when the call is inside a function nobody calls at import (the opt-in shape:
`register` = 3 calls `_ensure_registered` = 4; modules 0, 1 only import) -/
example : noRootReachesSeed 2 [(0, 1), (3, 4), (3, 1)] [4] (maskOf [4, 3]) = true := by decide +kernel

/-- the real table is not degenerate: there IS a registry write, and something besides it reaches it
(`register`), so the theorems above are not vacuous quantifications over an empty seed set -/
example : registrySeeds ≠ [] ∧ registrySeeds.length < canReachSeed.length ∧
    canReachSeed.all (fun i => inMask canReachSeedMask i) = true := by kernel_decide

example : "xarray.chunkmanagers" ∈ ["console_scripts", "xarray.chunkmanagers"] := by decide +kernel

end Dask.Props.C26
