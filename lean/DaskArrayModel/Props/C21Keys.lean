/-
C21 (extension "keys") — record keys at the STRING level.

dask_array/_frisky/graph_records.py: "Frisky matches a dependency by the *string* of its key, and
str(('x', np.int64(0))) != str(('x', 0))" — while the two tuples are `==` and hash equal in Python.
Props/C21.lean treats keys as abstract (`cfg.render`); a deliberately wrong variant of
`_Flattener.resolve` that keeps an embedded reference un-normalised ("it is equal to the normalised
one"; modelled as `reuseIfEq`, kept as a witness) is invisible there.  Here keys carry the Python
type of every component (Model/RecordKeys.lean: `Comp`, `PKey`, `pyEq`, `keyStr`, `normalize` =
`_norm_key`, `resolve` / `records` = `_Flattener.resolve` / `_records` with KEY OBJECTS in the rewritten
arguments and STRINGS in the deps), tied to the real functions by the `rky.*` correspondence of
harness/props_ext/c21_keys.py on every run.

Hypotheses are decidable predicates on keys: `normalizable` (no `np.str_` / `np.bool_` component: those
are NOT `numbers.Integral`, `_norm_key` returns them unchanged — see `C21k_npstr_survives_witness`),
`canon` (plain `int` / `str` only), `plain` (strings made of name characters, so that `repr` needs no
escapes and cannot imitate the tuple syntax).
-/
import DaskArrayModel.Lemmas.RecordKeysResolve
namespace Dask.Props.C21Keys
open Dask.RecordKeys Dask.Lemmas.RecordKeys
open Dask.Graph (Node Args nodeRefs)

/-- `_norm_key` is idempotent -/
theorem C21k_normalize_idem (k : PKey) : normalize (normalize k) = normalize k := by
  cases k with
  | bare np s => rfl
  | tup cs => simp [normalize, List.map_map, Function.comp_def, Comp.norm_idem]

/-- CANONICAL FORM.  A key without `np.str_` / `np.bool_` components normalises to a key of plain
`int` / `str` components only (no NumPy-kinded integer, no `bool` survives); without that hypothesis,
every component of the result is a plain int or a non-Integral component exactly as written; and a
canonical key is a fixed point. -/
theorem C21k_normalize_canonical (k : PKey) :
    (k.normalizable = true → (normalize k).canon = true) ∧
    (∀ cs, k = .tup cs → normalize k = .tup (cs.map Comp.norm) ∧
      ∀ c ∈ cs, (∃ v, c.norm = .int .py v) ∨ (c.norm = c ∧ c.isIntegral = false)) ∧
    (k.canon = true → normalize k = k) :=
  ⟨normalize_canon k, fun cs h => by subst h; exact ⟨rfl, fun c _ => Comp.norm_cases c⟩, canon_normalize k⟩

/-- the normalised key is `==` (Python equality, hence equal hash) to the key as written -/
theorem C21k_normalize_pyEq (k : PKey) : pyEq (normalize k) k = true := by
  simp [pyEq, normalize_val]

/-- STRINGS.  On canonical keys `str` is injective and Python equality coincides with equality of
the strings — so matching by string and matching by `==` agree there … -/
theorem C21k_str_injective_on_canonical (a b : PKey)
    (ha : a.canon = true) (hb : b.canon = true) (pa : a.plain = true) (pb : b.plain = true) :
    (keyStr a = keyStr b → a = b) ∧ (pyEq a b = true ↔ keyStr a = keyStr b) := by
  refine ⟨keyStr_inj ha hb pa pb, ?_, ?_⟩
  · intro h
    have : a.val = b.val := by simpa [pyEq] using h
    rw [val_inj ha hb this]
  · intro h
    rw [keyStr_inj ha hb pa pb h]
    simp [pyEq]

/-- … while on keys as written they do NOT: `('x', np.int64(0)) == ('x', 0)` with different strings
(which is what makes the wrong variant `reuseIfEq` look harmless) -/
theorem C21k_raw_pyEq_not_str_witness :
    pyEq (.tup [.str false "x", .int (.np "int64") 0]) (.tup [.str false "x", .int .py 0]) = true ∧
    keyStr (.tup [.str false "x", .int (.np "int64") 0]) ≠ keyStr (.tup [.str false "x", .int .py 0]) := by
  decide +kernel

/-- `np.str_` and `np.bool_` components are not `numbers.Integral`: `_norm_key` keeps them, and the
string of the normalised key differs from the string of the `==` key with plain components -/
theorem C21k_npstr_survives_witness :
    normalize (.tup [.str true "x", .bool true true, .bool false true]) =
      .tup [.str true "x", .bool true true, .int .py 1] ∧
    pyEq (.tup [.str true "x", .int .py 0]) (.tup [.str false "x", .int .py 0]) = true ∧
    keyStr (normalize (.tup [.str true "x", .int .py 0])) ≠ keyStr (normalize (.tup [.str false "x", .int .py 0])) := by
  decide +kernel

/-- REFERENCES = DEPS (one `_Flattener.resolve` call, any term, any counter).  The strings of the key
objects embedded in the rewritten argument are, in order, the strings added to `deps`; in every lifted
record a string is looked up iff it is declared; and when no key of the term has an `np.str_` /
`np.bool_` component every embedded key is canonical. -/
theorem C21k_resolve_refs_eq_deps (parent : String) (t : Term) (n : Nat) :
    (resolve normalize parent t n).1.refStrs = (resolve normalize parent t n).2.2.2 ∧
    (∀ rec ∈ (resolve normalize parent t n).2.2.1, ∀ s, s ∈ refStrsL rec.args ↔ s ∈ rec.deps) ∧
    ((∀ k ∈ t.refs, k.normalizable = true) →
      (∀ k ∈ (resolve normalize parent t n).1.keys, k.canon = true) ∧
      ∀ rec ∈ (resolve normalize parent t n).2.2.1, ∀ k ∈ keysL rec.args, k.canon = true) :=
  have h := resolve_resolved parent t n
  ⟨h.strs, h.recs_strs, h.canon⟩

/-- the same for every record `_records(key, node)` returns (fused `_execute_subgraph` tasks, dict
values and keyword values included): a worker resolving by string finds exactly the declared deps -/
theorem C21k_records_refs_eq_deps (key : PKey) (t : Term) (rs : List ORec)
    (h : records normalize key t = some rs) :
    (∀ rec ∈ rs, ∀ s, s ∈ refStrsL rec.args ↔ s ∈ rec.deps) ∧
    ((∀ k ∈ t.refs, k.normalizable = true) → ∀ rec ∈ rs, ∀ k ∈ keysL rec.args, k.canon = true) :=
  records_resolved key t rs h

/-- The deliberately wrong variant `reuseIfEq` ("reuse the original reference when the normalised key
is `==` to it") violates `C21k_resolve_refs_eq_deps`, which speaks of `resolve`: the embedded string is not a
declared dep and the key is not canonical -/
theorem C21k_reuse_witness :
    let t : Term := .ref (.tup [.str false "x", .int (.np "int64") 0])
    (resolve reuseIfEq "p" t 0).1.refStrs ≠ (resolve reuseIfEq "p" t 0).2.2.2 ∧
    (∃ k ∈ (resolve reuseIfEq "p" t 0).1.keys, k.canon = false) ∧
    (resolve normalize "p" t 0).1.refStrs = (resolve normalize "p" t 0).2.2.2 := by
  decide +kernel

/-- COMPLETENESS AT THE STRING LEVEL (composition with `C21_flatten_complete` through the refinement
`records_erase` of the abstract-key model): for every nested node of Model/Graph.lean, the sub-record
keys are pairwise distinct `"<parent>-sub<i>"`, and every string a worker looks up in any of the
records is the string of the NORMALISED form of an outer key the node references, or the key of a
lifted sub-record — so if every referenced outer key is produced under its normalised string,
every lookup succeeds. -/
theorem C21k_flatten_complete_str (key : PKey) (node : Node PKey String Nat) (main : ORec) (extra : List ORec)
    (h : records normalize key (ofNode node) = some (main :: extra))
    (produced : String → Prop) (hp : ∀ k ∈ nodeRefs node, produced (keyStr (normalize k))) :
    main.key = keyStr (normalize key) ∧
    (extra.map (·.key)).Nodup ∧
    (∀ r ∈ extra, ∃ i, 1 ≤ i ∧ r.key = subKey (keyStr (normalize key)) i) ∧
    ∀ r ∈ main :: extra, ∀ s ∈ refStrsL r.args, produced s ∨ ∃ r' ∈ extra, r'.key = s := by
  have hG := records_erase key node _ h
  simp only [List.map_cons] at hG
  obtain ⟨g1, g2, g3⟩ := Dask.Lemmas.Graph.records_complete (cfg := cfgK) (parent := keyStr (normalize key))
    (fun l x => mem_sortedSet l x) (fun a b hab => subKey_inj _ a b hab) node _ _ hG
  have hk : (extra.map eraseRec).map (·.key) = extra.map (·.key) := by
    simp [List.map_map, Function.comp_def, eraseRec]
  refine ⟨Dask.Lemmas.Graph.records_main_key hG, hk ▸ g1, ?_, ?_⟩
  · intro r hr
    exact g2 (eraseRec r) (List.mem_map_of_mem hr)
  · intro r hr s hs
    have hd : s ∈ r.deps := ((records_resolved key (ofNode node) _ h).1 r hr s).mp hs
    have hr' : eraseRec r ∈ eraseRec main :: extra.map eraseRec := List.map_cons ▸ List.mem_map_of_mem hr
    rcases g3 (eraseRec r) hr' s hd with ⟨k, hk1, rfl⟩ | ⟨r', hr1, hr2⟩
    · exact Or.inl (hp k hk1)
    · obtain ⟨r'', hr3, rfl⟩ := List.mem_map.mp hr1
      exact Or.inr ⟨r'', hr3, hr2⟩

/-- `('x', np.int64(0), True, np.uint8(3))` is normalizable, not canonical; its normal form is canonical and plain -/
def kRaw : PKey := .tup [.str false "x", .int (.np "int64") 0, .bool false true, .int (.np "uint8") 3]
example : kRaw.normalizable = true ∧ kRaw.canon = false := by decide +kernel
example : normalize kRaw = .tup [.str false "x", .int .py 0, .int .py 1, .int .py 3] := by decide +kernel
example : (normalize kRaw).canon = true ∧ (normalize kRaw).plain = true := by decide +kernel
example : keyStr kRaw = "('x', np.int64(0), True, np.uint8(3))" ∧ keyStr (normalize kRaw) = "('x', 0, 1, 3)" := by
  decide +kernel
example : keyStr (.tup [.str false "x"]) = "('x',)" ∧ keyStr (.tup [.str false "x", .int .py (-12)]) = "('x', -12)" := by
  decide +kernel

/-- `Task(f, TaskRef(('x', np.int64(0))), [Alias(('y', True))], Task(g, TaskRef(('x', 0))), q=TaskRef('z'))` under key `('out', np.int64(1))` -/
def nodeK : Node PKey String Nat :=
  .task "f" ["q"] (.cons (.taskRef (.tup [.str false "x", .int (.np "int64") 0]))
    (.cons (.plist (.cons (.alias (.tup [.str false "y", .bool false true])) .nil))
      (.cons (.task "g" [] (.cons (.taskRef (.tup [.str false "x", .int .py 0])) .nil))
        (.cons (.taskRef (.bare false "z")) .nil))))
example : (records normalize (.tup [.str false "out", .int (.np "int64") 1]) (ofNode nodeK)).map
    (fun rs => rs.map (fun r => (r.key, refStrsL r.args))) =
    some [("('out', 1)", ["('x', 0)", "('y', 1)", "('out', 1)-sub1", "z"]), ("('out', 1)-sub1", ["('x', 0)"])] := by
  decide +kernel
example : ∀ k ∈ (ofNode nodeK).refs, k.normalizable = true := by decide +kernel

end Dask.Props.C21Keys
