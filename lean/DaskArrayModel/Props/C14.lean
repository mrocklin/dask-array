/-
C14 — rechunking yields the requested chunks with unchanged values.

Values: the task-rechunk graph builds new block `j` by concatenating, in order, the slices
`old_block[idx][s:e]` listed by the crosswalk (`_compute_rechunk` / `intersect_chunks`).  Read on
data (Model/RechunkPlan.lean: `blockOf`, `pieceData`, `assembleBlock`, `rechunkStep`,
`rechunkChain`) this gives exactly the elements at positions `[newStart j, newEnd j)`, for ALL
chunkings incl. zero-width chunks, and so does any chain of stages (any plan).  One axis; the
n-d layer is the cartesian product of the per-axis crosswalks (`intersectChunks`), compared with
`intersect_chunks` / `TasksRechunk._layer` on every run (harness/props/C14.py), not proved.
Chunks: the per-axis resolution of explicit specs (None / -1 / int / tuple) and `balance=True`
give chunkings of the same axis length.  `'auto'` / byte-limit specs are C16's
(`normalize_chunks`); here they are compared with `normalize_chunks` called independently.
-/
import DaskArrayModel.Lemmas.RechunkPlan
namespace Dask.Props.C14
open Dask.Py Dask.Rechunk Dask.RechunkPlan
open Dask.Lemmas.RechunkPlan (Chunking)

/-- one stage, one new block: assembling block `j` of `new` from the crosswalk pieces of the blocks
of `old` gives `(xs.drop newStart_j).take new[j]` -/
theorem rechunk_values {α : Type} (old new : List Int) (xs : List α)
    (ho : ∀ c ∈ old, 0 ≤ c) (hn : ∀ c ∈ new, 0 ≤ c) (hsum : isum old = isum new)
    (hone : old ≠ []) (hnne : new ≠ []) (hlen : (xs.length : Int) = isum old)
    (j : Nat) (hj : j < new.length) :
    assembleBlock old new (blocks old xs) j = blockOf new xs j :=
  have _ := hlen  -- not needed: positions beyond the data are dropped on both sides
  Dask.Lemmas.RechunkPlan.rechunk_values old new xs ho hn hsum hone hnne j hj

/-- one stage, all blocks -/
theorem rechunkStep_blocks {α : Type} (old new : List Int) (xs : List α)
    (ho : ∀ c ∈ old, 0 ≤ c) (hn : ∀ c ∈ new, 0 ≤ c) (hsum : isum old = isum new)
    (hone : old ≠ []) (hnne : new ≠ []) (hlen : (xs.length : Int) = isum old) :
    rechunkStep old new (blocks old xs) = blocks new xs :=
  have _ := hlen
  Dask.Lemmas.RechunkPlan.rechunkStep_blocks old new xs ho hn hsum hone hnne

/-- any plan (any list of intermediate chunkings of the axis) preserves the data -/
theorem rechunkChain_blocks {α : Type} (xs : List α) (chain : List (List Int)) (old : List Int)
    (ho : Chunking xs.length old) (hc : ∀ c ∈ chain, Chunking xs.length c) :
    rechunkChain old chain (blocks old xs) = blocks ((old :: chain).getLast (by simp)) xs := by
  induction chain generalizing old with
  | nil => simp [rechunkChain]
  | cons c cs ih =>
    have hc1 := hc c (by simp)
    rw [rechunkChain, rechunkStep_blocks old c xs ho.2.1 hc1.2.1 (by rw [ho.2.2, hc1.2.2]) ho.1 hc1.1
      ho.2.2.symm, ih c hc1 (fun x hx => hc x (by simp [hx]))]
    simp [List.getLast_cons]

/-- equal blocks mean equal values: the blocks of a chunking concatenate back to the data -/
theorem blocks_flatten {α : Type} (c : List Int) (xs : List α) (h : Chunking xs.length c) :
    (blocks c xs).flatten = xs := by
  exact Dask.Layout.blocks_cover h.2.1 xs h.2.2

/-- explicit spec kinds resolve to a chunking of the same axis length -/
theorem resolveAxis_sum (oldc : List Int) (sp : AxisSpec) (ho : ∀ c ∈ oldc, 0 ≤ c)
    (hsp : match sp with
      | .size k => 1 ≤ k
      | .explicit l => isum l = isum oldc
      | _ => True) :
    isum (resolveAxis oldc sp) = isum oldc := by
  cases sp with
  | keep => rfl
  | full => simp [resolveAxis, isum]
  | size k =>
    simp only [resolveAxis]
    split
    · rename_i h; simp [isum, h]
    · exact Dask.Lemmas.RechunkPlan.getChunks_sum _ k (isum_nonneg oldc ho) hsp
  | explicit l => exact hsp

/-- `balance=True` keeps the axis length -/
theorem balanceChunksizes_sum (chunks : List Int) (hne : chunks ≠ []) (h : ∀ x ∈ chunks, 0 ≤ x) :
    isum (balanceChunksizes chunks) = isum chunks :=
  open Dask.Lemmas.RechunkPlan Dask.Lemmas.Crosswalk in by
  unfold balanceChunksizes
  split
  · rfl
  · rename_i hmin
    have hpos : ∀ x ∈ chunks, 1 ≤ x := by
      intro x hx
      have h1 := (imin_spec chunks hne).2 x hx
      have h2 := h _ (imin_spec chunks hne).1
      omega
    have hmed := medianInt_pos chunks hne hpos
    simp only
    generalize (if 2 * imin chunks ≤ imax chunks then (chunks.length : Int) - 1 else (chunks.length : Int)) = nC
    generalize hposs : List.filter (fun c : List Int => decide ((c.length : Int) = nC)) _ = possible
    -- every candidate is `_get_chunks(total, len)` with `len ≥ median - median // 2 ≥ 1`
    have hall : ∀ c ∈ possible, isum c = isum chunks := by
      intro c hc
      rw [← hposs] at hc
      simp only [List.mem_filter, List.mem_map] at hc
      obtain ⟨⟨len, hlen, rfl⟩, _⟩ := hc
      have hr := (mem_rangeList_one _ _ _).mp hlen
      apply getChunks_sum _ _ (isum_nonneg chunks h)
      have : pyDiv (medianInt chunks) 2 = medianInt chunks / 2 := pyDiv_pos _ _ (by omega)
      rw [this] at hr
      omega
    split
    · rfl
    · rw [List.getD_eq_getElem?_getD]
      cases hg : possible[argmin (List.map (fun c => imax c - imin c) possible)]? with
      | none => rfl
      | some c => exact hall c (List.mem_of_getElem? hg)

/-- data 0..9 in blocks (4,4,2) → blocks (5,5) -/
example : rechunkStep [4, 4, 2] [5, 5] (blocks [4, 4, 2] [0, 1, 2, 3, 4, 5, 6, 7, 8, 9]) =
    [[0, 1, 2, 3, 4], [5, 6, 7, 8, 9]] := by
  unfold rechunkStep assembleBlock
  rw [Dask.Lemmas.RechunkPlan.ex_o2n]
  decide +kernel

example : blocks [5, 5] [0, 1, 2, 3, 4, 5, 6, 7, 8, 9] = [[0, 1, 2, 3, 4], [5, 6, 7, 8, 9]] := by decide +kernel

example : rechunkStep [4, 4, 2] [5, 5] (blocks [4, 4, 2] [10, 11, 12, 13, 14, 15, 16, 17, 18, 19]) =
    blocks [5, 5] [10, 11, 12, 13, 14, 15, 16, 17, 18, 19] :=
  rechunkStep_blocks [4, 4, 2] [5, 5] _ (by decide) (by decide) (by decide) (by decide) (by decide) (by decide)

example : Chunking ([1, 2, 3].length : Nat) [2, 0, 1] := ⟨by decide, by decide, by decide⟩

example : resolveAxis [4, 4, 2] (.size 3) = [3, 3, 3, 1] := by decide +kernel
example : resolveAxis [4, 4, 2] .full = [10] := by decide +kernel
example : getChunks 1000 500 = [500, 500] := by decide +kernel

end Dask.Props.C14
