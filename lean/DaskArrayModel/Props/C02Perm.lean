/-
C02 (extension, package `prm`) — the axis-permutation rules of `dask_array/manipulation/_transpose.py` preserve values.
Property theorems (the permutation algebra and the builders are in Lemmas/Perm*.lean) and non-vacuity examples.

Model: Model/Perm.lean (line-by-line mirror of `Transpose._simplify_down`, `_pushdown_through_elemwise`,
`_inverse_axes`, `_input_block_id`, `_task`, `_accept_shuffle`, `Array.transpose`, `swapaxes`, `moveaxis`, `rollaxis`).
Denotation: the one of Model/Expr.lean — `den env (.transpose e p) = transposeArr (den env e) p` (`rfl`), i.e.
`out[i] = in[unperm p i]` with `unperm p i [a] = i[p.index(a)]`; `takeArr` is the denotation of `Expr2.take` (`rfl`).
`isPerm p n` (Model/Expr.lean) is the decidable validity predicate; `Preserves` is the one of Props/C02.lean.

NOT covered here: `Transpose._accept_slice` (all-slice indices: `C02_rule_sound_sliceThroughTranspose` in Props/C02.lean;
integer indices through `sliceSplitInts`), `_rechunk_pushdown` (`C02_rule_sound_rechunkThroughTranspose`).
-/
import DaskArrayModel.Lemmas.PermRules
import DaskArrayModel.Lemmas.PermMoveaxis
import DaskArrayModel.Props.C02
namespace Dask.Props.C02Perm
open Dask.Py Dask.ND Dask.Perm Dask.Props.C02

/-- `Transpose(Transpose(x, p), q)` → `Transpose(x, tuple(p[i] for i in q))`: for every well-formed expression (so: all
valid `p`, `q` of the rank of `x`), every environment, the single transpose is well-formed, has the same shape and
denotes the same array. -/
theorem C02p_transpose_transpose (env : Env) (e : Expr) (p q : List Nat)
    (hw : WF (.transpose (.transpose e p) q)) :
    Preserves env (.transpose e (composeAsCode p q)) (.transpose (.transpose e p) q) :=
  preserves_of (transposeTranspose_sound env _ _ hw rfl)

/-- the rule as the optimizer applies it -/
theorem C02p_rule_sound_transposeTranspose (env : Env) (e e' : Expr) (hw : WF e)
    (h : transposeTranspose e = some e') : Preserves env e' e :=
  preserves_of (transposeTranspose_sound env e e' hw h)

/-- the same statement for arbitrary arrays, with the validity predicate explicit; the composed permutation is valid -/
theorem C02p_transpose_transpose_arr (n : Nat) (p q : List Nat) (hp : isPerm p n = true) (hq : isPerm q n = true)
    (a : Arr Int) :
    isPerm (composeAsCode p q) n = true ∧
      Arr.Equiv (transposeArr (transposeArr a p) q) (transposeArr a (composeAsCode p q)) :=
  ⟨isPerm_of_ok (composeAsCode_ok (isPerm_ok hp) (isPerm_ok hq)),
   transposeArr_transposeArr (isPerm_ok hp) (isPerm_ok hq) a⟩

/-- the 3-cycle array used by the witnesses: shape (2,3,4), element = its C-order position -/
def wArr : Arr Int := ⟨[2, 3, 4], fun i => (flatIndex [2, 3, 4] i : Nat)⟩

/-- composing in the opposite order gives another permutation and another array for a 3-cycle followed by a swap;
for `p = q` (and so for every involution applied twice) both orders coincide, which is why 2-d tests cannot see it -/
theorem C02p_transpose_transpose_order_witness :
    composeAsCode [1, 2, 0] [1, 0, 2] = [2, 1, 0] ∧ composeWrong [1, 2, 0] [1, 0, 2] = [0, 2, 1] ∧
    (transposeArr (transposeArr wArr [1, 2, 0]) [1, 0, 2]).toList
      = (transposeArr wArr (composeAsCode [1, 2, 0] [1, 0, 2])).toList ∧
    (transposeArr (transposeArr wArr [1, 2, 0]) [1, 0, 2]).toList
      ≠ (transposeArr wArr (composeWrong [1, 2, 0] [1, 0, 2])).toList ∧
    (∀ p : List Nat, composeAsCode p p = composeWrong p p) := by
  refine ⟨by decide +kernel, by decide +kernel, by decide +kernel, by decide +kernel, fun _ => rfl⟩

/-- `Transpose(x, (0, …, n-1))` → `x`: the rule as the optimizer applies it preserves shape and values -/
theorem C02p_identity (env : Env) (e e' : Expr) (hw : WF e) (h : transposeIdentity e = some e') :
    Preserves env e' e :=
  preserves_of (transposeIdentity_sound env e e' hw h)

/-- transposing by the identity permutation gives the array, for every array -/
theorem C02p_identity_arr (a : Arr Int) : Arr.Equiv (transposeArr a (List.range a.shape.length)) a :=
  transposeArr_identity a

/-- `_inverse_axes` (the `inv[a] = i` loop) of a valid permutation: no IndexError, a valid permutation, its own inverse
is the original, both compositions are the identity, and transposing with it undoes the transpose -/
theorem C02p_inverse_roundtrip (n : Nat) (p : List Nat) (hp : isPerm p n = true) :
    inverseE p = .ok (inverse p) ∧ isPerm (inverse p) n = true ∧ inverse (inverse p) = p ∧
    composeAsCode p (inverse p) = List.range n ∧ composeAsCode (inverse p) p = List.range n ∧
    (∀ k, k < n → (inverse p).getD (p.getD k 0) 0 = k) ∧
    (∀ a : Arr Int, a.shape.length = n → Arr.Equiv (transposeArr (transposeArr a p) (inverse p)) a) := by
  have hp' := isPerm_ok hp
  refine ⟨inverseE_ok hp', isPerm_of_ok (inverse_ok hp'), inverse_inverse hp', compose_inverse_right hp',
    compose_inverse_left hp', ?_, ?_⟩
  · intro k hk
    rw [inverse_getD hp' (hp'.getD_lt hk), hp'.idxOf_getD hk]
  · intro a ha
    have h1 := transposeArr_transposeArr hp' (inverse_ok hp') a
    rw [compose_inverse_right hp', ← ha] at h1
    exact h1.trans (transposeArr_identity a)

/-- a take along OUTPUT axis `k` of `x.transpose(p)` is the transpose of the take along INPUT axis `p[k]` -/
theorem C02p_take_through_transpose (n : Nat) (p : List Nat) (hp : isPerm p n = true) (a : Arr Int)
    (ha : a.shape.length = n) (k : Nat) (hk : k < n) (idx : List Int) :
    Arr.Equiv (takeArr (transposeArr a p) k idx) (transposeArr (takeArr a (p.getD k 0) idx) p) :=
  take_through_transpose (isPerm_ok hp) a ha hk idx

/-- the same on the expression denotations (`Expr2.take` over `Expr.transpose`) -/
theorem C02p_take_through_transpose_expr (env : Env) (e : Expr) (p : List Nat) (k : Nat) (idx : List Int)
    (hw : WF (.transpose e p)) (hk : k < (shape e).length) :
    Arr.Equiv (den2 env (.take (.base (.transpose e p)) k idx))
      (transposeArr (den2 env (.take (.base e) (shuffleAxis p k) idx)) p) := by
  exact take_through_transpose (isPerm_ok (WF_transpose.mp hw).2) (den env e) rfl hk idx

/-- with the inverse permutation the pushed take acts on the wrong axis: for the 3-cycle (1,2,0) and output axis 0 the
code's axis is 1, the inverse gives 2, and already the shapes differ -/
theorem C02p_take_inverse_witness :
    shuffleAxis [1, 2, 0] 0 = 1 ∧ shuffleAxisWrong [1, 2, 0] 0 = 2 ∧
    (takeArr (transposeArr wArr [1, 2, 0]) 0 [2, 0]).toList
      = (transposeArr (takeArr wArr (shuffleAxis [1, 2, 0] 0) [2, 0]) [1, 2, 0]).toList ∧
    (takeArr (transposeArr wArr [1, 2, 0]) 0 [2, 0]).shape
      ≠ (transposeArr (takeArr wArr (shuffleAxisWrong [1, 2, 0] 0) [2, 0]) [1, 2, 0]).shape ∧
    (∀ k, shuffleAxis [1, 0] k = shuffleAxisWrong [1, 0] k ∨ 2 ≤ k) := by
  refine ⟨by decide +kernel, by decide +kernel, by decide +kernel, by decide +kernel, ?_⟩
  intro k
  match k with
  | 0 => exact .inl (by decide +kernel)
  | 1 => exact .inl (by decide +kernel)
  | k + 2 => exact .inr (by omega)

/-- for every array, every chunking `cl` of it, every grid `blocks` holding the array's blocks: the tasks of the
transpose layer (output block `bid` = `np.transpose(blocks[_input_block_id(bid)], axes)`) assemble, under the permuted
chunks, to the transposed array -/
theorem C02p_block_key (n : Nat) (p : List Nat) (hp : isPerm p n = true) (a : Arr Int) (cl : Layout)
    (hl : wfLayout a.shape cl = true) (hn : a.shape.length = n) (blocks : List Nat → Arr Int)
    (hB : ∀ b, validBid cl b → Arr.Equiv (blocks b) (restrict a (extent cl b))) :
    Arr.Equiv (assemble (transposeChunks p cl) (transposeBlock p blocks)) (transposeArr a p) := by
  apply assemble_of_blocks
  · unfold transposeChunks permute
    rw [← gather_map List.sum (d' := 0) rfl p cl, (wfLayout_iff.mp hl).1]
    rfl
  · exact transposeBlock_correct (isPerm_ok hp) a cl hl hn blocks hB

/-- the key names an existing input block, and it is the un-permutation used by the denotation:
`in_id[a] = out_id[p.index(a)]`, equivalently `in_id[p[k]] = out_id[k]` -/
theorem C02p_block_key_valid (n : Nat) (p : List Nat) (hp : isPerm p n = true) (cl : Layout) (hc : cl.length = n)
    (bid : List Nat) (hb : validBid (transposeChunks p cl) bid) :
    validBid cl (inputBlockId p bid) ∧ inputBlockId p bid = unperm p bid ∧
      (∀ k, k < n → (inputBlockId p bid).getD (p.getD k 0) 0 = bid.getD k 0) := by
  have hp' := isPerm_ok hp
  have hbl : bid.length = n := by rw [hb.length_eq]; simp [transposeChunks, permute, hp'.len]
  have he := inputBlockId_eq hp' bid hbl
  refine ⟨he ▸ validBid_unperm hp' cl hc bid hb, he, ?_⟩
  intro k hk
  rw [he, unperm_getD _ _ _ (by rw [hp'.len]; exact hp'.getD_lt hk), hp'.idxOf_getD hk]

/-- each task produces exactly the block of the transposed array on the advertised extent -/
theorem C02p_block_key_block (n : Nat) (p : List Nat) (hp : isPerm p n = true) (a : Arr Int) (cl : Layout)
    (hl : wfLayout a.shape cl = true) (hn : a.shape.length = n) (bid : List Nat)
    (hb : validBid (transposeChunks p cl) bid) :
    Arr.Equiv (transposeBlock p (blocksOf a cl) bid)
      (restrict (transposeArr a p) (extent (transposeChunks p cl) bid)) :=
  transposeBlock_correct (isPerm_ok hp) a cl hl hn _ (fun _ _ => Arr.Equiv.refl _) bid hb

/-- `swapaxes(a, a1, a2)` for axes NumPy accepts (`-n ≤ a < n`): a valid permutation exchanging the two normalised axes -/
theorem C02p_builders_swapaxes (n : Nat) (a1 a2 : Int) (h1 : AxisOK n a1) (h2 : AxisOK n a2) :
    ∃ p, swapaxesPerm n a1 a2 = .ok p ∧ isPerm p n = true ∧ IsSwapaxes n (normI n a1) (normI n a2) p :=
  ⟨_, swapaxesPerm_eq n a1 a2 h1 h2, isPerm_of_ok (swapPerm_ok n _ _ (normI_lt h1) (normI_lt h2)),
    isSwapaxes_swapPerm _ _ _⟩

/-- `moveaxis(a, source, destination)` for sequences NumPy accepts (axes in `[-n, n)`, no repeats, equal lengths): a valid
permutation `p` with `p[destination[j]] = source[j]` for every `j` (normalised axes) and the remaining axes in increasing
order on the remaining positions — NumPy's meaning, which determines `p` -/
theorem C02p_builders_moveaxis (n : Nat) (src dst : List Int) (hs : AxesOK n src) (hd : AxesOK n dst)
    (hlen : src.length = dst.length) :
    ∃ p, moveaxisPermN n src dst = .ok p ∧ isPerm p n = true ∧
      (∀ j, j < src.length → p.getD ((dst.map (normI n)).getD j 0) 0 = (src.map (normI n)).getD j 0) ∧
      (∀ i j, i < j → j < n → i ∉ dst.map (normI n) → j ∉ dst.map (normI n) → p.getD i 0 < p.getD j 0) := by
  obtain ⟨p, h1, h2, h3, h4⟩ := moveaxis_order n _ _ (fun _ => mem_map_normI_lt hs.1) (fun _ => mem_map_normI_lt hd.1)
    hs.2 hd.2 (by rw [List.length_map, List.length_map, hlen])
  exact ⟨p, h1 ▸ moveaxisPermN_eq n src dst hs hd hlen, isPerm_of_perm h2,
    fun j hj => h3 j (by rw [List.length_map]; exact hj), h4⟩

/-- one axis: output axis `d` is input axis `s`, and deleting it leaves the other axes in order -/
theorem C02p_builders_moveaxis_one (n : Nat) (s d : Int) (hs : AxisOK n s) (hd : AxisOK n d) :
    ∃ p, moveaxisPermN n [s] [d] = .ok p ∧ isPerm p n = true ∧ IsMoveaxis n (normI n s) (normI n d) p :=
  ⟨_, moveaxisPermN_one n s d hs hd, isPerm_of_perm (moveaxisPerm_perm n _ _ (normI_lt hs) (normI_lt hd)),
    isMoveaxis_moveaxisPerm n _ _ (normI_lt hs) (normI_lt hd)⟩

/-- `rollaxis(a, axis, start)` for arguments NumPy accepts (`-n ≤ axis < n`, `-n ≤ start ≤ n`): NumPy's
`moveaxis(a, axis, start - (axis < start))` -/
theorem C02p_builders_rollaxis (n : Nat) (axis start : Int) (ha : AxisOK n axis) (hs : StartOK n start) :
    ∃ p, rollaxisPerm n axis start = .ok p ∧ isPerm p n = true ∧
      IsMoveaxis n (normI n axis) (rollDest n axis start) p := by
  have ha' := normI_lt ha
  unfold rollaxisPerm rollDest
  rw [normAxis_ok ha]
  simp only []
  generalize hst' : (if start < 0 then start + (n : Int) else start) = st
  have hst : 0 ≤ st ∧ st ≤ n := by
    unfold StartOK at hs
    rw [← hst']
    split <;> omega
  rw [if_neg (fun h => h ⟨hst.1, Int.lt_add_one_of_le hst.2⟩)]
  generalize hd' : (if (normI n axis : Int) < st then st - 1 else st) = d
  have hd : 0 ≤ d ∧ d < n := by
    rw [← hd']
    split <;> omega
  have hdn : d.toNat < n := by omega
  by_cases he : (normI n axis : Int) = d
  · -- `return a[...]`: the axis is already in place
    rw [if_pos he, ← he, Int.toNat_natCast]
    exact ⟨_, rfl, isPerm_of_perm (List.Perm.refl _), isMoveaxis_range n _ ha'⟩
  · rw [if_neg he, List.Nodup.erase_eq_filter List.nodup_range, pyInsert_filter_eq ha' hdn]
    exact ⟨_, rfl, isPerm_of_perm (moveaxisPerm_perm n _ _ ha' hdn), isMoveaxis_moveaxisPerm n _ _ ha' hdn⟩

/-- `.T` / `transpose()`: the reversal -/
theorem C02p_builders_T (n : Nat) :
    isPerm (reversePerm n) n = true ∧ ∀ k, k < n → (reversePerm n).getD k 0 = n - 1 - k :=
  ⟨isPerm_of_perm (List.reverse_perm _), fun _ hk => reversePerm_getD hk⟩

/-- the rule fires exactly when every array argument, `where=` and `out=` have the rank of the output
(a lower-rank broadcasting operand — a 0-d dask array included — makes it decline) -/
theorem C02p_elemwise_split_fires_iff (axes : List Nat) (args : List Opnd) (whr out : Option Nat) :
    (elemwiseSplit axes args whr out).isSome = true ↔
      (∀ k, Opnd.arr k ∈ args → k = axes.length) ∧ (∀ k, whr = some k → k = axes.length) ∧
        (∀ k, out = some k → k = axes.length) := by
  unfold elemwiseSplit
  simp only [Option.isSome_iff_exists, Option.ite_none_left_eq_some, Option.some.injEq, exists_and_left,
    exists_eq', and_true, Bool.not_eq_true, Bool.not_eq_false']
  rw [argsSameRank_iff, rankDiffers_eq_false_iff, rankDiffers_eq_false_iff]

/-- when it fires, every array argument and `where=` / `out=` get the WHOLE permutation; scalars pass unchanged -/
theorem C02p_elemwise_split_axes (axes : List Nat) (args : List Opnd) (whr out : Option Nat) (s : Split)
    (h : elemwiseSplit axes args whr out = some s) :
    s.args = args.map (fun a => match a with | .scalar => none | .arr _ => some axes) ∧
      s.whr = whr.map (fun _ => axes) ∧ s.out = out.map (fun _ => axes) := by
  obtain ⟨_, h⟩ := Option.ite_none_left_eq_some.mp h
  obtain ⟨_, h⟩ := Option.ite_none_left_eq_some.mp h
  obtain ⟨_, h⟩ := Option.ite_none_left_eq_some.mp h
  cases Option.some.inj h
  exact ⟨rfl, rfl, rfl⟩

/-- soundness when it fires, for any number of same-shape array operands (`where=` mask and `out=` array are operands of
the pointwise function `f`, scalars are part of `f`) -/
theorem C02p_elemwise_split_sound (f : List Int → Int) (ops : List (Arr Int)) (p : List Nat) (hne : ops ≠ []) :
    Arr.Equiv (transposeArr (pointwiseArr f ops) p) (pointwiseArr f (ops.map (fun a => transposeArr a p))) := by
  cases ops with
  | nil => exact absurd rfl hne
  | cons a r =>
    refine ⟨rfl, ?_⟩
    intro i _
    simp only [transposeArr, pointwiseArr, List.map_map, List.map_cons]
    rfl

/-- `Transpose(f(x), p)` → `f(Transpose(x, p))` on `Expr` (unary elemwise), as the optimizer applies it -/
theorem C02p_elemwise_rule_map (env : Env) (e e' : Expr) (hw : WF e) (h : transposeThroughMap e = some e') :
    Preserves env e' e :=
  preserves_of (transposeThroughMap_sound env e e' hw h)

/-- `Transpose(f(x, y), p)` → `f(Transpose(x, p), Transpose(y, p))` on `Expr` (binary elemwise) -/
theorem C02p_elemwise_rule_zip (env : Env) (e e' : Expr) (hw : WF e) (h : transposeThroughZip e = some e') :
    Preserves env e' e :=
  preserves_of (transposeThroughZip_sound env e e' hw h)

/-- why the rule declines for a lower-rank operand: handing it the same axes is not a permutation of its rank -/
theorem C02p_elemwise_decline_witness :
    elemwiseSplit [1, 2, 0] [.arr 3, .arr 2] none none = none ∧
    elemwiseSplit [1, 2, 0] [.arr 3, .scalar] (some 2) none = none ∧
    elemwiseSplit [1, 2, 0] [.arr 3, .arr 0] none none = none ∧
    isPerm [1, 2, 0] 2 = false ∧
    elemwiseSplit [1, 2, 0] [.arr 3, .scalar] (some 3) (some 3)
      = some ⟨[some [1, 2, 0], none], some [1, 2, 0], some [1, 2, 0]⟩ := by
  decide +kernel

def xSrc3 : Expr := .src 0 [2, 3, 4] [[1, 1], [2, 1], [3, 1]]

example : WF (.transpose (.transpose xSrc3 [1, 2, 0]) [1, 0, 2]) := by decide +kernel
example : transposeTranspose (.transpose (.transpose xSrc3 [1, 2, 0]) [1, 0, 2]) = some (.transpose xSrc3 [2, 1, 0]) := by
  decide +kernel
example : WF (.transpose xSrc3 [0, 1, 2]) ∧ transposeIdentity (.transpose xSrc3 [0, 1, 2]) = some xSrc3 := by decide +kernel
example : isPerm [1, 2, 0] 3 = true ∧ inverse [1, 2, 0] = [2, 0, 1] ∧ inverseE [1, 5, 0] = .error "IndexError" :=
  ⟨by decide +kernel, by decide +kernel, by rfl⟩
example : isPerm [3, 1, 0, 2] 4 = true ∧ inputBlockId [3, 1, 0, 2] [5, 6, 7, 8] = [7, 6, 8, 5] := by decide +kernel
example : wfLayout [2, 3, 4] [[1, 1], [2, 1], [3, 1]] = true ∧
    validBid (transposeChunks [1, 2, 0] [[1, 1], [2, 1], [3, 1]]) [1, 0, 1] := by decide +kernel
example : AxisOK 3 (-3) ∧ AxisOK 3 2 ∧ ¬ AxisOK 3 3 ∧ StartOK 3 3 ∧ ¬ StartOK 3 4 := by decide +kernel
example : AxesOK 4 [0, -3, 2] ∧ AxesOK 4 [-1, 0, 1] ∧ ¬ AxesOK 4 [1, -3] ∧ ¬ AxesOK 4 [4] := by decide +kernel
example : swapaxesPerm 4 (-1) 1 = .ok [0, 3, 2, 1] ∧ swapaxesPerm 3 (-5) 0 = .ok [1, 0, 2]
    ∧ swapaxesPerm 3 3 0 = .error "IndexError" ∧ swapaxesPerm 3 7 7 = .ok [0, 1, 2] :=
  ⟨by rfl, by rfl, by rfl, by rfl⟩
example : moveaxisPermN 4 [0] [-1] = .ok [1, 2, 3, 0] ∧ moveaxisPermN 4 [0, 1] [-1, -2] = .ok [2, 3, 1, 0]
    ∧ moveaxisPermN 4 [0, 0] [1, 2] = .error "ValueError" ∧ moveaxisPermN 4 [4] [0] = .error "AxisError" :=
  ⟨by rfl, by rfl, by rfl, by rfl⟩
example : rollaxisPerm 4 3 1 = .ok [0, 3, 1, 2] ∧ rollaxisPerm 4 1 4 = .ok [0, 2, 3, 1] ∧ rollaxisPerm 4 1 2 = .ok [0, 1, 2, 3]
    ∧ rollaxisPerm 4 1 5 = .error "ValueError" ∧ rollDest 4 1 4 = 3 :=
  ⟨by rfl, by rfl, by rfl, by rfl, by decide +kernel⟩
example : WF (.transpose (.zip 0 xSrc3 xSrc3) [1, 2, 0]) ∧
    transposeThroughZip (.transpose (.zip 0 xSrc3 xSrc3) [1, 2, 0])
      = some (.zip 0 (.transpose xSrc3 [1, 2, 0]) (.transpose xSrc3 [1, 2, 0])) := by decide +kernel
example : WF2 (.take (.base (.transpose xSrc3 [1, 2, 0])) 0 [2, 0]) := by decide +kernel

end Dask.Props.C02Perm
