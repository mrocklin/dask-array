/-
C08 — Optimization terminates and is idempotent; it never turns a computable program into one that
raises.  Property theorems and non-vacuity examples.

Termination is not a separate theorem: `optimize` (Model/Rules.lean) is DEFINED by well-founded
recursion on the explicit measure `mu`, and Lean accepted the definition only with the proof that
every step decreases `mu` (`C08_rule_decreases` for each rule at the root, `C08_step_decreases`
for a step anywhere in the tree — `mu` is strictly monotone in every argument).
`mu`: a `slice` / `rechunk` doubles the weight of what is below it, every other node adds one.

`C08_optimize_normal`: the optimizer's own `step` finds nothing more to do on the result (`step` tries the
rules at the root, then only the first step of each child, and drops that one under a grid-sensitive parent
when it changes `.chunks`: it does not say that no rule fires at any position);
`C08_optimize_idempotent`: optimizing an optimized expression returns it unchanged;
`C08_no_new_errors`: the model's only error source is ill-formedness (`WF` = what the real API
accepts: chunk/shape agreement of operands, index bounds, `(1,)` chunks under squeeze, positive
chunks under max/min), and `optimize` never produces an ill-formed expression from a well-formed
one — hence (`C08_optimized_computes`, with `compute_eq_den`) the optimized expression computes.

Partial: rules outside the model (see Props/C02.lean) are covered by the end-to-end search only
(watchdog, re-optimization, optimized vs unoptimized compute).
-/
import DaskArrayModel.Lemmas.RulesConcat
namespace Dask.Props.C08
open Dask.Py Dask.ND

/-- every rule of `optimize`, applied at the root, strictly decreases the measure -/
theorem C08_rule_decreases (r : String × (Expr → Option Expr)) (hr : r ∈ rules) (e e' : Expr)
    (h : r.2 e = some e') : mu e' < mu e :=
  (rules_dec r hr).lt h

/-- one optimizer step anywhere in the tree strictly decreases the measure -/
theorem C08_step_decreases (e e' : Expr) (h : step e = some e') : mu e' < mu e :=
  step_dec e e' h

/-- … for any list of measure-decreasing root rules (the measure is monotone in every argument) -/
theorem C08_stepWith_decreases (rs : List (String × (Expr → Option Expr)))
    (hrs : ∀ r ∈ rs, ∀ e e', r.2 e = some e' → mu e' < mu e) (e : Expr) (p : String × Expr)
    (h : stepWith rs e = some p) : mu p.2 < mu e :=
  stepWith_dec rs hrs e p h

/-- the defining equation of the fixpoint (accepted by Lean with `C08_step_decreases` as its
termination proof): `optimize` applies `step` until no rule applies -/
theorem C08_optimize_unfold (e : Expr) :
    optimize e = match step e with
      | none => e
      | some e' => optimize e' := by
  rw [optimize]
  split <;> simp [*]

/-- the result is a normal form -/
theorem C08_optimize_normal (e : Expr) : step (optimize e) = none := by
  fun_induction optimize e with
  | case1 e hs => exact hs
  | case2 e e' hs ih => exact ih

/-- normal forms are fixpoints -/
theorem C08_optimize_fixpoint (e : Expr) (h : step e = none) : optimize e = e := by
  rw [C08_optimize_unfold, h]

/-- idempotence -/
theorem C08_optimize_idempotent (e : Expr) : optimize (optimize e) = optimize e :=
  C08_optimize_fixpoint _ (C08_optimize_normal e)

/-- optimization never makes a well-formed expression ill-formed -/
theorem C08_no_new_errors (e : Expr) (hw : WF e) : WF (optimize e) :=
  (optimize_refines trivialEnv trivialEnv_ok e hw).isWF

/-- … nor does a single step -/
theorem C08_step_no_new_errors (e e' : Expr) (hw : WF e) (h : step e = some e') : WF e' :=
  (step_refines trivialEnv trivialEnv_ok e e' hw h).isWF

/-- hence the optimized expression computes (every block has the advertised shape and the blocks
assemble to the NumPy meaning of the optimized — and so of the original — expression) -/
theorem C08_optimized_computes (env : Env) (henv : EnvOK env) (e : Expr) (hw : WF e) :
    Arr.Equiv (compute env (optimize e)) (den env (optimize e)) ∧
      ∀ bid, validBid (chunks (optimize e)) bid →
        (blockDen env (optimize e) bid).shape = blockShape (chunks (optimize e)) bid :=
  ⟨compute_eq_den env henv _ (C08_no_new_errors e hw),
    fun bid hb => block_shape env henv _ (C08_no_new_errors e hw) bid hb⟩

def ySrc : Expr := .src 0 [4, 5] [[2, 2], [3, 2]]
def ySl (a b c : Option Int) : Ix := .slc ⟨a, b, c⟩
/-- `(-x.T)[1:4:2, :3].rechunk(...)`: slice and rechunk sink through `map` and `transpose` -/
def yProg : Expr :=
  .rechunk (.slice (.map 0 (.transpose ySrc [1, 0])) [ySl (some 1) (some 4) (some 2), ySl none (some 3) none])
    [[1, 1], [3]]
def yOpt : Expr :=
  .map 0 (.transpose (.rechunk (.slice ySrc [ySl none (some 3) none, ySl (some 1) (some 4) (some 2)]) [[3], [1, 1]]) [1, 0])

example : WF yProg := by decide +kernel
example : mu yProg = 12 ∧ mu yOpt = 6 := by decide +kernel
-- the first step and the measure before / after
example : stepNamed yProg = some ("sliceThroughMap",
    .rechunk (.map 0 (.slice (.transpose ySrc [1, 0]) [ySl (some 1) (some 4) (some 2), ySl none (some 3) none]))
      [[1, 1], [3]]) := by decide +kernel
example : step yOpt = none := by decide +kernel
example : optimize yOpt = yOpt := C08_optimize_fixpoint yOpt (by decide +kernel)
#guard optimize yProg == yOpt
#guard optimize (optimize yProg) == optimize yProg
#guard wf (optimize yProg)
-- `sliceSplitInts` is sound but is NOT part of `optimize`: it increases the measure
example : (sliceSplitInts (.slice ySrc [.int 1, colonIx])).map mu = some 4 ∧ mu (.slice ySrc [.int 1, colonIx]) = 2 := by decide +kernel
-- the grid guard: under `zip`, a child rewrite that would change `.chunks` is declined, so the
-- result stays well-formed (here the inner no-op-looking rechunk chain must keep chunks ((4,),(5,)))
def yZip : Expr := .zip 0 (.rechunk (.rechunk ySrc [[1, 3], [5]]) [[4], [5]]) (.rechunk ySrc [[4], [5]])
example : WF yZip := by decide +kernel
#guard wf (optimize yZip) && optimize yZip == .zip 0 (.src 0 [4, 5] [[4], [5]]) (.src 0 [4, 5] [[4], [5]])

end Dask.Props.C08
