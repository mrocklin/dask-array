/-
C19 (extension "gradient / diff block plan") — `gradient` (dask_array/routines/_gradient.py) and `diff`
(routines/_diff.py).  The property theorems (with their final assembly; the steps are in Lemmas/Gradient.lean,
Lemmas/GradientDiff.lean) and non-vacuity examples.

Model: Model/Gradient.lean — per axis `gradient` is `map_overlap(kernel, depth 1, boundary 'none')`
(`pipelineBlocks .none 1 1` of Model/OverlapPipe.lean); for a coordinate-array spacing block `b`'s kernel call
receives `coord[array_locs[0][b] : array_locs[1][b]]` (`arrayLocs`, `coordSlice`: the NumPy arithmetic on the chunk
sizes and Python's slice semantics) next to the extended block of values (`blockInput`).  `np.gradient` is any `K` of
the class `EdgeLocal m K` (`m = edge_order + 1`): central entries read the sample and its two neighbours, the first /
last entry reads the first / last `m` samples.  Model/Diff.lean — `diff` as the code does it (two slices, n rounds).

What the theorems say
  * `C19g_array_locs`, `C19g_coord_slice` — for EVERY chunking with positive chunks (ragged or not) the slice block `b`
    takes of the coordinate vector is exactly `coords[lo_b - (b>0) : lo_b + c_b + (b<last)]` (`slab`), and
    `C19g_block_inputs`: that is position by position what `overlap` puts into the block of values, so the kernel call
    sees the samples `(f_i, x_i)` of `slab`.
  * `C19g_blocks_eq_global` / `C19g_gradient_eq_global` / `C19g_gradient_coords_eq_global` — for every `EdgeLocal m`
    kernel, every chunking with all chunks `≥ m` (the guard the code enforces with `ValueError`), the trimmed blocks are
    the blocks of the kernel applied to the WHOLE axis; `C19g_chunking_independent`.
  * `C19g_kernel_class` — NumPy's `edge_order` 1 and 2 formulas (`npGradient`, over ℚ) are in the class with
    `m = edge_order + 1`; `C19g_guard_suffices` puts the pieces together for the code's own guard `chunkGuard`, incl.
    that `overlap`'s rechunk leaves such chunks alone (so `array_locs`, computed BEFORE `map_overlap`, talks about the
    blocks that are actually cut).
  * `C19g_uniform_witness` — a deliberately wrong variant of `array_locs` (`start_b = b * first_chunk - 1`, right only
    for uniform chunks), kept to show that the ragged case is what the theorems are about: equal to `array_locs` on uniform
    chunks `(4,4,4)`, but on `(3,5,4)` block 2 gets `coords[5:10]` for the values at positions `7..11`.
  * `C19g_min_chunk_witness` — below the guard (chunks `(1,5)`, three-point ends) the first block's call has too few
    samples and the result is not the global one; `(2,4)` shows the guard is sufficient, not tight.
  * `C19g_diff_step`, `C19g_diff_n`, `C19g_diff_second` — the loop step `r[1:] - r[:-1]` is the first difference, `diff`
    of order `n` is the n-fold first difference of `prepend ++ a ++ append` (`n = 0`: `a` itself, untouched by
    prepend / append, as in NumPy; `n < 0`: `ValueError`), of length `len - n` (0 when `n > len`); order 2 over ℤ is
    `x[i+2] - 2 x[i+1] + x[i]`.

Hypotheses, all decidable: `cs ≠ []`, `cs.sum = length`, `∀ c ∈ cs, m ≤ c`, `1 ≤ m`; `EdgeLocal` is a property of
the kernel (proved for the canonical `edgeKernel` and NumPy's formulas).  The guard is sufficient, not tight (with
several blocks the first / last block could be one shorter).
NOT modelled: n-D (gradient acts on one axis; the other axes have depth 0 and `C19o_pipeline_eq_global_nd` covers the
product), the float arithmetic of `np.gradient` and its per-call switch between uniform / non-uniform formulas (equal
over ℚ), the dtype promotion, `axis` / varargs validation (search only).
-/
import DaskArrayModel.Lemmas.Gradient
import DaskArrayModel.Lemmas.GradientDiff
import DaskArrayModel.Lemmas.OverlapPipeGuard
namespace Dask.Props.C19Gradient
open Dask.OverlapSlice Dask.OverlapPipe Dask.Gradient Dask.Diff Dask.Lemmas.Gradient Dask.Lemmas.Diff

variable {α β γ V C : Type}

/-- **`array_locs`, entry by entry**: `start_b = 0` for the first block, `cumsum_b + 1 - c_b - 2` otherwise;
`stop_b = cumsum_b + 1`, minus 1 for the last block. -/
theorem C19g_array_locs (cs : List Nat) (hne : cs ≠ []) :
    ∃ st sp, arrayLocs (cs.map Int.ofNat) = some (st, sp) ∧
      ∀ b, b < cs.length →
        st[b]? = some (if b = 0 then 0 else ((lo cs (b + 1) : Nat) : Int) + 1 - (cs.getD b 0 : Nat) - 2) ∧
        sp[b]? = some (((lo cs (b + 1) : Nat) : Int) + 1 - (if b + 1 = cs.length then 1 else 0)) :=
  arrayLocs_spec cs hne

/-- **The coordinate slice of block `b`** is `coords[lo_b - (b>0) : lo_b + c_b + (b<last)]`, for every chunking with
positive chunks and every coordinate vector (Python's clamping included). -/
theorem C19g_coord_slice (cs : List Nat) (coords : List C) (hpos : ∀ c ∈ cs, 1 ≤ c) (b : Nat) (hb : b < cs.length) :
    coordSlice cs coords b = some (slab cs coords b) :=
  coordSlice_eq cs coords hpos b hb

/-- **What block `b`'s `np.gradient` call receives**: the values are the same positions `slab` of `f`, and zipped
with the coordinate slice they are the extended block of the samples `(f_i, x_i)`. -/
theorem C19g_block_inputs (cs : List Nat) (f : List V) (coords : List C) (hne : cs ≠ []) (hsum : cs.sum = f.length)
    (hpos : ∀ c ∈ cs, 1 ≤ c) (hc : coords.length = f.length) (b : Nat) (hb : b < cs.length) :
    blockValues cs f b = slab cs f b ∧
    blockInput cs f coords b = some ((slab cs f b).zip (slab cs coords b)) ∧
    blockInput cs f coords b = some (extBlock 1 1 (cut cs (f.zip coords)) b) := by
  have hG : Guard 1 1 cs f.length := guard_of_min (Nat.le_refl 1) cs f.length hne hsum hpos
  exact ⟨extBlock_slab cs f hG b hb, blockInput_slab cs f coords hG hc b hb, blockInput_eq cs f coords hG hc b hb⟩

/-- **The trimmed blocks are the blocks of the global gradient.** -/
theorem C19g_blocks_eq_global (m : Nat) (K : List γ → List β) (hK : EdgeLocal m K) (hm1 : 1 ≤ m)
    (cs : List Nat) (x : List γ) (hne : cs ≠ []) (hsum : cs.sum = x.length) (hmin : ∀ c ∈ cs, m ≤ c) :
    gradientBlocks cs K x = cut cs (K x) :=
  gradientBlocks_eq_cut hK hm1 cs x hne hsum hmin

/-- **The chunked gradient along an axis is the kernel applied to the whole axis** (scalar spacing; any sample type). -/
theorem C19g_gradient_eq_global (m : Nat) (K : List γ → List β) (hK : EdgeLocal m K) (hm1 : 1 ≤ m)
    (cs : List Nat) (x : List γ) (hne : cs ≠ []) (hsum : cs.sum = x.length) (hmin : ∀ c ∈ cs, m ≤ c) :
    gradientAxis cs K x = K x :=
  gradientAxis_eq hK hm1 cs x hne hsum hmin

/-- **Coordinate-array spacing**: every block's call succeeds and the result is the kernel on the samples
`(f_i, x_i)` of the whole axis. -/
theorem C19g_gradient_coords_eq_global (m : Nat) (K : List (V × C) → List β) (hK : EdgeLocal m K) (hm1 : 1 ≤ m)
    (cs : List Nat) (f : List V) (coords : List C) (hne : cs ≠ []) (hsum : cs.sum = f.length)
    (hc : coords.length = f.length) (hmin : ∀ c ∈ cs, m ≤ c) :
    gradientCoordAxis cs K f coords = some (K (f.zip coords)) := by
  have hz : cs.sum = (f.zip coords).length := by rw [List.length_zip, hc, Nat.min_self]; exact hsum
  unfold gradientCoordAxis
  rw [gradientCoordBlocks_eq cs K f coords (guard_of_min hm1 cs f.length hne hsum hmin) hc, Option.map_some]
  exact congrArg some (gradientAxis_eq hK hm1 cs (f.zip coords) hne hz hmin)

theorem C19g_chunking_independent (m : Nat) (K : List (V × C) → List β) (hK : EdgeLocal m K) (hm1 : 1 ≤ m)
    (cs cs' : List Nat) (f : List V) (coords : List C) (hc : coords.length = f.length)
    (hne : cs ≠ []) (hsum : cs.sum = f.length) (hmin : ∀ c ∈ cs, m ≤ c)
    (hne' : cs' ≠ []) (hsum' : cs'.sum = f.length) (hmin' : ∀ c ∈ cs', m ≤ c) :
    gradientCoordAxis cs K f coords = gradientCoordAxis cs' K f coords := by
  rw [C19g_gradient_coords_eq_global m K hK hm1 cs f coords hne hsum hc hmin,
    C19g_gradient_coords_eq_global m K hK hm1 cs' f coords hne' hsum' hc hmin']

/-- **The kernel class contains NumPy's formulas**: the canonical kernel for every `m ≥ 2`, and `np.gradient` with
`edge_order` 1 (two-point one-sided ends) and 2 (three-point ends) with `m = edge_order + 1`. -/
theorem C19g_kernel_class :
    (∀ (m : Nat) (c : γ → γ → γ → β) (L R : List γ → β), 2 ≤ m → EdgeLocal m (edgeKernel m c L R)) ∧
    EdgeLocal 2 (npGradient 1) ∧ EdgeLocal 3 (npGradient 2) :=
  ⟨fun m c L R hm => edgeKernel_edgeLocal m c L R hm,
   edgeKernel_edgeLocal 2 _ _ _ (by omega), edgeKernel_edgeLocal 3 _ _ _ (by omega)⟩

/-- **The guard the code enforces suffices.**  When `gradient`'s own check passes (`edge_order` 1 or 2): `overlap`'s
rechunk leaves the chunks alone, and the chunked result is `np.gradient` of the whole axis. -/
theorem C19g_guard_suffices (eo : Nat) (heo : eo = 1 ∨ eo = 2) (cs : List Nat) (f coords : List Rat)
    (hne : cs ≠ []) (hsum : cs.sum = f.length) (hc : coords.length = f.length)
    (hguard : chunkGuard eo (cs.map Int.ofNat) = true) :
    Dask.Window.overlapRechunkedChunks (cs.map Int.ofNat) 1 1 true = some (cs.map Int.ofNat) ∧
    gradientCoordAxis cs (npGradient eo) f coords = some (npGradient eo (f.zip coords)) := by
  have hmin := (chunkGuard_iff eo cs).mp hguard
  constructor
  · apply Dask.Lemmas.OverlapPipe.rechunked_noop
    · intro h; exact hne (List.map_eq_nil_iff.mp h)
    · intro c hcm
      obtain ⟨n, hn, rfl⟩ := List.mem_map.mp hcm
      have := hmin n hn
      rw [Int.max_self]
      exact Int.ofNat_le.mpr (show 2 ≤ n by omega)
  · have hK : EdgeLocal (eo + 1) (npGradient eo) := edgeKernel_edgeLocal (eo + 1) _ _ _ (by omega)
    exact C19g_gradient_coords_eq_global _ _ hK (by omega) cs f coords hne hsum hc hmin

/-- **A wrong variant of `array_locs` that uniform chunks do not expose.**  `start_b = b * first_chunk - 1` agrees with `array_locs` on uniform chunks, but on
`(3, 5, 4)` block 2 — values at positions `7..11` — is handed `coords[5:10]`. -/
theorem C19g_uniform_witness :
    arrayLocs [3, 5, 4] = some ([0, 2, 7], [4, 9, 12]) ∧
    arrayLocsUniformBug [3, 5, 4] = some ([0, 2, 5], [4, 9, 10]) ∧
    arrayLocsUniformBug [4, 4, 4] = arrayLocs [4, 4, 4] ∧
    coordSliceWith (arrayLocs [3, 5, 4]) pos12 2 = some [7, 8, 9, 10, 11] ∧
    coordSliceWith (arrayLocsUniformBug [3, 5, 4]) pos12 2 = some [5, 6, 7, 8, 9] ∧
    blockValues [3, 5, 4] pos12 2 = [7, 8, 9, 10, 11] := by
  decide +kernel

/-- **The guard matters, and is not tight.**  Three-point ends (`edge_order = 2`): with chunks `(1, 5)` the first
extended block has two samples — NumPy refuses it (the model kernel returns nothing) and the assembled result is not
the global one; with chunks `(2, 4)`, which the code also refuses, the first extended block has the three samples the
end formula needs and the result would be right. -/
theorem C19g_min_chunk_witness :
    chunkGuard 2 [1, 5] = false ∧ gradientBlocks [1, 5] kInt sq6 = [[], [4, 8, 12, 16, -50]] ∧
    gradientAxis [1, 5] kInt sq6 ≠ kInt sq6 ∧
    chunkGuard 2 [2, 4] = false ∧ gradientAxis [2, 4] kInt sq6 = kInt sq6 := by
  decide +kernel

/-- the loop step `r[sl_1] - r[sl_2]` is the first difference: one entry less, `out[i] = r[i+1] - r[i]` -/
theorem C19g_diff_step [Sub α] (r : List α) :
    diffStep r = firstDiff r ∧ (firstDiff r).length = r.length - 1 ∧
    ∀ i, (firstDiff r)[i]? = match r[i + 1]?, r[i]? with
      | some b, some a => some (b - a)
      | _, _ => none :=
  ⟨diffStep_eq r, firstDiff_length r, firstDiff_getElem? r⟩

/-- **`diff` of order `n`** is the n-fold first difference of `prepend ++ a ++ append`, of length
`max (len - n) 0`; `n = 0` returns `a`; `n < 0` raises. -/
theorem C19g_diff_n [Sub α] (n : Int) (a : List α) (pre app : Option (List α)) :
    diff n a pre app =
      (if n = 0 then some a else if n < 0 then none
       else some (nthDiff n.toNat ((pre.getD []) ++ a ++ (app.getD [])))) ∧
    ∀ k x, (nthDiff k x : List α).length = x.length - k :=
  ⟨diff_eq n a pre app, nthDiff_length⟩

/-- order 2 over ℤ: `x[i+2] - 2 x[i+1] + x[i]` -/
theorem C19g_diff_second (x : List Int) (i : Nat) (hi : i + 2 < x.length) :
    (nthDiff 2 x)[i]? = some (x[i + 2]! - 2 * x[i + 1]! + x[i]!) := by
  have get : ∀ j, j < x.length → x[j]? = some x[j]! := fun j hj => by
    rw [List.getElem!_eq_getElem?_getD, List.getElem?_eq_getElem hj]; rfl
  simp only [nthDiff, firstDiff_getElem?]
  rw [show i + 1 + 1 = i + 2 by omega, get i (by omega), get (i + 1) (by omega), get (i + 2) hi]
  simp only [Option.some.injEq]
  omega

-- the hypotheses on ragged chunkings: first chunk smaller / larger, chunks AT the minimum
example : ([3, 5, 4] : List Nat) ≠ [] ∧ ([3, 5, 4] : List Nat).sum = pos12.length ∧ ∀ c ∈ ([3, 5, 4] : List Nat), 3 ≤ c := by
  decide +kernel
example : ∀ c ∈ ([5, 2, 2, 3] : List Nat), 2 ≤ c := by decide +kernel
example : chunkGuard 2 [3, 5, 4] = true ∧ chunkGuard 2 [3, 2, 4] = false ∧ chunkGuard 1 [2, 2] = true := by decide +kernel
-- the slabs on (3,5,4): one-element halo on interior sides only
example : slab [3, 5, 4] pos12 0 = [0, 1, 2, 3] ∧ slab [3, 5, 4] pos12 1 = [2, 3, 4, 5, 6, 7, 8] ∧
    slab [3, 5, 4] pos12 2 = [7, 8, 9, 10, 11] := by decide +kernel
example : coordSlice [3, 5, 4] pos12 1 = some [2, 3, 4, 5, 6, 7, 8] := by decide +kernel
-- a coordinate vector longer than the axis is sliced all the same (the code does not check its length)
example : coordSlice [3, 5, 4] (pos12 ++ [12, 13]) 2 = some [7, 8, 9, 10, 11] := by decide +kernel
-- the chunked pipeline on a concrete integer kernel of the class (3-point ends), ragged chunks at the minimum
example : gradientAxis [3, 5, 4] (edgeKernel 3 (fun a _ c => c - a) (fun l => l.sum) (fun l => 0 - l.sum)) pos12 =
    edgeKernel 3 (fun a _ c => c - a) (fun l => l.sum) (fun l => 0 - l.sum) pos12 :=
  C19g_gradient_eq_global 3 _ (C19g_kernel_class.1 3 _ _ _ (by omega)) (by omega) [3, 5, 4] pos12 (by decide) (by decide)
    (by decide)
example : gradientBlocks [3, 5, 4] (edgeKernel 3 (fun a _ c => c - a) (fun l => l.sum) (fun l => 0 - l.sum)) pos12 =
    [[3, 2, 2], [2, 2, 2, 2, 2], [2, 2, 2, -30]] := by decide +kernel
-- NumPy's formulas over ℚ on non-uniform coordinates, and the guard theorem instantiated (edge_order 2, chunks (3,4))
#guard npGradient 2 ([0, 1, 4, 9, 16, 25, 36].zip [0, 1, 2, 4, 5, 6, 8]) == [0, 2, 17/6, 11/2, 8, 47/6, 19/6]
#guard npGradient 1 ([0, 1, 4, 9].zip [0, 1, 2, 4]) == [1, 2, 17/6, 5/2]
#guard gradientCoordBlocks [3, 4] (npGradient 2) [0, 1, 4, 9, 16, 25, 36] [0, 1, 2, 4, 5, 6, 8] ==
  some [[0, 2, 17/6], [11/2, 8, 47/6, 19/6]]
example : gradientCoordAxis [3, 4] (npGradient 2) [0, 1, 4, 9, 16, 25, 36] [0, 1, 2, 4, 5, 6, 8] =
    some (npGradient 2 ([0, 1, 4, 9, 16, 25, 36].zip [0, 1, 2, 4, 5, 6, 8])) :=
  (C19g_guard_suffices 2 (Or.inr rfl) [3, 4] _ _ (by decide) (by decide) (by decide) (by decide)).2
-- diff
example : diff 2 [1, 4, 9, 16] (some [0]) none = some [2, 2, 2] := by decide +kernel
example : diff 0 [1, 4, 9] (some [0]) (some [7]) = some [1, 4, 9] := by decide +kernel
example : diff (-1) [1, 4, 9] none none = none := by decide +kernel
example : diff 5 [1, 4, 9] none none = some [] := by decide +kernel

end Dask.Props.C19Gradient
