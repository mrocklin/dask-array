/-
C16 — Chunk normalisation produces valid layouts within the byte limit.
Property theorems (the steps of their proofs are in Lemmas/Chunks.lean) and non-vacuity examples.
Every statement is for ALL axis lengths, ALL block sizes, ALL specs and ALL oracle values (no size bound).
Model: Model/Chunks.lean (what is / is not modelled is listed in its header); spec vocabulary:
Model/ChunksSpec.lean (`AxisOK`, `AllAxesOK`, `blockElems`, `orcOK`, `FixedNonneg`).

`…_partial` theorems: the float root `(limit/itemsize/largest_block) ** (1/#autos)` of `auto_chunks` is an
ORACLE; the theorems hold for every oracle value satisfying `orcOK` (i.e. `isize^k·largest_block·itemsize ≤
limit` at every recursion level), which the harness checks on the real floats on every run.  What is missing
for the unconditional statement is exactly a proof about IEEE `pow` (false beyond 2^48 elements, see the
known finding `auto:limit-exceeded:float-root`).  The `previous_chunks` branch is not covered by a limit
theorem: the literal bound is false there by design (`array.chunk-size-tolerance`, known finding
`auto:previous_chunks-tolerance`); only its integer merge kernel is proved (`mergePrev_spec`).
-/
import DaskArrayModel.Lemmas.Chunks
namespace Dask.Props.C16
open Dask.Py Dask.Chunks

/-- `blockdims_from_blockshape` / uniform int chunk `c ≥ 1` on an axis of length `n ≥ 0`: non-empty, sums to
`n`; `n = 0 ↦ (0,)`; otherwise `k` blocks of size `c` followed by one last block in `(0, c]`. -/
theorem uniform_wellformed (n c : Int) (hn : 0 ≤ n) (hc : 1 ≤ c) :
    ∃ l, blockdim n c = .ok l ∧ l ≠ [] ∧ isum l = n ∧ (n = 0 → l = [0]) ∧
      (0 < n → ∃ (k : Nat) (r : Int), l = List.replicate k c ++ [r] ∧ 0 < r ∧ r ≤ c) := by
  by_cases h0 : n = 0
  · subst h0
    exact ⟨[0], by simp [blockdim], by simp, by simp [isum], fun _ => rfl, fun h => absurd h (by omega)⟩
  · obtain ⟨k, r, e, hr0, hrc, _⟩ := Dask.Lemmas.Chunks.uniform_shape n c (by omega) hc
    exact ⟨_, e, by simp, Dask.Lemmas.Chunks.blockdim_sum n c hn (Or.inr hc) _ e, fun h => absurd h h0,
      fun _ => ⟨k, r, rfl, hr0, hrc⟩⟩

/-- … hence every block of a non-empty axis is positive and at most `c`. -/
theorem uniform_entries (n c : Int) (hn : 0 < n) (hc : 1 ≤ c) (l : List Int)
    (h : blockdim n c = .ok l) : ∀ x ∈ l, 0 < x ∧ x ≤ c :=
  Dask.Lemmas.Chunks.uniform_entries n c hn hc l h

/-- One axis, EVERY accepted spec kind (int incl. 0 / negative, -1, None, explicit tuple), stated of `normAxis`
(Model/Chunks.lean: what `normalize_chunks` does to one non-auto axis, given the `allints` flag; a function of
its own, not derived from `normalizeChunks`): if it returns `l` for an axis of length `s ≥ 0` then `l` is non-empty, all sizes are `≥ 0`,
they sum to `s`; an explicit tuple is echoed unchanged (it may carry the user's own zeros); for every other
kind a zero-size block occurs only when `s = 0`.  (`hai`: the `allints` fast path is only taken for int specs.) -/
theorem normalizeAxis_wellformed (ai : Bool) (c : Spec) (s : Int) (hs : 0 ≤ s) (l : List Int)
    (hai : ai = true → isIntSpec (fillFull c s) = true)
    (h : normAxis ai c s = .ok l) :
    l ≠ [] ∧ (∀ x ∈ l, 0 ≤ x) ∧ isum l = s ∧
      (∀ t, c = .tuple t → l = t) ∧ ((∀ t, c ≠ .tuple t) → 0 ∈ l → s = 0) := by
  obtain ⟨hout, hne, hneg, hsum⟩ := Dask.Lemmas.Chunks.normAxis_ok h
  have hnn := Dask.Lemmas.Chunks.nonneg_of_any_neg_false hneg
  rcases Dask.Lemmas.Chunks.convertAxis_ok hout with hft | ⟨k, hfk, hb⟩
  · -- an explicit tuple is echoed; the sum check is not skipped for it
    have hct : c = .tuple l := (Dask.Lemmas.Chunks.fillFull_tuple c s l).mp hft
    have hs' : isum l = s :=
      hsum.resolve_left (fun hai' => by have := hai hai'; rw [hft] at this; cases this)
    exact ⟨hne, hnn, hs', fun t' ht' => by rw [hct] at ht'; cases ht'; rfl, fun hnt => absurd hct (hnt l)⟩
  · have hsize := Dask.Lemmas.Chunks.blockdim_ok_size s k hs l hb hne hnn
    refine ⟨hne, hnn, Dask.Lemmas.Chunks.blockdim_sum s k hs hsize l hb, fun t ht => ?_,
      fun _ => Dask.Lemmas.Chunks.blockdim_zero_mem s k hsize hs l hb⟩
    have := (Dask.Lemmas.Chunks.fillFull_tuple c s t).mpr ht
    rw [hfk] at this
    cases this

/-- The whole of `normalize_chunks` (no `previous_chunks`): for all specs (ints, -1, None, tuples, "auto",
byte strings, any mixture), every `limit`, every oracle list: whenever it returns, it returns one valid
layout per axis of the shape. -/
theorem C16_wellformed (orc : List (Nat × Bool)) (limit : Option Int) (chunks : List Spec)
    (shape : List Int) (out : List (List Int)) (hsh : ∀ s ∈ shape, 0 ≤ s)
    (h : normalizeChunks orc limit chunks shape = .ok out) :
    AllAxesOK out shape := by
  by_cases hs : shape = []
  · subst hs
    rw [normalizeChunks, if_pos rfl] at h
    cases h
    exact .nil
  · obtain ⟨c1, c2, hp, hr, hfin⟩ := Dask.Lemmas.Chunks.normalizeChunks_ok hs h
    have hl1 : (c1.map bytesToAuto).length = shape.length := by
      rw [List.length_map]; exact Dask.Lemmas.Chunks.prepare_length _ _ _ hp
    have hl2 : c2.length = shape.length := Dask.Lemmas.Chunks.autoNoPrev_length _ _ _ _ hl1 hr
    obtain ⟨hconv, h1, h2, h3⟩ := Dask.Lemmas.Chunks.finalize_ok hfin
    exact Dask.Lemmas.Chunks.convertAll_wf c2 shape out hl2 hsh hconv h1 h2 h3

/-- `round_to(c, s)` for `s ≥ 1`: a positive size, never above `max 1 c`; `c` itself when `c ≤ s`, else the
largest multiple of `s` not exceeding `c`. -/
theorem roundTo_spec (c s : Int) (hs : 1 ≤ s) :
    ∃ r, roundTo c s = .ok r ∧ 1 ≤ r ∧ r ≤ max 1 c ∧
      (c ≤ s → r = max 1 c) ∧ (s < c → s ∣ r ∧ r ≤ c ∧ c < r + s) := by
  unfold roundTo
  by_cases h : c ≤ s
  · rw [if_pos h]
    exact ⟨max 1 c, rfl, by omega, by omega, fun _ => rfl, fun h' => absurd h' (by omega)⟩
  · obtain ⟨f1, f2, f3⟩ := Dask.Lemmas.Chunks.floorMul_spec c s hs (by omega)
    have hs0 : s ≠ 0 := by omega
    rw [if_neg h, if_neg hs0, Dask.Py.pyDiv_pos c s (by omega)]
    exact ⟨c / s * s, rfl, by omega, by omega, fun h' => absurd h' h, fun _ => ⟨Int.dvd_mul_left _ _, f2, f3⟩⟩

/-- `round_to` applied to a float known by its floor and exactness. -/
theorem roundToF_spec (cf : Nat) (exact : Bool) (s : Int) (hs : 1 ≤ s) :
    ∃ r, roundToF cf exact s = .ok r ∧ 1 ≤ r ∧ r ≤ max 1 (cf : Int) ∧
      (leF cf exact s = true → r = max 1 (cf : Int)) := by
  obtain ⟨r, h, h1, h2, h3, _⟩ := roundTo_spec cf s hs
  refine ⟨r, by rw [Dask.Lemmas.Chunks.roundToF_eq_roundTo cf exact s hs, h], h1, h2, fun hle => h3 ?_⟩
  rcases (Dask.Lemmas.Chunks.leF_true_iff cf exact s).mp hle with hlt | heq
  · omega
  · omega

/-- `auto_chunks` without `previous_chunks`, for EVERY oracle list satisfying the oracle relation: if the
fixed axes alone fit in the limit, no auto axis is left and `largest_block(result) · itemsize ≤ limit`. -/
theorem auto_limit_noprev_partial (limit itemsize : Int) (hi : 0 ≤ itemsize)
    (orc : List (Nat × Bool)) (chunks : List Spec) (shape : List Int) (out : List Spec)
    (hlen : chunks.length = shape.length) (hsh : ∀ s ∈ shape, 0 ≤ s) (hf : FixedNonneg chunks)
    (hfit : largestBlock chunks * itemsize ≤ limit)
    (horc : orcOK limit itemsize orc chunks shape = true)
    (h : autoNoPrev orc chunks shape = .ok out) :
    numAutos out = 0 ∧ largestBlock out * itemsize ≤ limit :=
  have ⟨F, h0⟩ := Dask.Lemmas.Chunks.autoNoPrev_fits hi hsh ⟨hlen, hf, hfit⟩ horc h
  ⟨h0, F.fit⟩

/-- … carried through `normalize_chunks` to the RETURNED layout: the largest block (`∏ max` of the per-axis
tuples) times `itemsize` is within the limit. -/
theorem normalize_auto_limit_noprev_partial (limit itemsize : Int) (hi : 0 ≤ itemsize)
    (orc : List (Nat × Bool)) (lim : Option Int) (chunks c1 : List Spec) (shape : List Int)
    (out : List (List Int)) (hsh : ∀ s ∈ shape, 0 ≤ s)
    (hp : prepare chunks shape = .ok c1)
    (hf : FixedNonneg (c1.map bytesToAuto))
    (hfit : largestBlock (c1.map bytesToAuto) * itemsize ≤ limit)
    (horc : orcOK limit itemsize orc (c1.map bytesToAuto) shape = true)
    (h : normalizeChunks orc lim chunks shape = .ok out) :
    blockElems out * itemsize ≤ limit := by
  have F : Dask.Lemmas.Chunks.Fits limit itemsize shape (c1.map bytesToAuto) :=
    ⟨by rw [List.length_map]; exact Dask.Lemmas.Chunks.prepare_length _ _ _ hp, hf, hfit⟩
  by_cases hs : shape = []
  · subst hs
    rw [normalizeChunks, if_pos rfl] at h
    cases h
    have hc1 : c1 = [] := by simpa using F.len
    subst hc1
    exact hfit
  · obtain ⟨c1', c2, hp', hr, hfin⟩ := Dask.Lemmas.Chunks.normalizeChunks_ok hs h
    rw [hp] at hp'
    cases hp'
    obtain ⟨F2, hna⟩ := Dask.Lemmas.Chunks.autoNoPrev_fits hi hsh F horc hr
    exact F2.finalize hi hsh hna hfin

/-- fuel: `#autos` oracle entries always suffice (every recursion level removes at least one auto axis). -/
theorem auto_fuel (orc : List (Nat × Bool)) (chunks : List Spec) (shape : List Int)
    (hfuel : numAutos chunks ≤ orc.length) : autoNoPrev orc chunks shape ≠ .error .oracleExhausted := by
  refine Dask.Lemmas.Chunks.autoNoPrev_run orc chunks shape (Q := fun orc c => numAutos c ≤ orc.length)
    (R := fun r => r ≠ .error .oracleExhausted) ?_ ?_ ?_ ?_ ?_ hfuel
  · intro _ _ _ _ h; cases h
  · intro e he h; exact he (Except.error.inj h)
  · intro c hq h0; exact absurd (Nat.le_zero.mp hq) h0
  · intro i e rest c hq hsm
    obtain ⟨n1, n2⟩ := Dask.Lemmas.Chunks.numAutos_fillSmall i e c shape
    have := n2 hsm
    simp only [List.length_cons] at hq
    omega
  · intro i e _ c _ hns
    obtain ⟨r, hr, _⟩ := Dask.Lemmas.Chunks.fillRound_ok i e c shape hns
    rw [hr]
    exact fun h => nomatch h

/-- the greedy merge of the `previous_chunks` branch keeps the axis length, yields positive blocks only, none
above any common bound `B` of `floor proposed` and the previous chunks. -/
theorem mergePrev_spec (pf B : Int) (prev : List Int) (hp : ∀ c ∈ prev, 0 ≤ c ∧ c ≤ B) (hB : 0 ≤ B)
    (hpf : pf ≤ B) :
    isum (mergePrev pf prev) = isum prev ∧ (∀ x ∈ mergePrev pf prev, 0 < x ∧ x ≤ B) := by
  have := Dask.Lemmas.Chunks.mergeLoop_spec pf B prev 0 hp (by omega) hB hpf
  unfold mergePrev
  exact ⟨by omega, this.2⟩

/-! ### non-vacuity: every hypothesis set is inhabited, every conclusion is exercised on a concrete input -/

example : blockdim 10 4 = .ok [4, 4, 2] := by decide +kernel
example : blockdim 0 7 = .ok [0] := by decide +kernel
example : blockdim 8 4 = .ok [4, 4] := by decide +kernel
-- the hypotheses of uniform_wellformed / uniform_entries at (10, 4), and what uniform_entries concludes, read on
-- the result `[4, 4, 2]` (evaluated; the theorem is not applied)
example : (0:Int) ≤ 10 ∧ (1:Int) ≤ 4 ∧ ∀ x ∈ [(4:Int), 4, 2], 0 < x ∧ x ≤ 4 := by decide +kernel
-- normalizeAxis_wellformed: accepted specs of each kind …
example : normAxis true (.int 3) 7 = .ok [3, 3, 1] := by decide +kernel
example : normAxis true (.int (-1)) 7 = .ok [7] := by decide +kernel
example : normAxis false .none 7 = .ok [7] := by decide +kernel
example : normAxis false (.tuple [0, 5, 2]) 7 = .ok [0, 5, 2] := by decide +kernel
example : normAxis true (.int 0) 0 = .ok [0] := by decide +kernel
-- … and the refusals the theorem relies on (negative sizes, bad sums, zero block size)
example : normAxis true (.int (-2)) 5 = .error .valueError := by decide +kernel
example : normAxis false (.tuple [3, -1, 2]) 4 = .error .valueError := by decide +kernel
example : normAxis false (.tuple [2, 2]) 5 = .error .valueError := by decide +kernel
example : normAxis true (.int 0) 5 = .error .zeroDivisionError := by decide +kernel
-- C16_wellformed on a mixture incl. "auto" and a byte string
example : normalizeChunks [(3, false)] none [.auto, .int 3, .none, .tuple [1, 2]] [10, 10, 4, 3]
    = .ok [[3, 3, 3, 1], [3, 3, 3, 1], [4], [1, 2]] := by decide +kernel
example : normalizeChunks [(2, true)] (some 4) [.bytes 4, .int (-1)] [5, 1] = .ok [[2, 2, 1], [1]] := by decide +kernel
example : normalizeChunks [] none [.int 2, .int 3] [5] = .ok [[2, 3]] := by decide +kernel
-- roundTo_spec
example : roundTo 7 3 = .ok 6 ∧ roundTo 2 3 = .ok 2 ∧ roundTo 0 3 = .ok 1 := by decide +kernel
example : roundToF 7 false 3 = .ok 6 ∧ roundToF 3 false 3 = .ok 3 ∧ roundToF 3 true 3 = .ok 3 := by decide +kernel
-- auto_limit_noprev_partial: hypotheses hold (limit 100 B, itemsize 8, fixed axis 3: 24 B ≤ 100 B, floor root 4:
-- 4·3·8 = 96 ≤ 100) and the conclusion is tight
example : orcOK 100 8 [(4, false)] [.auto, .int 3] [10, 10] = true
    ∧ autoNoPrev [(4, false)] [.auto, .int 3] [10, 10] = .ok [.int 4, .int 3]
    ∧ largestBlock [.auto, .int 3] * 8 ≤ 100 ∧ largestBlock [.int 4, .int 3] * 8 ≤ 100 := by decide +kernel
-- two levels (the short auto axis takes its whole length first)
example : orcOK 64 1 [(8, true), (32, true)] [.auto, .auto] [2, 100] = true
    ∧ autoNoPrev [(8, true), (32, true)] [.auto, .auto] [2, 100] = .ok [.tuple [2], .int 32] := by decide +kernel
-- the oracle relation is needed: an oracle value that violates it breaks the bound
example : orcOK 100 8 [(5, false)] [.auto, .int 3] [10, 10] = false
    ∧ autoNoPrev [(5, false)] [.auto, .int 3] [10, 10] = .ok [.int 5, .int 3]
    ∧ ¬ (largestBlock [.int 5, .int 3] * 8 ≤ 100) := by decide +kernel
-- "unless the fixed axes alone exceed it": fixed 3·8 = 24 B > 16 B, auto axis gets blocks of one element
example : autoNoPrev [(0, false)] [.auto, .int 3] [10, 10] = .ok [.int 1, .int 3]
    ∧ orcOK 16 8 [(0, false)] [.auto, .int 3] [10, 10] = true ∧ ¬ (largestBlock [.auto, .int 3] * 8 ≤ 16) := by decide +kernel
-- normalize_auto_limit_noprev_partial
example : prepare [.auto, .int 3] [10, 10] = .ok [.auto, .int 3]
    ∧ normalizeChunks [(4, false)] none [.auto, .int 3] [10, 10] = .ok [[4, 4, 2], [3, 3, 3, 1]]
    ∧ blockElems [[4, 4, 2], [3, 3, 3, 1]] * 8 ≤ 100 := by decide +kernel
-- the hypothesis of auto_fuel: two auto axes, two oracle entries
example : numAutos [.auto, .auto] ≤ [(8, true), (32, true)].length := by decide +kernel
-- mergePrev_spec: the known-finding input's merge step (floor proposed = 5, previous (5,1,2,1) ↦ (5,4))
example : mergePrev 5 [5, 1, 2, 1] = [5, 4] ∧ isum [5, 4] = isum [5, 1, 2, 1] := by decide +kernel
example : ∀ c ∈ [(5:Int), 1, 2, 1], 0 ≤ c ∧ c ≤ 5 := by decide +kernel

end Dask.Props.C16
