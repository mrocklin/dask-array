/-
C02 (extension) — slice pushdown through reductions (`_accept_slice_impl`, dask_array/reductions/_reduction.py,
shared by `Reduction._accept_slice` and `PartialReduce._accept_slice`) preserves values, for every rank, every set
of reduced axes, keepdims both ways and every `output_size` (sum: 1; topk / argtopk: |k|).
Model: Model/ReduceSlice.lean (see its header for the Python ↔ Lean table); the per-axis induction is in
Lemmas/ReduceSlice.lean.  Property theorems and non-vacuity examples.
-/
import DaskArrayModel.Lemmas.ReduceSlice
namespace Dask.Props.C02ReduceSlice
open Dask.Py Dask.Py.PySlice Dask.Slicing Dask.ND Dask.RedSlice

/-- **Soundness.**  For every element types, every lane function `r` (what the reduction computes from the values
along the reduced axes: nothing is assumed about it, not even the length of its result), every `output_size`, every
input array (any rank), every set of reduced axes, keepdims both ways and every index on which the rule fires
(`splitIndex … = some sp`; ints of either sign, slices of any sign / step, short indices):
`(reduce x)[index] = (reduce (x[input_index]))[final_index]` (same shape, same value at every position).
Only hypothesis: the index has at most one item per output axis (NumPy refuses longer ones). -/
theorem C02r_split_sound {α β : Type} [Inhabited β] (r : List α → List β) (osz : Nat) (x : Arr α)
    (axes : List Nat) (kd : Bool) (obj : Bool) (index : List RIx) (sp : Split)
    (h : splitIndex x.shape axes kd obj index = some sp)
    (hlen : index.length ≤ outNdim (mask x.shape.length axes) kd) :
    Arr.Equiv (pushed r osz kd (mask x.shape.length axes) x sp)
      (original r osz kd (mask x.shape.length axes) x (index.filterMap RIx.toIx?)) := by
  obtain ⟨c1, c2, c3⟩ := core_of_split (α := α) osz h hlen
  have f4 := (split_facts h).outer_eq
  cases ho : sp.outer with
  | true =>
    simp only [pushed, ho, if_true]
    exact ⟨c2, fun j hj =>
      have ⟨e1, e2⟩ := c3 x.get j (c2 ▸ hj)
      reduce_get_congr r osz e1 e2⟩
  | false =>
    -- no outer slice: `final_index` is all `slice(None)`
    rw [ho] at f4
    obtain ⟨i1, i2⟩ := slice_all_colon _ sp.out c1 f4.symm
    simp only [pushed, ho, Bool.false_eq_true, if_false]
    exact ⟨i1.symm.trans c2, fun j hj => by
      obtain ⟨e1, e2⟩ := c3 x.get j (c2 ▸ i1.symm ▸ hj)
      rw [i2 j hj] at e1 e2
      exact reduce_get_congr r osz e1 e2⟩

/-- **The item on a kept reduced axis is re-applied unchanged** (keepdims; the axis has length `output_size`, which
is |k| for topk / argtopk): whatever was requested there — an integer, zero or not, or a slice — is the item of
`final_index`, and the input receives `slice(None)` on that axis. -/
theorem C02r_kept_axis_index_preserved (sh : List Nat) (axes : List Nat) (obj : Bool) (index : List RIx) (sp : Split)
    (h : splitIndex sh axes true obj index = some sp) (ax : Nat) (hax : ax < sh.length) (hred : axes.contains ax = true)
    (d : Ix) :
    sp.out.getD ax d = (fullIndex (mask sh.length axes) true (index.filterMap RIx.toIx?)).getD ax d ∧
    sp.inp.getD ax colon = colon := by
  have f := split_facts h
  have hm : (mask sh.length axes).getD ax false = true := (mask_getD _ _ _ hax).trans hred
  rw [f.out_eq]
  exact ⟨finalKd_reduced _ _ ax d hm, f.inp_reduced hax hred⟩

/-- On a kept (non-reduced) axis with keepdims the input receives the item (an integer `k` as `k : k + 1`) and the
output keeps only the extraction (`0` for an integer, `slice(None)` for a slice). -/
theorem C02r_kept_input_axis (sh : List Nat) (axes : List Nat) (obj : Bool) (index : List RIx) (sp : Split)
    (h : splitIndex sh axes true obj index = some sp) (hlen : index.length ≤ sh.length)
    (ax : Nat) (hax : ax < sh.length) (hkept : axes.contains ax = false) :
    sp.inp.getD ax colon
      = ((fullIndex (mask sh.length axes) true (index.filterMap RIx.toIx?)).map intToSlice).getD ax colon ∧
    sp.out.getD ax (Ix.slc colon)
      = extract ((fullIndex (mask sh.length axes) true (index.filterMap RIx.toIx?)).getD ax (Ix.slc colon)) := by
  have f := split_facts h
  have hm : (mask sh.length axes).getD ax false = false := (mask_getD _ _ _ hax).trans hkept
  rw [f.inp_eq, f.out_eq]
  exact ⟨by rw [inputIndex, if_pos rfl, inputIndexKd_getD, hm, if_neg Bool.false_ne_true],
    finalKd_kept _ _ ax (by rw [mask_length]; exact hax) hm⟩

/-- **Indices never reach a reduced axis of the input** (keepdims both ways): the input index is `slice(None)` there
(forwarding it would reduce a subset of the data). -/
theorem C02r_reduced_axis_full (sh : List Nat) (axes : List Nat) (kd : Bool) (obj : Bool) (index : List RIx) (sp : Split)
    (h : splitIndex sh axes kd obj index = some sp) (ax : Nat) (hax : ax < sh.length) (hred : axes.contains ax = true) :
    sp.inp.getD ax colon = colon := by
  exact (split_facts h).inp_reduced hax hred

/-- **Axis renumbering, keepdims=False**: output axis `j` is the `j`-th non-reduced input axis `a`
(`outAxis … = some a`: `a` is in range, not reduced, exactly `j` non-reduced axes precede it), and the item requested
on output axis `j` (an integer as a size-1 slice) is what the input receives on axis `a`. -/
theorem C02r_axis_renumbering (sh : List Nat) (axes : List Nat) (obj : Bool) (index : List RIx) (sp : Split)
    (h : splitIndex sh axes false obj index = some sp) (j a : Nat)
    (hj : outAxis (mask sh.length axes) 0 j = some a) :
    a < sh.length ∧ axes.contains a = false ∧
    (((mask sh.length axes).take a).filter (fun m => !m)).length = j ∧
    sp.inp.getD a colon
      = ((fullIndex (mask sh.length axes) false (index.filterMap RIx.toIx?)).map intToSlice).getD j colon := by
  have f2 := (split_facts h).inp_eq
  obtain ⟨b, e, i2, i3, i4, i5⟩ := outAxis_spec (mask sh.length axes) 0 j a
    ((fullIndex (mask sh.length axes) false (index.filterMap RIx.toIx?)).map intToSlice) hj
  rw [Nat.zero_add] at e
  subst e
  rw [mask_length] at i2
  exact ⟨i2, (mask_getD _ _ _ i2).symm.trans i3, i4, f2 ▸ i5⟩

/-- **When the rule declines**: a `None` item; an input of dtype object (its blocks need not be arrays: argtopk
reduces (values, indices) pairs); nothing would be pushed (every item of the input index is
`slice(None)`: only reduced axes are indexed); or the sliced input would be empty along a kept axis
(also `slice(-1, 0)` from the raw integer `-1`).  (The sharing / no-cull gates of `ArrayExpr._slice_pushdown`
run before `_accept_slice` and only decline.) -/
theorem C02r_decline_iff (sh : List Nat) (axes : List Nat) (kd : Bool) (obj : Bool) (index : List RIx) :
    splitIndex sh axes kd obj index = none ↔
      (index.any RIx.isNone = true ∨ obj = true ∨
       (inputIndex (mask sh.length axes) kd
          (fullIndex (mask sh.length axes) kd (index.filterMap RIx.toIx?))).all (fun s => s == colon) = true ∨
       emptyKept (mask sh.length axes) (sliceShape sh ((inputIndex (mask sh.length axes) kd
          (fullIndex (mask sh.length axes) kd (index.filterMap RIx.toIx?))).map Ix.slc)) = true) := by
  unfold splitIndex
  simp only [ite_eq_left_iff, reduceCtorEq, imp_false, Decidable.not_not, ← Decidable.or_iff_not_imp_left]

/-! ### a deliberately wrong variant, kept as a witness that the item on a kept reduced axis must be re-applied
unchanged: a non-zero integer on the topk axis replaced by 0 gives another element -/

/-- rows `[1, 5, 3]` and `[4, 2, 6]` -/
def exX : Arr Int := ⟨[2, 3], fun i => [1, 5, 3, 4, 2, 6].getD (flatIndex [2, 3] i) 0⟩

/-- `topk(x, 2, axis=1)[1:2, 1]`: the second largest of the second row -/
def exIndex : List RIx := [.slc ⟨some 1, some 2, none⟩, .int 1]

/-- the rule fires with `input_index = (1:2, :)` and `final_index = (:, 1)`; the pushed form and the original give
`[4]`; with the item on the topk axis replaced by `0` the pushed form gives `[6]`. -/
theorem C02r_kept_axis_zero_witness :
    splitIndex [2, 3] [1] true false exIndex
      = some ⟨[⟨some 1, some 2, none⟩, colon], [.slc colon, .int 1], true⟩ ∧
    (original (topkLane 2) 2 true (mask 2 [1]) exX (exIndex.filterMap RIx.toIx?)).toList = [4] ∧
    (pushed (topkLane 2) 2 true (mask 2 [1]) exX
      ⟨[⟨some 1, some 2, none⟩, colon], [.slc colon, .int 1], true⟩).toList = [4] ∧
    (pushed (topkLane 2) 2 true (mask 2 [1]) exX
      ⟨[⟨some 1, some 2, none⟩, colon], [.slc colon, .int 0], true⟩).toList = [6] := by
  decide +kernel

/-- rank 3, two reduced axes (0 and 2), keepdims, output_size 3: an integer and a slice on the kept reduced axes, a
block-dropping slice on the kept axis -/
example : splitIndex [4, 5, 6] [0, 2] true false [.int 2, .slc ⟨some 2, some 5, none⟩, .slc ⟨none, none, some (-1)⟩]
    = some ⟨[colon, ⟨some 2, some 5, none⟩, colon],
            [.int 2, .slc colon, .slc ⟨none, none, some (-1)⟩], true⟩ := by decide +kernel

/-- the same reduction without keepdims: the index has one item (the only kept axis), a raw negative integer -/
example : splitIndex [4, 5, 6] [0, 2] false false [.int (-2)]
    = some ⟨[colon, ⟨some (-2), some (-1), none⟩, colon], [.int 0], true⟩ := by decide +kernel

/-- no outer slice when only slices are pushed -/
example : splitIndex [4, 5, 6] [0, 2] false false [.slc ⟨some 1, none, some 2⟩]
    = some ⟨[colon, ⟨some 1, none, some 2⟩, colon], [.slc colon], false⟩ := by decide +kernel

/-- the hypotheses of `C02r_split_sound` hold on them -/
example : [RIx.int 2, .slc ⟨some 2, some 5, none⟩, .slc ⟨none, none, some (-1)⟩].length
    ≤ outNdim (mask 3 [0, 2]) true ∧ [RIx.int (-2)].length ≤ outNdim (mask 3 [0, 2]) false := by decide +kernel

/-- evaluated: rank 3 input `[2, 3, 2]`, reduced over axes 0 and 2, output_size 3 (the 3 × 3 box of a keepdims
result is filled from the 9 largest of the lane), `[2, 1:3, 0:2]` (beyond the 4 values of a lane: the default) and `[0, 1:3, 1:3]`; and the maximum without keepdims -/
def exY : Arr Int := ⟨[2, 3, 2], fun i => [7, 1, 4, 9, 2, 8, 3, 6, 5, 0, 11, 10].getD (flatIndex [2, 3, 2] i) 0⟩

example :
    (splitIndex [2, 3, 2] [0, 2] true false [.int 2, .slc ⟨some 1, some 3, none⟩, .slc ⟨some 0, some 2, none⟩]).map
      (fun sp => (pushed (topkLane 9) 3 true (mask 3 [0, 2]) exY sp).toList)
      = some [0, 0, 0, 0] ∧
    (original (topkLane 9) 3 true (mask 3 [0, 2]) exY
      [.int 2, .slc ⟨some 1, some 3, none⟩, .slc ⟨some 0, some 2, none⟩]).toList = [0, 0, 0, 0] ∧
    (splitIndex [2, 3, 2] [0, 2] true false [.int 0, .slc ⟨some 1, some 3, none⟩, .slc ⟨some 1, some 3, none⟩]).map
      (fun sp => (pushed (topkLane 9) 3 true (mask 3 [0, 2]) exY sp).toList)
      = some [5, 4, 10, 8] ∧
    (splitIndex [2, 3, 2] [0, 2] false false [.slc ⟨some 2, none, some (-1)⟩]).map
      (fun sp => (pushed (topkLane 1) 1 false (mask 3 [0, 2]) exY sp).toList)
      = some [11, 9, 7] := by decide +kernel

/-- declines: an input of dtype object (`argtopk`) -/
example : splitIndex [2, 3] [0] true true [.slc colon, .int 2] = none ∧
    (splitIndex [2, 3] [0] true false [.slc colon, .int 2]).isSome = true := by decide +kernel

/-- declines: `None`; only reduced axes indexed; the raw integer `-1` (`slice(-1, 0)` is empty); an empty slice -/
example : splitIndex [4, 5, 6] [0, 2] true false [.none, .int 0] = none ∧
    splitIndex [4, 5, 6] [0, 2] true false [.int 1, .slc colon, .slc ⟨some 0, some 2, none⟩] = none ∧
    splitIndex [4, 5, 6] [0, 2] false false [.int (-1)] = none ∧
    splitIndex [4, 5, 6] [0, 2] false false [.slc ⟨some 3, some 3, none⟩] = none := by decide +kernel

/-- keepdims=False renumbering on a rank-4 input reduced over axes 0 and 2: output axes 0, 1 are input axes 1, 3 -/
example : outAxis (mask 4 [0, 2]) 0 0 = some 1 ∧ outAxis (mask 4 [0, 2]) 0 1 = some 3 ∧
    outAxis (mask 4 [0, 2]) 0 2 = none := by decide +kernel

end Dask.Props.C02ReduceSlice
