/-
C12 extension (take / shuffle / vindex pipeline): the graph `Shuffle._layer` emits computes `x[index]`.
Vocabulary: Model/Shuffle.lean (`planChunk`, `evalPlan`, `shuffleEval`, `takeEval`, `IsArgsort`, `readBlock`,
`ChunksOK`, `InBounds`), Model/Vindex.lean, Model/Indexing.lean (`computeIndexer`, `newChunks`,
`shuffleIsIdentity`), `posifyInt` from Model/Slicing.lean, and `PointsOK` from Lemmas/Vindex.lean (the points of a vindex call lie on
their axes).  `argsort` stands for `np.argsort` (unstable): ANY function that returns a
sorting permutation (`IsArgsort`); `C12s_argsort_exists` shows there is one.  `x : Int → α` is the input
along the axis; a task that reads outside its block makes the result `.outside`, so `= .ok …` includes
"no read outside a block".
The file holds the property theorems, each with its final assembly (the steps are in Lemmas/Shuffle*.lean and
Lemmas/Vindex*.lean), and after them examples showing that the hypotheses can be met and what the model computes.
-/
import DaskArrayModel.Lemmas.ShuffleTop
import DaskArrayModel.Lemmas.VindexTop
namespace Dask.Props.C12Shuffle
open Dask.Py Dask.Slicing Dask.Indexing Dask.Shuffle Dask.Vindex Dask.Lemmas.Shuffle Dask.Lemmas.Vindex

/-- `_shuffle(x, indexer, axis)`: for every chunking (`ChunksOK`: chunks `≥ 0`, zero-length chunks allowed),
every indexer whose positions are on the axis (unsorted, repeated, empty groups, groups longer than the
largest chunk): every task stays inside its block, the concatenation of the output chunks is
`x[indexer.flatten]`, and every output chunk has the advertised length. -/
theorem C12s_shuffle_correct {α} (argsort : List Int → List Nat) (hA : ∀ l, IsArgsort l (argsort l))
    (cs : List Int) (hcs : ChunksOK cs) (indexer : List (List Int)) (hin : InBounds (isum cs) indexer)
    (x : Int → α) :
    ∃ out, shuffleEval argsort cs indexer x = .ok out ∧ out.flatten = indexer.flatten.map x ∧
      out.map (fun c => (c.length : Int)) = shuffleChunks cs indexer :=
  shuffle_correct argsort hA cs hcs indexer hin x

/-- one output chunk of `Shuffle._layer` (any non-empty `taker` of in-bounds positions, not longer than the
largest input chunk — what `_new_chunks` produces, `C12.newChunks_bounded`): the plan exists and evaluates to
`x[taker]` in the order of `taker`. -/
theorem C12s_chunk_correct {α} (argsort : List Int → List Nat) (hA : ∀ l, IsArgsort l (argsort l))
    (cs : List Int) (hcs : ChunksOK cs) (taker : List Int) (hne : taker ≠ [])
    (hin : ∀ p ∈ taker, 0 ≤ p ∧ p < isum cs) (hlen : (taker.length : Int) ≤ maxChunk cs) (x : Int → α) :
    ∃ p, planChunk argsort cs taker = .ok p ∧ evalPlan argsort cs x p = some (taker.map x) :=
  -- holds for chunks of any sign: `hcs` is not needed
  (fun _ => planChunk_correct argsort hA cs taker hne hin hlen x) hcs

/-- `x[list]` / `da.take` on one axis (`normalize_index` → `slice_wrap_lists` → `take` → `_compute_indexer` →
`_shuffle`): `IndexError` exactly when some entry is outside `[-n, n)`; otherwise the result is
`[x[i] for i in index]` with negatives counted from the end — repeated, unsorted, empty, identity included —
in chunks of the advertised lengths. -/
theorem C12s_take_correct {α} (argsort : List Int → List Nat) (hA : ∀ l, IsArgsort l (argsort l))
    (cs : List Int) (hcs : ChunksOK cs) (index : List Int) (x : Int → α) :
    (takeEval argsort cs index x = .err .indexError ↔ ¬ (∀ i ∈ index, -(isum cs) ≤ i ∧ i < isum cs)) ∧
    ((∀ i ∈ index, -(isum cs) ≤ i ∧ i < isum cs) →
      ∃ out, takeEval argsort cs index x = .ok out ∧
        out.flatten = index.map (fun i => x (posifyInt (isum cs) i)) ∧
        out.map (fun c => (c.length : Int)) = takeChunksS cs index) := by
  -- the success clause first; the error clause uses it as `hok`
  refine (fun hok => ⟨⟨fun he hb => ?_, fun h => ?_⟩, hok⟩) ?_
  · intro h
    have hmap : index.map (fun i => x (posifyInt (isum cs) i)) = (index.map (posifyInt (isum cs))).map x :=
      (List.map_map ..).symm
    unfold takeEval takeChunksS
    simp only [Dask.Lemmas.Indexing.checkItem_lst_eq, if_pos h]
    by_cases he : (index.map (posifyInt (isum cs))).isEmpty = true
    · rw [if_pos he, if_pos he]
      cases index with
      | nil => exact ⟨_, rfl, rfl, rfl⟩
      | cons _ _ => cases he
    · rw [if_neg he, if_neg he]
      by_cases hr : index.map (posifyInt (isum cs)) = rangeList 0 (isum cs) 1
      · -- `take`'s identity over the full axis
        rw [if_pos hr, if_pos hr]
        refine ⟨_, rfl, ?_, blocksFrom_length x cs 0 hcs⟩
        have e := rangeList_one 0 (isum cs)
        rw [Int.sub_zero] at e
        rw [blocksOf, blocksFrom_flatten x cs 0 hcs, hmap, hr, e, List.map_map]
        rfl
      · rw [if_neg hr, if_neg hr]
        exact shuffle_posify argsort hA cs index hcs h x
  · rcases hok hb with ⟨out, ho, _⟩
    rw [ho] at he
    cases he
  · unfold takeEval
    simp only [Dask.Lemmas.Indexing.checkItem_lst_eq, if_neg h]

/-- every per-block take offset of an output chunk lies inside its source block. -/
theorem C12s_pieces_in_block (argsort : List Int → List Nat) (hA : ∀ l, IsArgsort l (argsort l))
    (cs : List Int) (hcs : ChunksOK cs) (taker : List Int) (hne : taker ≠ [])
    (hin : ∀ p ∈ taker, 0 ≤ p ∧ p < isum cs) (hlen : (taker.length : Int) ≤ maxChunk cs)
    (p : Plan) (hp : planChunk argsort cs taker = .ok p) :
    ∀ q ∈ p.pieces, ∀ o ∈ q.2, q.1 < cs.length ∧ 0 ≤ o ∧ o < cs.getD q.1 0 := by
  have _ := hcs -- not needed: holds for chunks of any sign
  -- the plan evaluates (on the identity input), and `readBlock` is `none` outside a block
  rcases planChunk_correct argsort hA cs taker hne hin hlen (fun p => p) with ⟨p', hp', he⟩
  rw [hp] at hp'
  cases hp'
  intro q hq o ho
  unfold evalPlan at he
  cases hm : p.pieces.mapM (fun q => q.2.mapM (readBlock cs (fun p => p) q.1)) with
  | none =>
    rw [hm] at he
    cases he
  | some vals =>
    rcases mapM_some_mem _ _ hm q hq with ⟨b, hb⟩
    rcases mapM_some_mem _ _ hb o ho with ⟨v, hv⟩
    unfold readBlock at hv
    split at hv
    · assumption
    · cases hv

/-- the final reordering (`np.argsort(sorter)` in `concatenate_arrays` and in the one-block special case) is
the inverse of the sort the grouping applied: `sorter[inv] = range(n)`, hence `taker[sorter][inv] = taker`. -/
theorem C12s_perm_inverse (argsort : List Int → List Nat) (hA : ∀ l, IsArgsort l (argsort l))
    (taker : List Int) :
    (invOf argsort ((argsort taker).map Int.ofNat)).map (fun i => (argsort taker).getD i 0)
      = List.range taker.length ∧
    (invOf argsort ((argsort taker).map Int.ofNat)).map
      (fun i => ((argsort taker).map (fun j => taker.getD j 0)).getD i 0) = taker :=
  ⟨inv_map_eq_range (hA taker).1 (hA _), unsort argsort hA taker⟩

/-- there is an `argsort` (the model's stable one, used by the driver). -/
theorem C12s_argsort_exists (l : List Int) : IsArgsort l (argsortStable l) := foldr_insertIdx_spec _ _

/-- `x.vindex[i0, …, ik]` (`_vindex` → `_vindex_array` → `_shuffle` for one index array, `VIndexArray._layer` +
`_vindex_slice_and_transpose` + `_vindex_merge` for several; the index arrays already broadcast to `P` points;
`WF`: one array per indexed axis, chunks `≥ 0`): when every entry is inside `[-size, size)` of its axis the
call succeeds (no task reads outside its block, no advertised output key is missing), the concatenated output
chunks hold `x[p]` for the points `p` in the ORIGINAL order, negatives counted from the end, every cell written
(`some`), and for two or more index arrays the chunks have the advertised lengths (`VIndexArray.chunks`). -/
theorem C12s_vindex_correct {α} (argsort : List Int → List Nat) (hA : ∀ l, IsArgsort l (argsort l))
    (css inds : List (List Int)) (P : Nat) (hne : css ≠ []) (hwf : WF css inds P) (x : List Int → α)
    (h : InRangeAll (css.map isum) inds) :
    ∃ out, vindexEval argsort css inds x = .ok out ∧
      out.flatten = (List.range P).map (fun j => some (x (normPoint css inds j))) ∧
      (2 ≤ css.length → 0 < P → out.map (fun c => (c.length : Int)) = vChunks css P) := by
  rcases css with _ | ⟨cs, _ | ⟨cs2, css⟩⟩
  · exact absurd rfl hne
  · rcases inds with _ | ⟨ind, _ | _⟩
    · exact hwf.elim
    · obtain ⟨out, h1, h2⟩ := vindex_single argsort hA cs ind hwf.1 h.1 x
      rw [hwf.2.1] at h2
      exact ⟨out, h1, h2, fun h2 => absurd h2 (Nat.not_succ_le_self 1)⟩
    · exact hwf.2.2.elim
  · obtain ⟨out, h1, h2, h3⟩ := vindex_multi argsort hA cs cs2 css inds P hwf h x
    exact ⟨out, h1, h2, fun _ _ => h3⟩

/-- `vindex` raises `IndexError` exactly when some entry of some index array is outside `[-size, size)`. -/
theorem C12s_vindex_error_iff {α} (argsort : List Int → List Nat) (hA : ∀ l, IsArgsort l (argsort l))
    (css inds : List (List Int)) (P : Nat) (hne : css ≠ []) (hwf : WF css inds P) (x : List Int → α) :
    vindexEval argsort css inds x = .err .indexError ↔ ¬ InRangeAll (css.map isum) inds := by
  constructor
  · intro he hr
    rcases C12s_vindex_correct argsort hA css inds P hne hwf x hr with ⟨out, ho, _⟩
    rw [ho] at he
    cases he
  · intro h
    unfold vindexEval
    rw [normAll_err _ inds h]

/-- one slice task of the `VIndexArray` layer stays inside its block: the read of point `j` through the block
and in-block offset the layer computes for it returns `x[p_j]`. -/
theorem C12s_vindex_point_in_block {α} (css inds : List (List Int)) (P j : Nat) (x : List Int → α)
    (hok : PointsOK css inds P) (hj : j < P) :
    readBlockN css x
      ((List.zipWith (fun cs ind => ind.map (blockIdx cs)) css inds).map (fun b => b.getD j 0))
      (pointAt (List.zipWith (fun cs ind => ind.map (inblockOff cs)) css inds) j) = some (x (pointAt inds j)) :=
  readBlockN_point css inds P j x hok hj

-- n-D vindex with negatives on a 2-D array chunked ((2,3),(1,0,3)), a zero-length chunk: 5 points, one output chunk (m = 9)
example : WF [[2, 3], [1, 0, 3]] [[0, -1, 2, 4, 1], [3, 0, 0, -3, 2]] 5 := by
  refine ⟨?_, rfl, ?_, rfl, trivial⟩ <;> (unfold ChunksOK; decide)
example : InRangeAll ([[2, 3], [1, 0, 3]].map isum) [[0, -1, 2, 4, 1], [3, 0, 0, -3, 2]] := by
  refine ⟨?_, ?_, trivial⟩ <;> decide
example : (match vindexEval argsortStable [[2, 3], [1, 0, 3]] [[0, -1, 2, 4, 1], [3, 0, 0, -3, 2]]
      (fun t => t.foldl (fun a p => a * 10 + p) 0) with
    | .ok out => out | _ => []) = [[some 3, some 40, some 20, some 41, some 12]] := by decide +kernel
-- several output chunks (max_chunk_point_dimensions = 1 * 2 = 2, 5 points → chunks 2, 2, 1)
example : vChunks [[1, 1], [2, 1]] 5 = [2, 2, 1] := by decide +kernel
example : (match vindexEval argsortStable [[1, 1], [2, 1]] [[1, 0, -1, 0, 1], [2, -3, 1, 2, 0]]
      (fun t => t.foldl (fun a p => a * 10 + p) 0) with
    | .ok out => out | _ => []) = [[some 12, some 0], [some 11, some 2], [some 10]] := by decide +kernel
-- out of bounds on the second axis
example : ¬ InRangeAll ([[2, 3], [1, 0, 3]].map isum) [[0, 1], [4, 0]] :=
  fun h => absurd (h.2.1 4 (List.mem_cons_self ..)).2 (by decide)
example : (match vindexEval argsortStable [[2, 3], [1, 0, 3]] [[0, 1], [4, 0]] (fun _ => 0) with
    | .err .indexError => true | _ => false) = true := by decide +kernel
-- one index array goes through the shuffle; no points at all
example : (match vindexEval argsortStable [[3, 0, 4, 3]] [[7, -9, 1, 9]] (fun t => t.headD 0) with
    | .ok out => out | _ => []) = [[some 7, some 1, some 1, some 9]] := by decide +kernel
example : (match vindexEval argsortStable [[2, 3], [4]] [[], []] (fun _ => 0) with
    | .ok out => out | _ => [[none]]) = [[]] := by decide +kernel

-- unsorted + repeated positions across 3 blocks (one of them zero-length in between)
example : planChunk argsortStable [3, 0, 4, 3] [7, 1, 1, 9] =
    .ok ⟨[1, 2, 0, 3], [(0, [1, 1]), (3, [0, 2])], true⟩ := by rfl
example : ChunksOK [3, 0, 4, 3] := by unfold ChunksOK; decide
example : InBounds (isum [3, 0, 4, 3]) [[7, 1, 1, 9], [0, 5, 5, 2], []] := by unfold InBounds; decide
example : (match shuffleEval argsortStable [3, 0, 4, 3] [[7, 1, 1, 9], [0, 5, 5, 2], []] (fun p => p * 10) with
    | .ok out => out | _ => []) = [[70, 10, 10, 90], [0, 50, 50, 20]] := by decide +kernel
-- three source blocks in one output chunk
example : planChunk argsortStable [2, 2, 2] [5, 0, 3, 0] =
    .ok ⟨[1, 3, 2, 0], [(0, [0, 0]), (1, [1]), (2, [1])], true⟩ := by rfl
-- one source block: the un-sorting is folded into the offsets, no merge
example : planChunk argsortStable [3, 4] [6, 3, 5] = .ok ⟨[1, 2, 0], [(1, [3, 0, 2])], false⟩ := by rfl
-- a group longer than the largest chunk is split
example : shuffleChunks [2, 1] [[2, 0, 1, 1, 0]] = [2, 2, 1] := by decide +kernel
-- identity indexer
example : shuffleChunks [2, 0, 1] [[0, 1], [], [2]] = [2, 0, 1] := by decide +kernel
-- take: negatives, the empty index, out of bounds
example : (match takeEval argsortStable [3, 0, 4, 3] [-1, 2, -10, 2] (fun p => p) with
    | .ok out => out | _ => []) = [[9, 2, 0, 2]] := by decide +kernel
example : (match takeEval argsortStable [3, 0, 4, 3] [] (fun p => p) with
    | .ok out => out | _ => [[1]]) = [[]] := by decide +kernel
example : (match takeEval argsortStable [3, 0, 4, 3] [10] (fun p => p) with
    | .err .indexError => true | _ => false) = true := by decide +kernel
example : (match takeEval argsortStable [3, 0, 4, 3] [-11] (fun p => p) with
    | .err .indexError => true | _ => false) = true := by decide +kernel

end Dask.Props.C12Shuffle
