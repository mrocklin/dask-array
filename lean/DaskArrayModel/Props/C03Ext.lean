/-
C03 (second-layer language `Expr2`) — Advertised shape and chunks are what the graph produces, for
programs that also contain broadcasting binaries, integer-list `take` and sliding-window reductions
(overlap plan), nested with every constructor of `Expr` (Model/Expr2.lean; see Props/C01Ext.lean).
The property theorems (the steps are in Lemmas/Expr2*.lean) and non-vacuity examples.
-/
import DaskArrayModel.Lemmas.Expr2Correct
namespace Dask.Props.C03Ext
open Dask.Py Dask.ND

/-- the block computed for `bid` has exactly the advertised size on every axis -/
theorem C03x_block_shape2 (env : Env) (henv : EnvOK env) (e : Expr2) (bid : List Nat)
    (hwf : WF2 e) (hbid : validBid (chunks2 e) bid) :
    (blockDen2 env e bid).shape = blockShape (chunks2 e) bid :=
  (blockDen2_correct env henv e hwf bid hbid).1

/-- `.chunks` sums to `.shape` on every axis -/
theorem C03x_chunks2_sum (e : Expr2) (hwf : WF2 e) : (chunks2 e).map List.sum = shape2 e :=
  (meta2_ok e hwf).1

/-- every axis has at least one block -/
theorem C03x_chunks2_nonempty (e : Expr2) (hwf : WF2 e) : ∀ cs ∈ chunks2 e, cs ≠ [] :=
  (meta2_ok e hwf).2

/-- the assembled result has the advertised shape -/
theorem C03x_compute2_shape (env : Env) (e : Expr2) (hwf : WF2 e) : (compute2 env e).shape = shape2 e :=
  (meta2_ok e hwf).1

/-- the output chunks of the overlap plan of a sliding-window reduction: `c[:-1] + (c[-1] - (W-1),)`
has as many blocks as the input axis and sums to `n - W + 1` -/
theorem C03x_swvChunks (cs : List Nat) (w : Nat) (h : cs ≠ []) (hw : 1 ≤ w) (hall : ∀ c ∈ cs, w ≤ c) :
    (swvChunks cs w).length = cs.length ∧ (swvChunks cs w).sum = cs.sum + 1 - w :=
  ⟨swvChunks_length cs w h, swvChunks_sum cs w h hw hall⟩

/-- the chunks of a broadcasting binary have the rank of the longer operand -/
theorem C03x_zipBLayout_length (ca cb : Layout) : (zipBLayout ca cb).length = max ca.length cb.length :=
  zipBLayout_length ca cb

def exEnv : Env := { src := fun _ => ⟨[4, 5], fun _ => 0⟩, un := fun _ x => x, bin := fun _ x _ => x }
def x : Expr2 := .base (.src 0 [4, 5] [[2, 2], [3, 2]])
def e1 : Expr2 := .swvReduce .sum (.take (.zipB 0 x (.base (.src 1 [1, 5] [[1], [3, 2]]))) 0 [3, 3, 0, -1, 1]) 2 1
example : WF2 e1 := by decide +kernel
#guard chunks2 e1 == [[2, 2, 1], [3, 1]] && shape2 e1 == [5, 4]
#guard (blockDen2 exEnv e1 [2, 1]).shape == [1, 1] && (blockDen2 exEnv e1 [0, 0]).shape == [2, 3]
example : swvChunks [4, 3, 5] 3 = [4, 3, 3] := by decide +kernel

end Dask.Props.C03Ext
