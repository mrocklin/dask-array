/-
C03 — Advertised shape and chunks are what the graph produces: the block at every block index
has exactly the size given by `.chunks` along each axis, and `.chunks` sums to the shape.
The property theorems (the steps are in Lemmas/ExprMeta.lean, ExprCorrect.lean) and non-vacuity examples.  Every well-formed `Expr`
(all constructors, see Props/C01.lean; `EnvOK` only constrains `map_blocks` functions).
(dtype is not modelled: element type is `Int`.)
-/
import DaskArrayModel.Lemmas.ExprCorrect
namespace Dask.Props.C03
open Dask.Py Dask.ND

/-- the block computed for `bid` has exactly the advertised size on every axis -/
theorem C03_block_shape (env : Env) (henv : EnvOK env) (e : Expr) (bid : List Nat)
    (hwf : WF e) (hbid : validBid (chunks e) bid) :
    (blockDen env e bid).shape = blockShape (chunks e) bid :=
  block_shape env henv e hwf bid hbid

/-- `.chunks` sums to `.shape` on every axis -/
theorem C03_chunks_sum (e : Expr) (hwf : WF e) : (chunks e).map List.sum = shape e :=
  (meta_ok e hwf).1

/-- every axis has at least one block (so the block grid is never empty) -/
theorem C03_chunks_nonempty (e : Expr) (hwf : WF e) : ∀ cs ∈ chunks e, cs ≠ [] :=
  (meta_ok e hwf).2

/-- the assembled result has the advertised shape -/
theorem C03_compute_shape (env : Env) (e : Expr) (hwf : WF e) : (compute env e).shape = shape e :=
  (meta_ok e hwf).1

def exSrc : Expr := .src 0 [4, 5] [[2, 2], [3, 2]]
def exE : Expr :=
  .rechunk (.transpose (.slice exSrc [.slc ⟨some 1, some 4, some 2⟩, .slc ⟨none, none, some (-1)⟩]) [1, 0])
    [[1, 4], [2]]
def exEnv : Env := { src := fun _ => ⟨[4, 5], fun _ => 0⟩, un := fun _ x => x, bin := fun _ x _ => x }

example : WF exE := by decide +kernel
example : chunks exE = [[1, 4], [2]] ∧ shape exE = [5, 2] := by decide +kernel
#guard (blockDen exEnv exE [1, 0]).shape == [4, 2]
example : (blockDen exEnv (.transpose exSrc [1, 0]) [1, 0]).shape = [2, 2] := by decide +kernel
example : chunks (.slice exSrc [.slc ⟨some 3, some 0, some (-2)⟩, .int 4]) = [[1, 1]] := by decide +kernel
example : chunks (.concat exSrc exSrc 1) = [[2, 2], [3, 2, 3, 2]] := by decide +kernel
example : chunks (.reduce .sum exSrc 0 2) = [[1], [3, 2]] ∧
    chunks (.expandDims exSrc 1) = [[2, 2], [1], [3, 2]] := by decide +kernel
#guard (blockDen exEnv (.reduce .sum exSrc 0 2) [0, 1]).shape == [1, 2]

end Dask.Props.C03
