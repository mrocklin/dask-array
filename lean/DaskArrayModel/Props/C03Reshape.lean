/-
C03 (reshape) — "the block at every block index has exactly the size given by `.chunks`": corollaries of the
reshape plan theorems (Props/C01Reshape.lean; model Model/Reshape.lean, `ReshapeLowered._layer`).
The property theorems, each a component of one of the C01 plan theorems, and a non-vacuity example.
Hypotheses as in Props/C01Reshape.lean (`WFIn`, `Pos`, equal sizes, the planner accepted).
-/
import DaskArrayModel.Props.C01Reshape
namespace Dask.Props.C03Reshape
open Dask.ND Dask.Reshape

/-- the advertised output chunks are a chunking of the requested shape (and the rechunk target a chunking
of the input shape) -/
theorem C03r_chunks_layout (inshape outshape : List Nat) (inchunks ic oc : List Chunks)
    (hwf : WFIn inshape inchunks) (hpos : Pos inshape) (hprod : prodL inshape = prodL outshape)
    (h : plan inshape outshape inchunks = .ok (ic, oc)) :
    IsLayout oc outshape ∧ IsLayout ic inshape :=
  (C01Reshape.C01r_plan_valid inshape outshape inchunks ic oc hwf hpos hprod h).symm

/-- the task of output block `bid` produces a block of exactly the advertised shape `chunks[k][bid[k]]` … -/
theorem C03r_block_shape {α : Type} (a : Arr α) (ic oc : List Chunks) (bid : List Nat) :
    (planBlock a ic oc bid).shape = blockShape oc bid := rfl

/-- … and its `M.reshape(in_block, shape)` is legal: the paired input block exists and has exactly as many
elements as the advertised shape (so NumPy cannot raise "cannot reshape array of size …") -/
theorem C03r_block_legal {α : Type} (inshape outshape : List Nat) (inchunks ic oc : List Chunks)
    (hwf : WFIn inshape inchunks) (hpos : Pos inshape) (hprod : prodL inshape = prodL outshape)
    (h : plan inshape outshape inchunks = .ok (ic, oc)) (a : Arr α) (bid : List Nat) (hb : validBid oc bid) :
    validBid ic (unflat (numblocks ic) (flatIndex (numblocks oc) bid)) ∧
      prodL (blocksOf a ic (unflat (numblocks ic) (flatIndex (numblocks oc) bid))).shape =
        prodL (planBlock a ic oc bid).shape :=
  (C01Reshape.C01r_block_bijection inshape outshape inchunks ic oc hwf hpos hprod h).2 bid hb

/-- the assembled result has the requested shape -/
theorem C03r_compute_shape {α : Type} (inshape outshape : List Nat) (inchunks ic oc : List Chunks)
    (hwf : WFIn inshape inchunks) (hpos : Pos inshape) (hprod : prodL inshape = prodL outshape)
    (h : plan inshape outshape inchunks = .ok (ic, oc)) (a : Arr α) (ha : a.shape = inshape) :
    (planArr a ic oc).shape = outshape :=
  (C01Reshape.C01r_compute_eq_reshape inshape outshape inchunks ic oc hwf hpos hprod h a ha).1

/-- non-vacuity: an accepted split plan, a valid output block index, its advertised shape and the shape of the
paired input block -/
example : WFIn [6, 5, 4] [[3, 3], [2, 3], [2, 2]] ∧ Pos [6, 5, 4] ∧ prodL [6, 5, 4] = prodL [3, 2, 5, 4] ∧
    plan [6, 5, 4] [3, 2, 5, 4] [[3, 3], [2, 3], [2, 2]] =
      .ok ([[2, 2, 2], [2, 3], [2, 2]], [[1, 1, 1], [2], [2, 3], [2, 2]]) ∧
    validBid [[1, 1, 1], [2], [2, 3], [2, 2]] [2, 0, 1, 1] ∧
    blockShape [[1, 1, 1], [2], [2, 3], [2, 2]] [2, 0, 1, 1] = [1, 2, 3, 2] ∧
    blockShape [[2, 2, 2], [2, 3], [2, 2]]
      (unflat (numblocks [[2, 2, 2], [2, 3], [2, 2]])
        (flatIndex (numblocks [[1, 1, 1], [2], [2, 3], [2, 2]]) [2, 0, 1, 1])) = [2, 3, 2] :=
  ⟨by decide +kernel, by decide +kernel, by rfl, by rfl, by decide +kernel, by rfl, by rfl⟩

end Dask.Props.C03Reshape
