/-
C20 — map_blocks block_info/block_id match the layout it was built against.  The property
theorems (with their final assembly; the steps are in Lemmas/BlockInfo.lean) and non-vacuity examples.
-/
import DaskArrayModel.Lemmas.BlockInfo
namespace Dask.Props.C20
open Dask.BlockInfo Dask.Lemmas.BlockInfo

/-- For every layout and every block id of its grid: `array-location` is, axis by axis, the extent
`(starts[j], starts[j+1])` of the named block; `chunk-shape` is `stop − start` per axis, which is
`chunks[axis][bid[axis]]`; every extent is well ordered. -/
theorem C20_block_info (L : Layout) (bid : List Nat) (h : validBid L bid = true) :
    arrayLocation L bid = List.zipWith extent L bid ∧
    (arrayLocation L bid).length = L.length ∧
    chunkShape L bid = (arrayLocation L bid).map (fun p => p.2 - p.1) ∧
    (∀ p ∈ arrayLocation L bid, p.1 ≤ p.2) :=
  let s := arrayLocation_spec L bid h
  ⟨s.extents, s.length, s.shape, s.ordered⟩

/-- The extents of one axis tile the axis: the first starts at 0, consecutive ones abut, the last
ends at the axis length, and block `j` has length `c[j]`. -/
theorem C20_extents_tile (c : List Nat) :
    (0 < c.length → (extent c 0).1 = 0) ∧
    (∀ j, j + 1 < c.length → (extent c j).2 = (extent c (j + 1)).1) ∧
    (0 < c.length → (extent c (c.length - 1)).2 = nsum c) ∧
    (∀ j, j < c.length → (extent c j).1 ≤ (extent c j).2 ∧ (extent c j).2 - (extent c j).1 = c.getD j 0) := by
  -- consecutive extents abut by definition: both bounds are `starts[j + 1]`
  refine ⟨fun _ => ?_, fun _ _ => rfl, fun h => ?_, extent_len c⟩
  · cases c with
    | nil => rfl
    | cons x xs => rfl
  · show (starts c).getD (c.length - 1 + 1) 0 = nsum c
    rw [Nat.sub_add_cancel h, starts_getD c c.length (Nat.le_refl _), List.take_length]

/-- … in closed form: block `j` starts at the sum of the blocks before it. -/
theorem C20_extent_eq (c : List Nat) (j : Nat) (h : j < c.length) :
    extent c j = (nsum (c.take j), nsum (c.take j) + c.getD j 0) :=
  extent_eq c j h

/-- Whatever layout the optimized child settles on (any layout of the same shape), the lowered
`ChunksFreeze` has exactly the frozen layout … -/
theorem C20_freeze (settled frozen : Layout) (h : shape settled = shape frozen) :
    ∃ n, lowerFreeze settled frozen = .ok n ∧ n.chunks = frozen := by
  unfold lowerFreeze
  by_cases e : settled = frozen
  · exact ⟨.child settled, by simp [e], by simp [Lowered.chunks, e]⟩
  · exact ⟨.rechunk settled frozen, by simp [e, h], rfl⟩

/-- … hence the block delivered for block id `bid` has the shape promised at call time. -/
theorem C20_freeze_block_shape (settled frozen : Layout) (n : Lowered) (bid : List Nat)
    (h : lowerFreeze settled frozen = .ok n) :
    chunkShape n.chunks bid = chunkShape frozen bid := by
  have hn : n.chunks = frozen := by
    unfold lowerFreeze at h
    split at h
    · next e => cases h; exact e
    · split at h
      · cases h
      · cases h; rfl
  rw [hn]

/-- The per-input block id rule (`num_chunks > 1 ? location[label] : 0`) names an existing block of
the input whenever every multi-block axis of the input carries an output label whose location is
below the input's block count on that axis (inputs consistent up to broadcasting). -/
theorem C20_broadcast_rule (eff : Layout) (outInd bid : List Nat)
    (h0 : ∀ c ∈ eff, 0 < c.length)
    (h1 : ∀ p ∈ eff.zip (revRange eff.length), p.1.length > 1 →
      ∃ v, (outInd.zip bid).lookup p.2 = some v ∧ v < p.1.length) :
    validBid eff (inputBlockId eff outInd bid) = true := by
  have hlen : (revRange eff.length).length = eff.length := by simp [revRange]
  have hmap : (eff.zip (revRange eff.length)).map (·.1) = eff := by
    rw [List.map_fst_zip]; omega
  have := validBid_map (·.1) _ (eff.zip (revRange eff.length))
    (fun p hp => inputId_lt (loc := (outInd.zip bid).lookup p.2) (h0 p.1 (List.of_mem_zip hp).1) (h1 p hp))
  rw [hmap] at this
  exact this

example : arrayLocation [[2, 3], [4, 1]] [1, 0] = [(2, 5), (0, 4)] ∧ chunkShape [[2, 3], [4, 1]] [1, 0] = [3, 4] := by decide +kernel
example : lowerFreeze [[2, 3]] [[5]] = .ok (.rechunk [[2, 3]] [[5]]) := by decide +kernel
example : lowerFreeze [[5]] [[5]] = .ok (.child [[5]]) := by decide +kernel
/-- the broken variant "return the child unchanged" delivers a block of another shape -/
example : ∃ n, lowerFreezeNoop [[2, 3]] [[5]] = .ok n ∧ chunkShape n.chunks [0] ≠ chunkShape [[5]] [0] :=
  ⟨.child [[2, 3]], rfl, by decide⟩
example : mapBlocks [[[2, 3], [4, 1]], [[5]]] [] none none = .ok ⟨[1, 0], [[2, 3], [4, 1]]⟩ := by decide +kernel
example : (inputInfo [[5]] [1, 0] [1, 0] false).chunkLocation = [0] := by decide +kernel
example : (inputInfo [[2, 3], [4, 1]] [1] [1] true).arrayLocation = [(2, 5), (0, 5)] := by decide +kernel

end Dask.Props.C20
