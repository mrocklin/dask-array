/-
C02 (rules of Model/Rules2.lean) — Every fired rewrite preserves values, for three rewrites beyond those
of Model/Rules.lean: slice through `broadcast_to` (`BroadcastTo._accept_slice`), rechunk through concatenate
(`Rechunk._pushdown_through_concatenate`: per-part redistribution of the target, residual seam rechunk)
and the rechunk∘slice composition (`Rechunk._pushdown_through_slice`).  Model: Model/Rules2.lean; soundness
proofs: Lemmas/Rules2.lean.  Property theorems and non-vacuity examples.

`Preserves` is that of Props/C02.lean: the product is well-formed, has the same NumPy shape and denotes
the same array.  With `stepWith_sound` (any list of sound root rules) these rules and those of
Model/Rules.lean may be mixed in any order (`C02x_any_sequence`), and with `compute_eq_den`
(Lemmas/ExprCorrect) the blocks computed by the rewritten expression assemble to the NumPy meaning of the
original (`C02x_any_sequence_compute`).

Measure (`mu`, Model/Rules.lean): slice-through-broadcast decreases it; rechunk-through-concatenate
decreases it when no residual rechunk stays above the concatenate (`C02x_rechunkThroughConcat_facts`; with
a residual it does not in the example below — the real rule terminates because it declines on its own
product: every part already holds its slice of the target); rechunk∘slice keeps it equal
(`C02x_rechunkThroughSlice_mu`; the real rule runs once, at lowering).  So these rules are NOT added to
the fixpoint `optimize`; soundness does not depend on termination.
-/
import DaskArrayModel.Lemmas.Rules2
import DaskArrayModel.Props.C02
namespace Dask.Props.C02Ext
open Dask.Py Dask.ND Dask.Props.C02

theorem C02x_rule_sound_sliceThroughBroadcast (env : Env) (e e' : Expr) (hw : WF e)
    (h : sliceThroughBroadcast e = some e') : Preserves env e' e :=
  preserves_of (sliceThroughBroadcast_sound env e e' hw h)

theorem C02x_rule_sound_rechunkThroughConcat (env : Env) (e e' : Expr) (hw : WF e)
    (h : rechunkThroughConcat e = some e') : Preserves env e' e :=
  preserves_of (rechunkThroughConcat_sound env e e' hw h)

theorem C02x_rule_sound_rechunkThroughSlice (env : Env) (e e' : Expr) (hw : WF e)
    (h : rechunkThroughSlice e = some e') : Preserves env e' e :=
  preserves_of (rechunkThroughSlice_sound env e e' hw h)

/-- slice through broadcast decreases the termination measure `mu` -/
theorem C02x_sliceThroughBroadcast_decreases (e e' : Expr) (h : sliceThroughBroadcast e = some e') :
    mu e' < mu e := by
  revert h
  fun_cases sliceThroughBroadcast e
  case case1 e _ _ _ _ _ _ _ _ _ _ inSl e1 _ r _ =>
    intro h
    injection h with h
    subst h
    have hmu : mu e1 ≤ 2 * mu e := mu_ite_le _ e _ rfl
    exact Nat.lt_of_le_of_lt (Nat.add_le_add_right hmu 1) (push_one _)
  all_goals exact fun h => nomatch h

/-- rechunk through concatenate delivers exactly the requested chunks, and decreases the measure
unless a residual (seam-merging) rechunk to the requested chunks stays above the concatenate -/
theorem C02x_rechunkThroughConcat_facts (e e' : Expr) (h : rechunkThroughConcat e = some e') :
    chunks e' = chunks e ∧ (mu e' < mu e ∨ ∃ c, e' = Expr.rechunk c (chunks e)) := by
  revert h
  fun_cases rechunkThroughConcat e
  case case3 a b ax l _ _ _ _ _ _ _ _ _ _ a' b' nc r _ =>
    intro h
    injection h with h
    subst h
    have ha' : mu a' ≤ 2 * mu a := mu_ite_le _ a _ rfl
    have hb' : mu b' ≤ 2 * mu b := mu_ite_le _ b _ rfl
    show chunks r = l ∧ (mu r < mu (.rechunk (.concat a b ax) l) ∨ ∃ c, r = Expr.rechunk c l)
    by_cases hc : chunks nc = l
    · rw [show r = nc from if_pos hc]
      exact ⟨hc, Or.inl (Nat.lt_of_le_of_lt (Nat.add_le_add_right (Nat.add_le_add ha' hb') 1) (push_two _ _))⟩
    · rw [show r = nc.rechunk l from if_neg hc]
      exact ⟨rfl, Or.inr ⟨_, rfl⟩⟩
  all_goals exact fun h => nomatch h

/-- the redistribution loop: the per-part chunks add up to the target, each part gets at most its
extent, and exactly its extent when the target covers both parts -/
theorem C02x_redistribute_spec (nb room : Nat) (tgt pa pb : List Nat)
    (h : redistribute nb room tgt = some (pa, pb)) :
    pa.sum + pb.sum = tgt.sum ∧ pa.sum ≤ room ∧ pb.sum ≤ nb ∧
      (tgt.sum = room + nb → pa.sum = room ∧ pb.sum = nb) := by
  obtain ⟨h1, h2, h3⟩ := redistribute_spec nb room tgt pa pb h
  exact ⟨h1, h2, h3, fun hs => by omega⟩

/-- the rechunk∘slice composition delivers exactly the requested chunks … -/
theorem C02x_rechunkThroughSlice_chunks (e e' : Expr) (h : rechunkThroughSlice e = some e') :
    chunks e' = chunks e := by
  revert h
  fun_cases rechunkThroughSlice e
  case case4 hc =>
    intro h
    injection h with h
    subst h
    exact hc.2
  all_goals exact fun h => nomatch h

/-- … and keeps the measure -/
theorem C02x_rechunkThroughSlice_mu (e e' : Expr) (h : rechunkThroughSlice e = some e') : mu e' = mu e := by
  revert h
  fun_cases rechunkThroughSlice e
  case case4 =>
    intro h
    injection h with h
    subst h
    rfl
  all_goals exact fun h => nomatch h

/-- every sequence of single-rule steps: each step applies one rule of `rules ++ extraRules ++ rules2` (in any
order) at the first position where it fires -/
theorem C02x_any_sequence (env : Env) (henv : EnvOK env) (e e' : Expr) (hw : WF e)
    (h : Rewrites2 e e') : Preserves env e' e :=
  preserves_of (rewrites2_refines env henv h hw)

/-- … and with `compute_eq_den`: the blocks computed by the rewritten expression assemble to the NumPy meaning
of the original expression -/
theorem C02x_any_sequence_compute (env : Env) (henv : EnvOK env) (e e' : Expr) (hw : WF e)
    (h : Rewrites2 e e') : Arr.Equiv (compute env e') (den env e) :=
  let r := rewrites2_refines env henv h hw
  (compute_eq_den env henv e' r.isWF).trans r.equiv

/-! ### non-vacuity: the three rules fire on concrete trees and CHANGE them (`WF` is checked for the operands
`bcS` and `cc`) -/

def xEnv : Env :=
  { src := fun id => if id = 0 then ⟨[4, 5], fun i => (flatIndex [4, 5] i : Int)⟩
      else ⟨[3, 5], fun i => (100 + flatIndex [3, 5] i : Int)⟩
    un := fun _ x => -x
    bin := fun _ x y => x + y }
def xSrc : Expr := .src 0 [4, 5] [[2, 2], [3, 2]]
def ySrc : Expr := .src 1 [3, 5] [[1, 2], [3, 2]]
def sl (a b c : Option Int) : Ix := .slc ⟨a, b, c⟩

-- broadcast_to(x, (3,4,5))[1:, 1:3, :4]: the new axis only changes shape/chunks, the real axes are pushed
def bc : Expr := .broadcastTo xSrc [3, 4, 5] [[2, 1], [2, 2], [3, 2]]
def bcS : Expr := .slice bc [sl (some 1) none none, sl (some 1) (some 3) none, sl none (some 4) none]
def bcS' : Expr :=
  .broadcastTo (.slice xSrc [sl (some 1) (some 3) none, sl none (some 4) none]) [2, 2, 4] [[1, 1], [1, 1], [3, 1]]
example : WF bcS := by decide +kernel
#guard sliceThroughBroadcast bcS == some bcS'
#guard (den xEnv bcS).toList == (den xEnv bcS').toList && (den xEnv bcS').toList.take 4 == [5, 6, 7, 8]
-- an axis broadcast from length 1 keeps the full slice below, only the output chunks are cut (`_slice_chunks`)
def col : Expr := .src 0 [4, 1] [[2, 2], [1]]
#guard sliceThroughBroadcast (.slice (.broadcastTo col [4, 6] [[2, 2], [4, 2]]) [colonIx, sl (some 3) (some 5) none])
    == some (.broadcastTo (.slice col [colonIx, colonIx]) [4, 2] [[2, 2], [1, 1]])
#guard bcSliceChunks [4, 2] 3 2 == [1, 1] && bcSliceChunks [4, 2] 0 0 == [0]
-- declined for a stepped slice (as the real rule)
#guard sliceThroughBroadcast (.slice bc [colonIx, sl none none (some 2), colonIx]) == none

-- rechunk(concatenate([x (4 rows, chunks 2,2), y (3 rows, chunks 1,2)]), rows (4,3)): no seam is crossed
def cc : Expr := .concat xSrc ySrc 0
example : WF cc ∧ chunks cc = [[2, 2, 1, 2], [3, 2]] := by decide +kernel
#guard rechunkThroughConcat (.rechunk cc [[4, 3], [5]])
    == some (.concat (.rechunk xSrc [[4], [5]]) (.rechunk ySrc [[3], [5]]) 0)
-- rows (3,4): the second target chunk straddles the seam: parts get (3,1) and (3,), a residual rechunk merges
#guard redistribute 3 4 [3, 4] == some ([3, 1], [3])
#guard rechunkThroughConcat (.rechunk cc [[3, 4], [5]])
    == some (.rechunk (.concat (.rechunk xSrc [[3, 1], [5]]) (.rechunk ySrc [[3], [5]]) 0) [[3, 4], [5]])
-- … and then the measure does not decrease (6 → 10); the rule declines on its own product
#guard mu (.rechunk cc [[3, 4], [5]]) == 6 &&
    mu (.rechunk (.concat (.rechunk xSrc [[3, 1], [5]]) (.rechunk ySrc [[3], [5]]) 0) [[3, 4], [5]]) == 10
#guard rechunkThroughConcat
    (.rechunk (.concat (.rechunk xSrc [[3, 1], [5]]) (.rechunk ySrc [[3], [5]]) 0) [[3, 4], [5]]) == none
-- off-axis change only: each part is rechunked, own axis chunks kept
#guard rechunkThroughConcat (.rechunk cc [[2, 2, 1, 2], [5]])
    == some (.concat (.rechunk xSrc [[2, 2], [5]]) (.rechunk ySrc [[1, 2], [5]]) 0)
-- a target that disagrees with the part extents is declined
#guard redistribute 3 4 [3, 5] == none

-- rechunk(x[1:4, :], rows (3,)): x is cut to (1,3) so that the kept range is one block
#guard rechunkThroughSlice (.rechunk (.slice xSrc [sl (some 1) (some 4) none, colonIx]) [[3], [5]])
    == some (.slice (.rechunk xSrc [[1, 3], [5]]) [sl (some 1) (some 4) none, colonIx])
-- integers keep x's grid; declined when the slice is already aligned to x's grid
#guard rechunkThroughSlice (.rechunk (.slice xSrc [.int 1, sl (some 1) (some 4) none]) [[1, 2]])
    == some (.slice (.rechunk xSrc [[2, 2], [1, 1, 2, 1]]) [.int 1, sl (some 1) (some 4) none])
#guard rechunkThroughSlice (.rechunk (.slice xSrc [sl (some 2) (some 4) none, colonIx]) [[1, 1], [5]]) == none
#guard (den xEnv (.rechunk (.slice xSrc [sl (some 1) (some 4) none, colonIx]) [[3], [5]])).toList
    == (den xEnv (.slice (.rechunk xSrc [[1, 3], [5]]) [sl (some 1) (some 4) none, colonIx])).toList

-- the rule's case `in_size == 1` is needed: pushing the slice of a broadcast axis (length 1 below) to the
-- input gives an ill-formed product
def badPush : Expr := .broadcastTo (.slice col [colonIx, sl (some 3) (some 5) none]) [4, 2] [[2, 2], [1, 1]]
example : ¬ WF badPush := by decide +kernel   -- the input slice is empty: a (4,0) array cannot broadcast to (4,2)

end Dask.Props.C02Ext
