/-
C28 — Unknown chunk sizes are resolved exactly or refused.  Property theorems (the steps of their
proofs are in Lemmas/Unknown.lean) and non-vacuity examples.  Sizes are `Option Nat` (`none` = `nan`).
-/
import DaskArrayModel.Lemmas.Unknown
namespace Dask.Props.C28
open Dask.Py Dask.Unknown Dask.Lemmas.Unknown

/-- `ChunksOverride(e, c)` advertises exactly `c` and is a 1:1 alias of `e`'s blocks on the grid
of `c` (no other key exists): same data, new metadata. -/
theorem C28_override {β} (e : Arr β) (c : Layout?) :
    (override e c).chunks = c ∧
    (∀ idx ∈ grid (numblocks c), (override e c).block idx = e.block idx) ∧
    (∀ idx, idx ∉ grid (numblocks c) → (override e c).block idx = none) :=
  ⟨override_chunks e c, override_block e c, override_block_outside e c⟩

/-- the alias grid is the set of block ids of the right rank with every coordinate below the block count -/
theorem C28_override_grid (c : Layout?) (idx : List Nat) :
    idx ∈ grid (numblocks c) ↔ idx.length = (numblocks c).length ∧ ∀ p ∈ idx.zip (numblocks c), p.1 < p.2 :=
  mem_grid (numblocks c) idx

/-- 1-d boolean-mask selection, every chunking `cs` of the axis and every mask: the chunks set by
`compute_chunk_sizes` are the true per-block lengths; there is one per input block; they sum to
the length of NumPy's `x[mask]`; and the blocks concatenated ARE `x[mask]`. -/
theorem C28_compute_chunk_sizes {α} (cs : List Nat) (x : List α) (m : List Bool)
    (hx : nsum cs = x.length) (hm : x.length = m.length) :
    let blocks := maskSelect cs x m
    computeChunkSizes1 blocks = ofKnownDim (blocks.map List.length) ∧
    (computeChunkSizes1 blocks).length = cs.length ∧
    isKnown (computeChunkSizes1 blocks) = true ∧
    nsum (trueSizes blocks) = (maskBlock x m).length ∧
    blocks.flatten = maskBlock x m := by
  refine ⟨rfl, ?_, ?_, ?_, maskSelect_flatten_full cs x m hx hm⟩
  · simp [computeChunkSizes1, ofKnownDim, trueSizes, maskSelect_length]
  · simp [computeChunkSizes1, ofKnownDim, isKnown]
  · rw [trueSizes, nsum_map_length_flatten, maskSelect_flatten_full cs x m hx hm]

/-- the `x[p(x)]` form (mask computed from the values): the blocks concatenated are `filter p x`
and the resolved chunks sum to its length. -/
theorem C28_compute_chunk_sizes_pred {α} (cs : List Nat) (x : List α) (p : α → Bool)
    (hx : nsum cs = x.length) :
    (maskSelect cs x (x.map p)).flatten = x.filter p ∧
    nsum (trueSizes (maskSelect cs x (x.map p))) = (x.filter p).length := by
  have h := maskSelect_flatten_full cs x (x.map p) hx (by simp)
  rw [maskBlock_pred] at h
  exact ⟨h, by rw [trueSizes, nsum_map_length_flatten, h]⟩

/-- per-axis form (a 1-d mask on one axis of an n-d array, `x[:, mask]`): block `i` along that
axis keeps the positions of `mask`'s block `i`; concatenated in block order they are exactly
`np.nonzero(mask)`, one (possibly empty) block per input block. -/
theorem C28_compute_chunk_sizes_axis (cs : List Nat) (m : List Bool) (hm : nsum cs = m.length) :
    (maskPositions cs m).flatten = nonzero m ∧ (maskPositions cs m).length = cs.length := by
  refine ⟨?_, maskPositionsFrom_length 0 cs m⟩
  rw [maskPositions, nonzero, maskPositionsFrom_eq 0 cs m (by omega), nonzeroFrom_eq,
    maskSelect_flatten_full cs _ m (by simp [hm]) (by simp)]

/-- number of positions kept in a block = number of values kept -/
theorem C28_positions_count {α} (x : List α) (m : List Bool) (h : x.length = m.length) :
    (nonzero m).length = (maskBlock x m).length := by
  rw [nonzero, nonzeroFrom_eq, maskBlock_length _ m (by simp), maskBlock_length x m h]

/-- `slice_slices_and_integers`: an `.ok` result does not depend on the unknown sizes — for EVERY
completion `K` of the layout (any true sizes put in place of the `nan`s) the same index is accepted
and yields a fully known layout that agrees with the `.ok` result wherever that is known.  (What is stated is
this independence of the verdict from the unknown sizes, not that slicing always succeeds.) -/
theorem C28_guards_total_slice (L : Layout?) (idx : List Idx) (R K : Layout?)
    (hok : sliceChunks? L idx = .ok R) (hK : isKnownL K = true) (hag : agrees K L = true) :
    ∃ R', sliceChunks? K idx = .ok R' ∧ isKnownL R' = true ∧ agrees R' R = true := by
  refine ⟨slicedChunks K idx, by simp [sliceChunks?, sliceGuard_known K idx hK], ?_⟩
  unfold sliceChunks? at hok
  cases hg : sliceGuard (shape? L) idx with
  | error e => rw [hg] at hok; cases hok
  | ok u =>
    rw [hg] at hok
    cases u
    rw [← Except.ok.inj hok]
    exact slicedChunks_parametric L K idx hK hag hg

/-- `_validate_rechunk`: acceptance does not depend on the unknown sizes — every completion `K`
of the source induces a completion of the target (the source's blocks on unknown axes, the
requested chunks elsewhere) of the same shape, which `_validate_rechunk` accepts as well.  (Again independence
of the verdict from the unknown sizes; nothing about rechunk always being accepted.) -/
theorem C28_guards_total_rechunk (old new K : Layout?)
    (hok : validateRechunk old new = .ok ()) (hK : isKnownL K = true) (hag : agrees K old = true) :
    isKnownL (completeNew K old new) = true ∧ agrees (completeNew K old new) new = true ∧
    shape? (completeNew K old new) = shape? K ∧
    validateLoop K (completeNew K old new) = .ok () := by
  have h := (validateRechunk_iff old new).mp hok
  exact validate_parametric old new K ((validateLoop_iff old new).mpr h.2) h.1 hK hag

/-- `_validate_rechunk` accepts iff on every axis either both lengths are known and equal, or both
are unknown and the chunk tuple is unchanged. -/
theorem C28_validateRechunk_iff (old new : Layout?) :
    validateRechunk old new = .ok () ↔
      old.length = new.length ∧ ∀ p ∈ old.zip new,
        ((∃ a, osum p.1 = some a ∧ osum p.2 = some a) ∨ (osum p.1 = none ∧ osum p.2 = none ∧ p.1 = p.2)) :=
  validateRechunk_iff old new

/-- the slicing guard refuses exactly an unknown axis indexed by anything but the full slice -/
theorem C28_sliceGuard_iff (dim : Option Nat) (dims : List (Option Nat)) (ind : Idx) (inds : List Idx) :
    sliceGuard (dim :: dims) (ind :: inds) = .ok () ↔
      ¬ (dim = none ∧ ind.isColon = false) ∧ sliceGuard dims inds = .ok () :=
  sliceGuard_cons_iff dim dims ind inds

/-- `take` proceeds iff the axis is known or has a single (unknown) block -/
theorem C28_takeGuard_iff (d : Dim?) :
    (∃ k, takeGuard d = .ok k) ↔ (hasNone d = false ∨ d.length = 1) := by
  unfold takeGuard
  cases h : hasNone d with
  | false => simp
  | true =>
    by_cases hl : d.length = 1
    · simp [hl]
    · simp [hl]

/-- once resolved (fully known chunks) the slicing guard refuses nothing -/
theorem C28_resolved_not_refused (K : Layout?) (idx : List Idx) (hK : isKnownL K = true) :
    sliceGuard (shape? K) idx = .ok () :=
  sliceGuard_known K idx hK

/-- PARTIAL: the unknown branch of `coarse_blockdim` only establishes that every operand has the
result's block COUNT (and that the result is one of the operands' tuples) … -/
theorem C28_unify_guard_partial (bd : List Dim?) (r : Dim?) (h : coarseBlockdim? bd = .ok r)
    (hr : hasNone r = true) : r ∈ bd ∧ ∀ d ∈ bd, d.length = r.length := by
  unfold coarseBlockdim? at h
  by_cases ht : anyTruthy bd = true
  · simp only [ht, Bool.not_true, Bool.false_eq_true, ↓reduceIte] at h
    cases hf : bd.filter hasNone with
    | nil =>
      rw [hf] at h
      simp only at h
      -- known branch: results are fully known
      cases hc : Dask.Unify.coarseBlockdim (bd.map toInts) with
      | error e => rw [hc] at h; cases h
      | ok v =>
        rw [hc] at h
        simp only [liftRes] at h
        injection h with h
        subst h
        have := isKnown_ofInts v
        rw [isKnown_iff_not_hasNone] at this
        rw [this] at hr; cases hr
    | cons u us =>
      rw [hf] at h
      simp only at h
      by_cases hall : (bd.all fun d => decide (d.length = u.length)) = true
      · simp only [hall, Bool.not_true, Bool.false_eq_true, ↓reduceIte] at h
        injection h with h
        subst h
        have hu : u ∈ bd.filter hasNone := by rw [hf]; exact List.mem_cons_self
        refine ⟨(List.mem_filter.mp hu).1, ?_⟩
        intro d hd
        have := List.all_eq_true.mp hall d hd
        simpa using this
      · simp only [hall, Bool.not_false, ↓reduceIte] at h
        cases h
  · have : anyTruthy bd = false := by simpa using ht
    simp only [this, Bool.not_false, ↓reduceIte] at h
    injection h with h
    subst h
    simp [hasNone] at hr

/-- … which is NOT parametric in the unknown sizes: `{(nan,nan),(3,1)}` is accepted with result
`(nan,nan)`, yet for the completion `(1,3)` of the unknown operand the known-size run answers
`(1,2,1)` — the blocks of the two operands do not line up.  (Reproduced on the real code:
harness/props/C28.py, signature `unknown-elemwise-positional-blocks`.) -/
theorem C28_unify_guard_not_parametric :
    coarseBlockdim? [[none, none], [some 3, some 1]] = .ok [none, none] ∧
    agreesDim [some 1, some 3] [none, none] = true ∧
    coarseBlockdim? [[some 1, some 3], [some 3, some 1]] = .ok [some 1, some 2, some 1] := by
  decide

/-! non-vacuity -/
example : sliceChunks? [[none, none], [some 2, some 3]] [.slice ⟨none, none, none⟩, .slice ⟨some 1, some 4, none⟩]
    = .ok [[none, none], [some 1, some 2]] := by decide +kernel
example : sliceChunks? [[none, none]] [.slice ⟨none, none, some (-1)⟩] = .error .valueError := by decide +kernel
example : sliceChunks? [[none, none]] [.int 0] = .error .valueError := by decide +kernel
example : sliceChunks? [[some 2, some 0, some 1]] [.slice ⟨none, none, some (-1)⟩] = .ok [[some 1, some 2]] := by decide +kernel
example : validateRechunk [[none, none], [some 2, some 3]] [[none, none], [some 5]] = .ok () := by decide +kernel
example : validateRechunk [[none, none]] [[none]] = .error .valueError := by decide +kernel
example : validateRechunk [[some 2, none]] [[none, some 2]] = .error .valueError := by decide +kernel
example : maskSelect [3, 3] [10, 11, 12, 13, 14, 15] [true, false, false, true, true, true] = [[10], [13, 14, 15]] := by decide +kernel
example : computeChunkSizes1 (maskSelect [2, 2, 1] [0, 1, 2, 3, 4] [true, true, false, false, true]) = [some 2, some 0, some 1] := by decide +kernel
example : maskPositions [2, 2, 1] [true, true, false, false, true] = [[0, 1], [], [4]] := by decide +kernel
example : commonBlockdim? [[none, none], [some 2, some 2]] = .error .valueError := by decide +kernel
example : coarseBlockdim? [[none, none], [some 4]] = .error .valueError := by decide +kernel

end Dask.Props.C28
