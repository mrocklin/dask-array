/-
C02 (extension "generic blockwise pushdown gates") — "Every fired rewrite preserves values": the slice and
integer-list take pushdowns through a GENERIC `Blockwise` (`Blockwise._accept_slice`, exact multi-operand
path, and `Blockwise._accept_shuffle`; dask_array/_blockwise.py).  Property theorems (assembled from
Lemmas/BlockwiseGate*.lean; the gate witnesses are closed and decided by the kernel) and non-vacuity examples.

Model: Model/BlockwiseGate.lean.  `BW` = a blockwise node over index labels (operands with label lists,
literals, non-array block arguments, `new_axes`, `adjust_chunks`, `align_arrays`, `concatenate`) whose block
function is abstracted by its meaning `f`; `den U bw` = what `compute()` assembles from the tasks
(`_lower`'s chunk alignment with the unified chunks `U` as an oracle parameter, `_compute_block_id`'s
`% numblocks`, contracted labels passed whole); `gate U bw idx` / `push U bw idx` = the Python conditions
branch by branch and the rewritten node; `applyIndex` = NumPy's meaning of the index.

The theorem's hypotheses, all explicit:
  * `bw.wfS` (decidable): distinct output labels, ranks agree, array operands only, single-chunk new axes that
    no operand carries, every output label carried, every axis carrying an output label has the label's
    length or length 1, no `adjust_chunks` (the node is then handled by the coarse path or by C01's
    contraction model — see "NOT covered" below);
  * `layoutOK U bw` (decidable): the chunks in force after `_lower` are consistent — for `align_arrays=True`
    a condition on the oracle `U` (C17's theorem), for `align_arrays=False` a condition on the operands' own
    chunks;
  * `indexOK` (decidable): what `normalize_index` / `take` hand over;
  * `LabelLocal bw.sig bw.f`: the block function commutes with every re-indexing of the output labels.  THIS is
    the hypothesis the code does not and cannot check (`C02g_nonlocal_witness`).

NOT covered (search only, harness/props_ext/c02_gate.py): the intended statement without the restrictions in `wfS` is

    ∀ bw idx p, LabelLocal bw.sig bw.f → push U bw idx = some p → [consistent layouts] →
      Arr.Equiv (denPushed U' p) (applyIndex _ (den U bw) idx)

for nodes WITH `adjust_chunks` labels (the index on other labels; e.g. the product node under `a @ b`) and with
non-array operands that do not carry the indexed label (`_accept_shuffle` lets those through).  Missing for it: the
meaning of such a node is blockwise along the adjusted labels (`den_eq_whole` has no whole-array form), the proof
needs the semi-blocked analogue of `den_eq_whole` plus "the rewrite leaves the chunks of the adjusted labels alone"
(for `align_arrays=True` a property of `unify_chunks` that C17 does not state).  The coarse path
(`_accept_slice_coarse`, an index ON an adjusted label) is not modelled.  For `align_arrays=False` the consistency of
the rewritten node's own chunks (`layoutOK U' p.bw`) is a decidable hypothesis; `C02g_unaligned_pairing` proves its
core (all operands get one chunking per indexed label), the "most blocks wins" bookkeeping of `Blockwise.chunks` on
top of it is left to the hypothesis.
-/
import DaskArrayModel.Lemmas.BlockwiseGateWitness
namespace Dask.Props.C02Gate
open Dask.Py Dask.ND Dask.BWG

/-- **Pushdown through a generic blockwise is sound.**  For every node whose block function is label-local,
every index (slices of any sign and step, integers, integer-list takes) on which the gate fires, every chunk
layout `U` of the node and `U'` of the rewritten node: the rewritten node is well-formed and computes NumPy's
index of what the node computes — in particular it has the advertised shape. -/
theorem C02g_push_sound (U U' : Nat → List Nat) (bw : BW) (idx : Index) (p : Pushed)
    (hwf : bw.wfS = true) (hlay : layoutOK U bw = true) (hf : LabelLocal bw.sig bw.f)
    (hidx : indexOK (outShape U bw) idx = true)
    (hgate : push U bw idx = some p) (hlay' : layoutOK U' p.bw = true) :
    p.bw.wfS = true ∧
    Arr.Equiv (denPushed U' p) (applyIndex bw.outInd.length (den U bw) idx) ∧
    (denPushed U' p).shape = (applyIndex bw.outInd.length (den U bw) idx).shape := by
  have hS := (wfS_iff bw).mp hwf
  have hL := (layoutOK_iff U bw).mp hlay
  cases idx with
  | basic index =>
    have h := push_sound_basic U U' bw hS hL hf index hidx p hgate ((layoutOK_iff U' p.bw).mp hlay')
    exact ⟨(wfS_iff p.bw).mpr h.1, h.2, h.2.1⟩
  | take axis indexer =>
    have h := push_sound_take U U' bw hS hL hf axis indexer hidx p hgate ((layoutOK_iff U' p.bw).mp hlay')
    exact ⟨(wfS_iff p.bw).mpr h.1, h.2, h.2.1⟩

/-- `gate` is "the rewrite fires" -/
theorem C02g_gate_iff (U : Nat → List Nat) (bw : BW) (idx : Index) :
    gate U bw idx = true ↔ ∃ p, push U bw idx = some p := by
  unfold gate; exact Option.isSome_iff_exists

/-- **Blocks assemble to the function of the whole operands**: for a label-local block function
`map_blocks(f, x, y, …)` / `blockwise(f, …)` is `f(x, y, …)`, whatever the (admissible) chunking. -/
theorem C02g_blocks_assemble (U : Nat → List Nat) (bw : BW)
    (hwf : bw.wfS = true) (hlay : layoutOK U bw = true) (hf : LabelLocal bw.sig bw.f) :
    Arr.Equiv (den U bw) (bw.f bw.wholes) :=
  den_eq_whole U bw ((wfS_iff bw).mp hwf) ((layoutOK_iff U bw).mp hlay) hf

/-- the class is inhabited: every elementwise function with NumPy broadcasting over labels (any arity, any
label pattern: ufuncs, `x + y.T`, outer products) is label-local -/
theorem C02g_elementwise_labelLocal (outInd : List Nat) (inds : List (List Nat)) (g : List Int → Int)
    (hsub : ∀ ind ∈ inds, ∀ l ∈ ind, l ∈ outInd) :
    LabelLocal ⟨outInd, inds, [], []⟩ (pwFn outInd inds g) :=
  pwFn_labelLocal outInd inds g hsub

/-- … and functions that FOLD a contracted label: the row sum `'ik' -> 'i'` (the task receives every block along
`k`) -/
theorem C02g_contracted_labelLocal : LabelLocal ⟨[0], [[0, 1]], [], []⟩ rowSumFn := by
  refine ⟨?_, ?_, ?_⟩
  · intro bs bs' hlen hE
    have hE0 : Arr.Equiv (bs.getD 0 dA) (bs'.getD 0 dA) := by
      by_cases h0 : 0 < bs.length
      · exact hE 0 h0
      · rw [getD_of_ge _ _ _ (by omega), getD_of_ge _ _ _ (by omega)]; exact Arr.Equiv.refl _
    refine ⟨congrArg (fun sh : List Nat => [sh.getD 0 0]) hE0.1, ?_⟩
    intro i _
    show isum _ = isum _
    rw [hE0.1]
    refine congrArg _ ?_
    apply rangeMap_congr
    intro k _
    exact getS_congr _ _ hE0 _
  · intro bs N h
    obtain ⟨t, k, ht, hk, hl, hn⟩ := h.carrier 0 ((pwSig_point [0] [[0, 1]] 0).mpr (List.mem_singleton.mpr rfl))
    have ht0 : t = 0 := Nat.lt_one_iff.mp ht
    subst ht0
    have hk2 : k < 2 := hk
    match k, hk2, hl, hn with
    | 0, _, _, hn => exact congrArg (fun n => [n]) hn
    | 1, _, hl, _ => exact absurd hl (by decide)
    | k + 2, h, _, _ => exact absurd h (by omega)
  · intro R bs N h hact hrange
    have hr : (bs.getD 0 dA).shape.length = 2 := (h.rank 0 Nat.zero_lt_one).symm
    have hact1 : R.act 1 = false := by
      rw [Bool.eq_false_iff]; intro h1
      exact absurd ((pwSig_point [0] [[0, 1]] 1).mp (hact 1 h1)) (by decide)
    exact rowSum_natural R N (bs.getD 0 dA) hr hact1 (fun h0 => hrange 0 h0)

/-- **What the `align_arrays=False` gate (`Gates.unaligned`) buys**: when the rewrite fires on an unaligned node, every
operand axis that carries an indexed label gets ONE and the same new chunking (the slice / regrouping of the node's
own chunks of that label), so blocks are still paired by position. -/
theorem C02g_unaligned_pairing (U : Nat → List Nat) (bw : BW) (idx : Index) (p : Pushed)
    (hwf : bw.wfS = true) (hlay : layoutOK U bw = true) (hidx : indexOK (outShape U bw) idx = true)
    (halign : bw.align = false) (hgate : push U bw idx = some p) (l : Nat) (hl : l ∈ indexedLabels bw idx) :
    ∃ c, ∀ o ∈ p.bw.ops, ∀ k, k < o.labels.length → o.labels.getD k 0 = l → o.chunks.getD k [] = c := by
  have hS := (wfS_iff bw).mp hwf
  cases idx with
  | basic index =>
    obtain ⟨hG, hbw, _⟩ := push_basic_unpack U bw index p hgate
    refine ⟨Dask.ND.sliceChunks1 ((outShape U bw).getD (bw.outInd.idxOf l) 0)
      ((outChunks U bw).getD (bw.outInd.idxOf l) [])
      (toSl ((fullIndex bw (index.filterMap id)).getD (bw.outInd.idxOf l) colonIx)), fun o' ho' k hk hlab => ?_⟩
    rw [hbw] at ho'
    obtain ⟨o, ho, rfl⟩ := List.mem_map.mp ho'
    rw [pushedOpd_labels] at hk hlab
    exact slice_pairing U bw hS _ (hG l (act_of_mem_slicedLabels bw hS.nodup _ l hl)) halign o ho k hk hlab
  | take axis indexer =>
    have hax := indexOK_take_axis U bw axis indexer hidx
    obtain ⟨hG, hone, hbw, _⟩ := push_take_unpack U bw hS.nodup axis hax indexer p hgate
    refine ⟨shuffleChunks ((outChunks U bw).getD axis []) indexer, fun o' ho' k hk hlab => ?_⟩
    rw [hbw] at ho'
    obtain ⟨o, ho, rfl⟩ := List.mem_map.mp ho'
    rw [pushedOpdT_labels] at hk hlab
    exact take_pairing U bw hS axis hax indexer hG hone halign o ho k hk (hlab.trans (List.mem_singleton.mp hl))

/-- the gate `Gates.broadcast` (`arg.shape[pos] != self.shape[out_pos]`), slice path: `a + b` with `b` of length 1,
`z[1:2]`.  The code declines; without the shape test the rewritten node denotes the EMPTY array instead of `[12]`. -/
theorem C02g_gate_necessary_broadcast :
    Wit.bwB.wfS = true ∧ layoutOK Wit.UB Wit.bwB = true ∧ indexOK (outShape Wit.UB Wit.bwB) Wit.idx12 = true ∧
    gate Wit.UB Wit.bwB Wit.idx12 = false ∧
    Wit.meaningList { broadcast := false } Wit.UB Wit.bwB Wit.idx12 = some ([0], []) ∧
    Wit.wantList Wit.UB Wit.bwB Wit.idx12 = ([1], [12]) := by decide +kernel

/-- the same gate on the take path: the same node, `z[[1, 0]]`: the broadcast operand would be read out of range -/
theorem C02g_gate_necessary_broadcast_take :
    indexOK (outShape Wit.UB Wit.bwB) Wit.take10 = true ∧ gate Wit.UB Wit.bwB Wit.take10 = false ∧
    Wit.meaningList { broadcast := false } Wit.UB Wit.bwB Wit.take10 = some ([2], [2, 11]) ∧
    Wit.wantList Wit.UB Wit.bwB Wit.take10 = ([2], [12, 11]) := by decide +kernel

/-- the gate `Gates.unaligned`: `map_blocks(lambda p, q: p + q.sum(), a, b)`, chunks `(1, 2)` vs `(2, 1)`, `z[1:]`.
Without the chunk test the operands become `(2,)` and `(1, 1)`: the node advertises chunks `(1, 1)` and both
blocks have length 2. -/
theorem C02g_gate_necessary_unaligned :
    gate Wit.U0 Wit.bwU Wit.idx1_ = false ∧
    (pushG { unaligned := false } Wit.U0 Wit.bwU Wit.idx1_).map (fun p =>
      (p.bw.ops.map (·.chunks), outChunks Wit.U0 p.bw,
        (blockOf Wit.U0 p.bw [0]).shape, (blockOf Wit.U0 p.bw [1]).shape)) =
      some ([[[2]], [[1, 1]]], [[1, 1]], [2], [2]) := by decide +kernel

/-- the gate `Gates.nonArray`: `store(…, return_stored=True)[1:]`.  Python raises when it indexes the
`ArraySliceDep`; even a block-argument re-created for the sliced chunks reads the target at other offsets. -/
theorem C02g_gate_necessary_nonarray :
    gate Wit.U0 Wit.bwN Wit.idx1_ = false ∧
    ((den Wit.U0 Wit.bwN).shape, (den Wit.U0 Wit.bwN).toList) = ([4], [100, 101, 102, 103]) ∧
    Wit.wantList Wit.U0 Wit.bwN Wit.idx1_ = ([3], [101, 102, 103]) ∧
    Wit.resList { nonArray := false } Wit.U0 Wit.U0 Wit.bwN Wit.idx1_ = some ([3], [100, 101, 102]) := by
  decide +kernel

/-- the gate `Gates.repeated`: `blockwise(diagonal, 'i', a, 'ii')[[1, 0]]`: one of the two axes is shuffled.  The
slice path indexes every axis that carries the label and needs no such gate. -/
theorem C02g_gate_necessary_repeated_label :
    gate Wit.U0 Wit.bwD Wit.take10 = false ∧
    Wit.wantList Wit.U0 Wit.bwD Wit.take10 = ([2], [3, 0]) ∧
    Wit.resList { repeated := false } Wit.U0 Wit.U0 Wit.bwD Wit.take10 = some ([2], [2, 1]) ∧
    gate Wit.U0 Wit.bwD Wit.idx12 = true ∧
    Wit.resList {} Wit.U0 Wit.U0 Wit.bwD Wit.idx12 = some (Wit.wantList Wit.U0 Wit.bwD Wit.idx12) := by
  decide +kernel

/-- the gate `Gates.concat`: the per-chunk pieces of `x[dask_int_array]` advertise two labels and have one
axis; without the gate they are indexed with two items ("too many indices for array") -/
theorem C02g_gate_necessary_concat :
    gate Wit.U0 Wit.bwC Wit.idx12 = false ∧
    Wit.tooManyIndices { concat := false } Wit.U0 Wit.bwC [some (.slc ⟨some 1, some 2, none⟩)] = true := by
  decide +kernel

/-- **The hypothesis the code does not check** (known finding `slice-through-generic-blockwise`):
`x.map_blocks(np.cumsum)[1:3]` on `ones(4)` with chunks `(2, 2)`.  Every gate passes, every decidable
hypothesis of `C02g_push_sound` holds before and after, and the rewritten node computes `[1, 1]` where
`[2, 1]` is due. -/
theorem C02g_nonlocal_witness :
    Wit.bwCum.wfS = true ∧ layoutOK Wit.U0 Wit.bwCum = true ∧
    indexOK (outShape Wit.U0 Wit.bwCum) Wit.idx13 = true ∧
    gate Wit.U0 Wit.bwCum Wit.idx13 = true ∧
    (pushG {} Wit.U0 Wit.bwCum Wit.idx13).map (fun p => (p.bw.wfS, layoutOK Wit.U0 p.bw)) = some (true, true) ∧
    Wit.resList {} Wit.U0 Wit.U0 Wit.bwCum Wit.idx13 = some ([2], [1, 1]) ∧
    Wit.wantList Wit.U0 Wit.bwCum Wit.idx13 = ([2], [2, 1]) := by decide +kernel

/-- … hence the per-block `cumsum` is not label-local: `LabelLocal` is exactly what separates it -/
theorem C02g_cumsum_not_labelLocal : ¬ LabelLocal Wit.bwCum.sig Wit.bwCum.f := by
  intro hf
  obtain ⟨h1, h2, h3, h4, h5, h6, h7⟩ := C02g_nonlocal_witness
  obtain ⟨p, hp⟩ := (C02g_gate_iff _ _ _).mp h4
  have hp' : pushG {} Wit.U0 Wit.bwCum Wit.idx13 = some p := hp
  rw [hp'] at h5
  simp only [Option.map_some, Option.some.injEq, Prod.mk.injEq] at h5
  have hE := (C02g_push_sound Wit.U0 Wit.U0 Wit.bwCum Wit.idx13 p h1 h2 hf h3 hp h5.2).2.1
  have hl := Arr.Equiv.toList_eq hE
  simp only [Wit.resList, hp', Option.map_some, Option.some.injEq, Prod.mk.injEq] at h6
  simp only [Wit.wantList, Prod.mk.injEq] at h7
  rw [h6.2, h7.2] at hl
  exact absurd hl (by decide)

/-- the decidable hypotheses of `C02g_push_sound` about the node and the index (`hwf`, `hlay`, `hidx`, `hgate`) hold
together on a concrete two-operand node with a broadcast operand (`a[2,3] + b[3]`, labels `ij` / `j`), a
negative-step slice with an integer, and the rewritten node computes the NumPy value.  Not among the conjuncts:
`layoutOK U' p.bw` (false for the `fun _ => [1, 2]` used here; `fun l => if l = 0 then [1] else [1, 2]` has it)
and `LabelLocal`, which the next example shows for another node. -/
example :
    let bw : BW :=
      { f := pwFn [0, 1] [[0, 1], [1]] Wit.addG
        outInd := [0, 1]
        ops := [{ arr := Wit.arr2 [[1, 2, 3], [4, 5, 6]], chunks := [[1, 1], [2, 1]], ind := some [0, 1] },
                { arr := Wit.arr1 [10, 20, 30], chunks := [[3]], ind := some [1] }] }
    let U : Nat → List Nat := fun l => if l = 0 then [1, 1] else [2, 1]
    let idx : Index := .basic [some (.int 1), some (.slc ⟨none, none, some (-1)⟩)]
    bw.wfS = true ∧ layoutOK U bw = true ∧ indexOK (outShape U bw) idx = true ∧ gate U bw idx = true ∧
    Wit.wantList U bw idx = ([3], [36, 25, 14]) ∧
    Wit.resList {} U (fun _ => [1, 2]) bw idx = some ([3], [36, 25, 14]) := by decide +kernel

example : LabelLocal Wit.bwB.sig Wit.bwB.f := Wit.bwB_labelLocal

/-- a node with a CONTRACTED label over several blocks (`'ik' -> 'i'`, `concatenate` falsy): the gate fires for a
stepped slice and the rewritten node computes the NumPy value -/
example :
    let bw : BW :=
      { f := rowSumFn
        outInd := [0]
        align := false
        ops := [{ arr := Wit.arr2 [[1, 2, 3], [4, 5, 6], [7, 8, 9]], chunks := [[2, 1], [1, 2]], ind := some [0, 1] }] }
    let idx : Index := .basic [some (.slc ⟨none, none, some 2⟩)]
    bw.wfS = true ∧ layoutOK Wit.U0 bw = true ∧ indexOK (outShape Wit.U0 bw) idx = true ∧ gate Wit.U0 bw idx = true ∧
    (pushG {} Wit.U0 bw idx).map (fun p => layoutOK Wit.U0 p.bw) = some true ∧
    Wit.wantList Wit.U0 bw idx = ([2], [6, 24]) ∧
    Wit.resList {} Wit.U0 Wit.U0 bw idx = some ([2], [6, 24]) := by decide +kernel


/-- a take on an unaligned node (`align_arrays=False`, equal chunks): the gate fires -/
example :
    let bw : BW :=
      { f := pwFn [0] [[0], [0]] Wit.addG
        outInd := [0]
        align := false
        ops := [{ arr := Wit.arr1 [1, 2, 3], chunks := [[2, 1]], ind := some [0] },
                { arr := Wit.arr1 [10, 20, 30], chunks := [[2, 1]], ind := some [0] }] }
    let idx : Index := .take 0 [[2, 0], [2]]
    bw.wfS = true ∧ layoutOK Wit.U0 bw = true ∧ indexOK (outShape Wit.U0 bw) idx = true ∧
    gate Wit.U0 bw idx = true ∧
    (pushG {} Wit.U0 bw idx).map (fun p => layoutOK Wit.U0 p.bw) = some true ∧
    Wit.resList {} Wit.U0 Wit.U0 bw idx = some (Wit.wantList Wit.U0 bw idx) := by decide +kernel

end Dask.Props.C02Gate
