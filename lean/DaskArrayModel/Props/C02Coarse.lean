/-
C02 (extension) — the COARSE slice pushdown through a `Blockwise` with `adjust_chunks`
(`Blockwise._accept_slice_coarse`, dask_array/_blockwise.py) preserves values.
Model: Model/CoarseSlice.lean (see its header for the Python ↔ Lean table).  The property theorems with their final
assembly (the steps are in Lemmas/CoarseSlice*.lean) and non-vacuity examples.
-/
import DaskArrayModel.Lemmas.CoarseSliceNode
import DaskArrayModel.Lemmas.CoarseSliceAlign
namespace Dask.Props.C02Coarse
open Dask.Py Dask.Py.PySlice Dask.Slicing Dask.Coarse Dask.Lemmas.Coarse

/-- **Soundness, n-d, every block-to-block function.**  For every `F` (what a task computes from the blocks it
receives — dask assumes nothing else about `func`), every operand (arbitrary contents, arbitrary chunks `≥ 0`, any
labels incl. contracted ones and literals), every advertised output chunking `oc`, every index on which the rule fires
(`acceptCoarse … = some r`): at every result coordinate inside the selection, indexing the original node gives what
the rewritten expression (new `Blockwise` over whole-block slices of the operands, kept `adjust_chunks` entries,
adjustment on top) gives.  Hypotheses (all decidable well-formedness): chunks `≥ 0`, one chunk tuple per output label,
NumPy-valid index.  Nothing is assumed about what slicing an operand keeps: the fired rule passed
`0 in arg.chunks[dim_idx]` on every sliced operand axis, and positive chunks give it
(`C02c_keeps_of_pos`). -/
theorem C02c_accept_sound {α β : Type} (F : List (List Nat → Blk α) → List Int → β) (outInd : List Nat)
    (ops : List (Operand α)) (adjust : List (Nat × AdjKind)) (newAxes : List (Nat × List Int))
    (oc : List (List Int)) (idx : List Idx) (r : Result)
    (h : acceptCoarse ⟨outInd, ops.map Operand.toOpd, adjust, newAxes⟩ oc idx = some r)
    (hoc : ∀ cs ∈ oc, ∀ c ∈ cs, 0 ≤ c) (hlen : oc.length = outInd.length) (hil : idx.length ≤ outInd.length)
    (hok : idxsOK oc (fullIndex idx outInd.length) = true)
    (hnn : ∀ q ∈ chunkPairs (ops.map Operand.toOpd), ∀ c ∈ q.2, 0 ≤ c)
    (q : List Nat) (hql : q.length = outInd.length) (hq : inSels oc (fullIndex idx outInd.length) q = true) :
    indexDen (bwDen F outInd ops oc) (oc.map isum) (fullIndex idx outInd.length) q
      = rewrittenDen F outInd ops (keptOut oc r.plans) r q :=
  have h0 := acceptCoarse_le _ oc idx r h
  accept_sound F outInd ops adjust newAxes oc idx r h0 hoc hlen hil hok (keepsAll_of_accept h0 hoc hok hnn) q hql hq

/-- The statement the proof goes through: the rule still has to fire, but instead of chunks `≥ 0` on the operands it
assumes `keepsAll` of the result (slicing an operand to whole blocks keeps exactly those blocks).  The proof does not use
the zero-width gate; without that gate `keepsAll` can fail (`C02c_zero_width_operand_witness`). -/
theorem C02c_accept_sound_keeps {α β : Type} (F : List (List Nat → Blk α) → List Int → β) (outInd : List Nat)
    (ops : List (Operand α)) (adjust : List (Nat × AdjKind)) (newAxes : List (Nat × List Int))
    (oc : List (List Int)) (idx : List Idx) (r : Result)
    (h : acceptCoarse ⟨outInd, ops.map Operand.toOpd, adjust, newAxes⟩ oc idx = some r)
    (hoc : ∀ cs ∈ oc, ∀ c ∈ cs, 0 ≤ c) (hlen : oc.length = outInd.length) (hil : idx.length ≤ outInd.length)
    (hok : idxsOK oc (fullIndex idx outInd.length) = true)
    (hkeep : keepsAll outInd r.plans (ops.map Operand.toOpd) = true)
    (q : List Nat) (hql : q.length = outInd.length) (hq : inSels oc (fullIndex idx outInd.length) q = true) :
    indexDen (bwDen F outInd ops oc) (oc.map isum) (fullIndex idx outInd.length) q
      = rewrittenDen F outInd ops (keptOut oc r.plans) r q :=
  accept_sound F outInd ops adjust newAxes oc idx r (acceptCoarse_le _ oc idx r h) hoc hlen hil hok hkeep q hql hq

/-- Slicing an axis with positive chunks to the whole blocks `first..last` (`normalize_slice` + `new_blockdim`) keeps
exactly those blocks. -/
theorem C02c_keeps_of_pos (ic : List Int) (hpos : ∀ c ∈ ic, 0 < c) (f l : Nat) (hfl : f ≤ l) (hl : l < ic.length) :
    sliceKeeps ic f l = true :=
  sliceKeeps_of_pos ic hpos f l hfl hl

/-- Why the position-wise meaning `bwDen` is "assemble (F blocks)": in 1-d, reading position `p` of the concatenation
of the blocks is reading, in the block `k` that `_slice_1d` finds for `p` on the chunks `len(block_k)`, the offset it
finds. -/
theorem C02c_den_is_assemble_1d {β : Type} (blocks : List (List β)) (p : Int) (h0 : 0 ≤ p)
    (h1 : p < isum (lens blocks)) :
    (blocks.flatten)[p.toNat]?
      = (blocks.getD (slice1dInt (lens blocks) p).1 [])[(slice1dInt (lens blocks) p).2.toNat]? := by
  obtain ⟨ib, e⟩ := Dask.Lemmas.Slice1dPos.slice1dInt_inBlock (lens blocks) h0 h1
  obtain ⟨n, rfl⟩ := Int.eq_ofNat_of_zero_le h0
  rw [e, Int.toNat_natCast]
  exact Dask.Layout.flatten_get blocks _ n ib

/-- One axis of it, in terms of positions: the source position `p` of result coordinate `q` lies in block `k` of the
output at offset `o`; the position the top adjustment reads lies in block `k - first` of the kept blocks at the same
offset `o`; and `first ≤ k ≤ last`. -/
theorem C02c_axis_sound (oc : List Int) (hoc : ∀ c ∈ oc, 0 ≤ c) (idx : Idx) (hidx : idxOK (isum oc) idx = true)
    (pl : AxisPlan) (h : acceptAxis oc idx = some pl) (q : Nat) (hq : inSel (isum oc) idx q = true) :
    brOK oc.length pl ∧
    (slice1dInt oc (srcPos1 (isum oc) idx q)).1
      = (slice1dInt (keptOut1 oc pl) (srcPos1 (isum (keptOut1 oc pl)) pl.adj.toIdx q)).1 + first1 pl ∧
    (slice1dInt oc (srcPos1 (isum oc) idx q)).2
      = (slice1dInt (keptOut1 oc pl) (srcPos1 (isum (keptOut1 oc pl)) pl.adj.toIdx q)).2 ∧
    (∀ f l, pl.br = some (f, l) →
      (slice1dInt (keptOut1 oc pl) (srcPos1 (isum (keptOut1 oc pl)) pl.adj.toIdx q)).1 ≤ l - f) :=
  acceptAxis_sound oc hoc idx hidx pl h q hq

/-- `find_block_range` (the `searchsorted` arithmetic), all answers: out of bounds (`(None, None)`) exactly when `start`
is at or beyond the end; the *empty* answer `last = first - 1` for `stop ≤ start` inside the axis; otherwise
`first..last` is exactly the set of blocks that meet `[start, stop)` (zero-width blocks at the edges are skipped). -/
theorem C02c_findBlockRange_spec (cs : List Int) (h : ∀ c ∈ cs, 0 ≤ c) (start stop : Int) (h0 : 0 ≤ start) :
    (findBlockRange (cum0 cs) start stop = none ↔ isum cs ≤ start) ∧
    (start < isum cs → stop ≤ start →
      ∃ f : Nat, findBlockRange (cum0 cs) start stop = some (f, (f : Int) - 1) ∧ f < cs.length) ∧
    (start < stop → stop ≤ isum cs →
      ∃ f l : Nat, findBlockRange (cum0 cs) start stop = some (f, (l : Int)) ∧ f ≤ l ∧ l < cs.length ∧
        ∀ k, (f ≤ k ∧ k ≤ l) ↔ (blockStart cs k < stop ∧ start < blockStart cs (k + 1))) := by
  refine ⟨findBlockRange_none_iff cs h start stop h0, ?_, ?_⟩
  · intro h1 h2
    have hb := (Dask.Layout.inBlock_bisect cs h0 h1).lt
    exact ⟨_, by rw [findBlockRange_of_empty cs start stop h2, if_neg (by omega)], hb⟩
  · intro h1 h2
    obtain ⟨f, l, hfb, r⟩ := findBlockRange_inside cs h start stop h0 h1 h2
    exact ⟨f, l, hfb, r.le, r.last.lt, range_iff_intersects h r⟩

/-- What firing on a sliced axis means: unit step, non-empty selection, kept range = the blocks of `start` and
`stop - 1`, adjustment relative to the first kept block (`slice(None)` iff the selection is the whole kept range). -/
theorem C02c_axis_fires (oc : List Int) (hoc : ∀ c ∈ oc, 0 ≤ c) (s : PySlice) (hc : s ≠ colon) (pl : AxisPlan)
    (h : acceptAxis oc (.slc s) = some pl) :
    s.stp = 1 ∧ s.istart (isum oc) < s.istop (isum oc) ∧
    ∃ f l : Nat, pl.br = some (f, l) ∧ f ≤ l ∧ l < oc.length ∧
      blockStart oc f ≤ s.istart (isum oc) ∧ s.istart (isum oc) < blockStart oc (f + 1) ∧
      blockStart oc l ≤ s.istop (isum oc) - 1 ∧ s.istop (isum oc) - 1 < blockStart oc (l + 1) ∧
      pl.adj = (if s.istart (isum oc) - blockStart oc f = 0 ∧
                   s.istop (isum oc) - blockStart oc f = blockStart oc (l + 1) - blockStart oc f
                then Adj.colon
                else Adj.rng (s.istart (isum oc) - blockStart oc f) (s.istop (isum oc) - blockStart oc f)) :=
  let ⟨f, l, w⟩ := acceptAxis_slc oc hoc s hc pl h
  ⟨w.unit, w.nonempty, f, l, w.br, w.range.le, w.range.last.lt, w.range.first.start_le, w.range.first.lt_next, w.range.last.start_le,
    w.range.last.lt_next, w.adj⟩

/-- The per-axis declines: a step other than 1, and every empty selection (inside, at the end of, or beyond the axis). -/
theorem C02c_axis_declines (oc : List Int) (hoc : ∀ c ∈ oc, 0 ≤ c) (s : PySlice) (hc : s ≠ colon) :
    (s.stp ≠ 1 → acceptAxis oc (.slc s) = none) ∧
    (s.istop (isum oc) ≤ s.istart (isum oc) → acceptAxis oc (.slc s) = none) := by
  constructor
  · intro hs
    cases h : acceptAxis oc (.slc s) with
    | none => rfl
    | some pl =>
      obtain ⟨_, _, w⟩ := acceptAxis_slc oc hoc s hc pl h
      exact absurd w.unit hs
  · intro he
    cases h : acceptAxis oc (.slc s) with
    | none => rfl
    | some pl =>
      obtain ⟨_, _, w⟩ := acceptAxis_slc oc hoc s hc pl h
      exact absurd w.nonempty (Int.not_lt.mpr he)

/-- The operand-level declines: an operand without `_meta` that carries labels (`ArraySliceDep`, `block_info`'s
`ArrayValuesDep`), and any operand on which the loop over `arg_ind` bails out on its own (broadcast axis or zero-width
chunk, `opAxisSlice`); the third gate, which depends on the operands seen before, is in `C02c_operand_axis_gates`. -/
theorem C02c_operand_declines (n : Node) (oc : List (List Int)) (idx : List Idx) (o : Opd) (ho : o ∈ n.ops) :
    (o.ind.isSome = true → o.isArr = false → acceptCoarse n oc idx = none) ∧
    (∀ plans ind, axisPlans oc (fullIndex idx n.outInd.length) = some plans → o.ind = some ind →
      opAxesSlices n.outInd plans (oc.map List.length) ind o.chunks = none → acceptCoarse n oc idx = none) :=
  ⟨fun h1 h2 => acceptCoarse_none_of_0 n oc idx ((operand_declines n oc idx o ho).1 h1 h2),
   fun plans ind hp hi hsl => acceptCoarse_none_of_0 n oc idx ((operand_declines n oc idx o ho).2 plans ind hp hi hsl)⟩

/-- The three gates of one operand axis (with the running `label_chunks` `lc`), as an equivalence: the label is sliced
to a block range and the axis has another block count than the output (broadcast), or a zero-width chunk, or other
chunks than the first sliced operand axis seen for this label. -/
theorem C02c_operand_axis_gates (outInd : List Nat) (plans : List AxisPlan) (nb : List Nat) (lc : LabelChunks)
    (lab : Nat) (ic : List Int) :
    opAxisSliceS outInd plans nb lc lab ic = none ↔
      (outInd.contains lab = true ∧ (plans.getD (outInd.idxOf lab) ⟨none, .colon⟩).br ≠ none ∧
        (ic.length ≠ nb.getD (outInd.idxOf lab) 0 ∨ ic.contains 0 = true ∨
          ∃ ref, lc.lookup lab = some ref ∧ ref ≠ ic)) := by
  rw [← and_assoc, show (outInd.contains lab = true ∧ (plans.getD (outInd.idxOf lab) ⟨none, .colon⟩).br ≠ none)
    = Sliced outInd plans lab from rfl, sliced_iff]
  -- every way the axis can go: it declines in `broadcast`, `zero`, and where `cut` meets other chunks under the label
  have st := axisStep outInd plans nb lc lab ic
  generalize opAxisSlice outInd plans nb lab ic = a at st
  generalize opAxisSliceS outInd plans nb lc lab ic = b at st
  cases st with
  | uncut hbr => exact ⟨fun e => (nomatch e), fun e => absurd hbr e.1⟩
  | broadcast f l hbr hg => exact ⟨fun _ => ⟨fun e => (nomatch hbr.symm.trans e), Or.inl hg⟩, fun _ => rfl⟩
  | zero f l hbr hg hz => exact ⟨fun _ => ⟨fun e => (nomatch hbr.symm.trans e), Or.inr (Or.inl hz)⟩, fun _ => rfl⟩
  | cut f l _ hbr hg hz hb =>
    rcases hb with ⟨ref, hl, hr, rfl⟩ | ⟨hl, rfl⟩ | ⟨hl, rfl⟩
    · exact ⟨fun _ => ⟨fun e => (nomatch hbr.symm.trans e), Or.inr (Or.inr ⟨ref, hl, hr⟩)⟩, fun _ => rfl⟩
    · refine ⟨fun e => (nomatch e), fun e => ?_⟩
      rcases e.2 with c | c | ⟨ref, c, c'⟩
      · exact absurd hg c
      · exact nomatch hz.symm.trans c
      · exact absurd (Option.some.inj (c.symm.trans hl)) c'
    · refine ⟨fun e => (nomatch e), fun e => ?_⟩
      rcases e.2 with c | c | ⟨ref, c, _⟩
      · exact absurd hg c
      · exact nomatch hz.symm.trans c
      · exact nomatch hl.symm.trans c

/-- The cross-operand gate (`label_chunks`) only declines: where the rule fires, the rule without the gate fires with the same
result (so everything proved from the per-operand gates carries over). -/
theorem C02c_aligned_gate_only_declines (n : Node) (oc : List (List Int)) (idx : List Idx) (r : Result)
    (h : acceptCoarse n oc idx = some r) : acceptCoarse0 n oc idx = some r :=
  acceptCoarse_le n oc idx r h

/-- What it guarantees: when the rule fires, any two sliced operand axes carrying the same label have EQUAL chunks — one
block range selects the same positions of each. -/
theorem C02c_fired_aligned (n : Node) (oc : List (List Int)) (idx : List Idx) (r : Result)
    (h : acceptCoarse n oc idx = some r) :
    ∀ q ∈ chunkPairs n.ops, ∀ q' ∈ chunkPairs n.ops, q.1 = q'.1 → Sliced n.outInd r.plans q.1 → q.2 = q'.2 := by
  obtain ⟨_, _, lc, hs⟩ := acceptCoarse_some h
  -- `label_chunks` after the operand loop holds the chunks of every sliced operand axis under its label
  have reg := (opsSlicesS_spec n.outInd r.plans _ [] lc n.ops r.opSlices hs).2.reg
  intro q hq q' hq' hlab hsl
  have e1 := reg q hq hsl
  have e2 := reg q' hq' (by rw [← hlab]; exact hsl)
  rw [← hlab, e1] at e2
  exact Option.some.inj e2

/-- **Witness: the empty-range declines are necessary.**  For `z[1:1]` on chunks
`(2, 2)` `find_block_range` gives the empty answer `(0, -1)` and the rule declines; without this guard it builds a node
(`preFixEmptyNode`: operands sliced to `slice(0, 0)`, `adjust_chunks` kept) that is ill-formed for a tuple value (`Blockwise.chunks` raises) and for
`adjust_chunks = 1` advertises one element where the selection is empty. -/
theorem C02c_empty_range_witness :
    findBlockRange (cum0 [2, 2]) 1 1 = some (0, -1) ∧
    (acceptCoarse wTuple [[2, 2]] [.slc ⟨some 1, some 1, none⟩]).isNone = true ∧
    nodeChunks wTuple = some [[2, 2]] ∧ nodeChunks (preFixEmptyNode wTuple) = none ∧
    (acceptCoarse wConst [[1, 1]] [.slc ⟨some 1, some 1, none⟩]).isNone = true ∧
    nodeChunks (preFixEmptyNode wConst) = some [[1]] ∧ (sel ⟨some 1, some 1, none⟩ 2).length = 0 := by
  decide +kernel

/-- **Witness: the broadcast decline is necessary.**  An operand axis with ONE block against an output label with two
blocks: the rule declines.  Without this guard the code would read `in_cumsum[2]` of a two-entry list (IndexError); the
model's `getD … 0` makes it the slice `[1:0]`, which selects nothing of the operand although block 1 of the output is
computed from the operand's only block. -/
theorem C02c_broadcast_witness :
    opAxisSlice [0] [⟨some (1, 1), .colon⟩] [2] 0 [1] = none ∧
    (acceptCoarse ⟨[0], [⟨true, some [0], [[1, 1]]⟩, ⟨true, some [0], [[1]]⟩], [(0, .const 1)], []⟩ [[1, 1]]
      [.slc ⟨some 1, some 2, none⟩]).isNone = true ∧
    sel ⟨some ((cum0 [1]).getD 1 0), some ((cum0 [1]).getD 2 0), none⟩ 1 = [] := by
  decide +kernel

/-- **Witness: the zero-width decline is necessary.**  An operand with a zero-width chunk
inside the kept range (`x.chunks = (1, 2, 0, 3)`, `map_blocks(f, x, chunks=((1, 1, 1, 1),))[1:3]`): the rule declines
(also when the empty block lies outside the kept range: `[0:1]`).  Without this guard it builds a node — output blocks 1..2, two
`adjust_chunks` entries, operand `x[1:3]` — that is ill-formed: `x[1:3]` has ONE block (`new_blockdim` drops the empty block),
`keepsAll` fails and `Blockwise.chunks` raises "adjust_chunks specified with 2 blocks". -/
theorem C02c_zero_width_operand_witness :
    (acceptCoarse wZero [[1, 1, 1, 1]] [.slc ⟨some 1, some 3, none⟩]).isNone = true ∧
    (acceptCoarse wZero [[1, 1, 1, 1]] [.slc ⟨some 0, some 1, none⟩]).isNone = true ∧
    (axisPlans [[1, 1, 1, 1]] [.slc ⟨some 1, some 3, none⟩]).any (fun ps => ps.map (·.br) == [some (1, 2)]) = true ∧
    keepsAll wZero.outInd [⟨some (1, 2), .colon⟩] wZero.ops = false ∧
    nodeChunks (rewritten wZero ⟨[⟨some (1, 2), .colon⟩], [some [some (1, 3)]], [(0, .tuple [1, 1])]⟩) = none ∧
    opChunksAfter [1, 2, 0, 3] (some (1, 3)) = [2] ∧ keptChunks [1, 2, 0, 3] 1 2 = [2, 0] := by
  decide +kernel

/-- **Witness: the aligned-operands decline is necessary.**  Two operands with equal block
counts and other boundaries on the sliced label, chunks `(2, 2, 3)` and `(3, 3, 1)` (`align_arrays=True` has not aligned
them yet), `adjust_chunks = 1`, `z[1:3]`: the rule declines; without the gate it keeps blocks 1..2 of both, the slices
`[2:7]` and `[3:7]` — operands of lengths 5 and 4 under one label. -/
theorem C02c_unaligned_operands_witness :
    (acceptCoarse wUnaligned [[1, 1, 1]] [.slc ⟨some 1, some 3, none⟩]).isNone = true ∧
    (acceptCoarse0 wUnaligned [[1, 1, 1]] [.slc ⟨some 1, some 3, none⟩]).any
      (fun r => r.plans.map (·.br) == [some (1, 2)] &&
        r.opSlices == [some [some (2, 7)], some [some (3, 7)]]) = true ∧
    isum (opChunksAfter [2, 2, 3] (some (2, 7))) = 5 ∧ isum (opChunksAfter [3, 3, 1] (some (3, 7))) = 4 ∧
    -- equal chunks: fires
    (acceptCoarse ⟨[0], [⟨true, some [0], [[2, 2, 3]]⟩, ⟨true, some [0], [[2, 2, 3]]⟩], [(0, .const 1)], []⟩ [[1, 1, 1]]
      [.slc ⟨some 1, some 3, none⟩]).isSome = true := by
  decide +kernel

/-! non-vacuity: a 2-d node with two operands (one carrying a contracted label), ragged chunks, tuple and int
`adjust_chunks`; an index with a slice and a negative integer: the rule fires and every hypothesis of
`C02c_accept_sound` holds. -/
def exOps : List Opd :=
  [⟨true, some [0, 1], [[2, 3, 1], [4, 2]]⟩, ⟨true, some [1, 7], [[4, 2], [5]]⟩, ⟨true, none, []⟩]
def exNode : Node := ⟨[0, 1], exOps, [(0, .tuple [1, 2, 2]), (1, .const 3)], []⟩
def exIdx : List Idx := [.slc ⟨some 2, some 4, none⟩, .int (-2)]

example : nodeChunks exNode = some [[1, 2, 2], [3, 3]] := by decide +kernel
example : (acceptCoarse exNode [[1, 2, 2], [3, 3]] exIdx).any (fun r =>
    r.plans == [⟨some (1, 2), .rng 1 3⟩, ⟨some (1, 1), .int 1⟩]
    && r.opSlices == [some [some (2, 6), some (4, 6)], some [some (4, 6), none], none]
    && keepsAll exNode.outInd r.plans exOps
    && nodeChunks (rewritten exNode r) == some [[2, 2], [3]]) = true := by decide +kernel
example : idxsOK [[1, 2, 2], [3, 3]] (fullIndex exIdx 2) = true ∧ inSels [[1, 2, 2], [3, 3]] (fullIndex exIdx 2) [1, 0] = true := by
  decide +kernel
example : ∀ q ∈ chunkPairs exOps, ∀ c ∈ q.2, (0 : Int) ≤ c := by decide +kernel
example : findBlockRange (cum0 [0, 2, 0, 3]) 0 3 = some (1, 3) ∧ findBlockRange (cum0 [2, 3]) 5 6 = none := by decide +kernel

end Dask.Props.C02Coarse
