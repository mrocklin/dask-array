/-
C20 (extension) — the payload a FUSED map_blocks call looks up is the block's own.  The property
theorems (the steps are in Lemmas/BlockInfoFused.lean) and non-vacuity examples.
-/
import DaskArrayModel.Lemmas.BlockInfoFused
namespace Dask.Props.C20Fused
open Dask.BlockInfo Dask.Lemmas.BlockInfoFused

/-- On the per-block task path (`Blockwise._task`, taken when the call is fused with a neighbour) the
`block_info` / `block_id` payload for output block `bid` is read at grid position `bid` itself,
provided no label of the Blockwise's own `new_axes` is an output label of the payload (the
payload-injecting Blockwise that `map_blocks` builds carries no `new_axes` at all). -/
theorem C20_task_lookup (outInd newAxes : List Nat) (outChunks : Layout) (bid : List Nat)
    (hn : outInd.Nodup) (hl : outInd.length = bid.length) (hv : validBid outChunks bid = true)
    (hd : ∀ l ∈ newAxes, l ∉ outInd) :
    taskPayloadId outInd newAxes outChunks bid = some bid :=
  computeBlockId_id _ outInd bid outChunks hl hv (idxToBlock_id outInd newAxes bid hn hd)

/-- … hence the `block_info[None]` a fused call receives names its own chunk-location, and with
`C20_block_info` its own array-location and chunk-shape. -/
theorem C20_task_output_info (outInd : List Nat) (outChunks : Layout) (bid : List Nat)
    (hn : outInd.Nodup) (hl : outInd.length = bid.length) (hv : validBid outChunks bid = true) :
    taskOutputInfo outInd [] outChunks bid = some (outputInfo outChunks bid) ∧
    (outputInfo outChunks bid).chunkLocation = bid := by
  refine ⟨?_, rfl⟩
  simp [taskOutputInfo, C20_task_lookup outInd [] outChunks bid hn hl hv (by simp)]

example : taskPayloadId [1, 0] [] [[2, 2], [3, 3]] [1, 1] = some [1, 1] := by decide +kernel
/-- the broken variant "the payload-injecting Blockwise also carries new_axes": every block along the
created axis reads the payload of block 0 -/
example : taskPayloadId [1, 0] [1] [[2, 2], [3, 3]] [1, 1] = some [0, 1] := by decide +kernel
example : (taskOutputInfo [1, 0] [1] [[2, 2], [3, 3]] [1, 1]).map (·.chunkLocation) ≠ some [1, 1] := by decide +kernel

end Dask.Props.C20Fused
