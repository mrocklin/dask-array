/-
C19 (extension "the map_overlap pipeline is the global stencil") — the DEFINITION of `overlap` / `map_overlap`
(dask_array/_overlap.py): rechunk → `boundaries` → `overlap_internal` → `chunk.trim` → `map_blocks(func)` →
`trim_internal`.  The property theorems (with their final assembly; the steps are in Lemmas/OverlapPipe.lean,
Lemmas/OverlapPipeND.lean, Lemmas/OverlapPipeGuard.lean) and non-vacuity examples.

Model: Model/OverlapPipe.lean (`cut`, `boundaryBlocks`, `extBlock` / `overlapInternal`, `chunkTrim`, `trimBlock` /
`trimInternal`, `pipeline`; per-axis index map `axisSrc` and its product `pipelineND`).  The global meaning
`mapOverlap1 g b dl dr x = g (padB b dl dr x)`, `WinLocal`, `padSrc`, `padND`, `mapOverlapND` are those of
Model/OverlapSlice.lean / Model/OverlapSliceND.lean (package `ovs`; Props/C02Overlap.lean proves the slice rule against
that meaning, this file that the chunked pipeline computes it).

What the theorems say
  * `C19o_pipeline_eq_global` — one axis, EVERY boundary kind, every depth pair `(dl, dr)`, every chunking `cs` of `x`
    in which every chunk is at least `max dl dr` (`Guard`: exactly what `ensure_minimum_chunksize(max(dl, dr), chunks)`
    establishes — `ensureMinimumChunksize_spec` of Props/C19.lean), every window-local `g` and the block function
    `f e = g (padB .none dl dr e)` (`g` on the block it is given, no neighbour on either side):
        `pipeline b dl dr cs f x = mapOverlap1 g b dl dr x`
    — hence independent of the chunking (`C19o_chunking_independent`).
  * `C19o_blocks_eq_global` — block by block: the trimmed blocks are the global result cut along `cs`;
    `C19o_chunks_preserved`: so the block lengths after the trim are `cs`, and the chunk arithmetic `trim_internal`
    ADVERTISES gives `cs` back (kind `none`: from `_overlap_internal_chunks`, as `overlapTrim_chunks_id` of
    Props/C19.lean has it for the integer model; other kinds: every block grew by `dl + dr`).
  * `C19o_internal_sources` — under the guard the extended block `k` is exactly `x[lo_k - dl : hi_k + dr]` clipped to
    the axis (positions, not only the length).
  * `C19o_none_edges` — boundary `none`: the first block gets nothing on the left and `_trim` cuts nothing there, the
    last block gets nothing on the right and `_trim` cuts nothing there; every other (block, side) is cut by the depth.
  * `C19o_small_chunk_witness` — without the guard (chunks `(3, 4, 5)`, depth `(4, 0)`) neighbour exchange alone is not
    the global stencil: the real `slice(-4, None)` of a 3-element block is the whole block, the trim then cuts into the
    block's own data and the result is one element short.  (Replayed on `overlap_internal` + `trim_internal` of /repo:
    same blocks; `overlap` itself always rechunks first, so the state is unreachable through `map_overlap`.)
  * `C19o_pipeline_eq_global_nd` — n-D, by axis independence (per-axis index maps composed as a PRODUCT, as
    `ArrayOverlapLayer` takes the product of the per-axis neighbour pieces — corner neighbours included): at every
    multi-index of the array the pipeline applies the kernel to the box the global extension `padND` has there;
    `C19o_axis_index_map` is the one-axis statement at index level.
  * `C19o_guard_established` — the guard is what the code establishes: whatever `_get_overlap_rechunked_chunks`
    (`overlapRechunkedChunks` of Model/Window.lean: `ensure_minimum_chunksize` + the edge merge of boundary `none`)
    returns for non-negative chunks and depths satisfies `Guard`; `C19o_map_overlap_eq_global`: so for EVERY input
    chunking on which `overlap` does not raise, the pipeline run on the rechunked layout is the global stencil.
  * `C19o_checked` — `map_overlap`'s own `NotImplementedError` branch: when it does not raise it is the global meaning.

Hypotheses, all explicit and decidable except `WinLocal` (a property of the user's function): `Guard dl dr cs n`.
The code allows `dl ≠ dr` only with boundary `none`; the theorems hold for every pair.
NOT modelled: `new_axis` / `drop_axis`, several input arrays, the rechunk itself (C14: the theorems start from the
rechunked layout; `ensure_minimum_chunksize` and the edge merge that choose it are Model/Window.lean).  `trim=False` is
only written down (`pipelineNoTrim`): no theorem and no driver speaks of it.
-/
import DaskArrayModel.Lemmas.OverlapPipeND
import DaskArrayModel.Lemmas.OverlapPipeGuard
namespace Dask.Props.C19Overlap
open Dask.OverlapSlice Dask.OverlapPipe Dask.Lemmas.OverlapSlice Dask.Lemmas.OverlapPipe

variable {α β : Type}

/-- **The trimmed blocks of the pipeline are the blocks of the global result.** -/
theorem C19o_blocks_eq_global (g : List (Option α) → List β) (dl dr : Nat) (hg : WinLocal dl dr g)
    (b : Boundary α) (cs : List Nat) (f : List α → List β) (x : List α)
    (hf : ∀ e, f e = g (padB .none dl dr e)) (hG : Guard dl dr cs x.length) :
    pipelineBlocks b dl dr cs f x = cut cs (mapOverlap1 g b dl dr x) :=
  pipelineBlocks_eq_cut hg b cs f x hf hG

/-- **The chunked pipeline computes the global stencil** (one axis, every kind, every depth pair, every guarded
chunking, every window-local function). -/
theorem C19o_pipeline_eq_global (g : List (Option α) → List β) (dl dr : Nat) (hg : WinLocal dl dr g)
    (b : Boundary α) (cs : List Nat) (f : List α → List β) (x : List α)
    (hf : ∀ e, f e = g (padB .none dl dr e)) (hG : Guard dl dr cs x.length) :
    pipeline b dl dr cs f x = mapOverlap1 g b dl dr x := by
  unfold pipeline mapOverlap1
  rw [pipelineBlocks_eq_cut hg b cs f x hf hG]
  exact cut_flatten _ _ (sum_eq_result_length hg b x hG)

theorem C19o_chunking_independent (g : List (Option α) → List β) (dl dr : Nat) (hg : WinLocal dl dr g)
    (b : Boundary α) (cs cs' : List Nat) (f : List α → List β) (x : List α)
    (hf : ∀ e, f e = g (padB .none dl dr e)) (hG : Guard dl dr cs x.length) (hG' : Guard dl dr cs' x.length) :
    pipeline b dl dr cs f x = pipeline b dl dr cs' f x := by
  rw [C19o_pipeline_eq_global g dl dr hg b cs f x hf hG, C19o_pipeline_eq_global g dl dr hg b cs' f x hf hG']

/-- `map_overlap` as called (with its `NotImplementedError` check): whenever it returns, it returns the global meaning -/
theorem C19o_checked (g : List (Option α) → List β) (dl dr : Nat) (hg : WinLocal dl dr g)
    (b : Boundary α) (cs : List Nat) (f : List α → List β) (x : List α)
    (hf : ∀ e, f e = g (padB .none dl dr e)) (hG : Guard dl dr cs x.length) (y : List β)
    (h : mapOverlapChecked b dl dr cs f x = .ok y) : y = mapOverlap1 g b dl dr x := by
  unfold mapOverlapChecked at h
  split at h
  · cases h
  · cases h; exact C19o_pipeline_eq_global g dl dr hg b cs f x hf hG

/-- **The guard is what `overlap` establishes**: the chunks `_get_overlap_rechunked_chunks` returns cover the axis and
are all at least the larger depth. -/
theorem C19o_guard_established (chunks : List Int) (before after : Int) (boundaryNone : Bool) (hne : chunks ≠ [])
    (hpos : ∀ c ∈ chunks, 0 ≤ c) (hb : 0 ≤ before) (ha : 0 ≤ after) (out : List Int)
    (h : Dask.Window.overlapRechunkedChunks chunks before after boundaryNone = some out) :
    Guard before.toNat after.toNat (out.map Int.toNat) (Dask.Py.isum chunks).toNat := by
  obtain ⟨hne', hsum, hmin⟩ := rechunked_covers chunks before after boundaryNone hne hpos hb out h
  have hnn : ∀ c ∈ out, 0 ≤ c := fun c hc => by have := hmin c hc; omega
  refine ⟨fun h0 => hne' (List.map_eq_nil_iff.mp h0), ?_, ?_⟩
  · have := Dask.Py.sum_map_toNat out hnn
    omega
  · intro c hc
    obtain ⟨z, hz, rfl⟩ := List.mem_map.mp hc
    have := hmin z hz
    omega

/-- **From any input chunking**: when the rechunk of `overlap` succeeds (it raises only when the axis is shorter than
the depth), the pipeline on the layout it produces is the global stencil. -/
theorem C19o_map_overlap_eq_global (g : List (Option α) → List β) (dl dr : Nat) (hg : WinLocal dl dr g)
    (b : Boundary α) (chunks : List Int) (f : List α → List β) (x : List α)
    (hf : ∀ e, f e = g (padB .none dl dr e)) (hne : chunks ≠ []) (hpos : ∀ c ∈ chunks, 0 ≤ c)
    (hx : Dask.Py.isum chunks = x.length) (out : List Int)
    (h : Dask.Window.overlapRechunkedChunks chunks dl dr (b.kind == .none) = some out) :
    pipeline b dl dr (out.map Int.toNat) f x = mapOverlap1 g b dl dr x := by
  have hG := C19o_guard_established chunks dl dr (b.kind == .none) hne hpos (by omega) (by omega) out h
  rw [hx] at hG
  simp only [Int.toNat_natCast] at hG
  exact C19o_pipeline_eq_global g dl dr hg b _ f x hf hG

/-- **The chunks after the trim are the input chunks**: the real block lengths, and the advertised arithmetic. -/
theorem C19o_chunks_preserved (g : List (Option α) → List β) (dl dr : Nat) (hg : WinLocal dl dr g)
    (b : Boundary α) (cs : List Nat) (f : List α → List β) (x : List α)
    (hf : ∀ e, f e = g (padB .none dl dr e)) (hG : Guard dl dr cs x.length) :
    (pipelineBlocks b dl dr cs f x).map List.length = cs ∧
      trimChunks .none dl dr (internalChunks dl dr cs) = cs ∧
      (b.kind ≠ .none → trimChunks b.kind dl dr (cs.map (· + (dl + dr))) = cs) :=
  ⟨by rw [pipelineBlocks_eq_cut hg b cs f x hf hG]; exact cut_lengths _ _ (sum_eq_result_length hg b x hG),
    trimChunks_internal dl dr cs, trimChunks_pieces b.kind dl dr cs⟩

/-- **What `overlap_internal` hands to block `k`**: exactly `x[lo_k - dl : hi_k + dr]`, clipped to the axis. -/
theorem C19o_internal_sources (dl dr : Nat) (cs : List Nat) (x : List α) (hG : Guard dl dr cs x.length)
    (k : Nat) (hk : k < cs.length) :
    extBlock dl dr (cut cs x) k =
      (x.drop (lo cs k - dl)).take (lo cs k + cs.getD k 0 + dr - (lo cs k - dl)) := by
  have hB := guard_block hG hk
  rw [extBlock_cut dl dr cs x k (Nat.le_trans (Nat.le_add_right _ _) hB.fits) hB.prev (fun h => (hB.next h).1)]
  have ha := (halo_cases hB).1
  generalize (if 0 < k then dl else 0) = a at ha ⊢
  have ha : lo cs k - a = lo cs k - dl ∧ a + (lo cs k - dl) = lo cs k := by omega
  rw [ha.1]
  by_cases h : k + 1 < cs.length
  · rw [if_pos h]
    exact congrArg (fun n => (x.drop (lo cs k - dl)).take n) (by omega)
  · -- the last block ends the axis: both counts reach its end
    have := hB.last (by omega)
    rw [if_neg h, List.take_of_length_le (by rw [List.length_drop]; omega),
      List.take_of_length_le (by rw [List.length_drop]; omega)]

/-- **Boundary `none` at the array edges**: the first block starts with its own data and nothing is cut in front;
the last block ends with its own data and nothing is cut at the back; elsewhere the cut is the depth.  With any other
kind every block is cut by the depth on both sides. -/
theorem C19o_none_edges (dl dr : Nat) (blks : List (List α)) (hne : blks ≠ []) :
    (extBlock dl dr blks 0).take (blks.getD 0 []).length = blks.getD 0 [] ∧
    lastN (blks.getD (blks.length - 1) []).length (extBlock dl dr blks (blks.length - 1)) =
      blks.getD (blks.length - 1) [] ∧
    trimFront .none dl 0 = 0 ∧ trimBack .none dr (blks.length - 1) blks.length = none ∧
    (∀ k, 0 < k → trimFront .none dl k = dl) ∧
    (∀ k, k ≠ blks.length - 1 → dr ≠ 0 → trimBack .none dr k blks.length = some dr) ∧
    (∀ bk k, bk ≠ .none → trimFront bk dl k = dl ∧ (dr ≠ 0 → trimBack bk dr k blks.length = some dr)) := by
  have hnb : 0 < blks.length := List.length_pos_iff.mpr hne
  refine ⟨?_, ?_, by simp [trimFront], by simp [trimBack], ?_, ?_, ?_⟩
  · unfold extBlock
    simp
  · unfold extBlock
    have : ¬ (blks.length - 1 + 1 < blks.length) := by omega
    simp only [this, false_and, if_false, List.append_nil]
    rw [lastN_append _ _ _ (Nat.le_refl _)]
    simp [lastN]
  · intro k hk
    have : ¬ k = 0 := by omega
    simp [trimFront, this]
  · intro k hk hd
    simp [trimBack, hk, hd]
  · intro bk k hb
    exact ⟨by simp [trimFront, hb], fun hd => by simp [trimBack, hb, hd]⟩

/-- **The minimum-chunk guard is necessary.**  Chunks `(3, 4, 5)`, depth `(4, 0)`, boundary `none`, moving sum: the
guard fails, block 1 receives the WHOLE 3-element block 0 (Python's `slice(-4, None)`), and after the trim the result
is one element short of — and different from — the global stencil. -/
theorem C19o_small_chunk_witness :
    WinLocal 4 0 (stencil ksum 4 0) ∧ ¬ Guard 4 0 [3, 4, 5] xs12.length ∧
    overlapInternal 4 0 (cut [3, 4, 5] xs12) = [[0, 1, 2], [0, 1, 2, 3, 4, 5, 6], [3, 4, 5, 6, 7, 8, 9, 10, 11]] ∧
    (pipelineBlocks .none 4 0 [3, 4, 5] (blockFn (stencil ksum 4 0) 4 0) xs12).map List.length = [3, 3, 5] ∧
    pipeline .none 4 0 [3, 4, 5] (blockFn (stencil ksum 4 0) 4 0) xs12 ≠ mapOverlap1 (stencil ksum 4 0) .none 4 0 xs12 :=
  ⟨stencil_winLocal _ _ _, by decide +kernel, by decide +kernel, by decide +kernel, by decide +kernel⟩

/-- **One axis at index level**: window offset `t` of the output position `i` reads, through the whole pipeline, the
entry the global extension has at `i + t`. -/
theorem C19o_axis_index_map (b : Boundary α) (dl dr : Nat) (cs : List Nat) (n : Nat) (hG : Guard dl dr cs n)
    (i : Nat) (hi : i < n) (t : Nat) (ht : t < dl + dr + 1) :
    axisSrc b dl dr cs n (blockIdx cs i) ((i - lo cs (blockIdx cs i)) + trimFront b.kind dl (blockIdx cs i) + t) =
      padSrc b dl dr n (i + t) :=
  axisSrc_eq_padSrc b dl dr cs n hG i hi t ht

/-- **n-D**: for every list of axes (kind, depths, guarded chunking per axis), every array, every box kernel and
every multi-index of the array, the pipeline's value is the global `map_overlap` value. -/
theorem C19o_pipeline_eq_global_nd (kern : List (Option α) → β) (ps : List (AxPipe α))
    (hG : ∀ p ∈ ps, Guard p.spec.dl p.spec.dr p.cs p.spec.n) (A : List Nat → α) (I : List Nat)
    (hI : InRangeP ps I) :
    pipelineND kern ps A I = mapOverlapND kern (ps.map (·.spec)) A I := by
  unfold pipelineND mapOverlapND
  rw [padND_eq_resolveND, box_pipe ps I hG hI]

-- the guard holds on chunkings with a chunk EQUAL to the depth, a single block, asymmetric depth
example : Guard 2 2 [2, 3, 2] 7 := by decide +kernel
example : Guard 3 3 [7] 7 := by decide +kernel
example : Guard 1 3 [3, 4, 5] 12 := by decide +kernel
example : Guard 0 0 [0, 2, 0] 2 := by decide +kernel
example : ¬ Guard 2 2 [2, 1, 4] 7 := by decide +kernel

-- the rechunk of `overlap` on chunks below the depth, and the guard it establishes
example : Dask.Window.overlapRechunkedChunks [1, 1, 3, 2] 2 2 true = some [7] := by decide +kernel
example : Dask.Window.overlapRechunkedChunks [3, 1, 1, 5, 2] 3 0 false = some [4, 5, 3] ∧ Guard 3 0 [4, 5, 3] 12 := by
  decide +kernel
example : Dask.Window.overlapRechunkedChunks [3, 4, 5] 4 0 true = some [7, 5] := by decide +kernel
-- the pipeline on a halo-reading function, every kind (chunk equal to the depth), asymmetric depth, single block
example : pipeline .periodic 2 2 [2, 3, 2] (blockFn (stencil ksum 2 2) 2 2) [1, 2, 3, 4, 5, 6, 7] =
    [19, 17, 15, 20, 25, 23, 21] := by decide +kernel
example : pipeline .reflect 2 2 [2, 3, 2] (blockFn (stencil ksum 2 2) 2 2) [1, 2, 3, 4, 5, 6, 7] =
    [9, 11, 15, 20, 25, 29, 31] := by decide +kernel
example : pipeline .nearest 2 2 [2, 3, 2] (blockFn (stencil ksum 2 2) 2 2) [1, 2, 3, 4, 5, 6, 7] =
    [8, 11, 15, 20, 25, 29, 32] := by decide +kernel
example : pipeline (.constant 10) 2 2 [2, 3, 2] (blockFn (stencil ksum 2 2) 2 2) [1, 2, 3, 4, 5, 6, 7] =
    [26, 20, 15, 20, 25, 32, 38] := by decide +kernel
example : pipeline .none 1 3 [3, 4, 5] (blockFn (stencil ksum 1 3) 1 3) xs12 =
    mapOverlap1 (stencil ksum 1 3) .none 1 3 xs12 :=
  C19o_pipeline_eq_global _ 1 3 (stencil_winLocal _ _ _) .none [3, 4, 5] _ xs12 (fun _ => rfl) (by decide)
example : pipeline .reflect 3 3 [12] (blockFn (stencil ksum 3 3) 3 3) xs12 =
    mapOverlap1 (stencil ksum 3 3) .reflect 3 3 xs12 :=
  C19o_pipeline_eq_global _ 3 3 (stencil_winLocal _ _ _) .reflect [12] _ xs12 (fun _ => rfl) (by decide)
-- the blocks the code hands to the function (periodic, depth 2): every block carries 2 + 2 more entries
example : overlapBlocks .periodic 2 2 (cut [2, 3, 2] [1, 2, 3, 4, 5, 6, 7]) =
    [[6, 7, 1, 2, 3, 4], [1, 2, 3, 4, 5, 6, 7], [4, 5, 6, 7, 1, 2]] := by decide +kernel
-- boundary none, asymmetric: edge blocks get nothing on the outer side
example : overlapBlocks .none 1 3 (cut [3, 4, 5] xs12) =
    [[0, 1, 2, 3, 4, 5], [2, 3, 4, 5, 6, 7, 8, 9], [6, 7, 8, 9, 10, 11]] := by decide +kernel
-- two axes (reflect with depth 1 chunked (2,2); none with depth (0,2) chunked (3,3)): hypotheses of the n-D theorem
example : ∀ p ∈ [(⟨⟨4, 1, 1, .reflect⟩, [2, 2]⟩ : AxPipe Int), ⟨⟨6, 0, 2, .none⟩, [3, 3]⟩],
    Guard p.spec.dl p.spec.dr p.cs p.spec.n := by
  intro p hp
  simp only [List.mem_cons, List.not_mem_nil, or_false] at hp
  rcases hp with rfl | rfl <;> decide
example : InRangeP [(⟨⟨4, 1, 1, .reflect⟩, [2, 2]⟩ : AxPipe Int), ⟨⟨6, 0, 2, .none⟩, [3, 3]⟩] [3, 5] := by
  simp [InRangeP]

end Dask.Props.C19Overlap
