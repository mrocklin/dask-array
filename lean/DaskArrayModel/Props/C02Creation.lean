/-
C02 (extension, package `crt`) — slices and takes folded into creation arrays preserve values.
Property theorems (the arithmetic is in Lemmas/Creation.lean) and non-vacuity examples.

Model: Model/Creation.lean (branch-by-branch mirror of `Arange.num_rows`, `Arange._layer` + `_chunk.arange`,
`Arange._accept_slice`, `Linspace._accept_slice` (affine part), `BroadcastTrick._accept_slice` / `_accept_shuffle`), over
exact integers; a dyadic-float arange is the integer arange of its numerators (`C02k_arange_len_scale`).
-/
import DaskArrayModel.Lemmas.Creation
import DaskArrayModel.Lemmas.CreationRat
namespace Dask.Props.C02Creation
open Dask.Py Dask.Py.PySlice Dask.Slicing Dask.ND Dask.Creation

/-- `Arange.num_rows` is `len(range(start, stop, step))` for all integers, `step ≠ 0` (either sign, empty ranges), and the
values are those of the range -/
theorem C02k_arange_len (start stop step : Int) (hs : step ≠ 0) :
    arangeLen start stop step = rangeLen start stop step ∧
    arangeVals start step (arangeLen start stop step) = rangeList start stop step := by
  refine ⟨Dask.Lemmas.Creation.arangeLen_eq_rangeLen start stop step hs, ?_⟩
  rw [Dask.Lemmas.Creation.arangeLen_eq_rangeLen start stop step hs]; rfl

/-- the length does not change when start, stop, step are multiplied by a common `m > 0`: a dyadic-float arange is the
integer arange of its numerators -/
theorem C02k_arange_len_scale (m start stop step : Int) (hm : 0 < m) (hs : step ≠ 0) :
    arangeLen (m * start) (m * stop) (m * step) = arangeLen start stop step := by
  have hm' : m ≠ 0 := Int.ne_of_gt hm
  have h := Dask.Lemmas.Creation.rangeLen_affine m 0 start stop step hm' hs
  rw [Int.add_zero, Int.add_zero] at h
  rw [Dask.Lemmas.Creation.arangeLen_eq_rangeLen _ _ _ (Int.mul_ne_zero hm' hs),
    Dask.Lemmas.Creation.arangeLen_eq_rangeLen _ _ _ hs, h]

/-- the blocks of `_layer` have the advertised lengths and concatenate to the arange's values, for EVERY chunk tuple
(zero-length chunks included) -/
theorem C02k_arange_blocks (start step : Int) (hs : step ≠ 0) (chunks : List Nat) :
    (arangeBlocks start step chunks).flatten = arangeVals start step chunks.sum ∧
    (arangeBlocks start step chunks).map List.length = chunks :=
  Dask.Lemmas.Creation.arangeBlocks_spec start step hs chunks

/-- for every integer arange and every slice (any signs, negative steps, empty results): the rewrite fires, the folded
arange has exactly the values of the slice of the original in order, its length is the number of selected positions (= the
sum of the slice node's chunks, `C13.newBlockdim_*`), the blocks of its `_layer` over any chunks of that sum concatenate to
the slice, and on the integer branch (`Arange.integral`: new_start and new_step are Python ints) the stored stop is
new_start + count*new_step, from which num_rows re-derives exactly `count` -/
theorem C02k_arange_slice_sound (a : Arange) (s : PySlice) (ha : a.step ≠ 0) (hk : s.stp ≠ 0) :
    ∃ f, acceptSlice a (.slc s) = some f ∧
      arangeVals f.start f.step f.count = sliceList (arangeVals a.start a.step a.numRows) s ∧
      f.count = (sel s a.numRows).length ∧
      f.step ≠ 0 ∧
      (∀ pinned : List Nat, pinned.sum = f.count →
        (arangeBlocks f.start f.step pinned).flatten = sliceList (arangeVals a.start a.step a.numRows) s) ∧
      (∀ cs : List Nat, cs ≠ [] → cs.sum = a.numRows →
        (sliceChunks1 a.numRows cs s).sum = f.count ∧
        (arangeBlocks f.start f.step (sliceChunks1 a.numRows cs s)).flatten
          = sliceList (arangeVals a.start a.step a.numRows) s) ∧
      (a.integral = true →
        f.stop2 = 2 * (f.start + (f.count : Int) * f.step) ∧
        arangeLen f.start (f.start + (f.count : Int) * f.step) f.step = f.count) := by
  obtain ⟨f, h1, h2, h3, h4, h5⟩ := Dask.Lemmas.Creation.acceptSlice_sound a s
  have hf : f.step ≠ 0 := by rw [h4]; exact Int.mul_ne_zero ha hk
  have hblocks : ∀ pinned : List Nat, pinned.sum = f.count →
      (arangeBlocks f.start f.step pinned).flatten = sliceList (arangeVals a.start a.step a.numRows) s := by
    intro pinned hp
    rw [(Dask.Lemmas.Creation.arangeBlocks_spec f.start f.step hf pinned).1, hp, h2]
  refine ⟨f, h1, h2, h3, hf, hblocks, ?_, ?_⟩
  · intro cs hne hsum
    have hp : (sliceChunks1 a.numRows cs s).sum = f.count := by
      rw [h3]; exact (Dask.ND.sliceChunks1_facts cs hne s hk a.numRows hsum.symm).1
    exact ⟨hp, hblocks _ hp⟩
  · intro hint
    rw [hint] at h5
    exact ⟨by simpa using h5, Dask.Lemmas.Creation.arangeLen_exact f.start f.step hf f.count⟩

/-- an integer index declines -/
theorem C02k_arange_int_declines (a : Arange) (k : Int) : acceptSlice a (.int k) = none :=
  rfl

/-- FLOAT branch (`integral = false`): with `stop` at the midpoint new_start + (count - 1/2) * new_step, num_rows of the
product is `count` for either sign of new_step and for count = 0 (ratio -1/2, ceiling 0, max(0, 0) = 0).  Stated with
start/stop/step doubled (the rational midpoint cleared of its denominator; see `C02k_arange_len_scale`).
EXACT arithmetic: the implementation stores the midpoint as a binary64, which is not the midpoint once
|new_stop| ≥ 2^52 (known finding `arange-slice-float-midpoint-large-int`; an integral arange takes the integer
branch, `C02k_arange_slice_sound`). -/
theorem C02k_midpoint_len (a : Arange) (s : PySlice) (ha : a.step ≠ 0) (hk : s.stp ≠ 0)
    (hflt : a.integral = false) :
    ∃ f, acceptSlice a (.slc s) = some f ∧
      arangeLen (2 * f.start) f.stop2 (2 * f.step) = f.count := by
  obtain ⟨f, h1, hf, h5⟩ := Dask.Lemmas.Creation.acceptSlice_float a s ha hk hflt
  exact ⟨f, h1, h5 ▸ Dask.Lemmas.Creation.midLen f.start f.step hf f.count⟩

/-- the same over ℚ (core `Rat`), literally `max(ceil((new_stop - new_start) / new_step), 0) = count` with
new_stop = new_start + (count - 1/2) * new_step, and `2 * new_stop` is the model's `stop2` -/
theorem C02k_midpoint_len_rat (a : Arange) (s : PySlice) (ha : a.step ≠ 0) (hk : s.stp ≠ 0)
    (hflt : a.integral = false) :
    ∃ f, acceptSlice a (.slc s) = some f ∧
      (let newStop : Rat := (f.start : Rat) + ((f.count : Rat) - 1/2) * (f.step : Rat)
       2 * newStop = (f.stop2 : Rat) ∧
       max (Rat.ceil ((newStop - (f.start : Rat)) / (f.step : Rat))) 0 = (f.count : Int)) := by
  obtain ⟨f, h1, hf, h5⟩ := Dask.Lemmas.Creation.acceptSlice_float a s ha hk hflt
  refine ⟨f, h1, ?_, Dask.Lemmas.CreationRat.midpoint_rat f.start f.step hf f.count⟩
  rw [h5]; push_cast; grind

/-- `Linspace._accept_slice` (affine part): the folded linspace (start, step*k, num = count) has the values of the slice
of the original; its inclusive stop is the last selected value (`stop - start = (count - 1) * step`, so the derived step of
the product is the folded step when count ≥ 2); an integer index declines -/
theorem C02k_linspace_slice_sound (start step : Int) (num : Nat) (s : PySlice) (hk : s.stp ≠ 0) :
    ∃ ns nstep cnt nstop, acceptSliceLinspace start step num (.slc s) = some (ns, nstep, cnt, nstop) ∧
      arangeVals ns nstep cnt = sliceList (arangeVals start step num) s ∧
      cnt = (sel s num).length ∧
      nstop - ns = ((cnt : Int) - 1) * nstep ∧
      acceptSliceLinspace start step num (.int 0) = none := by
  exact ⟨_, _, _, _, rfl, Dask.Lemmas.Creation.fold_vals start step num s,
    Dask.Lemmas.Creation.fold_count num s, by omega, rfl⟩

/-- slicing a constant array by any slices / integers is the constant array of the slice node's shape, the advertised
chunks sum to it (no empty axis), its blocks assemble to it, and `name` is reset -/
theorem C02k_const_slice (c : Const) (idx : List Ix) (hsum : c.chunks.map List.sum = c.shape)
    (hne : ∀ cs ∈ c.chunks, cs ≠ []) (hi : wfIx c.shape idx = true) :
    sliceArr c.den idx = (constSlice c idx).den ∧
    (constSlice c idx).chunks.map List.sum = (constSlice c idx).shape ∧
    (∀ cs ∈ (constSlice c idx).chunks, cs ≠ []) ∧
    (assemble (constSlice c idx).chunks (constSlice c idx).block).Equiv (sliceArr c.den idx) ∧
    (constSlice c idx).name = none :=
  have h := sliceChunks_facts c.shape c.chunks idx hsum hne hi
  ⟨rfl, h.1, h.2, ⟨h.1, fun _ _ => rfl⟩, rfl⟩

/-- the same for `take` along an axis through `_accept_shuffle` (chunks of the shuffle node) -/
theorem C02k_const_take (c : Const) (ax : Nat) (ind : List Int) (outChunks : List Nat)
    (hsum : c.chunks.map List.sum = c.shape) (hoc : outChunks.sum = ind.length) :
    takeArr c.den ax ind = (constTake c ax ind outChunks).den ∧
    (constTake c ax ind outChunks).chunks.map List.sum = (constTake c ax ind outChunks).shape ∧
    (assemble (constTake c ax ind outChunks).chunks (constTake c ax ind outChunks).block).Equiv (takeArr c.den ax ind) ∧
    (constTake c ax ind outChunks).name = none :=
  have h : (c.chunks.set ax outChunks).map List.sum = c.shape.set ax ind.length := by
    rw [List.map_set, hsum, hoc]
  ⟨rfl, h, ⟨h, fun _ _ => rfl⟩, rfl⟩

/-! non-vacuity: concrete non-trivial instances (negative steps, reversed slices, empty results, zero-length chunks) -/
example : arangeLen 3 40 4 = 10 ∧ arangeLen 10 0 (-3) = 4 ∧ arangeLen 0 5 (-1) = 0 ∧ arangeLen 7 7 2 = 0 := by decide +kernel
example : arangeBlocks 3 4 [3, 3, 3, 1] = [[3, 7, 11], [15, 19, 23], [27, 31, 35], [39]] ∧
    arangeBlocks 10 (-3) [2, 0, 2] = [[10, 7], [], [4, 1]] := by decide +kernel
example : acceptSlice ⟨3, 40, 4, false⟩ (.slc ⟨some 7, some 1, some (-2)⟩) = some ⟨31, -8, 3, 22⟩ ∧
    acceptSlice ⟨3, 40, 4, true⟩ (.slc ⟨some 7, some 1, some (-2)⟩) = some ⟨31, -8, 3, 14⟩ ∧ arangeLen 31 7 (-8) = 3 ∧
    sliceList (arangeVals 3 4 10) ⟨some 7, some 1, some (-2)⟩ = [31, 23, 15] ∧
    arangeVals 31 (-8) 3 = [31, 23, 15] ∧ arangeLen 62 22 (-16) = 3 := by decide +kernel
example : acceptSlice ⟨10, 0, -3, false⟩ (.slc ⟨none, none, some (-1)⟩) = some ⟨1, 3, 4, 23⟩ ∧
    acceptSlice ⟨10, 0, -3, true⟩ (.slc ⟨none, none, some (-1)⟩) = some ⟨1, 3, 4, 26⟩ ∧
    arangeVals 1 3 4 = [1, 4, 7, 10] := by decide +kernel
example : acceptSlice ⟨3, 40, 4, false⟩ (.slc ⟨some 5, some 2, none⟩) = some ⟨23, 4, 0, 42⟩ ∧ arangeLen 46 42 8 = 0 ∧
    acceptSlice ⟨3, 40, 4, true⟩ (.slc ⟨some 5, some 2, none⟩) = some ⟨23, 4, 0, 46⟩ ∧ arangeLen 23 23 4 = 0 := by decide +kernel
example : acceptSliceLinspace 0 5 11 (.slc ⟨none, none, some (-2)⟩) = some (50, -10, 6, 0) ∧
    sliceList (arangeVals 0 5 11) ⟨none, none, some (-2)⟩ = [50, 40, 30, 20, 10, 0] := by decide +kernel
example : sliceChunks1 10 [3, 3, 3, 1] ⟨some 7, some 1, some (-2)⟩ = [1, 2] ∧ [3, 3, 3, 1].sum = arangeLen 3 40 4 ∧
    arangeBlocks 31 (-8) [1, 2] = [[31], [23, 15]] := by decide +kernel
example : (constSlice ⟨[5, 6], [[2, 3], [4, 2]], some "user", 7⟩ [.slc ⟨some 1, some 5, some 2⟩, .int 3])
    = ⟨[2], [[1, 1]], none, 7⟩ := by decide +kernel
example : [[2, 3], [4, 2]].map List.sum = [5, 6] ∧ (∀ cs ∈ [[2, 3], [4, 2]], cs ≠ ([] : List Nat)) ∧
    wfIx [5, 6] [.slc ⟨some 1, some 5, some 2⟩, .int 3] = true := by decide +kernel
example : (constTake ⟨[5, 6], [[2, 3], [4, 2]], some "user", 7⟩ 1 [0, 5, 2] [2, 1]) = ⟨[5, 3], [[2, 3], [2, 1]], none, 7⟩ := by
  decide +kernel

end Dask.Props.C02Creation
