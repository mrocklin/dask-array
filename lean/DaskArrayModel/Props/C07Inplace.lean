/-
C07 (extension) — a collection updated IN PLACE (`__setitem__`, ufunc / reduction `out=`, `compute_chunk_sizes`,
the `_chunks` setter: all go through `Array._replace_expr`) advertises the name / keys / graph of its NEW expression
whatever had been read before the update, and pickles like a collection freshly built on that expression.

Model: `replaceExpr` on `CollState` (Lemmas/Names.lean).  Tie to the source tree (generated table,
harness/translate/names.py): `_replace_expr` assigns `_expr` and removes EVERY `cached_property` of `Array` from
`__dict__`; the model has a field for each of them; `__getstate__` removes only such derived entries.
The harness (props_ext/c07_sources.py, in-place stream) runs the same orders of calls on the real code.
-/
import DaskArrayModel.Lemmas.Names
import DaskArrayModel.Generated.NameTables
import DaskArrayModel.Lemmas.KernelDecide
namespace Dask.Props.C07Inplace
open Dask.KernelDecide
open Dask.Names Dask.Lemmas.Names
open Dask.Generated.NameTables

/-- after the swap nothing of the old state is left: the collection IS a fresh collection on the new expression -/
theorem C07_replace_expr_is_fresh {ε γ κ : Type} (s : CollState ε γ κ) (e' : ε) :
    replaceExpr s e' = freshColl e' :=
  rfl

/-- reads before the update (any populated cache in `s`) do not show afterwards: expression, graph and keys are
    those of the new expression, and the cache invariant holds again -/
theorem C07_replace_expr_observe {ε γ κ : Type} (materialize : ε → Bool → γ) (keysOf : ε → κ) (dflt : Bool)
    (s : CollState ε γ κ) (e' : ε) :
    CacheInv materialize keysOf dflt (replaceExpr s e') ∧
    observe materialize keysOf dflt (replaceExpr s e') = (e', materialize e' dflt, keysOf e') :=
  ⟨And.intro (fun _ h => nomatch h) (fun _ h => nomatch h), rfl⟩

/-- read → update → pickle: the round trip changes nothing observable -/
theorem C07_replace_expr_then_pickle {ε γ κ : Type} (materialize : ε → Bool → γ) (keysOf : ε → κ) (dflt : Bool)
    (s : CollState ε γ κ) (e' : ε) :
    observe materialize keysOf dflt (setstate (getstate (replaceExpr s e'))) =
      observe materialize keysOf dflt (replaceExpr s e') :=
  rfl

/-! ### tie to the source tree (generated table) -/

/-- the `__dict__` entries the model has a field for (`lowered`, `keys`, `optimizeFlag`) -/
def modelledCaches : List String := ["_lowered_expr", "_cached_dask_keys", "_lowered_expr_optimize_graph"]

/-- `_replace_expr` assigns `_expr` and pops every `cached_property` of `Array`; each of them is a field of the model;
    `__getstate__` pops only such derived entries -/
theorem C07_replace_expr_drops_every_cache :
    replaceExprSetsExpr = true ∧
    (∀ k, k ∈ arrayCachedProperties → k ∈ replaceExprDropped) ∧
    (∀ k, k ∈ arrayCachedProperties → k ∈ modelledCaches) ∧
    (∀ k, k ∈ getstateDropped → k ∈ arrayCachedProperties) := by
  kernel_decide

/-! ### non-vacuity: the hypotheses are needed -/

/-- a swap that keeps the key cache (an invalidation list naming the cache wrongly): keys were read (`some 8` for
    expression 4), the expression becomes 5 — the collection still advertises 8, a rebuild advertises 10 … -/
example :
    let s : CollState Nat Nat Nat := { expr := 4, lowered := none, keys := some 8, optimizeFlag := none }
    (observe (fun e _ => e + 1) (fun e => 2 * e) true (replaceExprWith true false true s 5)).2.2 = 8 ∧
    (observe (fun e _ => e + 1) (fun e => 2 * e) true (replaceExpr s 5)).2.2 = 10 := by
  intro s
  exact ⟨replaceExprWith_keepKeys_stale _ _ true true true s 5 8 rfl, rfl⟩

/-- … its pickle round trip changes the keys … -/
example :
    let s : CollState Nat Nat Nat := { expr := 4, lowered := none, keys := some 8, optimizeFlag := none }
    (observe (fun e _ => e + 1) (fun e => 2 * e) true (setstate (getstate (replaceExprWith true false true s 5)))).2.2 = 10 := by
  intro s
  exact replaceExprWith_keepKeys_pickle _ (fun e => 2 * e) true true true s 5

/-- … and the cache invariant is broken -/
example :
    let s : CollState Nat Nat Nat := { expr := 4, lowered := none, keys := some 8, optimizeFlag := none }
    ¬ CacheInv (fun e _ => e + 1) (fun e => 2 * e) true (replaceExprWith true false true s 5) := by
  intro s h
  have := h.2 8 rfl
  exact absurd this (by decide)

/-- a swap that keeps the lowered graph serves the OLD graph -/
example :
    let s : CollState Nat Nat Nat := { expr := 4, lowered := some 5, keys := none, optimizeFlag := none }
    (observe (fun e _ => e + 1) (fun e => 2 * e) true (replaceExprWith false true true s 7)).2.1 = 5 ∧
    (observe (fun e _ => e + 1) (fun e => 2 * e) true (replaceExpr s 7)).2.1 = 8 := by
  intro s
  exact ⟨replaceExprWith_keepLowered_stale _ _ true true true s 7 5 rfl, rfl⟩

/-- the tables are not empty -/
example : arrayCachedProperties.length > 0 ∧ replaceExprDropped.length > 0 := by kernel_decide

end Dask.Props.C07Inplace
