/-
C18 — Reductions are independent of chunking and tree shape.

The property theorems with their final assembly (the steps are in Lemmas/Reduce.lean; the layer cover is the
membership form of `axisLift`, Lemmas/IndexingGrid.lean) and non-vacuity examples.
Model: Model/Reduce.lean (`partialReduce`, `treeReduce`, `depthOf`, `acceptSlice`), tied to
dask_array/reductions/_reduction.py by harness/props/C18.py (family `rd.*`).

Reading guide.  A reduced axis carries a list of blocks `ps : List (List α)` (any chunking of
`xs = ps.flatten` into non-empty blocks).  `chunk` maps a block to a partial, `combine` merges a
group of ≤ k partials, `aggregate` merges the last group and finalises.  `treeReduce k depth …`
is exactly what `_build_tree_reduce_expr` wires up along that axis; its value is the LIST of
output blocks.  The theorems say: whenever `#blocks ≤ k ^ depth` (true for the depth the code
computes, `C18_depthOf_spec`; false depths are shown to break it, `C18_depth_too_small_witness`)
the list is the single block `g xs` — independent of the chunking `ps`, of `k`, and of `depth`.
-/
import DaskArrayModel.Lemmas.Reduce
import DaskArrayModel.Lemmas.IndexingGrid
namespace Dask.Props.C18
open Dask.Py Dask.Reduce Dask.Lemmas.Reduce

theorem C18_partitionAll_flatten {α} {k : Nat} (hk : 0 < k) (xs : List α) :
    (partitionAll k xs).flatten = xs := partitionAll_flatten hk xs

theorem C18_partitionAll_parts {α} {k : Nat} (hk : 0 < k) (xs : List α) :
    ∀ p ∈ partitionAll k xs, p ≠ [] ∧ p.length ≤ k := partitionAll_parts hk xs

/-- `len(partition_all(k, xs)) = ⌈len(xs) / k⌉`. -/
theorem C18_partitionAll_length {α} {k : Nat} (hk : 0 < k) (xs : List α) :
    (partitionAll k xs).length = (xs.length + k - 1) / k := partitionAll_length hk xs

example : (partitionAll 2 [1, 2, 3]).flatten = [1, 2, 3] := C18_partitionAll_flatten (by decide +kernel) _
example : (partitionAll 2 [1, 2, 3]).length = 2 := C18_partitionAll_length (by decide +kernel) _

/-- the exact `max(1, ceil(log_k n))` suffices. -/
theorem C18_depthOf_spec {n k : Nat} (hk : 2 ≤ k) : n ≤ k ^ depthOf n k := depthOf_spec hk

/-- and it is the least positive depth that does. -/
theorem C18_depthOf_min {n k d : Nat} (hk : 1 ≤ k) (hd : 1 ≤ d) (h : n ≤ k ^ d) : depthOf n k ≤ d := by
  have _ := hk
  exact depthGo_min n k n 1 d hd h

theorem C18_depthOf_pos (n k : Nat) : 1 ≤ depthOf n k := depthOf_pos n k

example : (9 : Nat) ≤ 2 ^ depthOf 9 2 := C18_depthOf_spec (by decide +kernel)
example : depthOf 9 2 ≤ 4 := C18_depthOf_min (by decide +kernel) (by decide +kernel) (by decide +kernel)
example : depthOf 9 2 = 4 := by decide +kernel
example : depthOf 1 7 = 1 := by decide +kernel

/-- number of blocks after one layer: `⌈n / k⌉`. -/
theorem C18_numBlocksAfter {k : Nat} (hk : 0 < k) (n : Nat) : numBlocksAfter k n = (n + k - 1) / k :=
  numBlocksAfter_eq hk n

/-- after `depthOf n k` layers (or any depth with `n ≤ k ^ d`) a reduced axis has at most one block. -/
theorem C18_depth_layers_leave_one_block {k : Nat} (hk : 2 ≤ k) (n d : Nat) (hd : depthOf n k ≤ d) :
    blocksAfterLayers k d n ≤ 1 :=
  blocksAfterLayers_le_one (Nat.lt_of_lt_of_le Nat.zero_lt_two hk) d n (le_pow_of_depthOf_le hk hd)

/-- The expression `PartialReduce.chunks` writes for a reduced axis with chunks `c` and fan-in `k` (the `s ≠ 0` branch of
`partialReduceChunks`, which the statement does not mention; the examples below evaluate it): `⌈len c / k⌉` chunks of
size 1. -/
theorem C18_partialReduceChunks_axis {k : Nat} (hk : 0 < k) (c : List Nat) :
    (partitionAll k c).map (fun _ => 1) = List.replicate ((c.length + k - 1) / k) 1 := by
  rw [← partitionAll_length hk c]
  exact List.map_const'

example : blocksAfterLayers 2 (depthOf 9 2) 9 ≤ 1 := C18_depth_layers_leave_one_block (by decide +kernel) 9 _ (Nat.le_refl _)
example : numBlocksAfter 3 10 = 4 := C18_numBlocksAfter (by decide +kernel) 10
example : partialReduceChunks [[2, 2, 1], [4, 4]] [2, 0] true = [[1, 1], [4, 4]] := by decide +kernel
example : partialReduceChunks [[2, 2, 1], [4, 4]] [2, 0] false = [[4, 4]] := by decide +kernel

/-- abstract `(chunk, combine, aggregate)` triple computing `g`. -/
theorem C18_treeReduce_triple {α β γ} {chunk : List α → β} {combine : List β → β}
    {aggregate : List β → γ} {g : List α → γ} (T : Triple chunk combine aggregate g)
    {k depth : Nat} (hk : 0 < k) (hd : 1 ≤ depth) {ps : List (List α)} (hps : ps ≠ [])
    (hne : ∀ p ∈ ps, p ≠ []) (hl : ps.length ≤ k ^ depth) :
    treeReduce k depth combine aggregate (ps.map chunk) = [g ps.flatten] :=
  treeReduce_triple T hk hd hps hne hl

/-- list-homomorphism version: for `h (xs ++ ys) = op (h xs) (h ys)` the tree over ANY chunking `ps`
of `xs = ps.flatten`, any fan-in `k`, any sufficient depth, yields the single block `fin (h xs)`. -/
theorem C18_treeReduce_hom {α β γ} (op : β → β → β) (d : β) (h : List α → β) (hh : IsHom op h)
    (fin : β → γ) {k depth : Nat} (hk : 0 < k) (hd : 1 ≤ depth) {ps : List (List α)} (hps : ps ≠ [])
    (hne : ∀ p ∈ ps, p ≠ []) (hl : ps.length ≤ k ^ depth) :
    treeReduce k depth (fold1 op d) (fun bs => fin (fold1 op d bs)) (ps.map h) = [fin (h ps.flatten)] :=
  treeReduce_hom op d h hh fin hk hd hps hne hl

/-- fold version on the block partials: one output block, the flat fold. -/
theorem C18_treeReduce_eq_fold {β γ} (op : β → β → β)
    (hassoc : ∀ a b c, op (op a b) c = op a (op b c)) (d : β) (fin : β → γ) {k depth : Nat}
    (hk : 0 < k) (hd : 1 ≤ depth) {bs : List β} (hbs : bs ≠ []) (hl : bs.length ≤ k ^ depth) :
    treeReduce k depth (fold1 op d) (fun l => fin (fold1 op d l)) bs = [fin (fold1 op d bs)] :=
  treeReduce_eq_fold op hassoc d fin hk hd hbs hl

/-- with the code's depth (any oracle value ≥ the exact one): chunking- and tree-independent. -/
theorem C18_reduction_any_chunking {α β γ} (op : β → β → β)
    (hassoc : ∀ a b c, op (op a b) c = op a (op b c)) (d : β) (fin : β → γ)
    {k depth : Nat} (hk : 2 ≤ k) {ps : List (List α)} (hps : ps ≠ []) (hne : ∀ p ∈ ps, p ≠ [])
    (chunk : List α → β) (hc : IsHom op chunk) (hdepth : depthOf ps.length k ≤ depth) :
    treeReduce k depth (fold1 op d) (fun bs => fin (fold1 op d bs)) (ps.map chunk) = [fin (chunk ps.flatten)] := by
  have _ := hassoc
  exact treeReduce_hom op d chunk hc fin (Nat.lt_of_lt_of_le Nat.zero_lt_two hk)
    (Nat.le_trans (depthOf_pos _ _) hdepth) hps hne (le_pow_of_depthOf_le hk hdepth)

/-- the right-nested `fold1` used in the statements is the ordinary left fold. -/
theorem C18_fold1_eq_foldl {β} (op : β → β → β) (hassoc : ∀ a b c, op (op a b) c = op a (op b c))
    (d x : β) (r : List β) : fold1 op d (x :: r) = r.foldl op x := by
  induction r generalizing x with
  | nil => rfl
  | cons y r ih =>
    rw [List.foldl_cons, ← ih (op x y)]
    cases r with
    | nil => rfl
    | cons z r =>
      rw [fold1_cons_cons, fold1_cons_cons, fold1_cons_cons, hassoc]

/-- why the depth hypothesis is needed: with depth 1 and fan-in 2, three blocks leave TWO blocks. -/
theorem C18_depth_too_small_witness :
    treeReduce 2 1 (fold1 (· + ·) (0 : Int)) (fold1 (· + ·) 0) [1, 2, 3] = [3, 3] := by
  decide +kernel

/-- and why a fan-in of 1 can never work: no depth reduces anything.  (`_normalize_split_every` floors the fan-in at 2,
so `split_every = {axis: 1}` does not reach the tree.) -/
theorem C18_fanin_one_never_reduces {β} (f : List β → β) (hf : ∀ x, f [x] = x) (depth : Nat) (bs : List β) :
    treeReduce 1 depth f f bs = bs := by
  unfold treeReduce
  have h : ∀ r bs, combineRounds 1 f r bs = bs := by
    intro r
    induction r with
    | zero => intro bs; rfl
    | succ r ih => intro bs; show combineRounds 1 f r (partialReduce 1 f bs) = bs; rw [partialReduce_one f hf, ih]
  rw [h, partialReduce_one f hf]

example : treeReduce 1 5 (fold1 (· + ·) (0 : Int)) (fold1 (· + ·) 0) [1, 2, 3] = [1, 2, 3] :=
  C18_fanin_one_never_reduces _ (fun _ => rfl) 5 _

example : treeReduce 2 2 (fold1 (· + ·) (0 : Int)) (fun l => fold1 (· + ·) 0 l) [1, 2, 3] = [fold1 (· + ·) 0 [1, 2, 3]] :=
  C18_treeReduce_eq_fold (· + ·) Int.add_assoc 0 id (by decide +kernel) (by decide +kernel) (by simp) (by decide +kernel)

example : treeReduce 3 2 (fold1 (· + ·) (0 : Int)) (fun l => fold1 (· + ·) 0 l)
      ([[1, 2], [3], [4, 5], [6]].map (fold1 (· + ·) 0)) = [fold1 (· + ·) 0 [1, 2, 3, 4, 5, 6]] :=
  C18_treeReduce_hom (· + ·) 0 (fold1 (· + ·) 0) (fold1_isHom _ Int.add_assoc 0) id
    (by decide +kernel) (by decide +kernel) (by decide +kernel) (by decide +kernel) (by decide +kernel)

/-- any associative `op`: chunk = combine = fold, aggregate = fin ∘ fold. -/
theorem C18_assoc_reduction {β γ} (op : β → β → β) (hassoc : ∀ a b c, op (op a b) c = op a (op b c))
    (d : β) (fin : β → γ) {k depth : Nat} (hk : 0 < k) (hd : 1 ≤ depth) {ps : List (List β)}
    (hps : ps ≠ []) (hne : ∀ p ∈ ps, p ≠ []) (hl : ps.length ≤ k ^ depth) :
    treeReduce k depth (fold1 op d) (fun bs => fin (fold1 op d bs)) (ps.map (fold1 op d))
      = [fin (fold1 op d ps.flatten)] :=
  treeReduce_hom op d (fold1 op d) (fold1_isHom op hassoc d) fin hk hd hps hne hl

theorem C18_sum {k depth : Nat} (hk : 0 < k) (hd : 1 ≤ depth) {ps : List (List Int)}
    (hps : ps ≠ []) (hne : ∀ p ∈ ps, p ≠ []) (hl : ps.length ≤ k ^ depth) :
    treeReduce k depth (fold1 (· + ·) 0) (fun bs => fold1 (· + ·) 0 bs) (ps.map (fold1 (· + ·) 0))
      = [fold1 (· + ·) 0 ps.flatten] :=
  C18_assoc_reduction (· + ·) Int.add_assoc 0 id hk hd hps hne hl

theorem C18_prod {k depth : Nat} (hk : 0 < k) (hd : 1 ≤ depth) {ps : List (List Int)}
    (hps : ps ≠ []) (hne : ∀ p ∈ ps, p ≠ []) (hl : ps.length ≤ k ^ depth) :
    treeReduce k depth (fold1 (· * ·) 1) (fun bs => fold1 (· * ·) 1 bs) (ps.map (fold1 (· * ·) 1))
      = [fold1 (· * ·) 1 ps.flatten] :=
  C18_assoc_reduction (· * ·) Int.mul_assoc 1 id hk hd hps hne hl

theorem C18_min {k depth : Nat} (hk : 0 < k) (hd : 1 ≤ depth) {ps : List (List Int)}
    (hps : ps ≠ []) (hne : ∀ p ∈ ps, p ≠ []) (hl : ps.length ≤ k ^ depth) :
    treeReduce k depth (fold1 min 0) (fun bs => fold1 min 0 bs) (ps.map (fold1 min 0))
      = [fold1 min 0 ps.flatten] :=
  C18_assoc_reduction min Int.min_assoc 0 id hk hd hps hne hl

theorem C18_max {k depth : Nat} (hk : 0 < k) (hd : 1 ≤ depth) {ps : List (List Int)}
    (hps : ps ≠ []) (hne : ∀ p ∈ ps, p ≠ []) (hl : ps.length ≤ k ^ depth) :
    treeReduce k depth (fold1 max 0) (fun bs => fold1 max 0 bs) (ps.map (fold1 max 0))
      = [fold1 max 0 ps.flatten] :=
  C18_assoc_reduction max Int.max_assoc 0 id hk hd hps hne hl

theorem C18_any {k depth : Nat} (hk : 0 < k) (hd : 1 ≤ depth) {ps : List (List Bool)}
    (hps : ps ≠ []) (hne : ∀ p ∈ ps, p ≠ []) (hl : ps.length ≤ k ^ depth) :
    treeReduce k depth (fold1 (· || ·) false) (fun bs => fold1 (· || ·) false bs) (ps.map (fold1 (· || ·) false))
      = [fold1 (· || ·) false ps.flatten] :=
  C18_assoc_reduction (· || ·) Bool.or_assoc false id hk hd hps hne hl

theorem C18_all {k depth : Nat} (hk : 0 < k) (hd : 1 ≤ depth) {ps : List (List Bool)}
    (hps : ps ≠ []) (hne : ∀ p ∈ ps, p ≠ []) (hl : ps.length ≤ k ^ depth) :
    treeReduce k depth (fold1 (· && ·) true) (fun bs => fold1 (· && ·) true bs) (ps.map (fold1 (· && ·) true))
      = [fold1 (· && ·) true ps.flatten] :=
  C18_assoc_reduction (· && ·) Bool.and_assoc true id hk hd hps hne hl

/-- mean through `(n, total)` partials (`mean_chunk` / `mean_combine` / `mean_agg`), exact over ℚ. -/
theorem C18_mean {k depth : Nat} (hk : 0 < k) (hd : 1 ≤ depth) {ps : List (List Int)}
    (hps : ps ≠ []) (hne : ∀ p ∈ ps, p ≠ []) (hl : ps.length ≤ k ^ depth) :
    treeReduce k depth (fold1 meanOp (0, 0)) (fun bs => meanFin (fold1 meanOp (0, 0) bs)) (ps.map meanChunk)
      = [((ps.flatten.foldl (· + ·) 0 : Int) : Rat) / ((ps.flatten.length : Nat) : Rat)] :=
  treeReduce_hom meanOp (0, 0) meanChunk meanChunk_isHom meanFin hk hd hps hne hl

/-- arg-reduction through `(index, value)` pairs: the tree returns the flat first-minimum. -/
theorem C18_argmin {k depth : Nat} (hk : 0 < k) (hd : 1 ≤ depth) {ps : List (List (Nat × Int))}
    (hps : ps ≠ []) (hne : ∀ p ∈ ps, p ≠ []) (hl : ps.length ≤ k ^ depth) (d : Nat × Int) :
    treeReduce k depth (fold1 argminOp d) (fun bs => (fold1 argminOp d bs).1) (ps.map (fold1 argminOp d))
      = [(fold1 argminOp d ps.flatten).1] :=
  C18_assoc_reduction argminOp argminOp_assoc d (·.1) hk hd hps hne hl

theorem C18_argmax {k depth : Nat} (hk : 0 < k) (hd : 1 ≤ depth) {ps : List (List (Nat × Int))}
    (hps : ps ≠ []) (hne : ∀ p ∈ ps, p ≠ []) (hl : ps.length ≤ k ^ depth) (d : Nat × Int) :
    treeReduce k depth (fold1 argmaxOp d) (fun bs => (fold1 argmaxOp d bs).1) (ps.map (fold1 argmaxOp d))
      = [(fold1 argmaxOp d ps.flatten).1] :=
  C18_assoc_reduction argmaxOp argmaxOp_assoc d (·.1) hk hd hps hne hl

theorem C18_argminOp_assoc : ∀ a b c, argminOp (argminOp a b) c = argminOp a (argminOp b c) :=
  argminOp_assoc

/-- the flat argmin fold picks the FIRST minimal element (NumPy's tie rule). -/
theorem C18_argmin_first (d : Nat × Int) (xs : List (Nat × Int)) (hx : xs ≠ []) :
    ∃ pre post, xs = pre ++ fold1 argminOp d xs :: post ∧
      (∀ q ∈ pre, (fold1 argminOp d xs).2 < q.2) ∧ (∀ q ∈ xs, (fold1 argminOp d xs).2 ≤ q.2) := by
  fun_induction fold1 argminOp d xs with
  | case1 => exact absurd rfl hx
  | case2 x => exact ⟨[], [], rfl, (fun _ h => nomatch h), fun q hq => List.mem_singleton.mp hq ▸ Int.le_refl _⟩
  | case3 x y r ih =>
    obtain ⟨pre, post, e, hpre, hall⟩ := ih (List.cons_ne_nil y r)
    generalize fold1 argminOp d (y :: r) = m at *
    unfold argminOp
    by_cases hlt : m.2 < x.2
    · rw [if_pos hlt]
      refine ⟨x :: pre, post, congrArg (x :: ·) e, ?_, ?_⟩
      · intro q hq; rcases List.mem_cons.mp hq with h | h
        · subst h; exact hlt
        · exact hpre q h
      · intro q hq; rcases List.mem_cons.mp hq with h | h
        · subst h; exact Int.le_of_lt hlt
        · exact hall q h
    · rw [if_neg hlt]
      refine ⟨[], y :: r, rfl, (fun _ h => nomatch h), ?_⟩
      intro q hq; rcases List.mem_cons.mp hq with h | h
      · subst h; exact Int.le_refl _
      · exact Int.le_trans (Int.not_lt.mp hlt) (hall q h)

example : treeReduce 2 2 (fold1 (· + ·) 0) (fun bs => fold1 (· + ·) 0 bs) ([[1, 2], [3], [4]].map (fold1 (· + ·) 0))
    = [fold1 (· + ·) (0 : Int) [1, 2, 3, 4]] := C18_sum (by decide +kernel) (by decide +kernel) (by decide +kernel) (by decide +kernel) (by decide +kernel)
example : treeReduce 2 2 (fold1 (· * ·) 1) (fun bs => fold1 (· * ·) 1 bs) ([[1, 2], [3], [4]].map (fold1 (· * ·) 1))
    = [fold1 (· * ·) (1 : Int) [1, 2, 3, 4]] := C18_prod (by decide +kernel) (by decide +kernel) (by decide +kernel) (by decide +kernel) (by decide +kernel)
example : treeReduce 2 2 (fold1 min 0) (fun bs => fold1 min 0 bs) ([[5, 2], [3], [4]].map (fold1 min 0))
    = [fold1 min (0 : Int) [5, 2, 3, 4]] := C18_min (by decide +kernel) (by decide +kernel) (by decide +kernel) (by decide +kernel) (by decide +kernel)
example : treeReduce 2 2 (fold1 max 0) (fun bs => fold1 max 0 bs) ([[5, 2], [3], [4]].map (fold1 max 0))
    = [fold1 max (0 : Int) [5, 2, 3, 4]] := C18_max (by decide +kernel) (by decide +kernel) (by decide +kernel) (by decide +kernel) (by decide +kernel)
example : treeReduce 2 2 (fold1 (· || ·) false) (fun bs => fold1 (· || ·) false bs)
      ([[false, true], [false], [false]].map (fold1 (· || ·) false))
    = [fold1 (· || ·) false [false, true, false, false]] :=
  C18_any (by decide +kernel) (by decide +kernel) (by decide +kernel) (by decide +kernel) (by decide +kernel)
example : treeReduce 2 2 (fold1 (· && ·) true) (fun bs => fold1 (· && ·) true bs)
      ([[false, true], [true], [true]].map (fold1 (· && ·) true))
    = [fold1 (· && ·) true [false, true, true, true]] :=
  C18_all (by decide +kernel) (by decide +kernel) (by decide +kernel) (by decide +kernel) (by decide +kernel)
example : treeReduce 2 2 (fold1 meanOp (0, 0)) (fun bs => meanFin (fold1 meanOp (0, 0) bs))
      ([[1, 2], [3], [5]].map meanChunk)
    = [(([1, 2, 3, 5].foldl (· + ·) 0 : Int) : Rat) / (([1, 2, 3, 5].length : Nat) : Rat)] :=
  C18_mean (by decide +kernel) (by decide +kernel) (by decide +kernel) (by decide +kernel) (by decide +kernel)
example : treeReduce 2 2 (fold1 argminOp (0, 0)) (fun bs => (fold1 argminOp (0, 0) bs).1)
      ([[(0, 5), (1, 1)], [(2, 1)], [(3, 7)]].map (fold1 argminOp (0, 0)))
    = [(fold1 argminOp (0, 0) [(0, 5), (1, 1), (2, 1), (3, 7)]).1] :=
  C18_argmin (by decide +kernel) (by decide +kernel) (by decide +kernel) (by decide +kernel) (by decide +kernel) (0, 0)
example : (fold1 argminOp (0, 0) [(0, 5), (1, 1), (2, 1), (3, 7)]).1 = 1 := by decide +kernel
example : (fold1 argmaxOp (0, 0) [(0, 5), (1, 7), (2, 7), (3, 1)]).1 = 1 := by decide +kernel
example : treeReduce 2 2 (fold1 argmaxOp (0, 0)) (fun bs => (fold1 argmaxOp (0, 0) bs).1)
      ([[(0, 5), (1, 7)], [(2, 7)], [(3, 1)]].map (fold1 argmaxOp (0, 0)))
    = [(fold1 argmaxOp (0, 0) [(0, 5), (1, 7), (2, 7), (3, 1)]).1] :=
  C18_argmax (by decide +kernel) (by decide +kernel) (by decide +kernel) (by decide +kernel) (by decide +kernel) (0, 0)
example := C18_argmin_first (0, 0) [(0, 5), (1, 1), (2, 1)] (by simp)
example {k depth : Nat} (hk : 2 ≤ k) (ps : List (List Int)) (hps : ps ≠ []) (hne : ∀ p ∈ ps, p ≠ [])
    (hdepth : depthOf ps.length k ≤ depth) :
    treeReduce k depth (fold1 (· + ·) 0) (fun bs => fold1 (· + ·) 0 bs) (ps.map (fold1 (· + ·) 0))
      = [fold1 (· + ·) 0 ps.flatten] :=
  C18_reduction_any_chunking (· + ·) Int.add_assoc 0 id hk hps hne _ (fold1_isHom _ Int.add_assoc 0) hdepth

/-- For the groups `product(*parts)` enumerated by `PartialReduce._layer` (n-D, any per-axis
`split_every`, `0` = axis not reduced): a block index is referenced by some output task iff it is
a block of the input grid — nothing dropped, nothing invented. -/
theorem C18_layer_inputs_cover (numblocks split : List Nat) (h : numblocks.length = split.length)
    (k : List Nat) :
    (∃ G ∈ cart (layerParts numblocks split), k ∈ cart G) ↔ k ∈ cart (numblocks.map List.range) := by
  -- the grid of the groups' grids is the whole grid, cell by cell (`axisLift`); here only which cells occur
  rw [← layerParts_flatten numblocks split h]
  simp only [cart_eq]
  rw [← (Dask.Lemmas.Indexing.axisLift _).mem_iff, List.mem_flatMap]

example : (∃ G ∈ cart (layerParts [3, 2] [2, 0]), [2, 1] ∈ cart G) :=
  (C18_layer_inputs_cover [3, 2] [2, 0] rfl [2, 1]).mpr (by decide +kernel)
example : (partialReduceKeys [3, 2] [2, 0] true).map (·.2.2) = [[[0, 0], [1, 0]], [[0, 1], [1, 1]], [[2, 0]], [[2, 1]]] := by
  decide +kernel

/-- reduce each row (axis 1), then select rows `I` = select rows `I`, then reduce each row; `f` is ANY function of a
row, so this is `map` commuting with the selection `selRows`, and neither the reduction model nor `acceptSlice` occurs. -/
theorem C18_slice_rows_commute {α β} (f : α → β) (I : List Nat) (rows : List α) :
    selRows I (rows.map f) = (selRows I rows).map f := by
  simp [selRows, List.map_filterMap]

/-- `_accept_slice_impl`, `keepdims=False`: one `input_index` entry per input axis; a reduced axis
always gets `slice(None)` (an output index never reaches it); the `p`-th kept axis receives the
index at output position `p`. -/
theorem C18_acceptSlice_nokeep (index : List Idx) (ndim : Nat) (reduced : List Nat)
    (hlen : index.length ≤ keptCount reduced (List.range ndim)) :
    (acceptSlice index ndim reduced false).inputIndex.length = ndim ∧
    ∀ j, j < ndim → (acceptSlice index ndim reduced false).inputIndex[j]? =
      if reduced.contains j = true then some fullSlice
      else ((acceptSlice index ndim reduced false).fullIndex.map toSliceIdx)[keptCount reduced (List.range j)]? := by
  have hfull : keptCount reduced (List.range ndim)
      ≤ ((index ++ List.replicate (keptCount reduced (List.range ndim) - index.length) fullSlice).map toSliceIdx).length := by
    rw [List.length_map, length_append_replicate_sub hlen]; exact Nat.le_refl _
  obtain ⟨hl, hget⟩ := inputIndexLoop_spec reduced (List.range ndim) _ hfull
  refine ⟨hl.trans List.length_range, fun j hj => ?_⟩
  have h := hget j (List.length_range.symm ▸ hj)
  rwa [List.getElem_range, List.take_range, Nat.min_eq_left (Nat.le_of_lt hj)] at h

/-- `keepdims=True`: positions coincide; reduced axes get `slice(None)`. -/
theorem C18_acceptSlice_keep (index : List Idx) (ndim : Nat) (reduced : List Nat)
    (hlen : index.length ≤ ndim) :
    (acceptSlice index ndim reduced true).inputIndex.length = ndim ∧
    ∀ j, j < ndim → (acceptSlice index ndim reduced true).inputIndex[j]? =
      if reduced.contains j = true then some fullSlice
      else ((acceptSlice index ndim reduced true).fullIndex.map toSliceIdx)[j]? := by
  have hl : ((index ++ List.replicate (ndim - index.length) fullSlice).map toSliceIdx).length = ndim := by
    rw [List.length_map, length_append_replicate_sub hlen]
  constructor
  · show (List.zipWith _ (List.range _) _).length = ndim
    simp only [if_true, List.length_zipWith, List.length_range, hl, Nat.min_self]
  · intro j hj
    show (List.zipWith _ (List.range _) _)[j]? = if _ then _ else (List.map toSliceIdx (index ++ _))[j]?
    simp only [if_true]
    rw [getElem?_zipWith_range, List.getElem?_eq_getElem (hl.symm ▸ hj)]
    exact apply_ite some _ _ _

/-- `keepdims=True`: the index on a reduced (size-`output_size`) axis is re-applied on the OUTPUT. -/
theorem C18_acceptSlice_keep_final (index : List Idx) (ndim : Nat) (reduced : List Nat)
    (hlen : index.length ≤ ndim) :
    ∀ j, j < ndim → (acceptSlice index ndim reduced true).finalIndex[j]? =
      ((acceptSlice index ndim reduced true).fullIndex[j]?).map
        (fun idx => if reduced.contains j = true then idx else extractIdx idx) := by
  have _ := hlen
  intro j _
  show (List.zipWith _ (List.range _) _)[j]? = _
  simp only [if_true]
  exact getElem?_zipWith_range _ _ j

example : selRows [2, 0] ([[1, 2], [3], [4, 5]].map List.sum) = (selRows [2, 0] [[1, 2], [3], [4, 5]]).map List.sum :=
  C18_slice_rows_commute _ _ _
example : (acceptSlice [.slice ⟨some 1, some 3, none⟩, .int 2] 3 [1] false).inputIndex
    = [.slice ⟨some 1, some 3, none⟩, fullSlice, .slice ⟨some 2, some 3, none⟩] := by decide +kernel
example : (acceptSlice [.slice ⟨some 1, some 3, none⟩, .int 2] 3 [1] false).inputIndex.length = 3 :=
  (C18_acceptSlice_nokeep _ 3 [1] (by decide +kernel)).1
example : (acceptSlice [.int 0, .int 0] 3 [1] true).inputIndex.length = 3 :=
  (C18_acceptSlice_keep _ 3 [1] (by decide +kernel)).1
example : (acceptSlice [.int 0, .int 0] 3 [1] true).finalIndex = [.int 0, .int 0, fullSlice] := by decide +kernel

end Dask.Props.C18
