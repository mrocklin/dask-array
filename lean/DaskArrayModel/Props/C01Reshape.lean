/-
C01 (reshape) — "reshape computes what NumPy computes, whatever the chunking": the rechunk-then-blockwise
plan of `dask_array/manipulation/_reshape.py`.  The property theorems (with their final assembly; the steps are
in Lemmas/ReshapePlan.lean: the planner's loop invariant, Lemmas/ReshapeMath.lean: grouped layouts hold the same
flat data, Lemmas/ReshapeSlots.lean: the slot lists) and non-vacuity examples.

Model (Model/Reshape.lean): `plan inshape outshape inchunks` is `reshape_rechunk(...)[:2]`, mirrored line by
line with Python's own list semantics (`Int` running indices, negative-index wrap-around, `IndexError`,
slice clamping, `reduce(mul, ())` raising `TypeError`), with `expand_tuple`, `contract_tuple`,
`_smooth_chunks`, `_cal_max_chunk_size`, `_calc_lower_dimension_chunks`.  `planBlock a ic oc bid` is the task
`ReshapeLowered._layer` emits for output block `bid`: `M.reshape(block k of the rechunked input, shape_k)`
where `k` is the row-major number of `bid` (`zip(out_keys, in_keys, shapes)`, all three in
`itertools.product` order); `planArr` concatenates the blocks along the advertised chunks.
Spec: `npReshape a shape` (element at output multi-index `i` = element of `a` with the same flat C-order
position), `flatIndex`, `unflat`.

Hypotheses of the six plan theorems (`C01r_plan_grouped` … `C01r_compute_eq_reshape`; all decidable, all inputs,
no size bound):
  `WFIn inshape inchunks`   `inchunks` is a chunking of `inshape` with normalised tuples (all chunks positive,
                            or `(0,)` for a zero-length axis);
  `Pos inshape`             no zero-length axis;
  `prodL inshape = prodL outshape`   what `reshape()` checks before building the expression;
  `plan … = .ok (ic, oc)`   the planner accepted (it refuses uneven regroupings with `NotImplementedError`).
`Pos` cannot be dropped: `C01r_zero_size_witness` is an accepted plan on a zero-size array whose two block
grids do not even have the same number of blocks (the `while ii >= 0 or oi >= 0` loop keeps reading
`inshape[-1]` after the input side is exhausted).  That is a fact about the planner: `reshape()` collapses a
zero-size array to one block before it plans, so no graph is built from such a plan.
Positive chunks cannot be dropped either (`C01r_zero_width_witness`; listed finding
`resolved-zero-chunk:reshape`).  Not proved: that a well-formed input is either accepted or refused with
`NotImplementedError` — it is not (`C01r_unit_operand_witness`); which inputs are refused is compared with the
implementation by the correspondence only.
-/
import DaskArrayModel.Lemmas.ReshapePlan
namespace Dask.Props.C01Reshape
open Dask.ND Dask.Reshape

/-- **Structure.** An accepted plan pairs the input axes (with the rechunked input chunks) and the output
axes (with the output chunks) in groups from the right: equal axes, length-1 axes on either side, several
input axes merged into one output axis, one input axis split into several output axes — merged / split
groups in pivot form, the single axis chunked by the block sizes of the group. -/
theorem C01r_plan_grouped (inshape outshape : List Nat) (inchunks ic oc : List Chunks)
    (hwf : WFIn inshape inchunks) (hpos : Pos inshape) (hprod : prodL inshape = prodL outshape)
    (h : plan inshape outshape inchunks = .ok (ic, oc)) :
    ic.length = inshape.length ∧ oc.length = outshape.length ∧
      Grouped (List.zip inshape ic) (List.zip outshape oc) :=
  plan_grouped hwf hpos hprod h

/-- **Validity.** Both results are chunkings of their shapes: one non-empty tuple per axis, summing to the
axis length. -/
theorem C01r_plan_valid (inshape outshape : List Nat) (inchunks ic oc : List Chunks)
    (hwf : WFIn inshape inchunks) (hpos : Pos inshape) (hprod : prodL inshape = prodL outshape)
    (h : plan inshape outshape inchunks = .ok (ic, oc)) :
    IsLayout ic inshape ∧ IsLayout oc outshape := by
  obtain ⟨h1, h2, _, vA, vB⟩ := plan_facts hwf hpos hprod h
  exact ⟨isLayout_of_valid h1 vA hpos,
    isLayout_of_valid h2 vB ((prodL_pos_iff _).mp (hprod ▸ (prodL_pos_iff _).mpr hpos))⟩

/-- **Block bijection.** The two block grids, enumerated row-major (the order of `_layer`), have the same
list of block sizes: same number of blocks, and block `k` of the rechunked input has as many elements as
block `k` of the output. -/
theorem C01r_block_sizes (inshape outshape : List Nat) (inchunks ic oc : List Chunks)
    (hwf : WFIn inshape inchunks) (hpos : Pos inshape) (hprod : prodL inshape = prodL outshape)
    (h : plan inshape outshape inchunks = .ok (ic, oc)) :
    blockSizes ic = blockSizes oc := by
  obtain ⟨h1, h2, he, _, _⟩ := plan_facts hwf hpos hprod h
  have := he.sizes
  rw [chunksA_zip h1, chunksA_zip h2] at this
  exact this

/-- the same per block index: the input block paired with output block `bid` exists and has the same
number of elements -/
theorem C01r_block_bijection (inshape outshape : List Nat) (inchunks ic oc : List Chunks)
    (hwf : WFIn inshape inchunks) (hpos : Pos inshape) (hprod : prodL inshape = prodL outshape)
    (h : plan inshape outshape inchunks = .ok (ic, oc)) :
    prodL (numblocks ic) = prodL (numblocks oc) ∧
    ∀ bid, validBid oc bid →
      validBid ic (unflat (numblocks ic) (flatIndex (numblocks oc) bid)) ∧
      prodL (blockShape ic (unflat (numblocks ic) (flatIndex (numblocks oc) bid))) =
        prodL (blockShape oc bid) := by
  obtain ⟨h1, h2, he, _, _⟩ := plan_facts hwf hpos hprod h
  have := equiv_blocks he
  rw [chunksA_zip h1, chunksA_zip h2] at this
  exact this

/-- **Central theorem, index form.** For EVERY output multi-index `i`: locate its block and its position in
the block, take the input block with the same row-major number, read it row-major at the same flat
position (`planIndex`); the input element found has the same flat C-order position as `i` — it is the
element `np.reshape` puts at `i`. -/
theorem C01r_plan_index (inshape outshape : List Nat) (inchunks ic oc : List Chunks)
    (hwf : WFIn inshape inchunks) (hpos : Pos inshape) (hprod : prodL inshape = prodL outshape)
    (h : plan inshape outshape inchunks = .ok (ic, oc)) (i : List Nat) (hi : InB i outshape) :
    InB (planIndex ic oc i) inshape ∧ flatIndex inshape (planIndex ic oc i) = flatIndex outshape i := by
  obtain ⟨h1, h2, he, vA, _⟩ := plan_facts hwf hpos hprod h
  have := equiv_planIndex he vA i (by rw [shapeA_zip h2]; exact hi)
  rw [chunksA_zip h1, chunksA_zip h2, shapeA_zip h1, shapeA_zip h2] at this
  exact this

/-- **Central theorem, array form.** For every array `a` of shape `inshape` (any element type): reshaping
block `k` of `a` rechunked to `ic` to the shape of output block `k`, for every `k`, and concatenating along
`oc` is `np.reshape(a, outshape)`. -/
theorem C01r_compute_eq_reshape {α : Type} (inshape outshape : List Nat) (inchunks ic oc : List Chunks)
    (hwf : WFIn inshape inchunks) (hpos : Pos inshape) (hprod : prodL inshape = prodL outshape)
    (h : plan inshape outshape inchunks = .ok (ic, oc)) (a : Arr α) (ha : a.shape = inshape) :
    Arr.Equiv (planArr a ic oc) (npReshape a outshape) := by
  obtain ⟨h1, h2, he, vA, vB⟩ := plan_facts hwf hpos hprod h
  have := equiv_planArr he vA vB a (by rw [shapeA_zip h1]; exact ha)
  rw [chunksA_zip h1, chunksA_zip h2, shapeA_zip h2] at this
  exact this

/-- `np.reshape` itself: `unflat` / `flatIndex` are inverse on in-bounds indices (the spec is well defined) -/
theorem C01r_unflat_flatIndex (shape i : List Nat) (h : InB i shape) : unflat shape (flatIndex shape i) = i :=
  unflat_flatIndex shape i h

/-- the other direction: every flat position below the size is the position of an in-bounds index -/
theorem C01r_flatIndex_unflat (shape : List Nat) (g : Nat) (h : g < prodL shape) :
    InB (unflat shape g) shape ∧ flatIndex shape (unflat shape g) = g :=
  flatIndex_unflat shape g h

/-- **`Pos` is necessary.** A zero-size array, well-formed chunks, equal sizes, an ACCEPTED plan — whose input
grid has 2 blocks and whose output grid has 4 (the model follows the planner's wrap-around read of
`inshape[-1]`; a graph built from such a plan would have missing dependencies, and `reshape()` does not plan for
zero-size arrays). -/
theorem C01r_zero_size_witness :
    WFIn [0, 6] [[0], [2, 4]] ∧ prodL [0, 6] = prodL [2, 3, 0, 6] ∧
      plan [0, 6] [2, 3, 0, 6] [[0], [2, 4]] = .ok ([[0], [3, 3]], [[1, 1], [3], [0], [2, 4]]) ∧
      (blockSizes [[0], [3, 3]]).length = 2 ∧ (blockSizes [[1, 1], [3], [0], [2, 4]]).length = 4 := by
  refine ⟨by decide, by rfl, by rfl, by rfl, by rfl⟩

/-- **Positive chunks are necessary.** With a zero-width chunk the "moving around blocks" shortcut takes
`len(chunks) == shape` for "chunked into single elements": the accepted plan pairs a 6-element block with a
3-element one. -/
theorem C01r_zero_width_witness :
    Pos [2, 3] ∧ prodL [2, 3] = prodL [6] ∧
      plan [2, 3] [6] [[2, 0], [3]] = .ok ([[2, 0], [3]], [[3, 3]]) ∧
      blockSizes [[2, 0], [3]] = [6, 0] ∧ blockSizes [[3, 3]] = [3, 3] := by
  refine ⟨by decide, by rfl, by rfl, by rfl, by rfl⟩

/-- **Acceptance is a hypothesis, not a conclusion.** On an operand whose axes all have length 1 and more than
twice as many output axes the planner neither accepts nor refuses with `NotImplementedError`: it raises
`IndexError` (the wrapped read `inshape[-2]`).  `reshape()` never gets there (one-block fast path), and slice
pushdown through a reshape rebuilds through `reshape()`. -/
theorem C01r_unit_operand_witness :
    WFIn [1] [[1]] ∧ Pos [1] ∧ prodL [1] = prodL [1, 1, 1] ∧
      plan [1] [1, 1, 1] [[1]] = .error .indexError := by
  refine ⟨by decide, by decide, by rfl, by rfl⟩

/-! ### non-vacuity: the hypotheses hold together on concrete, non-trivial inputs -/

/-- merge with an intermediate rechunk: `(6, 5, 4) → (30, 4)` -/
example : WFIn [6, 5, 4] [[3, 3], [2, 3], [2, 2]] ∧ Pos [6, 5, 4] ∧ prodL [6, 5, 4] = prodL [30, 4] ∧
    plan [6, 5, 4] [30, 4] [[3, 3], [2, 3], [2, 2]] =
      .ok ([[1, 1, 1, 1, 1, 1], [5], [2, 2]], [[5, 5, 5, 5, 5, 5], [2, 2]]) :=
  ⟨by decide +kernel, by decide +kernel, by rfl, by rfl⟩

/-- split: `(6, 5, 4) → (3, 2, 5, 4)` -/
example : WFIn [6, 5, 4] [[3, 3], [2, 3], [2, 2]] ∧ Pos [6, 5, 4] ∧ prodL [6, 5, 4] = prodL [3, 2, 5, 4] ∧
    plan [6, 5, 4] [3, 2, 5, 4] [[3, 3], [2, 3], [2, 2]] =
      .ok ([[2, 2, 2], [2, 3], [2, 2]], [[1, 1, 1], [2], [2, 3], [2, 2]]) :=
  ⟨by decide +kernel, by decide +kernel, by rfl, by rfl⟩

/-- merge where `expand_tuple` cuts the left axis into single rows and `_smooth_chunks` then splits the
whole-axis chunk of the right axis again; the leading length-1 output axis is reached after the input side
is exhausted (`ii = -1`, the loop reads `inshape[-1]`) -/
example : WFIn [4, 30] [[2, 2], [10, 10, 10]] ∧ Pos [4, 30] ∧ prodL [4, 30] = prodL [1, 120] ∧
    plan [4, 30] [1, 120] [[2, 2], [10, 10, 10]] =
      .ok ([[1, 1, 1, 1], [15, 15]], [[1], [15, 15, 15, 15, 15, 15, 15, 15]]) :=
  ⟨by decide +kernel, by decide +kernel, by rfl, by rfl⟩

/-- the element map on a concrete index: output `(17, 3)` of the first example is input `(3, 2, 3)` -/
example : planIndex [[1, 1, 1, 1, 1, 1], [5], [2, 2]] [[5, 5, 5, 5, 5, 5], [2, 2]] [17, 3] = [3, 2, 3] ∧
    flatIndex [6, 5, 4] [3, 2, 3] = flatIndex [30, 4] [17, 3] := ⟨by rfl, by rfl⟩

/-- a refusal: existing dimensions split unevenly -/
example : plan [6, 5, 4] [4, 5, 6] [[3, 3], [2, 3], [2, 2]] = .error .notImplemented := by rfl

end Dask.Props.C01Reshape
