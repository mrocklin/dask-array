/-
C02 — Every optimization phase and every fired rewrite preserves values.
Property theorems (the soundness proofs are in Lemmas/Rules*) and non-vacuity examples.

Scope.  `Expr` (Model/Expr.lean) is the expression mini-language; `den env e` is its NumPy meaning,
`WF e` = what the real API accepts.  Model/Rules.lean has the rewrite rules as functions
`Expr → Option Expr`.  For EVERY rule, every well-formed `e`, every data / function environment:
if the rule fires, its product is well-formed, has the same NumPy shape and denotes the same array
(`C02_rule_sound_<rule>`).  The same holds for one optimizer step anywhere in the tree
(`C02_step_sound`), for every sequence of single-rule steps, each step one rule of `rules ++ extraRules`
applied at the FIRST position where it fires (`C02_any_sequence`), and for the
fixpoint `optimize` (`C02_optimize_sound`); with `compute_eq_den` (Lemmas/ExprCorrect) the blocks computed by
the optimized expression assemble to the NumPy meaning of the ORIGINAL (`C02_optimize_compute`).
Sharing / culling gates of the real optimizer only decline rewrites.  What covers them is `stepWith_sound`
(Lemmas/RulesBase): a step with ANY list of sound root rules is sound, and a rule that a gate makes decline on
some arguments is still a sound rule.  `C02_any_sequence` does not cover them: a rule declined at the first
position where it fires and applied at a later one is not a `Rewrites` step.

`.chunks` may legitimately change under a rewrite (C03 is about each expression's own `.chunks`).
It is preserved (theorems `C02_chunks_*`) by: slice through map / zip, rechunk∘rechunk, no-op
rechunk, rechunk through map / zip, rechunk into a source / into a region read; under a grid-sensitive parent `step`
accepts a rewritten child only when `.chunks` is unchanged (`keepGrid`).

Rules in `optimize` (17): sliceIdentityDrop, sliceSliceFuse, sliceThroughMap, sliceThroughZip,
sliceThroughTranspose, sliceThroughExpandDims, sliceThroughSqueeze, sliceThroughReduce,
sliceThroughConcat, rechunkNoop, rechunkRechunk, rechunkThroughMap, rechunkThroughZip,
rechunkThroughTranspose, rechunkThroughExpandDims, rechunkIntoSrc, rechunkIntoRegion.  Sound but outside
`optimize`:
sliceIntoSrcKeep (a region is kept as `slice (src …)`), sliceSplitInts.
Proved in the extension files (same check, same audit): slice through `broadcast_to`, rechunk through
concatenate, rechunk∘slice composition (Props/C02Ext.lean; rules in Model/Rules2.lean) and
blockwise fusion's block-id assignment (Props/C02Fusion.lean).
Proved in other files: the generic `Blockwise._accept_slice` (Props/C02Gate.lean), slices through
reductions (Props/C02ReduceSlice.lean).  Here integers are not pushed through transpose / expand_dims /
reductions directly (such products are recognised via `sliceSplitInts`); lowering (`_lower`) is modelled
for the chunk-preserving cases only.
-/
import DaskArrayModel.Lemmas.Rules2
namespace Dask.Props.C02
open Dask.Py Dask.ND

/-- what a sound rewrite guarantees -/
def Preserves (env : Env) (e' e : Expr) : Prop :=
  WF e' ∧ shape e' = shape e ∧ Arr.Equiv (den env e') (den env e)

theorem preserves_of {env : Env} {e' e : Expr} (h : Refines env e' e) : Preserves env e' e :=
  ⟨h.isWF, h.shapeEq, h.equiv⟩

theorem C02_rule_sound_sliceSliceFuse (env : Env) (e e' : Expr) (hw : WF e)
    (h : sliceSliceFuse e = some e') : Preserves env e' e :=
  preserves_of (sliceSliceFuse_sound env e e' hw h)

theorem C02_rule_sound_sliceIdentityDrop (env : Env) (e e' : Expr) (hw : WF e)
    (h : sliceIdentityDrop e = some e') : Preserves env e' e :=
  preserves_of (sliceIdentityDrop_sound env e e' hw h)

theorem C02_rule_sound_sliceThroughMap (env : Env) (e e' : Expr) (hw : WF e)
    (h : sliceThroughMap e = some e') : Preserves env e' e :=
  preserves_of (sliceThroughMap_sound env e e' hw h)

theorem C02_rule_sound_sliceThroughZip (env : Env) (e e' : Expr) (hw : WF e)
    (h : sliceThroughZip e = some e') : Preserves env e' e :=
  preserves_of (sliceThroughZip_sound env e e' hw h)

theorem C02_rule_sound_sliceThroughTranspose (env : Env) (e e' : Expr) (hw : WF e)
    (h : sliceThroughTranspose e = some e') : Preserves env e' e :=
  preserves_of (sliceThroughTranspose_sound env e e' hw h)

theorem C02_rule_sound_sliceThroughExpandDims (env : Env) (e e' : Expr) (hw : WF e)
    (h : sliceThroughExpandDims e = some e') : Preserves env e' e :=
  preserves_of (sliceThroughExpandDims_sound env e e' hw h)

theorem C02_rule_sound_sliceThroughSqueeze (env : Env) (e e' : Expr) (hw : WF e)
    (h : sliceThroughSqueeze e = some e') : Preserves env e' e :=
  preserves_of (sliceThroughSqueeze_sound env e e' hw h)

theorem C02_rule_sound_sliceThroughReduce (env : Env) (e e' : Expr) (hw : WF e)
    (h : sliceThroughReduce e = some e') : Preserves env e' e :=
  preserves_of (sliceThroughReduce_sound env e e' hw h)

theorem C02_rule_sound_sliceThroughConcat (env : Env) (e e' : Expr) (hw : WF e)
    (h : sliceThroughConcat e = some e') : Preserves env e' e :=
  preserves_of (sliceThroughConcat_sound env e e' hw h)

theorem C02_rule_sound_sliceIntoSrcKeep (env : Env) (e e' : Expr) (hw : WF e)
    (h : sliceIntoSrcKeep e = some e') : Preserves env e' e :=
  preserves_of (sliceIntoSrcKeep_sound env e e' hw h)

theorem C02_rule_sound_sliceSplitInts (env : Env) (e e' : Expr) (hw : WF e)
    (h : sliceSplitInts e = some e') : Preserves env e' e :=
  preserves_of (sliceSplitInts_sound env e e' hw h)

theorem C02_rule_sound_rechunkNoop (env : Env) (e e' : Expr) (hw : WF e)
    (h : rechunkNoop e = some e') : Preserves env e' e :=
  preserves_of (rechunkNoop_sound env e e' hw h)

theorem C02_rule_sound_rechunkRechunk (env : Env) (e e' : Expr) (hw : WF e)
    (h : rechunkRechunk e = some e') : Preserves env e' e :=
  preserves_of (rechunkRechunk_sound env e e' hw h)

theorem C02_rule_sound_rechunkThroughMap (env : Env) (e e' : Expr) (hw : WF e)
    (h : rechunkThroughMap e = some e') : Preserves env e' e :=
  preserves_of (rechunkThroughMap_sound env e e' hw h)

theorem C02_rule_sound_rechunkThroughZip (env : Env) (e e' : Expr) (hw : WF e)
    (h : rechunkThroughZip e = some e') : Preserves env e' e :=
  preserves_of (rechunkThroughZip_sound env e e' hw h)

theorem C02_rule_sound_rechunkThroughTranspose (env : Env) (e e' : Expr) (hw : WF e)
    (h : rechunkThroughTranspose e = some e') : Preserves env e' e :=
  preserves_of (rechunkThroughTranspose_sound env e e' hw h)

theorem C02_rule_sound_rechunkThroughExpandDims (env : Env) (e e' : Expr) (hw : WF e)
    (h : rechunkThroughExpandDims e = some e') : Preserves env e' e :=
  preserves_of (rechunkThroughExpandDims_sound env e e' hw h)

theorem C02_rule_sound_rechunkIntoSrc (env : Env) (e e' : Expr) (hw : WF e)
    (h : rechunkIntoSrc e = some e') : Preserves env e' e :=
  preserves_of (rechunkIntoSrc_sound env e e' hw h)

theorem C02_rule_sound_rechunkIntoRegion (env : Env) (e e' : Expr) (hw : WF e)
    (h : rechunkIntoRegion e = some e') : Preserves env e' e :=
  preserves_of (rechunkIntoRegion_sound env e e' hw h)

/-- … and it delivers exactly the requested chunks -/
theorem C02_chunks_rechunkIntoRegion (e e' : Expr) (h : rechunkIntoRegion e = some e') :
    chunks e' = chunks e := by
  revert h
  fun_cases rechunkIntoRegion e
  case case1 hc =>
    intro h
    cases h
    exact hc.2
  all_goals exact fun h => nomatch h

/-- the index walk of slice∘slice fusion (`fuse_slice` + `normalize_slice`), stated on indices:
the fused index is accepted, selects the same shape, and reads the same input positions -/
theorem C02_fuseIx_sound (sh : List Nat) (a b f : List Ix) (ha : wfIx sh a = true)
    (hb : wfIx (sliceShape sh a) b = true) (h : fuseIx sh a b = some f) :
    wfIx sh f = true ∧ sliceShape sh f = sliceShape (sliceShape sh a) b ∧
      ∀ i, InB i (sliceShape sh f) → sliceIdx sh f i = sliceIdx sh a (sliceIdx (sliceShape sh a) b i) :=
  fuseIx_spec sh a b f ha hb h

/-- one optimizer step (first applicable rule at the root, else in a child), anywhere in the tree -/
theorem C02_step_sound (env : Env) (henv : EnvOK env) (e e' : Expr) (hw : WF e)
    (h : step e = some e') : Preserves env e' e :=
  preserves_of (step_refines env henv e e' hw h)

/-- every sequence of single-rule steps: each step applies one rule of `rules ++ extraRules` (in any order) at
the first position where it fires; with `rules2` as well: `C02x_any_sequence` (Props/C02Ext.lean) -/
theorem C02_any_sequence (env : Env) (henv : EnvOK env) (e e' : Expr) (hw : WF e)
    (h : Rewrites e e') : Preserves env e' e :=
  preserves_of (rewrites_refines env henv h hw)

/-- the optimizer preserves values and shape -/
theorem C02_optimize_sound (env : Env) (henv : EnvOK env) (e : Expr) (hw : WF e) :
    Arr.Equiv (den env (optimize e)) (den env e) ∧ shape (optimize e) = shape e :=
  let r := optimize_refines env henv e hw
  ⟨r.equiv, r.shapeEq⟩

/-- … and with `compute_eq_den`: the blocks computed by the optimized expression assemble to the NumPy
meaning of the original expression -/
theorem C02_optimize_compute (env : Env) (henv : EnvOK env) (e : Expr) (hw : WF e) :
    Arr.Equiv (compute env (optimize e)) (den env e) :=
  let r := optimize_refines env henv e hw
  (compute_eq_den env henv (optimize e) r.isWF).trans r.equiv

/-- … same flat data -/
theorem C02_optimize_data (env : Env) (henv : EnvOK env) (e : Expr) (hw : WF e) :
    (compute env (optimize e)).toList = (den env e).toList :=
  (C02_optimize_compute env henv e hw).toList_eq

theorem C02_chunks_sliceThroughMap (e e' : Expr) (h : sliceThroughMap e = some e') :
    chunks e' = chunks e := by
  revert h
  fun_cases sliceThroughMap e
  case case1 =>
    intro h
    cases h
    rfl
  case case2 => exact fun h => nomatch h

theorem C02_chunks_sliceThroughZip (e e' : Expr) (h : sliceThroughZip e = some e') :
    chunks e' = chunks e := by
  revert h
  fun_cases sliceThroughZip e
  case case1 =>
    intro h
    cases h
    rfl
  case case2 => exact fun h => nomatch h

theorem C02_chunks_rechunk (e e' : Expr)
    (h : rechunkRechunk e = some e' ∨ rechunkThroughMap e = some e' ∨ rechunkThroughZip e = some e' ∨
      rechunkIntoSrc e = some e' ∨ rechunkNoop e = some e') : chunks e' = chunks e := by
  rcases h with h | h | h | h | h
  · revert h
    fun_cases rechunkRechunk e
    case case1 =>
      intro h
      cases h
      rfl
    case case2 => exact fun h => nomatch h
  · revert h
    fun_cases rechunkThroughMap e
    case case1 =>
      intro h
      cases h
      rfl
    case case2 => exact fun h => nomatch h
  · revert h
    fun_cases rechunkThroughZip e
    case case1 =>
      intro h
      cases h
      rfl
    case case2 => exact fun h => nomatch h
  · revert h
    fun_cases rechunkIntoSrc e
    case case1 =>
      intro h
      cases h
      rfl
    case case2 => exact fun h => nomatch h
  · revert h
    fun_cases rechunkNoop e
    case case1 =>
      intro h
      cases h
      rfl
    all_goals exact fun h => nomatch h

/-! ### non-vacuity: the rules fire on concrete trees over the well-formed `xSrc` and CHANGE them
(`WF` is checked for `xSrc` and `xT`; `sliceIntoSrcKeep`, the identity on a region read, has no example) -/

def xEnv : Env :=
  { src := fun _ => ⟨[4, 5], fun i => (flatIndex [4, 5] i : Int)⟩
    un := fun _ x => -x
    bin := fun _ x y => x + y }
def xSrc : Expr := .src 0 [4, 5] [[2, 2], [3, 2]]
def sl (a b c : Option Int) : Ix := .slc ⟨a, b, c⟩

example : WF xSrc := by decide +kernel
-- slice∘slice: x[1:4, ::2][1:, 1] ↦ x[2:, 2]   (`fuse_slice`, then `normalize_slice`)
example : sliceSliceFuse (.slice (.slice xSrc [sl (some 1) (some 4) none, sl none none (some 2)])
      [sl (some 1) none none, .int 1])
    = some (.slice xSrc [sl (some 2) none none, .int 2]) := by decide +kernel
-- … declined for a negative step (NotImplementedError in `fuse_slice`)
example : sliceSliceFuse (.slice (.slice xSrc [sl none none (some (-1)), colonIx]) [colonIx, colonIx]) = none := by decide +kernel
example : sliceIdentityDrop (.slice (.map 0 xSrc) [colonIx, colonIx]) = some (.map 0 xSrc) := by decide +kernel
example : sliceThroughMap (.slice (.map 0 xSrc) [.int 1, colonIx]) = some (.map 0 (.slice xSrc [.int 1, colonIx])) := by decide +kernel
example : sliceThroughZip (.slice (.zip 0 xSrc xSrc) [.int 1, colonIx])
    = some (.zip 0 (.slice xSrc [.int 1, colonIx]) (.slice xSrc [.int 1, colonIx])) := by decide +kernel
-- the index is permuted: output axis 0 is input axis 1
example : sliceThroughTranspose (.slice (.transpose xSrc [1, 0]) [sl (some 1) (some 4) (some 2), sl none (some 3) none])
    = some (.transpose (.slice xSrc [sl none (some 3) none, sl (some 1) (some 4) (some 2)]) [1, 0]) := by decide +kernel
example : sliceThroughExpandDims (.slice (.expandDims xSrc 1) [sl (some 1) none none, colonIx, sl none none (some 2)])
    = some (.expandDims (.slice xSrc [sl (some 1) none none, sl none none (some 2)]) 1) := by decide +kernel
example : sliceThroughSqueeze (.slice (.squeeze (.reduce .sum xSrc 1 4) 1) [sl (some 1) (some 3) none])
    = some (.squeeze (.slice (.reduce .sum xSrc 1 4) [sl (some 1) (some 3) none, .slc Dask.Slicing.colon]) 1) := by decide +kernel
example : sliceThroughReduce (.slice (.reduce .sum xSrc 1 4) [sl (some 1) (some 3) none, colonIx])
    = some (.reduce .sum (.slice xSrc [sl (some 1) (some 3) none, colonIx]) 1 4) := by decide +kernel
-- … declined when the reduced axis is indexed (its index must not reach the input)
example : sliceThroughReduce (.slice (.reduce .sum xSrc 1 4) [colonIx, sl (some 0) (some 1) none]) = none := by decide +kernel
-- concat: rows 1..5 of a 4-row and a 2-row array: rows 1..4 of the first, row 0 of the second
example : sliceThroughConcat (.slice (.concat xSrc (.src 1 [2, 5] [[2], [3, 2]]) 0) [sl (some 1) (some 5) none, colonIx])
    = some (.concat (.slice xSrc [sl (some 1) (some 4) none, colonIx])
        (.slice (.src 1 [2, 5] [[2], [3, 2]]) [sl (some 0) (some 1) none, colonIx]) 0) := by decide +kernel
-- … an operand the slice misses is dropped
example : sliceThroughConcat (.slice (.concat xSrc (.src 1 [2, 5] [[2], [3, 2]]) 0) [sl (some 4) none none, colonIx])
    = some (.slice (.src 1 [2, 5] [[2], [3, 2]]) [sl (some 0) (some 2) none, colonIx]) := by decide +kernel
example : sliceSplitInts (.slice xSrc [.int (-1), sl (some 1) none none])
    = some (.slice (.slice xSrc [sl (some 3) (some 4) none, sl (some 1) none none]) [.int 0, colonIx]) := by decide +kernel
example : rechunkNoop (.rechunk xSrc [[2, 2], [3, 2]]) = some xSrc := by decide +kernel
example : rechunkRechunk (.rechunk (.rechunk xSrc [[4], [5]]) [[1, 3], [5]]) = some (.rechunk xSrc [[1, 3], [5]]) := by decide +kernel
example : rechunkThroughMap (.rechunk (.map 0 xSrc) [[4], [5]]) = some (.map 0 (.rechunk xSrc [[4], [5]])) := by decide +kernel
example : rechunkThroughZip (.rechunk (.zip 0 xSrc xSrc) [[4], [5]])
    = some (.zip 0 (.rechunk xSrc [[4], [5]]) (.rechunk xSrc [[4], [5]])) := by decide +kernel
example : rechunkThroughTranspose (.rechunk (.transpose xSrc [1, 0]) [[5], [1, 3]])
    = some (.transpose (.rechunk xSrc [[1, 3], [5]]) [1, 0]) := by decide +kernel
example : rechunkThroughExpandDims (.rechunk (.expandDims xSrc 0) [[1], [4], [5]])
    = some (.expandDims (.rechunk xSrc [[4], [5]]) 0) := by decide +kernel
example : rechunkIntoSrc (.rechunk xSrc [[4], [5]]) = some (.src 0 [4, 5] [[4], [5]]) := by decide +kernel
-- a region read x[1:4, :3] rechunked to ((2,1),(3,)): the source is read in chunks ((1,2,1),(3,2))
example : rechunkIntoRegion (.rechunk (.slice xSrc [sl (some 1) (some 4) none, sl none (some 3) none]) [[2, 1], [3]])
    = some (.slice (.src 0 [4, 5] [[1, 2, 1], [3, 2]]) [sl (some 1) (some 4) none, sl none (some 3) none]) := by decide +kernel

-- the hypotheses are jointly satisfiable and the conclusion is about real data: the transposed
-- slice and its pushed-down form have the same non-trivial values
def xT : Expr := .slice (.transpose xSrc [1, 0]) [sl (some 1) (some 4) (some 2), sl none (some 3) none]
def xT' : Expr := .transpose (.slice xSrc [sl none (some 3) none, sl (some 1) (some 4) (some 2)]) [1, 0]
example : WF xT ∧ sliceThroughTranspose xT = some xT' := by decide +kernel
example : (den xEnv xT).toList = [1, 6, 11, 3, 8, 13] ∧ (den xEnv xT').toList = [1, 6, 11, 3, 8, 13] := by decide +kernel

-- the statements have teeth: the UNSOUND variant of slice-through-transpose that forgets to
-- permute the index is well-formed on a square array but denotes a different array: the shapes already
-- differ ([4, 2] against [2, 4]), and that is what the refutation below uses
def sqSrc : Expr := .src 0 [4, 4] [[2, 2], [2, 2]]
def sqEnv : Env :=
  { src := fun _ => ⟨[4, 4], fun i => (flatIndex [4, 4] i : Int)⟩, un := fun _ x => x, bin := fun _ x _ => x }
def sqT : Expr := .slice (.transpose sqSrc [1, 0]) [sl (some 1) (some 3) none, colonIx]
def sqBad : Expr := .transpose (.slice sqSrc [sl (some 1) (some 3) none, colonIx]) [1, 0]
example : WF sqT ∧ WF sqBad := by decide +kernel
example : (den sqEnv sqT).toList = [1, 5, 9, 13, 2, 6, 10, 14] := by decide +kernel
example : (den sqEnv sqBad).toList = [4, 8, 5, 9, 6, 10, 7, 11] := by decide +kernel
example : ¬ Arr.Equiv (den sqEnv sqBad) (den sqEnv sqT) := by
  intro h; have := h.1; revert this; decide
-- … and fusing slices without the `min(a.stop, …)` clamp is unsound: x[0:2][0:3] is x[0:2], not x[0:3]
example : (den xEnv (.slice (.slice xSrc [sl none (some 2) none, colonIx]) [sl none (some 3) none, colonIx])).shape = [2, 5] ∧
    (den xEnv (.slice xSrc [sl none (some 3) none, colonIx])).shape = [3, 5] := by decide +kernel

end Dask.Props.C02
