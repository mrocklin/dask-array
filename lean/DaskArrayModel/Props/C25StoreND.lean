/-
C25 (extension) — `store` in n dimensions and the npy-stack round trip.  The property theorems with
their final assembly (the steps are in Lemmas/StoreND, StoreNDGlue, NpyStack) and non-vacuity examples.

Vocabulary (Model/StoreND.lean): `blockIds chunks` = every block multi-index; `blockWrite tshape region
chunks src bid` = the `load_store_chunk` call of block `bid` (fuse the block's `ArraySliceDep` index with
the region — `storeIndex`, Model/SourceIO.lean —, the `x.size != 0` guard, NumPy's `out[index] = x` with
its IndexError / broadcast check) as a partial function target position ↦ value written;
`storeEvalOrder … order tgt` = the target after the block writes were executed in `order`;
`regionSel tshape region` = what `target[region]` names, `locate G q` = the multi-index INSIDE that
selection of target position `q` (`none`: not selected).
`accepted tshape region chunks` (decidable): chunks ≥ 0 (zero-length chunks allowed); no region (`None`
or `()`) and target shape = source shape, or a region tuple with one entry per target axis: integers in
range (wrap-around allowed), slices with start, stop ≥ 0 and step ≥ 1 (a negative start, stop or step
is refused by `fuse_slice`: `C25_store_refusal`; step 0 NumPy itself rejects) selecting exactly as many
positions as the source axis is long.
-/
import DaskArrayModel.Lemmas.StoreNDGlue
import DaskArrayModel.Lemmas.NpyStack
import DaskArrayModel.Lemmas.Assoc
namespace Dask.Props.C25n
open Dask.Py Dask.Py.PySlice Dask.Slicing Dask.SourceIO Dask.StoreND Dask.NpyStack Dask.Lemmas.StoreND

/-- every block write succeeds, and the sets of target positions the blocks write are pairwise
disjoint and their union is exactly the set of positions the region selects -/
theorem C25n_writes_partition (tshape : List Int) (region : Option (List RIdx))
    (chunks : List (List Int)) (src : Pos → Int) (h : accepted tshape region chunks = true) :
    ∃ G, regionSel tshape region = .ok G ∧
    ∃ ws : List Nat → Write Pos,
      (∀ bid ∈ blockIds chunks, blockWrite tshape region chunks src bid = .ok (ws bid)) ∧
      ∀ q : Pos,
        ((∃ bid ∈ blockIds chunks, (ws bid q).isSome) ↔ (locate G q).isSome) ∧
        (∀ bid ∈ blockIds chunks, ∀ bid' ∈ blockIds chunks,
          (ws bid q).isSome → (ws bid' q).isSome → bid = bid') := by
  obtain ⟨hc, G, hg⟩ := glue_of_accepted tshape region chunks h
  refine ⟨G, hg.sel, blockSpec G chunks src, fun bid hb => blockWrite_eq tshape region chunks G src hc hg bid hb, ?_⟩
  intro q
  have hp := writes_partition G chunks src hc hg.shape q
  constructor
  · constructor
    · rintro ⟨bid, _, hs⟩
      cases hl : locate G q with
      | none => rw [hp.2 hl bid] at hs; cases hs
      | some g => rfl
    · intro hs
      cases hl : locate G q with
      | none => rw [hl] at hs; cases hs
      | some g =>
        obtain ⟨bid, hb, hv, _⟩ := hp.1 g hl
        exact ⟨bid, hb, by rw [hv]; rfl⟩
  · intro bid hb bid' hb' h1 h2
    by_cases hne : bid = bid'
    · exact hne
    · rcases blockSpec_disjoint G chunks src hc bid bid' hb hb' hne q with h' | h'
      · rw [h'] at h1; cases h1
      · rw [h'] at h2; cases h2

/-- after the store — the blocks executed in ANY order — target position `q` holds `src[p]` when `q`
is the `p`-th position of `target[region]`, and its old value when the region does not select it -/
theorem C25n_store_correct (tshape : List Int) (region : Option (List RIdx))
    (chunks : List (List Int)) (src tgt : Pos → Int) (h : accepted tshape region chunks = true) :
    ∃ G, regionSel tshape region = .ok G ∧ selShape G = srcShape chunks ∧
    ∀ order : List (List Nat), order.Perm (blockIds chunks) →
      ∃ tgt', storeEvalOrder tshape region chunks src order tgt = .ok tgt' ∧
        ∀ q : Pos, (∀ p, locate G q = some p → tgt' q = src p) ∧ (locate G q = none → tgt' q = tgt q) := by
  obtain ⟨hc, G, hg⟩ := glue_of_accepted tshape region chunks h
  refine ⟨G, hg.sel, hg.shape, ?_⟩
  intro order hp
  refine ⟨specTarget G src tgt, store_correct tshape region chunks G src tgt hc hg order hp, ?_⟩
  intro q
  constructor
  · intro p hl; simp [specTarget, hl]
  · intro hl; simp [specTarget, hl]

/-- any two orders of the block writes give the same target -/
theorem C25n_order_independent (tshape : List Int) (region : Option (List RIdx))
    (chunks : List (List Int)) (src tgt : Pos → Int) (h : accepted tshape region chunks = true)
    (o1 o2 : List (List Nat)) (h1 : o1.Perm (blockIds chunks)) (h2 : o2.Perm (blockIds chunks)) :
    storeEvalOrder tshape region chunks src o1 tgt = storeEvalOrder tshape region chunks src o2 tgt ∧
    ∃ t, storeEvalOrder tshape region chunks src o1 tgt = .ok t := by
  obtain ⟨hc, G, hg⟩ := glue_of_accepted tshape region chunks h
  rw [store_correct tshape region chunks G src tgt hc hg o1 h1,
    store_correct tshape region chunks G src tgt hc hg o2 h2]
  exact ⟨rfl, _, rfl⟩

-- a 2-d source with chunks (2,1) × (1,0,2) into a 6 × 4 × 9 target: stepped region slices with an
-- integer entry in between
example : accepted [6, 4, 9] (some [RIdx.slc ⟨some 1, some 6, some 2⟩, RIdx.int (-1), RIdx.slc ⟨some 2, some 8, some 2⟩])
    [[2, 1], [1, 0, 2]] = true := by decide +kernel
example : accepted [3, 3] none [[2, 1], [1, 0, 2]] = true := by decide +kernel
example : accepted [4] (some [RIdx.slc ⟨some 3, some 0, some (-1)⟩]) [[2, 1]] = false := by decide +kernel
example : (blockIds [[2, 1], [1, 0, 2]]).length = 6 := by decide +kernel

/-- several (source, target, region) triples whose targets are pairwise different objects (`tid`), every
triple accepted; ALL block tasks of all triples executed in ANY interleaving (`sched` = a permutation of
`allTasks jobs`): the store succeeds, the target of every triple ends exactly as `C25n_store_correct` says
for that triple alone (`specTarget`: source values on the region's selection, old values elsewhere), and
a target of no triple is untouched. -/
theorem C25n_multi (jobs : List Job)
    (hd : ∀ (k k' : Nat) (j j' : Job), jobs[k]? = some j → jobs[k']? = some j' → k ≠ k' → j.tid ≠ j'.tid)
    (hacc : ∀ j ∈ jobs, accepted j.tshape j.region j.chunks = true)
    (sched : List (Nat × List Nat)) (hp : sched.Perm (allTasks jobs)) (heap : Nat × Pos → Int) :
    ∃ heap', storeMultiOrder jobs sched heap = .ok heap' ∧
      (∀ j ∈ jobs, ∃ G, regionSel j.tshape j.region = .ok G ∧
        ∀ q, heap' (j.tid, q) = specTarget G j.src (fun q => heap (j.tid, q)) q) ∧
      (∀ tid, (∀ j ∈ jobs, j.tid ≠ tid) → ∀ q, heap' (tid, q) = heap (tid, q)) := by
  obtain ⟨heap', h1, h2, h3⟩ := store_multi jobs hd hacc sched hp heap
  refine ⟨heap', h1, ?_, h3⟩
  intro j hj
  obtain ⟨_, G, hg⟩ := glue_of_accepted j.tshape j.region j.chunks (hacc j hj)
  refine ⟨G, hg.sel, ?_⟩
  have : selOf j = G := by simp [selOf, hg.sel]
  intro q
  rw [← this]
  exact h2 j hj q

/-- "`store` refuses (raises) exactly when `target[region].shape ≠ source.shape`" is FALSE for the code
in /repo: `store` has no shape check of its own, the only check is NumPy's
broadcast check inside each block's `out[index] = x`, after `fuse_slice` has clipped the block's slice to
the region (`min(a.stop, …)`).  A source SMALLER than the region's selection is written into the leading
part of the region without error, and a LARGER source is refused only if some block keeps an extent ≠ 1
on the short axis (a one-element block is broadcast into the empty selection): see the last three
`show5` evaluations below, which the correspondence check reproduces on the real code.  Proved part: an accepted call (shapes
equal, supported region form) is never refused, for any order of the blocks. -/
theorem C25n_refusal_partial (tshape : List Int) (region : Option (List RIdx))
    (chunks : List (List Int)) (src tgt : Pos → Int) (h : accepted tshape region chunks = true)
    (order : List (List Nat)) (hp : order.Perm (blockIds chunks)) :
    ∃ t, storeEvalOrder tshape region chunks src order tgt = .ok t := by
  obtain ⟨hc, G, hg⟩ := glue_of_accepted tshape region chunks h
  exact ⟨_, store_correct tshape region chunks G src tgt hc hg order hp⟩

/-- `to_npy_stack(dir, x, axis)` then `from_npy_stack(dir)` for `0 ≤ axis < ndim` and any chunking
(zero-length blocks included): reading succeeds, advertises the info record's chunks — the source's
chunks along `axis`, the same shape — and every position of the array reads back the source value. -/
theorem C25n_stack_roundtrip (chunks : List (List Int)) (axis : Nat) (x : Pos → Int)
    (hc : ∀ c ∈ chunks, ∀ v ∈ c, 0 ≤ v) (ha : axis < chunks.length) :
    ∃ f, fromStack (toStack axis chunks x).1 (toStack axis chunks x).2 =
        .ok ((toStack axis chunks x).2.chunks, f) ∧
      (toStack axis chunks x).2.chunks[axis]? = chunks[axis]? ∧
      srcShape (toStack axis chunks x).2.chunks = srcShape chunks ∧
      ∀ q, InRange chunks q → f q = some (x q) := by
  obtain ⟨ca, h1, h2, h3⟩ := Dask.Lemmas.NpyStack.collapse_axis 0 axis chunks ha
  simp only [Int.natCast_zero, Int.zero_add] at h1 h3
  have hget : pyGet? (collapseFrom 0 axis chunks) (axis : Int) = some ca := by
    simp [pyGet?, h1]
  unfold fromStack toStack
  simp only [hget]
  refine ⟨_, rfl, by rw [h1, h2], Dask.Lemmas.NpyStack.collapse_srcShape 0 axis chunks, ?_⟩
  intro q hq
  have hq' := Dask.Lemmas.NpyStack.inRange_of_shape _ _
    (Dask.Lemmas.NpyStack.collapse_srcShape 0 axis chunks) q hq
  obtain ⟨⟨bs, os⟩, hr⟩ := Dask.Lemmas.NpyStack.locAll_exists _ q hq'
  obtain ⟨hmem, hadd⟩ := Dask.Lemmas.NpyStack.locAll_spec _ q bs os hr
  obtain ⟨i, hi, hib⟩ := List.getElem_of_mem hmem
  have hib' : (blockIds (collapseFrom 0 axis chunks))[i]? = some bs := by
    rw [List.getElem?_eq_getElem hi, hib]
  simp only [hr]
  rw [Dask.Assoc.lookup_zip_getElem? _ _ i bs (nodup_blockIds _) hib',
    List.getElem?_range (by omega)]
  simp only [List.getElem?_map, hib', Option.map_some, blockArr, hadd]

-- target of length 5 pre-filled with -1, source 10, 11, 12
example : show5 (storeEval [5] (some [RIdx.slc ⟨some 1, some 4, none⟩]) [[2, 1]] (fun p => 10 + p.headD 0) (fun _ => -1))
    = some [-1, 10, 11, 12, -1] := by decide +kernel
-- region selects 4 positions, source has 3: accepted silently, prefix written
example : show5 (storeEval [5] (some [RIdx.slc ⟨some 0, some 4, none⟩]) [[2, 1]] (fun p => 10 + p.headD 0) (fun _ => -1))
    = some [10, 11, 12, -1, -1] := by decide +kernel
-- region selects 2 positions, source has 3 in blocks (2, 1): accepted silently, last element dropped
example : show5 (storeEval [5] (some [RIdx.slc ⟨some 0, some 2, none⟩]) [[2, 1]] (fun p => 10 + p.headD 0) (fun _ => -1))
    = some [10, 11, -1, -1, -1] := by decide +kernel
-- same with one block of 3: NumPy's broadcast check refuses
example : show5 (storeEval [5] (some [RIdx.slc ⟨some 0, some 2, none⟩]) [[3]] (fun p => 10 + p.headD 0) (fun _ => -1))
    = none := by decide +kernel
example : (allTasks [⟨0, [4], none, [[2, 2]], fun _ => 0⟩, ⟨1, [5], some [RIdx.slc ⟨some 1, some 5, none⟩], [[1, 3]], fun _ => 0⟩]).length = 4 := by
  decide +kernel
example : (toStack 0 [[2, 0, 1], [2, 2]] (fun _ => 0)).2 = ⟨[[2, 0, 1], [4]], 0⟩ ∧
    (toStack 0 [[2, 0, 1], [2, 2]] (fun _ => 0)).1.map (·.shape) = [[2, 4], [0, 4], [1, 4]] := by decide +kernel
example : InRange [[2, 0, 1], [2, 2]] [2, 3] := ⟨by decide, by decide, by decide, by decide, trivial⟩

end Dask.Props.C25n
