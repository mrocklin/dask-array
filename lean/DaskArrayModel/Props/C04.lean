/-
C04 — Graphs are closed, acyclic and produce exactly the advertised keys (theorem side).

The LAYER CONTRACT (`LayerContract` + `OwnedLayer`, Model/Graph.lean) is a LOCAL fact about one
`_layer()`; harness/props/C04.py monitors it on every real layer of every generated program
(optimize-graph on and off).  These theorems lift the monitored local facts to the merged graph
`toolz.merge(layers)` of EVERY expression DAG (no size bound).
-/
import DaskArrayModel.Lemmas.Graph
namespace Dask.Props.C04
open Dask.Graph

/-- Every layer defines its grid and references only its own keys or block keys of declared
dependencies, and the node set is closed under `dependencies()` ⇒ the merged graph is closed.
Holds for arbitrary, also overlapping, layers (SetItem's embedded sub-graph, Shuffle literals). -/
theorem C04_layers_closed {ν : Type} (nodes : List (ENode ν))
    (hc : ∀ n ∈ nodes, LayerContract n) (hw : WalkClosed nodes) : closed (unionLayers nodes) :=
  Dask.Lemmas.Graph.layers_closed hc hw

/-- The merged graph has distinct keys (it is a dict) whenever the layers have. -/
theorem C04_union_wf {ν : Type} (nodes : List (ENode ν))
    (h : ∀ n ∈ nodes, (keys n.layer).Nodup) : WF (unionLayers nodes) :=
  Dask.Lemmas.Graph.WF_unionLayers h

/-- The merged graph defines `rootName × grid(numblocks root)`. -/
theorem C04_root_keys {ν : Type} (nodes : List (ENode ν)) (root : ENode ν) (hr : root ∈ nodes)
    (hc : LayerContract root) :
    ∀ i ∈ grid root.numblocks, blockKey root.name i ∈ keys (unionLayers nodes) :=
  fun i hi => Dask.Lemmas.Graph.keys_unionLayers.mpr ⟨root, hr, hc.grid_defined i hi⟩

/-- … and, with owned layers and distinct names, nothing else under the root's public name. -/
theorem C04_root_keys_exact {ν : Type} (nodes : List (ENode ν)) (root : ENode ν) (hr : root ∈ nodes)
    (ho : ∀ n ∈ nodes, OwnedLayer n)
    (hnames : ∀ n ∈ nodes, ∀ m ∈ nodes, n.name = m.name → n = m) :
    ∀ k ∈ keys (unionLayers nodes), k.owner = root.name → k.tag = "" → k.idx ∈ grid root.numblocks := by
  intro k hk hown htag
  obtain ⟨n, hn, hkn⟩ := Dask.Lemmas.Graph.keys_unionLayers.mp hk
  have h1 : n.name = root.name := by rw [← (ho n hn).owned k hkn]; exact hown
  have : n = root := hnames n hn root hr h1
  subst this
  exact (ho n hn).grid_exact k hkn htag

/-- Expression DAG in dependency order (distinct names), owned layers satisfying the contract,
each layer internally ordered relative to the block keys of its declared dependencies ⇒ the
concatenation of the per-layer orders in DAG order is a topological order of the merged graph. -/
theorem C04_acyclic {ν : Type} (nodes : List (ENode ν)) (ord : ENode ν → List Key)
    (hd : DagFrom [] nodes) (hc : ∀ n ∈ nodes, LayerContract n ∧ OwnedLayer n)
    (hord : ∀ n ∈ nodes, TopoFrom n.layer (depGrid n) (ord n) ∧ ∀ k ∈ keys n.layer, k ∈ ord n) :
    IsTopo (unionLayers nodes) (nodes.flatMap ord) :=
  Dask.Lemmas.Graph.union_acyclic ord hd hc hord

/-- The `RootAlias` layer `(raw, i…) ↦ (opt, i…)` satisfies the layer contract, is owned by `raw`,
and (when `raw` differs from the optimized root's name) is ordered by its key list. -/
theorem C04_rootalias_layer {ν : Type} [Inhabited ν] (raw : String) (opt : ENode ν) :
    LayerContract (rootAlias raw opt) ∧ OwnedLayer (rootAlias raw opt) ∧
    (raw ≠ opt.name → TopoFrom (rootAlias raw opt).layer (depGrid (rootAlias raw opt))
      (keys (rootAlias raw opt).layer)) :=
  ⟨Dask.Lemmas.Graph.rootAlias_contract raw opt, Dask.Lemmas.Graph.rootAlias_owned raw opt,
   Dask.Lemmas.Graph.rootAlias_topo raw opt⟩

/-- `_materialize` raises exactly when optimization renamed the root AND the raw name is the name
of a node of the optimized tree (the embedded-root guard); otherwise the node list stays in
dependency order with distinct names. -/
theorem C04_materialize_guard {ν : Type} [Inhabited ν] (raw : String) (pre : List (ENode ν))
    (root : ENode ν) :
    ((∃ e, materialize raw pre root = .error e) ↔
      root.name ≠ raw ∧ raw ∈ (pre ++ [root]).map (·.name)) ∧
    ∀ nodes, materialize raw pre root = .ok nodes → DagFrom [] (pre ++ [root]) → DagFrom [] nodes := by
  refine ⟨?_, fun _ hm hd => (Dask.Lemmas.Graph.materialize_ok hm hd).1⟩
  unfold materialize
  by_cases h1 : root.name = raw
  · rw [if_pos h1]
    exact ⟨fun ⟨e, he⟩ => (by cases he), fun ⟨h, _⟩ => absurd h1 h⟩
  · by_cases h2 : raw ∈ (pre ++ [root]).map (·.name)
    · rw [if_neg h1, if_pos h2]
      exact ⟨fun _ => ⟨h1, h2⟩, fun _ => ⟨_, rfl⟩⟩
    · rw [if_neg h1, if_neg h2]
      exact ⟨fun ⟨e, he⟩ => (by cases he), fun ⟨_, h⟩ => absurd h h2⟩

/-- THE MATERIALIZED GRAPH: layer contract on every layer of the optimized tree + `_materialize`
does not raise ⇒ the merged graph (with the pin) has distinct keys, is closed, is acyclic, and
defines `raw × grid(numblocks)` — the name is the raw name whether or not optimization renamed
the root. -/
theorem C04_materialized_graph {ν : Type} [Inhabited ν] (raw : String) (pre : List (ENode ν))
    (root : ENode ν) (nodes : List (ENode ν)) (ord : ENode ν → List Key)
    (hm : materialize raw pre root = .ok nodes) (hd : DagFrom [] (pre ++ [root]))
    (hc : ∀ n ∈ pre ++ [root], LayerContract n ∧ OwnedLayer n)
    (hord : ∀ n ∈ pre ++ [root],
      TopoFrom n.layer (depGrid n) (ord n) ∧ ∀ k ∈ keys n.layer, k ∈ ord n) :
    WF (unionLayers nodes) ∧ closed (unionLayers nodes) ∧ acyclic (unionLayers nodes) ∧
    ∀ i ∈ grid root.numblocks, blockKey raw i ∈ keys (unionLayers nodes) := by
  obtain ⟨hd', hcase⟩ := Dask.Lemmas.Graph.materialize_ok hm hd
  rcases hcase with ⟨rfl, hname⟩ | ⟨rfl, hguard⟩
  · obtain ⟨h1, h2, h3⟩ := Dask.Lemmas.Graph.dag_union ord hd hc hord
    have hroot : root ∈ pre ++ [root] := List.mem_append_right _ List.mem_cons_self
    exact ⟨h1, h2, h3, hname ▸ C04_root_keys _ root hroot (hc root hroot).1⟩
  · -- the alias layer joins the DAG, ordered by its own key list
    have hne : raw ≠ root.name :=
      fun e => hguard (e ▸ List.mem_map.mpr ⟨root, List.mem_append_right _ List.mem_cons_self, rfl⟩)
    have hmem : ∀ n ∈ pre ++ [root] ++ [rootAlias raw root], n ∈ pre ++ [root] ∨ n = rootAlias raw root :=
      fun n hn => (List.mem_append.mp hn).imp_right List.mem_singleton.mp
    obtain ⟨h1, h2, h3⟩ := Dask.Lemmas.Graph.dag_union
      (fun n => if n.name = raw then keys n.layer else ord n) hd'
      (fun n hn => (hmem n hn).elim (hc n) (fun e => e ▸
        ⟨Dask.Lemmas.Graph.rootAlias_contract raw root, Dask.Lemmas.Graph.rootAlias_owned raw root⟩))
      (fun n hn => by
        rcases hmem n hn with h | rfl
        · rw [if_neg (fun e : n.name = raw => hguard (e ▸ List.mem_map.mpr ⟨n, h, rfl⟩))]; exact hord n h
        · have hn' : (rootAlias raw root).name = raw := rfl
          rw [if_pos hn']
          exact ⟨Dask.Lemmas.Graph.rootAlias_topo raw root hne, fun k hk => hk⟩)
    exact ⟨h1, h2, h3, C04_root_keys _ _ (List.mem_append_right _ List.mem_cons_self)
      (Dask.Lemmas.Graph.rootAlias_contract raw root)⟩

/-- a 2-block source `x`, and `y = f(x)` blockwise -/
def nodeX : ENode Int :=
  { name := "x", numblocks := [2], deps := [],
    layer := [(blockKey "x" [0], ⟨[], fun _ => 1⟩), (blockKey "x" [1], ⟨[], fun _ => 2⟩)] }
def nodeY : ENode Int :=
  { name := "y", numblocks := [2], deps := [("x", [2])],
    layer := [(blockKey "y" [0], ⟨[blockKey "x" [0]], fun vs => vs.headD 0 + 10⟩),
              (blockKey "y" [1], ⟨[blockKey "x" [1]], fun vs => vs.headD 0 + 10⟩)] }

example : grid [2, 3] = [[0, 0], [0, 1], [0, 2], [1, 0], [1, 1], [1, 2]] := by decide +kernel
example : grid [] = [[]] := by decide +kernel

/-- optimization renamed the root (`raw = "r"`): the pin is appended and the merged graph
evaluates the advertised keys -/
example : (materialize "r" [nodeX] nodeY).toOption.map (fun ns => ns.map (·.name))
    = some ["x", "y", "r"] := by decide +kernel
example : keys (unionLayers [nodeX, nodeY, rootAlias "r" nodeY])
    = [blockKey "x" [0], blockKey "x" [1], blockKey "y" [0], blockKey "y" [1],
       blockKey "r" [0], blockKey "r" [1]] := by decide +kernel
example : (evalOrder (unionLayers [nodeX, nodeY, rootAlias "r" nodeY])
      (keys (unionLayers [nodeX, nodeY, rootAlias "r" nodeY])) Env.empty).map
      (fun e => [e (blockKey "r" [0]), e (blockKey "r" [1])]) = some [some 11, some 12] := by decide +kernel

/-- the guard: the raw name is the name of the inner node `x` -/
example : (materialize "x" [nodeX] nodeY).toOption.isNone = true := by decide +kernel
/-- WITHOUT the guard two layers would define the same key … -/
example : blockKey "x" [0] ∈ keys nodeX.layer ∧ blockKey "x" [0] ∈ keys (rootAlias "x" nodeY).layer := by
  decide +kernel
/-- … and the merged graph (later layer wins) would contain the cycle `x[0] → y[0] → x[0]` -/
example : ((getTask (unionLayers [nodeX, nodeY, rootAlias "x" nodeY]) (blockKey "x" [0])).map (·.deps),
           (getTask (unionLayers [nodeX, nodeY, rootAlias "x" nodeY]) (blockKey "y" [0])).map (·.deps))
    = (some [blockKey "y" [0]], some [blockKey "x" [0]]) := by decide +kernel

end Dask.Props.C04
