/-
C25 — store writes exactly the array into the requested target regions.  The property theorems with
their final assembly (the steps are in Lemmas/SourceIO) and non-vacuity examples.
Per axis (the write index is a tuple, fused axis by axis: `C25_fuseTuple_axiswise`; NumPy slice
assignment is a per-axis product); for ALL target lengths, ALL chunkings (zero-length chunks
included) and ALL region slices with positive step.

Vocabulary (Model/SourceIO.lean): `storeWrites (some r) chunks` = the list, in block order, of
`fuse_slice(r, slice(cs, ce))` over the chunk slices `ArraySliceDep(chunks)` hands to
`load_store_chunk` (error = the `NotImplementedError` of `fuse_slice`);
`sel w n` = the target positions `out[w] = x` assigns, in order (`x[j]` goes to `(sel w n)[j]`).
-/
import DaskArrayModel.Lemmas.SourceIO
namespace Dask.Props.C25
open Dask.Py Dask.Py.PySlice Dask.Slicing Dask.SourceIO

/-- For a target region slice `r` with positive step whose selection on a target axis of
length `n` has as many elements as the source axis (`target[region].shape == source.shape`):
the write sets of the blocks (1) concatenate, in block order, to exactly `sel r n`, (2) are
pairwise disjoint, (3) block `b` writes exactly `chunks[b]` positions and its local element `j`
(global source position `blockStart chunks b + j`) lands at `(sel r n)[blockStart chunks b + j]`,
(4) no position outside `sel r n` is in any write set (complement untouched). -/
theorem C25_store_tiles (r : PySlice) (n : Int) (chunks : List Int) (ws : List PySlice)
    (hn : 0 ≤ n) (hstep : 0 < r.stp) (hc : ∀ c ∈ chunks, 0 ≤ c)
    (hlen : isum chunks = ((sel r n).length : Int))
    (hw : storeWrites (some r) chunks = .ok ws) :
    ws.flatMap (fun w => sel w n) = sel r n ∧
    List.Pairwise (fun a b : List Int => ∀ x ∈ a, x ∉ b) (ws.map (fun w => sel w n)) ∧
    (ws.length = chunks.length ∧
      ∀ (b : Nat) (hb : b < chunks.length) (w : PySlice), ws[b]? = some w →
        ((sel w n).length : Int) = chunks[b] ∧
        ∀ j : Nat, (j : Int) < chunks[b] →
          (sel w n)[j]? = (sel r n)[(blockStart chunks b + j).toNat]?) ∧
    (∀ q, q ∉ sel r n → ∀ w ∈ ws, q ∉ sel w n) := by
  obtain ⟨ht, hcat⟩ := Dask.Lemmas.SourceIO.store_tiles r n chunks ws hn hc hlen hw
  refine ⟨hcat, ?_, ⟨?_, ?_⟩, ?_⟩
  · -- the write sets concatenate to a duplicate-free list, so they are pairwise disjoint
    have hnd := Dask.Lemmas.SourceIO.nodup_sel r n (Int.ne_of_gt hstep)
    rw [← hcat, List.flatMap_def, List.Nodup, List.pairwise_flatten] at hnd
    exact hnd.2.imp (fun h x hx hxb => h x hx x hxb rfl)
  · have := congrArg List.length ht
    rw [List.length_map, List.length_map, slicesFromChunks,
      Dask.Lemmas.SourceIO.length_slicesFromChunksFrom] at this
    exact this
  · -- block `b` writes its piece `[blockStart, blockStart + chunks[b])` of `sel r n`
    intro b hb w hwb
    have hblk := Dask.Lemmas.SourceIO.getElem?_slicesFromChunksFrom chunks 0 b hb
    rw [Int.zero_add] at hblk
    have hb3 := Dask.Lemmas.SourceIO.slicesFromChunksFrom_bounds chunks 0 hc _ (List.mem_of_getElem? hblk)
    rw [Int.zero_add, hlen] at hb3
    rw [Dask.Lemmas.SourceIO.store_block r n chunks ws hn hc hlen hw b _ w hblk hwb]
    constructor
    · rw [Dask.Lemmas.SourceIO.length_piece _ _ hb3.1 hb3.2.1 hb3.2.2, Int.add_comm, Int.add_sub_cancel]
    · intro j hj
      exact Dask.Lemmas.SourceIO.piece_getElem? _ _ _ hb3.1 j hj
  · intro q hq w hw' hqw
    apply hq
    rw [← hcat, List.mem_flatMap]
    exact ⟨w, hw', hqw⟩

/-- the store of a region succeeds (no `NotImplementedError` from `fuse_slice`) exactly for
regions with non-negative start / stop / step; every other region is refused, never mis-written -/
theorem C25_store_refusal (r : PySlice) (chunks : List Int) (hc : ∀ c ∈ chunks, 0 ≤ c) (hne : chunks ≠ []) :
    (∃ ws, storeWrites (some r) chunks = .ok ws) ↔
      (0 ≤ r.start.getD 0 ∧ 0 ≤ r.step.getD 1 ∧ 0 ≤ r.stop.getD 0) := by
  have hbnd := Dask.Lemmas.SourceIO.slicesFromChunksFrom_bounds chunks 0 hc
  constructor
  · rintro ⟨ws, hw⟩
    cases chunks with
    | nil => exact absurd rfl hne
    | cons c rest =>
      obtain ⟨f, hf⟩ := (Dask.Lemmas.SourceIO.mapE_ok_iff _ _).mp ⟨ws, hw⟩ (0, 0 + c)
        (by simp [slicesFromChunks, slicesFromChunksFrom])
      have := (Dask.Lemmas.SliceAlgebra.fuseSliceSlice_ok_iff r (chunkSlice (0, 0 + c))).mp ⟨f, hf⟩
      omega
  · intro h
    apply (Dask.Lemmas.SourceIO.mapE_ok_iff _ _).mpr
    intro p hp
    have := hbnd p hp
    exact Dask.Lemmas.SourceIO.storeIndexAxis_ok r p h this.1 this.2.1

/-- without `regions` the write slices are the chunk slices and tile the whole target axis
(target axis length = source axis length). -/
theorem C25_store_tiles_noregion (n : Int) (chunks : List Int) (hc : ∀ c ∈ chunks, 0 ≤ c)
    (hlen : isum chunks = n) :
    ∃ ws, storeWrites none chunks = .ok ws ∧ ws = (slicesFromChunks chunks).map chunkSlice ∧
      ws.flatMap (fun w => sel w n) = rangeList 0 n 1 := by
  refine ⟨_, Dask.Lemmas.SourceIO.mapE_eq_map _ chunkSlice _ (fun _ _ => rfl), rfl, ?_⟩
  rw [← hlen, ← Dask.Lemmas.SourceIO.slicesFromChunks_partition chunks hc, List.flatMap_map]
  unfold slicesPositions
  rw [List.flatMap_def, List.flatMap_def]
  congr 1
  apply List.map_congr_left
  intro p hp
  have := Dask.Lemmas.SourceIO.slicesFromChunksFrom_bounds chunks 0 hc p hp
  rw [Int.zero_add] at this
  exact Dask.Lemmas.SourceIO.sel_chunkSlice p _ this.1 this.2.1 this.2.2

/-- n-d glue: for a region with one slice per axis, `fuse_slice(region, index)` on the tuples is
the per-axis fusion (so the n-d write set is the product of the per-axis write sets). -/
theorem C25_fuseTuple_axiswise (rs : List PySlice) (ps : List (Int × Int)) (out : List RIdx)
    (hl : rs.length = ps.length) (h : fuseTuple (rs.map RIdx.slc) ps = .ok out) :
    ∃ fs : List PySlice, out = fs.map RIdx.slc ∧
      mapE (fun (rp : PySlice × (Int × Int)) => storeIndexAxis (some rp.1) rp.2) (rs.zip ps) = .ok fs := by
  induction rs generalizing ps out with
  | nil =>
    cases ps with
    | nil => obtain rfl : [] = out := Except.ok.inj h; exact ⟨[], rfl, rfl⟩
    | cons p ps => simp at hl
  | cons r rs ih =>
    cases ps with
    | nil => simp at hl
    | cons p ps =>
      simp only [List.map_cons, Dask.Lemmas.SourceIO.fuseTuple_slc_cons, bind, Except.bind] at h
      cases hf : fuseSliceSlice r (chunkSlice p) with
      | error e => simp [hf] at h
      | ok f =>
        simp only [hf] at h
        cases hr : fuseTuple (rs.map RIdx.slc) ps with
        | error e => simp [hr] at h
        | ok out' =>
          simp only [hr, pure, Except.pure] at h
          injection h with h
          obtain ⟨fs, hfs, hall⟩ := ih ps out' (by simpa using hl) hr
          refine ⟨f :: fs, by rw [← h, hfs]; rfl, ?_⟩
          have hf' : storeIndexAxis (some (r, p).1) (r, p).2 = .ok f := hf
          simp only [List.zip_cons_cons, mapE, hf', hall]

example : storeWrites (some ⟨some 2, some 20, some 3⟩) [2, 3, 1]
    = .ok [⟨some 2, some 8, some 3⟩, ⟨some 8, some 17, some 3⟩, ⟨some 17, some 20, some 3⟩] := by rfl
example : (sel ⟨some 2, some 20, some 3⟩ 25).length = 6 ∧
    [⟨some 2, some 8, some 3⟩, ⟨some 8, some 17, some 3⟩, ⟨some 17, some 20, some 3⟩].flatMap (fun w => sel w 25)
      = [2, 5, 8, 11, 14, 17] ∧ sel ⟨some 2, some 20, some 3⟩ 25 = [2, 5, 8, 11, 14, 17] := by decide +kernel
example : storeWrites (some ⟨some (-4), none, none⟩) [2, 2] = .error .notImplemented := by rfl
example : storeIndex (some [RIdx.slc ⟨some 1, some 5, none⟩, RIdx.int 4, RIdx.slc ⟨some 2, none, some 2⟩]) [(1, 3), (0, 2)]
    = .ok [RIdx.slc ⟨some 2, some 4, none⟩, RIdx.int 4, RIdx.slc ⟨some 2, some 6, some 2⟩] := by rfl

end Dask.Props.C25
