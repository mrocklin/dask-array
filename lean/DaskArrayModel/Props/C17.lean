/-
C17 — chunk unification aligns operands without changing values or inflating blocks (the property; of the values
nothing is proved here, see the end of this comment).

Property theorems about the model in Model/Unify.lean (the steps of their proofs in Lemmas/Unify.lean), for ALL
inputs (no size bound).  Vocabulary of Model/Unify.lean: `bnds c` = boundary positions of a layout
(`0`, the prefix sums, the total); `Splits f c` = `f` is `c` with some blocks split; `imax` =
largest block.  Hypotheses, defined in Lemmas/Unify.lean: `WF bd T` = non-empty collection of non-empty layouts with NON-NEGATIVE sizes
(zero-length chunks allowed) of common total `T`; `OpsWF ops` = operands with non-negative
itemsize, non-empty POSITIVE chunk tuples, NumPy-broadcast-compatible shapes.
Unknown (nan) sizes are outside the model.  Values being unchanged by the inserted rechunks is
C14's theorem; here it is covered by the end-to-end search only.
-/
import DaskArrayModel.Lemmas.Unify
namespace Dask.Props.C17
open Dask.Py Dask.Unify Dask.Lemmas.Unify

/-- `common_blockdim` succeeds on well-formed input and keeps the axis length. -/
theorem commonBlockdim_sum {bd : List Layout} {T : Int} (h : WF bd T) :
    ∃ r, commonBlockdim bd = .ok r ∧ isum r = T ∧ (∀ x ∈ r, 0 ≤ x) := by
  obtain ⟨r, hr, s⟩ := commonBlockdim_ok h
  exact ⟨r, hr, s.sum, s.nonneg⟩

/-- `common_blockdim` is the coarsest common refinement: its boundary set contains every
input's boundary set (only splits) and is contained in their union (no gratuitous split). -/
theorem commonBlockdim_refines {bd : List Layout} {T : Int} (h : WF bd T) :
    ∃ r, commonBlockdim bd = .ok r ∧
      (∀ c ∈ bd, ∀ b ∈ bnds c, b ∈ bnds r) ∧
      (∀ b ∈ bnds r, ∃ c ∈ bd, b ∈ bnds c) := by
  obtain ⟨r, hr, s⟩ := commonBlockdim_ok h
  exact ⟨r, hr, s.refines, s.union⟩

/-- …stated block-wise: the result is obtained from every multi-block input by splitting
blocks, and its largest block is no larger than any input's largest block; positive inputs
give a positive result. -/
theorem commonBlockdim_splits {bd : List Layout} {T : Int} (h : WF bd T) :
    ∃ r, commonBlockdim bd = .ok r ∧
      (∀ c ∈ bd, c.length > 1 → Splits r c) ∧ (∀ c ∈ bd, imax r ≤ imax c) ∧
      ((∀ c ∈ bd, ∀ x ∈ c, 0 < x) → ∀ x ∈ r, 0 < x) := by
  obtain ⟨r, hr, s⟩ := commonBlockdim_ok h
  exact ⟨r, hr, s.splits, s.imax_le, s.pos⟩

/-- `coarse_blockdim` succeeds on well-formed input; its result is either `common_blockdim`'s
or one of the inputs -- a multi-block one with the fewest blocks -- all of whose boundaries are
boundaries of every other multi-block input (every other input refines it). -/
theorem coarseBlockdim_spec {bd : List Layout} {T : Int} (h : WF bd T) :
    ∃ r, coarseBlockdim bd = .ok r ∧
      (commonBlockdim bd = .ok r ∨
        (r ∈ bd ∧ r.length > 1 ∧ (∀ c ∈ bd, c.length > 1 → r.length ≤ c.length) ∧
          ∀ c ∈ bd, c.length > 1 → ∀ b ∈ bnds r, b ∈ bnds c)) :=
  coarseBlockdim_ok h

/-- Size guard, abstract form: for ANY layouts `chunkss` chosen before the guard such that
(`hfine`) the refinement `fine` does not enlarge any participating operand axis and (`hco`) a
chosen layout with at least as many blocks as the refinement is the refinement, after the guard
every operand's largest block (itemsize × product over its non-broadcast axes of the largest
chunk) is at most `max limit (its own largest block)`.  Both hypotheses are discharged for the
concrete model in `C17_limit`. -/
theorem sizeGuard_limit (limit : Int) (hlim : limit ≠ 0) (chunkss fine : Nat → Layout) (ops : List Opd)
    (hit : ∀ a ∈ ops, 0 ≤ a.itemsize)
    (hfine : ∀ a ∈ ops, ∀ ax ∈ a.axes, ax.live = true → imax (fine ax.label) ≤ imax ax.chunks)
    (hco : ∀ a ∈ ops, ∀ ax ∈ a.axes, ax.live = true →
      (fine ax.label).length ≤ (chunkss ax.label).length → chunkss ax.label = fine ax.label) :
    ∀ a ∈ ops, targetBytes (sizeGuard (some limit) chunkss fine ops) a ≤ max limit (currentBytes a) :=
  Dask.Lemmas.Unify.sizeGuard_limit limit hlim chunkss fine ops hit hfine hco

/-- **C17_limit.**  In the per-index model of `unify_chunks_expr`, under every policy, every
non-zero limit and EVERY oracle value `pre` of the cost-aware pass that satisfies the oracle
relation (per index: the coarse choice, the refinement, or a layout an operand already has),
no operand's largest block after unification exceeds `max limit (its own largest block)`. -/
theorem C17_limit (policy : Policy) (limit : Int) (hlim : limit ≠ 0) (pre : List Layout)
    (ops : List Opd) (nlabels : Nat) (hwf : OpsWF ops)
    (hlab : ∀ a ∈ ops, ∀ ax ∈ a.axes, ax.label < nlabels)
    (res : UnifyResult) (hres : unifyModel policy (some limit) pre ops nlabels = .ok res)
    (hrel : res.oracleOk = true) :
    ∀ a ∈ ops, targetBytes (look res.final) a ≤ max limit (currentBytes a) := by
  obtain ⟨chosen, fine, _, U⟩ := unifyModel_spec hwf hlab hres
  intro a ha
  rw [targetBytes_congr a (fun ax hax _ => U.final a ha ax hax)]
  exact sizeGuard_limit limit hlim chosen fine ops hwf.itemsize
    (fun a ha ax hax hlv => (U.live a ha ax hax hlv).imax_le)
    (fun a ha ax hax hlv => (U.adm hrel a ha ax hax hlv).2) a ha

/-- **C17_refine_only_splits.**  Under the `refine` policy (any limit) the unified layout of
every non-broadcast operand axis has the same total, contains all of the axis' boundaries, has
no boundary that is not a boundary of some operand on that index, and no larger block. -/
theorem C17_refine_only_splits (limit : Option Int) (pre : List Layout)
    (ops : List Opd) (nlabels : Nat) (hwf : OpsWF ops)
    (hlab : ∀ a ∈ ops, ∀ ax ∈ a.axes, ax.label < nlabels)
    (res : UnifyResult) (hres : unifyModel .refine limit pre ops nlabels = .ok res) :
    ∀ a ∈ ops, ∀ ax ∈ a.axes, ax.live = true →
      isum (look res.final ax.label) = isum ax.chunks ∧
      (∀ b ∈ bnds ax.chunks, b ∈ bnds (look res.final ax.label)) ∧
      (∀ b ∈ bnds (look res.final ax.label), ∃ c ∈ layoutsAt ops ax.label, b ∈ bnds c) ∧
      imax (look res.final ax.label) ≤ imax ax.chunks :=
  unifyModel_refine limit pre ops nlabels hwf hlab res hres

/-- **C17_common_layout.**  Whatever the table `final` of target layouts: `opdAxisChunks` reads it at the label of a
non-broadcast axis, so two such axes with the same index label are given the same target layout.  (A fact about the
lookup; `unifyModel` does not enter.) -/
theorem C17_common_layout (final : Nat → Layout) (ax bx : Ax) (hl : ax.label = bx.label)
    (ha : ax.live = true) (hb : bx.live = true) :
    opdAxisChunks final ax = opdAxisChunks final bx := by
  have h1 := (live_iff ax).mp ha
  have h2 := (live_iff bx).mp hb
  unfold opdAxisChunks Ax.shape
  rw [if_pos (Or.inl h1), if_pos (Or.inl h2), hl]

/-! ### non-vacuity -/

example : WF [[5, 2], [4, 3], [7]] 7 := ⟨by decide, by decide, by decide, by decide⟩
example : commonBlockdim [[5, 2], [4, 3], [7]] = .ok [4, 1, 2] := rfl
example : Splits [4, 1, 2] [5, 2] :=
  .part 4 5 _ _ (by decide) (by decide) (.full 1 _ _ (.full 2 _ _ (.done [] (by decide))))
-- zero-length chunks are inside the hypotheses
example : WF [[2, 0, 1], [1, 2]] 3 := ⟨by decide, by decide, by decide, by decide⟩
example : commonBlockdim [[2, 0, 1], [1, 2]] = .ok [1, 1, 0, 1] := rfl
-- both disjuncts of `coarseBlockdim_spec` occur
example : coarseBlockdim [[12, 12], [6, 6, 6, 6]] = .ok [12, 12] := rfl
example : coarseBlockdim [[4, 6], [6, 4]] = .ok [4, 2, 4] ∧ commonBlockdim [[4, 6], [6, 4]] = .ok [4, 2, 4] :=
  ⟨rfl, rfl⟩
-- error branch
example : commonBlockdim [[2, 2], [3, 2]] = .error .valueError := rfl

/-- two float64 operands, chunks (12,12) and (6,6,6,6) on the same index -/
def exOps : List Opd := [⟨8, [⟨0, [12, 12]⟩]⟩, ⟨8, [⟨0, [6, 6, 6, 6]⟩]⟩]

example : OpsWF exOps := ⟨by decide, by decide, by decide, by decide⟩
-- the guard fires (limit 60 B < 96 B): index 0 is coarsened and falls back to the refinement
example : (unifyModel .coarse (some 60) [] exOps 1).toOption.map (fun r => (r.final, r.worst, r.coarsenedSet, r.oracleOk))
    = some ([[6, 6, 6, 6]], 96, [0], true) := by decide +kernel
-- the guard does not fire (limit 100 B)
example : (unifyModel .coarse (some 100) [] exOps 1).toOption.map (fun r => (r.final, r.oracleOk))
    = some ([[12, 12]], true) := by decide +kernel
-- an oracle value of the "auto" policy (the refinement was preferred) is accepted …
example : (unifyModel .auto (some 100) [[6, 6, 6, 6]] exOps 1).toOption.map (fun r => (r.final, r.oracleOk))
    = some ([[6, 6, 6, 6]], true) := by decide +kernel
-- … and a value outside the relation is flagged (the theorem does not cover it)
example : (unifyModel .auto (some 100) [[24]] exOps 1).toOption.map (fun r => r.oracleOk) = some false := by decide +kernel

end Dask.Props.C17
