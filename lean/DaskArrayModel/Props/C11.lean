/-
C11 — In-place operations only change the array they are applied to.  The property theorems (the
slice and block arithmetic behind them is in Lemmas/Hist) and non-vacuity examples.
First (L5) the collection store (Model/Hist.lean, C11 part 3) — expressions are immutable values, `_replace_expr`
swaps x's expression and drops x's lowered cache: frame theorem and cache soundness for ALL histories.
Then (L1) `parse_assignment_indices` (slice branch) and the per-block arithmetic of `setitem_array_expr` for
slice / integer keys (Model/Hist.lean, C11 parts 1 and 2): the chunked assignment IS NumPy's assignment,
for ALL axis lengths, chunkings, slices (all signs and steps), broadcast or full values.
List / boolean / dask-array keys are NOT modelled (tied by search only).
-/
import DaskArrayModel.Lemmas.Hist
namespace Dask.Props.C11
open Dask.Py Dask.Py.PySlice Dask.Slicing Dask.Hist

/-- FRAME: an operation applied to `x` leaves the entry (expression AND cache) of every other
collection unchanged — also of collections derived from `x` earlier: they hold the old expression VALUE. -/
theorem C11_frame {K L} (mat : Expr K → L) (s : Store K L) (op : COp K) (y : Nat) (h : y ≠ op.target) :
    cstep mat s op y = s y := by
  rcases Dask.Lemmas.Hist.cstep_spec mat s op with e | ⟨_, e, _⟩
  · rw [e]
  · rw [e, Dask.Lemmas.Hist.set_ne _ _ _ _ h]

/-- … for every history -/
theorem C11_frame_history {K L} (mat : Expr K → L) (ops : List (COp K)) (s : Store K L) (y : Nat)
    (h : ∀ op ∈ ops, y ≠ op.target) : crun mat ops s y = s y := by
  induction ops generalizing s with
  | nil => rfl
  | cons op ops ih =>
    exact (ih _ fun o ho => h o (List.mem_cons_of_mem _ ho)).trans (C11_frame mat s op y (h op List.mem_cons_self))

/-- the cache invariant `cache = some l → l = materialize expr` holds along every history -/
theorem C11_cache_invariant {K L} (mat : Expr K → L) (ops : List (COp K)) (s : Store K L) (h : Inv mat s) :
    Inv mat (crun mat ops s) := by
  induction ops generalizing s with
  | nil => exact h
  | cons op ops ih => exact ih _ (Dask.Lemmas.Hist.cstep_inv mat s op h)

/-- after ANY history a compute of ANY collection returns the NumPy meaning of its CURRENT
expression (never a stale lowered graph), given a sound `materialize`/`eval` (C01/C02). -/
theorem C11_compute_is_den {K L A} (I : Interp K A) (mat : Expr K → L) (eval : L → A)
    (sound : ∀ e, eval (mat e) = den I e) (ops : List (COp K)) (s : Store K L) (h : Inv mat s) (y : Nat) :
    computed mat eval (crun mat ops s) y = ((crun mat ops s) y).map (fun e => den I e.expr) :=
  Dask.Lemmas.Hist.computed_eq_den I mat eval sound _ (C11_cache_invariant mat ops s h) y

/-- … and a collection that no operation of the history was applied to keeps computing its
EARLIER value, whatever happened to the collections it was derived from. -/
theorem C11_others_keep_value {K L A} (I : Interp K A) (mat : Expr K → L) (eval : L → A)
    (sound : ∀ e, eval (mat e) = den I e) (ops : List (COp K)) (s : Store K L) (h : Inv mat s) (y : Nat)
    (hy : ∀ op ∈ ops, y ≠ op.target) :
    computed mat eval (crun mat ops s) y = (s y).map (fun e => den I e.expr) := by
  rw [C11_compute_is_den I mat eval sound ops s h y, C11_frame_history mat ops s y hy]

/-- `x[key] = z`: x's new meaning is NumPy's assignment applied to x's OLD meaning and z's meaning
(z may itself be derived from x: `x[1:] = x[:-1]`). -/
theorem C11_setitem_den {K L A} (I : Interp K A) (mat : Expr K → L) (s : Store K L) (x z : Nat) (key : K)
    (ex ez : Entry K L) (hx : s x = some ex) (hz : s z = some ez) :
    (cstep mat s (.setitem x key z) x).map (fun e => den I e.expr)
      = some (I.assign (den I ex.expr) key (den I ez.expr)) := by
  simp [cstep, hx, hz, replaceExpr, Store.set]
  rfl

/-- `np.f(a, b, out=x)` -/
theorem C11_out_den {K L A} (I : Interp K A) (mat : Expr K → L) (s : Store K L) (x a b f : Nat)
    (ex ea eb : Entry K L) (hx : s x = some ex) (ha : s a = some ea) (hb : s b = some eb) :
    (cstep mat s (.outUfunc x a b f) x).map (fun e => den I e.expr)
      = some (I.f2 f (den I ea.expr) (den I eb.expr)) := by
  simp [cstep, hx, ha, hb, replaceExpr, Store.set]
  rfl

/-- `x.compute_chunk_sizes()` changes x's chunk metadata, not its meaning -/
theorem C11_computeChunkSizes_den {K L A} (I : Interp K A) (mat : Expr K → L) (s : Store K L) (x : Nat)
    (ex : Entry K L) (hx : s x = some ex) :
    (cstep mat s (.computeChunkSizes x) x).map (fun e => den I e.expr) = some (den I ex.expr) := by
  simp [cstep, hx, replaceExpr, Store.set]
  rfl

/-! ### `parse_assignment_indices` -/

/-- the recast slice selects the same positions, in reversed order when flagged -/
theorem parseAssign_sel (s : PySlice) (n : Int) (hn : 0 ≤ n) (hs : s.stp ≠ 0) :
    sel (parseAssign s n) n = if parseAssignReversed s n then (sel s n).reverse else sel s n := by
  obtain ⟨A, B, m, pf⟩ := Dask.Lemmas.Hist.parseAssign_parsed s n hn hs
  rw [pf.selP, pf.selS]
  split <;> simp

/-- `implied_shape` is the selection length (exactly when the selection is non-empty; never positive when it is empty) -/
theorem parseAssign_implied (s : PySlice) (n : Int) (hn : 0 ≤ n) (hs : s.stp ≠ 0) :
    (parseAssignImplied s n).toNat = (sel s n).length ∧
    (sel s n ≠ [] → parseAssignImplied s n = ((sel s n).length : Int)) := by
  obtain ⟨A, B, m, pf⟩ := Dask.Lemmas.Hist.parseAssign_parsed s n hn hs
  have hlen : (sel s n).length = rangeLen A B m := by
    rw [pf.selS]; split <;> simp
  refine ⟨by rw [pf.implNat, hlen], fun hne => ?_⟩
  have hpos : 0 < rangeLen A B m := hlen ▸ List.length_pos_iff.mpr hne
  rw [hlen]; exact pf.impl (Dask.Lemmas.Progression.lt_of_lt_rangeLen pf.hm hpos)

/-- the recast slice is concrete, increasing and inside the axis -/
theorem parseAssign_shape (s : PySlice) (n : Int) (hn : 0 ≤ n) (hs : s.stp ≠ 0) :
    ∃ A B m, parseAssign s n = ⟨some A, some B, some m⟩ ∧ 0 < m ∧ 0 ≤ A ∧ B ≤ n := by
  obtain ⟨A, B, m, pf⟩ := Dask.Lemmas.Hist.parseAssign_parsed s n hn hs
  exact ⟨A, B, m, pf.idx, pf.hm, pf.hA, pf.hB⟩

/-! ### the per-block assignment of `setitem_array_expr` -/

/-- what the block task `[loc0, loc1)` writes at its local position `q` (block slice, value slice
`n_preceding … + block size`, read backwards for a recast slice, or the broadcast element) is what
NumPy's `x[s] = v` writes at global position `loc0 + q`. -/
theorem C11_setitem_block (s : PySlice) (n : Int) (hs : s.stp ≠ 0) (bcast : Bool)
    (loc0 loc1 q : Int) (h0 : 0 ≤ loc0) (h1 : loc1 ≤ n) (hq0 : 0 ≤ q) (hq1 : q < loc1 - loc0) :
    blockSource s n bcast loc0 loc1 q = npSourceB s n bcast (loc0 + q) :=
  Dask.Lemmas.Hist.blockSource_eq_npSource s n (by omega) hs bcast loc0 loc1 q h0 hq0 hq1

/-- 1-d: the concatenated block results are NumPy's `x[s] = v`, for every chunking -/
theorem C11_setitem_chunked_1d {α} (chunks : List Int) (hc : ∀ c ∈ chunks, 0 ≤ c) (x : Int → α) (s : PySlice)
    (hs : s.stp ≠ 0) (bcast : Bool) (v : Nat → α) :
    setitemChunked chunks x s bcast v = npAssign (isum chunks) x s bcast v := by
  have h := Dask.Lemmas.Hist.blocks_assemble (isum chunks)
    (fun l0 l1 q => pick (blockSource s (isum chunks) bcast l0 l1 q) v (x (l0 + q)))
    (fun p => pick (npSourceB s (isum chunks) bcast p) v (x p))
    (fun l0 l1 q h0 h1 hq0 hq1 => by rw [C11_setitem_block s _ hs bcast l0 l1 q h0 h1 hq0 hq1])
    chunks hc 0 (by omega) (by omega)
  simpa [setitemChunked, npAssign] using h

/-- n-d, per axis (slice and integer keys): same assigned positions, same value index tuple.  (About `blockSourceND`,
the per-axis `blockSource`s side by side; the block plan `setitemPlan`, which the driver compares with the real tasks,
shares the `blk*` arithmetic with it and has no theorem of its own.) -/
theorem C11_setitem_block_nd (keys : List Key) (shape : List Int) (blk : List (Int × Int)) (q : List Int)
    (h : AxesOK keys shape blk q) :
    blockSourceND keys shape blk q = npSourceND keys shape (globalPos blk q) := by
  induction keys generalizing shape blk q with
  | nil => rfl
  | cons k ks ih =>
    obtain _ | ⟨n, ns⟩ := shape
    · cases h
    obtain _ | ⟨b, bs⟩ := blk
    · cases h
    obtain _ | ⟨q, qs⟩ := q
    · cases h
    obtain ⟨hk, h0, h1, h2, h3, hrest⟩ := h
    show (match blockSourceAxis k n b.1 b.2 q, blockSourceND ks ns bs qs with
      | some (some i), some rest => some (i :: rest)
      | some none, some rest => some rest
      | _, _ => none) = _
    rw [Dask.Lemmas.Hist.blockSourceAxis_eq k n b.1 b.2 q hk h0 h1 h2 h3, ih ns bs qs hrest]
    rfl

example : parseAssign ⟨some 7, some 3, some (-1)⟩ 8 = ⟨some 4, some 8, some 1⟩ ∧
    parseAssignImplied ⟨some 7, some 3, some (-1)⟩ 8 = 4 ∧ parseAssignReversed ⟨some 7, some 3, some (-1)⟩ 8 = true := by decide +kernel
example : sel (parseAssign ⟨none, none, some (-3)⟩ 10) 10 = [0, 3, 6, 9] ∧ sel ⟨none, none, some (-3)⟩ 10 = [9, 6, 3, 0] := by decide +kernel
/-- chunks (3,3,4), `x[::-3] = v` (v = 100,101,102,103): positions 9,6,3,0 receive v[0..3] -/
example : setitemChunked [3, 3, 4] (fun p => p) ⟨none, none, some (-3)⟩ false (fun k => 100 + (k : Int))
    = [103, 1, 2, 102, 4, 5, 101, 7, 8, 100] := by decide +kernel
example : npAssign 10 (fun p => p) ⟨none, none, some (-3)⟩ false (fun k => 100 + (k : Int))
    = [103, 1, 2, 102, 4, 5, 101, 7, 8, 100] := by decide +kernel
example : setitemPlan [[3, 3, 2]] [.slice ⟨none, none, some (-1)⟩] (.full [false])
    = [some ([.slice ⟨some 0, some 3, some 1⟩], [⟨some 7, some 4, some (-1)⟩]),
       some ([.slice ⟨some 0, some 3, some 1⟩], [⟨some 4, some 1, some (-1)⟩]),
       some ([.slice ⟨some 0, some 2, some 1⟩], [⟨some 1, none, some (-1)⟩])] := by decide +kernel
example : blockSourceND [.int (-1), .slice ⟨some 1, none, some 2⟩] [4, 6] [(2, 4), (3, 6)] [1, 0] = some [1] ∧
    npSourceND [.int (-1), .slice ⟨some 1, none, some 2⟩] [4, 6] [3, 3] = some [1] := by decide +kernel

/-- a store for the examples: `K = Unit`, lowered graph = the expression itself -/
def store0 : Store Unit (Expr Unit) := fun x => if x = 0 then some ⟨.src 0, some (.src 0)⟩ else none

/-- NECESSITY of dropping the cache in `_replace_expr`: keeping `_lowered_expr` breaks the invariant
(x would keep computing its pre-assignment value). -/
theorem C11_keep_cache_breaks_invariant :
    Inv id store0 ∧ ¬ Inv id (replaceExprKeepCache store0 0 (.setItem (.src 0) () (.src 1))) := by
  constructor
  · intro x e l hx hc
    unfold store0 at hx
    split at hx
    · cases hx; cases hc; rfl
    · cases hx
  · exact fun h => nomatch h 0 ⟨.setItem (.src 0) () (.src 1), some (.src 0)⟩ (.src 0) rfl rfl

/-- a derived collection keeps its value while its source is assigned to:
`y = f(x); x[key] = z; compute` — y's entry is untouched. -/
example : (crun id [COp.derive1 1 0 5, COp.setitem 0 () 0, COp.compute 0] store0 1).map (·.expr)
    = some (Expr.op1 5 (Expr.src 0)) := rfl

end Dask.Props.C11
