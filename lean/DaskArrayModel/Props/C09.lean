/-
C09 — results do not depend on materialization history or planner configuration.

Model (Model/Entry.lean, namespace Dask.Memo): expressions with names and meanings; EVERY planner decision
(`_lower` of each node: rechunk plan / method, unified layout, tree depth; simplify; fuse; optimize on/off) is
an ORACLE of the configuration in force when it runs; `lowerOnce` is `Expr.lower_once` over the shared
name-keyed `_LOWER_CACHE` (lookup, `_lower`, children left to right, `setdefault`), with the opt-out overrides
(RootAlias, FromGraph, exact-name FromArray return `self` and never touch the cache); `materialize` is
`_materialize` (simplify when optimizing, lower to a name fixpoint, fuse, pin); a history is any list of
(config change | build | lower | compute | weak-value eviction).

Proved for ALL systems, configurations, histories, fuel bounds: the cache invariant is preserved by every
step, hence the meaning of what `materialize` returns is the meaning of the expression whatever was built or
computed before and whatever the configuration was or is.  Premises, explicit: `RuleSound` (each rewrite /
planner answer preserves the meaning FOR EVERY configuration value — C02's per-rule statements) and `NameInj`
(C06, for nodes with content-derived names).  LAYOUTS are not claimed equal (they are not: a warm cache
keeps the plan chosen under an earlier configuration — `example` below, DESIGN §8.7).
The generated table `Generated/ConfigReads.lean` records which configuration keys lowering can read.
-/
import DaskArrayModel.Lemmas.Entry
import DaskArrayModel.Generated.ConfigReads
namespace Dask.Props.C09
open Dask.Memo Dask.Lemmas.Memo

variable {E N D Cfg : Type} [DecidableEq N]

/-- The cache invariant "every entry n ↦ e' satisfies den e' = den e for every (non-opt-out) e named n" is
preserved by EVERY step of ANY history, for ALL configuration values. -/
theorem C09_memo_sound (S : Sys E N D Cfg) (hs : RuleSound S) (hinj : NameInj S) (depth rounds : Nat)
    (st : State E N Cfg) (step : Step E N Cfg) (hc : Inv S st.cache) :
    Inv S (exec S depth rounds st step).cache ∧ EveryEntrySound S (exec S depth rounds st step).cache :=
  have h := exec_sound hs hinj depth rounds st step hc
  ⟨h, everyEntrySound_of_inv hinj h⟩

/-- … so it holds after any history started from the empty cache (any starting configuration). -/
theorem C09_memo_sound_history (S : Sys E N D Cfg) (hs : RuleSound S) (hinj : NameInj S) (depth rounds : Nat)
    (h : List (Step E N Cfg)) (cfg0 : Cfg) :
    EveryEntrySound S (runHist S depth rounds ⟨cfg0, []⟩ h).cache :=
  everyEntrySound_of_inv hinj (runHist_sound hs hinj depth rounds h ⟨cfg0, []⟩ (Inv_nil S))

/-- The values of a collection are the same whatever was built / lowered / computed before, in whatever
order, and under whatever configuration — at any earlier step and at materialization time. -/
theorem C09_history_config_independent (S : Sys E N D Cfg) (hs : RuleSound S) (hinj : NameInj S)
    (depth rounds : Nat) (h : List (Step E N Cfg)) (cfg0 cfg : Cfg) (e : E) :
    S.den (materialize S cfg depth rounds (runHist S depth rounds ⟨cfg0, []⟩ h).cache e).1 = S.den e :=
  (materialize_sound hs hinj cfg depth rounds _ e
    (runHist_sound hs hinj depth rounds h ⟨cfg0, []⟩ (Inv_nil S))).2

/-- Configuration in effect at CONSTRUCTION: if building a program under any configuration yields an
expression that means the program (layout choices — auto chunks, unify policy, normalised split_every — are
oracles of `cfgBuild`), then the computed values equal the program's meaning for every pair
(construction configuration, materialization configuration) and every history. -/
theorem C09_construction_config_independent {P : Type} (S : Sys E N D Cfg) (hs : RuleSound S) (hinj : NameInj S)
    (construct : Cfg → P → E) (sem : P → D) (hcons : ∀ cfg p, S.den (construct cfg p) = sem p)
    (depth rounds : Nat) (h : List (Step E N Cfg)) (cfg0 cfgBuild cfgRun : Cfg) (p : P) :
    S.den (materialize S cfgRun depth rounds (runHist S depth rounds ⟨cfg0, []⟩ h).cache (construct cfgBuild p)).1
      = sem p := by
  rw [C09_history_config_independent S hs hinj depth rounds h cfg0 cfgRun]
  exact hcons cfgBuild p

/-- Two computes of the same collection with the configuration CHANGED in between agree. -/
theorem C09_recompute_after_config_change (S : Sys E N D Cfg) (hs : RuleSound S) (hinj : NameInj S)
    (depth rounds : Nat) (h : List (Step E N Cfg)) (cfg0 cfg1 cfg2 : Cfg) (e : E) :
    let st1 := runHist S depth rounds ⟨cfg0, []⟩ (h ++ [.setCfg cfg1, .compute e, .setCfg cfg2])
    S.den (materialize S cfg2 depth rounds st1.cache e).1 =
      S.den (materialize S cfg1 depth rounds (runHist S depth rounds ⟨cfg0, []⟩ h).cache e).1 := by
  intro st1
  rw [C09_history_config_independent S hs hinj depth rounds _ cfg0 cfg2,
    C09_history_config_independent S hs hinj depth rounds h cfg0 cfg1]

/-- Nodes that opt out (RootAlias, FromGraph, exact-name FromArray) never enter the cache: lowering or
materializing one returns the node itself and leaves the cache untouched; and every entry of every reachable
cache was stored on behalf of a node that does NOT opt out. -/
theorem C09_optout_never_enters (S : Sys E N D Cfg) (hs : RuleSound S) (hinj : NameInj S)
    (depth rounds : Nat) (h : List (Step E N Cfg)) (cfg0 cfg : Cfg) (e : E) (ho : S.optsOut e = true) :
    (∀ fuel c, lowerOnce S cfg fuel c e = (e, c)) ∧
    (∀ c, materialize S cfg depth rounds c e = (e, c)) ∧
    (∀ n e', (runHist S depth rounds ⟨cfg0, []⟩ h).cache.get? n = some e' →
        ∃ w, S.optsOut w = false ∧ S.name w = n ∧ S.den e' = S.den w) :=
  ⟨fun fuel c => lowerOnce_optsOut cfg fuel c e ho, fun c => materialize_optsOut cfg depth rounds c e ho,
    runHist_sound hs hinj depth rounds h ⟨cfg0, []⟩ (Inv_nil S)⟩

/-- The generic step behind every `lowered.setdefault(self._name, out)` (also `ChunksFreeze.lower_once`):
storing a same-meaning expression under the name of a node that does not opt out keeps the invariant. -/
theorem C09_setdefault_sound (S : Sys E N D Cfg) (c : Cache E N) (e out : E) (hc : Inv S c)
    (ho : S.optsOut e = false) (hd : S.den out = S.den e) : Inv S ((S.name e, out) :: c) :=
  Inv_insert hc ho hd

open Dask.Generated.ConfigReads

/-- keys the planner is documented to read while lowering on this tree: the property's list
(optimize-graph, rechunk method, chunk-size, unify-chunks policy and limit, split_every) plus
`array.chunk-size-tolerance` (read by `auto_chunks` next to `array.chunk-size`).
`array.rechunk.threshold` / `array.rechunk.degree-limit` are read at GRAPH BUILD (`plan_rechunk` under
`TasksRechunk._layer`), listed in `documentedPlannerKeys`. -/
def documentedLoweringKeys : List String :=
  ["array.optimize-graph", "array.rechunk.method", "array.chunk-size", "array.chunk-size-tolerance",
   "array.unify-chunks-policy", "array.unify-chunks-limit", "split_every"]

def documentedPlannerKeys : List String :=
  documentedLoweringKeys ++ ["array.rechunk.threshold", "array.rechunk.degree-limit", "distributed.p2p.storage.disk"]

/-- every configuration read reachable from `_lower` / `lower_once` is a documented one: a NEW read in lowering
breaks this obligation (and the check then varies exactly that key).
(`+kernel`: the table is evaluated by the kernel alone; the elaborator's own evaluation of the string
comparisons is slower and adds nothing.  The table is short: a failing run still reports at once, so
`kernel_decide` of Lemmas/KernelDecide.lean is not needed here.) -/
theorem C09_lowering_config_reads_documented :
    ∀ r ∈ configReads, r.2.2 = "lower" → r.2.1 ∈ documentedLoweringKeys := by decide +kernel

/-- the same over all planner phases (lower, simplify, advertised chunks, graph build) -/
theorem C09_planner_config_reads_documented :
    ∀ r ∈ configReads, r.2.2 ≠ "other" → r.2.1 ∈ documentedPlannerKeys := by decide +kernel

/-- the code comment "`_lower` must not read config" is FALSE on this tree: lowering reaches the rechunk
method choice and the unify policy (the theorems above are why values survive it) -/
theorem C09_lowering_reads_config :
    "array.rechunk.method" ∈ loweringKeys ∧ "array.unify-chunks-policy" ∈ loweringKeys := by decide +kernel

/-- toy system: names are the nodes themselves (injective), the meaning is `e % 10`; the planner lowers a raw
node `e < 10` to `e + 10` under `cfg = true` and to `e + 20` under `cfg = false`; nodes `≥ 100` opt out. -/
def toy : Sys Nat Nat Nat Bool where
  name := id
  den := fun e => e % 10
  children := fun _ => []
  withChildren := fun e _ => e
  optsOut := fun e => decide (100 ≤ e)
  rule := fun cfg e => if e < 10 then some (e + (if cfg then 10 else 20)) else none
  simplify := fun _ e => e
  fuse := fun _ e => e
  optimizeOn := fun cfg => cfg
  pinned := fun e _ => e + 100

/-- LAYOUT depends on history (not claimed otherwise): cold under `false` the plan is 23; after a compute under
`true` the warm cache serves plan 13 under `false` — both mean 3 -/
example : (materialize toy false 2 3 [] 3).1 = 123 ∧
    (materialize toy false 2 3 (runHist toy 2 3 ⟨true, []⟩ [.compute 3]).cache 3).1 = 113 ∧
    toy.den 123 = toy.den 3 ∧ toy.den 113 = toy.den 3 := by decide +kernel

/-- the cache really is populated and hit -/
example : (runHist toy 2 3 ⟨true, []⟩ [.compute 3]).cache.get? 3 = some 13 := by decide +kernel

/-- WHY opting out matters: node 77 is a `FromGraph` whose caller-chosen name is "3" but whose blocks mean 7.
If nobody opts out (`optsOut := false` — the mutated code), lowering it stores `3 ↦ 77`, an entry that does
NOT mean what the raw node named 3 means: the cache invariant of the property is broken (and `NameInj`
fails for that system, as it must). -/
def toyNoOptOut : Sys Nat Nat Nat Bool :=
  { toy with name := fun e => if e = 77 then 3 else e, optsOut := fun _ => false }

example : (runHist toyNoOptOut 2 3 ⟨true, []⟩ [.lower 77]).cache.get? 3 = some 77 := by decide +kernel

example : ¬ EveryEntrySound toyNoOptOut (runHist toyNoOptOut 2 3 ⟨true, []⟩ [.lower 77]).cache := by
  intro h
  have := h 3 77 (by decide) 3 rfl rfl
  revert this; decide +kernel

/-- with the opt-out in place the same history leaves the cache empty -/
def toyOptOut : Sys Nat Nat Nat Bool :=
  { toy with name := fun e => if e = 77 then 3 else e, optsOut := fun e => decide (e = 77 ∨ 100 ≤ e) }

example : (runHist toyOptOut 2 3 ⟨true, []⟩ [.lower 77]).cache = [] := by decide +kernel

/-- a planner whose VALUES depend on the configuration violates `RuleSound` (the premise is not vacuous) -/
example : ¬ RuleSound ({ toy with rule := fun cfg e => if cfg then some (e + 1) else none } : Sys Nat Nat Nat Bool) := by
  intro h
  have := h.rule true 3 4 (by decide)
  revert this; decide +kernel

end Dask.Props.C09
