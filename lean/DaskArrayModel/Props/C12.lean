/-
C12 — Indexing follows NumPy semantics for every supported index.
The property theorems (with their final assembly; the steps are in Lemmas/NormalizeIndex, Getitem,
IndexingGrid, IndexingTake) and non-vacuity examples.  Every statement is for ALL ranks, shapes, chunkings
(zero-length chunks included) and index tuples.  Vocabulary: Model/Indexing.lean (`Ix`, SPEC `npIndex`/`npAxes`/`npExpand`,
`NormalFor`, `axisPieces`, `gridReads`, `ChunksAgree`, models `normalizeIndex`, `blocksIndex`,
`computeIndexer`, `newChunks`).
-/
import DaskArrayModel.Lemmas.IndexingGrid
import DaskArrayModel.Lemmas.Getitem
namespace Dask.Props.C12
open Dask.Py Dask.Py.PySlice Dask.Slicing Dask.Indexing

/-- `normalize_index` preserves NumPy's meaning of the index, and its result is in normal form:
item by item integers in `[0, dim)`, slices normalised for their axis, list entries in
`[0, dim)`, exactly one non-`None` item per axis, no `Ellipsis`, the `None`s (and lists) of the input. -/
theorem normalizeIndex_sound (idx idx' : List Ix) (shape : List Int) (hd : ∀ d ∈ shape, 0 ≤ d)
    (h : normalizeIndex idx shape = .ok idx') :
    npIndex idx' shape = npIndex idx shape ∧ NormalFor idx' shape ∧
    idx'.countP Ix.consumes = shape.length ∧ idx'.countP Ix.isEllipsis = 0 ∧
    idx'.countP Ix.isNone = idx.countP Ix.isNone ∧ idx'.countP Ix.isLst = idx.countP Ix.isLst := by
  rw [← List.map_id shape] at h
  obtain ⟨r, s⟩ := Dask.Lemmas.Indexing.normalizeIndex_normalized id idx idx' shape h
  have e := s.npIndex_eq
  have a := s.norm.reads_normalForm hd
  have n := s.norm.normal
  rw [List.map_id] at e a n
  refine ⟨?_, n, s.consumes, s.noEllipsis, s.nones, s.lsts⟩
  rw [e, npIndex, Dask.Lemmas.Indexing.npExpand_fullRank shape.length idx' s.noEllipsis s.consumes]
  exact a

/-- `normalize_index` accepts exactly the indices NumPy accepts (it never returns an index for a
tuple NumPy rejects — out-of-bounds integer or list entry, too many indices, two `Ellipsis`,
zero step — and never refuses one NumPy accepts). -/
theorem normalizeIndex_ok_iff (idx : List Ix) (shape : List Int) (hd : ∀ d ∈ shape, 0 ≤ d) :
    (∃ idx', normalizeIndex idx shape = .ok idx') ↔ (∃ r, npIndex idx shape = .ok r) := by
  have _ := hd -- `hd` is not needed (the statement holds for axis lengths of any sign); named only so the binder is used
  constructor
  · rintro ⟨idx', h⟩
    rw [← List.map_id shape] at h ⊢
    obtain ⟨r, s⟩ := Dask.Lemmas.Indexing.normalizeIndex_normalized id idx idx' shape h
    exact ⟨r, s.npIndex_eq⟩
  · rintro ⟨r, h⟩
    unfold npIndex at h
    have he : idx.countP Ix.isEllipsis ≤ 1 := by
      by_cases c : idx.countP Ix.isEllipsis > 1
      · simp [npExpand, c] at h
      · omega
    have hk : idx.countP Ix.consumes ≤ shape.length := by
      by_cases c : idx.countP Ix.consumes > shape.length
      · simp [npExpand, show ¬ idx.countP Ix.isEllipsis > 1 from by omega, c] at h
      · omega
    have ee := Dask.Lemmas.Indexing.expand_eq_npExpand shape.length idx he hk
    rw [ee.1] at h
    -- NumPy's per-item reading of the expanded tuple is a derivation of `Norm`, on which the three passes succeed
    have sp := Dask.Lemmas.Indexing.npAxes_spec (Dask.Lemmas.Indexing.expand shape.length idx) shape
    rw [show npAxes _ shape = .ok r from h] at sp
    obtain ⟨idx', n⟩ := sp
    have hp := n.passes_ok
    rw [List.map_id] at hp
    refine ⟨idx', ?_⟩
    rw [Dask.Lemmas.Indexing.normalizeIndex_eq, if_neg]
    · exact hp
    · -- the "Too many indices" test: the expanded tuple has one consuming item per axis and no `Ellipsis`
      rw [Dask.Lemmas.Indexing.countP_notNone, ee.2, (Dask.Lemmas.Indexing.expand_counts shape.length idx).ellipses]
      omega

/-- … and it raises `IndexError` exactly when NumPy raises `IndexError`, for indices without a
zero-step slice and with at most one `Ellipsis` (outside that domain both refuse together by
`normalizeIndex_ok_iff`, but the exception class differs from NumPy's — see the examples). -/
theorem normalizeIndex_error_iff (idx : List Ix) (shape : List Int) (hd : ∀ d ∈ shape, 0 ≤ d)
    (hz : ∀ s, Ix.slc s ∈ idx → s.stp ≠ 0) (he : idx.countP Ix.isEllipsis ≤ 1) :
    normalizeIndex idx shape = .error .indexError ↔ npIndex idx shape = .error .indexError := by
  have oi := normalizeIndex_ok_iff idx shape hd -- the only use of `hd`, and `normalizeIndex_ok_iff` does not need it
  constructor
  · intro h
    cases hn : npIndex idx shape with
    | ok r =>
      rcases oi.mpr ⟨r, hn⟩ with ⟨idx', hi⟩
      rw [hi] at h; cases h
    | error e => rw [Dask.Lemmas.Indexing.npIndex_error_class idx shape hz he e hn]
  · intro h
    cases hn : normalizeIndex idx shape with
    | ok r =>
      rcases oi.mp ⟨r, hn⟩ with ⟨q, hq⟩
      rw [hq] at h; cases h
    | error e => rw [Dask.Lemmas.Indexing.normalizeIndex_error_class idx shape hz he e hn]

/-- The grid of blocks reads a permutation of the product selection: if `Bs[a]` are the blocks of axis `a` (lists of
positions, in output-block order), what the grid of blocks reads — each cell the product of its per-axis pieces — is a
`Perm` of the product of the per-axis concatenations: each multi-position as often as selected; the order is not
claimed (block-major against C order, see the examples). -/
theorem axisLift {α} (Bs : List (List (List α))) :
    ((cart Bs).flatMap cart).Perm (cart (Bs.map List.flatten)) :=
  Dask.Lemmas.Indexing.axisLift Bs

/-- membership in a product is componentwise -/
theorem mem_cart {α} (ls : List (List α)) (t : List α) :
    t ∈ cart ls ↔ t.length = ls.length ∧ ∀ p ∈ t.zip ls, p.1 ∈ p.2 := by
  induction ls generalizing t with
  | nil =>
    rw [Dask.Lemmas.Indexing.cart_nil, List.mem_singleton]
    exact ⟨fun h => h ▸ ⟨rfl, nofun⟩, fun h => List.length_eq_zero_iff.mp h.1⟩
  | cons l ls ih =>
    rw [Dask.Lemmas.Indexing.cart_cons, mem_consProd]
    constructor
    · rintro ⟨a, u, rfl, ha, hu⟩
      have ih' := (ih u).mp hu
      exact ⟨congrArg Nat.succ ih'.1, List.forall_mem_cons.mpr ⟨ha, ih'.2⟩⟩
    · rintro ⟨hlen, h⟩
      cases t with
      | nil => cases hlen
      | cons a u =>
        have h := List.forall_mem_cons.mp h
        exact ⟨a, u, rfl, h.1, (ih u).mpr ⟨Nat.succ.inj hlen, h.2⟩⟩

/-- `_slice_1d` for an in-range integer returns the block that holds it and the offset in it. -/
theorem slice1dInt_spec (L : List Int) (i : Int) (hl : ∀ c ∈ L, 0 ≤ c) (h0 : 0 ≤ i) (h1 : i < isum L) :
    (slice1dInt L i).1 < L.length ∧ 0 ≤ (slice1dInt L i).2 ∧
      (slice1dInt L i).2 < L.getD (slice1dInt L i).1 0 ∧
      blockStart L (slice1dInt L i).1 + (slice1dInt L i).2 = i :=
  -- `hl` is not needed (the statement holds for chunks of any sign); passed only so the binder is used
  (fun _ => Dask.Lemmas.Indexing.slice1dInt_spec L i h0 h1) hl

/-- For every chunking and every basic index tuple (integers, slices of any
sign/step, `None`, `Ellipsis`, fewer items than axes) that `normalize_index` accepts: NumPy accepts
it, and with `index2` = the normalised tuple without its `None`s (what `SliceSlicesIntegers` gets)
 * on every axis the pieces read by the per-axis `_slice_1d` plan, concatenated in output-block
   order, are exactly the positions NumPy selects on that axis, in order (integers: the one position);
 * what the grid of output blocks reads is a permutation (`Perm`) of the product selection (`axisLift`);
 * the advertised chunks (`new_blockdim`) sum to the selection length and are the piece lengths. -/
theorem getitem_basic_blocks (chunks : List (List Int)) (idx idx' : List Ix)
    (hc : ∀ l ∈ chunks, ∀ c ∈ l, 0 ≤ c) (hb : idx.countP Ix.isLst = 0)
    (h : normalizeIndex idx (chunks.map isum) = .ok idx') :
    ∃ pos out, npIndex idx (chunks.map isum) = .ok (pos, out) ∧
      (List.zipWith axisPieces chunks (idx'.filter (fun i => !i.isNone))).map List.flatten = pos ∧
      (gridReads chunks (idx'.filter (fun i => !i.isNone))).Perm (cart pos) ∧
      ChunksAgree chunks (idx'.filter (fun i => !i.isNone)) := by
  obtain ⟨r, s⟩ := Dask.Lemmas.Indexing.normalizeIndex_normalized isum idx idx' chunks h
  have ar := s.norm.axesRead hc (List.countP_eq_zero.mp (s.lsts.trans hb))
  refine ⟨_, _, s.npIndex_eq, ar, ?_, s.norm.chunksAgree hc⟩
  unfold gridReads
  rw [← ar]
  exact axisLift _

/-- On a sliced axis the `k`-th pair of `_layer` (`out_names` factor `o[k]`, `k`-th sorted input
block) sits at position `o[k]` of the plan in output-block order — the order `axisPieces` (and
`getitem_basic_blocks`) uses; i.e. output block `j` reads the `j`-th piece. -/
theorem layerAxis_ordered (lengths : List Int) (s : PySlice) (o : List Nat)
    (h : outRange1 lengths (.slc s) = some o) :
    o.length = (sortByKey (slice1d (isum lengths) lengths s)).length ∧
    ∀ k, k < (sortByKey (slice1d (isum lengths) lengths s)).length →
      (orderedPlan s.stp (slice1d (isum lengths) lengths s))[o.getD k 0]? =
        (sortByKey (slice1d (isum lengths) lengths s))[k]? := by
  rw [Dask.Lemmas.Indexing.outRange1_slc] at h
  obtain rfl := Option.some.inj h
  unfold orderedPlan
  generalize sortByKey (slice1d (isum lengths) lengths s) = plan
  by_cases hneg : s.stp < 0
  · rw [if_pos hneg, if_pos hneg]
    refine ⟨by rw [List.length_reverse, List.length_range], fun k hk => ?_⟩
    rw [Dask.Lemmas.Indexing.range_reverse_getD hk, List.getElem?_reverse (by omega)]
    congr 1
    omega
  · rw [if_neg hneg, if_neg hneg]
    refine ⟨List.length_range, fun k hk => ?_⟩
    rw [List.getD_eq_getElem?_getD, List.getElem?_range hk, Option.getD_some]

/-- **`SliceSlicesIntegers._layer` is the product of the per-axis wirings**: the triples
`zip(out_names, in_names, all_slices)` are exactly, and in the same order, the cells of the grid
`cart (axisCells per axis)` (`axisCells` = the `out_names` factor zipped with the sorted
`_slice_1d` plan; an integer axis has one cell and no output index).  With `layerAxis_ordered`:
output block `(j₁,…,jₙ)` reads, on axis `a`, the `jₐ`-th piece of `axisPieces`. -/
theorem ssiLayer_eq_cells (chunks : List (List Int)) (index : List Ix)
    (hix : ∀ i ∈ index, (∃ k, i = .int k) ∨ (∃ s, i = .slc s)) :
    ssiLayer chunks index = (cart (List.zipWith axisCells chunks index)).map splitCell :=
  Dask.Lemmas.Indexing.ssiLayer_eq_cells chunks index hix

/-- `x[idx].chunks` for a basic index (the `normalize_index` → `slice_with_newaxes` →
`SliceSlicesIntegers` → `ExpandDims` pipeline): item by item `(1,)` for `None`, no axis for an
integer, `new_blockdim` for a slice; NumPy accepts the index and the advertised shape
(`sum` of the chunks per axis) is NumPy's output shape. -/
theorem getitemChunks_spec (chunks : List (List Int)) (idx : List Ix) (r : List (List Int))
    (hc : ∀ l ∈ chunks, ∀ c ∈ l, 0 ≤ c) (hb : idx.countP Ix.isLst = 0)
    (h : getitemChunks chunks idx = .ok r) :
    ∃ idx' pos out, normalizeIndex idx (chunks.map isum) = .ok idx' ∧ r = outChunks chunks idx' ∧
      npIndex idx (chunks.map isum) = .ok (pos, out) ∧ out = r.map (fun c => (isum c).toNat) := by
  unfold getitemChunks at h
  cases hn : normalizeIndex idx (chunks.map isum) with
  | error e => rw [hn] at h; cases h
  | ok idx' =>
    rw [hn] at h
    obtain ⟨q, s⟩ := Dask.Lemmas.Indexing.normalizeIndex_normalized isum idx idx' chunks hn
    have hl : ∀ x ∈ idx', ¬ x.isLst = true := List.countP_eq_zero.mp (s.lsts.trans hb)
    have hr : r = outChunks chunks idx' :=
      (Except.ok.inj h).symm.trans (Dask.Lemmas.Indexing.expandDims_whereNone s.norm hl [] 0 0 (Nat.le_refl _) rfl)
    exact ⟨idx', _, _, rfl, hr, s.npIndex_eq, by rw [hr]; exact s.norm.outShape hc hl⟩

/-- **`.blocks[idx]`**: whenever accepted, the selected input blocks per axis (`maps`) are exactly
NumPy's indexing of `arange(numblocks)` with the same index (integers keep their axis), they
exist, and the chunks of the result are exactly the sizes of the selected blocks in that order
(chunks and block maps only: the model of `.blocks` has no values); at most one list, no `None`. -/
theorem blocksIndex_spec (chunks : List (List Int)) (idx : List Ix) (cs maps : List (List Int))
    (h : blocksIndex chunks idx = .ok (cs, maps)) :
    (∃ out, npIndex idx (chunks.map (fun c => (c.length : Int))) = .ok (maps, out)) ∧
    cs = List.zipWith (fun c m => m.map (fun b => c.getD b.toNat 0)) chunks maps ∧
    (∀ p ∈ List.zip chunks maps, ∀ b ∈ p.2, 0 ≤ b ∧ b < (p.1.length : Int)) ∧
    idx.countP Ix.isLst ≤ 1 ∧ idx.countP Ix.isNone = 0 := by
  unfold blocksIndex at h
  split at h
  · cases h
  · rename_i h1
    split at h
    · cases h
    · rename_i h2
      have hnone : idx.countP Ix.isNone = 0 :=
        List.countP_eq_zero.mpr fun x hx hx' => h2 (List.any_eq_true.mpr ⟨x, hx, hx'⟩)
      cases hn : normalizeIndex idx (chunks.map (fun c => (c.length : Int))) with
      | error e => rw [hn] at h; cases h
      | ok index =>
        rw [hn] at h
        simp only [Except.ok.injEq, Prod.mk.injEq] at h
        obtain ⟨r, s⟩ := Dask.Lemmas.Indexing.normalizeIndex_normalized _ idx index chunks hn
        have bm := s.norm.blocksMaps (List.countP_eq_zero.mp (s.nones.trans hnone))
        have hm : maps = r.1 := h.2.symm.trans bm.1
        refine ⟨⟨_, by rw [hm]; exact s.npIndex_eq⟩, ?_, ?_, by omega, hnone⟩
        · rw [← h.1, h.2]
        · rw [hm]; exact bm.2

/-- `_compute_indexer` (take) only regroups the index … -/
theorem computeIndexer_flatten (index chunks : List Int) :
    (computeIndexer index chunks).flatten = index :=
  Dask.Lemmas.Indexing.computeIndexer_flatten index chunks

/-- … into runs that each read a single input chunk. -/
theorem computeIndexer_groups (index chunks : List Int) :
    ∀ g ∈ computeIndexer index chunks, ∀ x ∈ g, ∀ y ∈ g,
      bisectRight (cumsum chunks) x = bisectRight (cumsum chunks) y := by
  unfold computeIndexer
  cases index with
  | nil => intro g hg x hx; simp at hg; subst hg; simp at hx
  | cons i rest =>
    simp only
    exact Dask.Lemmas.Indexing.indexerLoop_groups _ rest _ [i] (by simp)

/-- `Shuffle._new_chunks` preserves the concatenated index list … -/
theorem newChunks_flatten {limit : Nat} (hl : 0 < limit) (indexer : List (List Int)) :
    (newChunks limit indexer).flatten = indexer.flatten :=
  Dask.Lemmas.Indexing.newChunks_flatten hl indexer

/-- … and every output chunk is non-empty and at most `limit` (the largest input chunk) long. -/
theorem newChunks_bounded {limit : Nat} (hl : 0 < limit) (indexer : List (List Int)) :
    ∀ g ∈ newChunks limit indexer, 0 < g.length ∧ g.length ≤ limit :=
  Dask.Lemmas.Indexing.newChunks_bounded hl indexer

/-! non-vacuity: concrete, non-trivial instances of hypotheses and conclusions -/

-- x[None, ..., -1] on shape (3, 4): normalised, and both sides of `normalizeIndex_sound`
example : normalizeIndex [.none_, .ellipsis, .int (-1)] [3, 4] = .ok [.none_, .slc colon, .int 3] := by rfl
example : npIndex [.none_, .ellipsis, .int (-1)] [3, 4] = .ok ([[0, 1, 2], [3]], [1, 3]) := by rfl
example : npIndex [.none_, .slc colon, .int 3] [3, 4] = .ok ([[0, 1, 2], [3]], [1, 3]) := by rfl
example : NormalFor [.none_, .slc colon, .int 3] [3, 4] :=
  ⟨⟨colon, by decide, by decide⟩, by omega, trivial⟩
-- refusals: out of bounds / too many indices are IndexError on both sides
example : normalizeIndex [.int 3] [3] = .error .indexError ∧ npIndex [.int 3] [3] = .error .indexError := ⟨by rfl, by rfl⟩
example : normalizeIndex [.int 0, .int 0] [3] = .error .indexError ∧ npIndex [.int 0, .int 0] [3] = .error .indexError := ⟨by rfl, by rfl⟩
-- the hypotheses of `normalizeIndex_error_iff` are needed: same refusal, different class
example : normalizeIndex [.ellipsis, .ellipsis] [3] = .error .typeError ∧
    npIndex [.ellipsis, .ellipsis] [3] = .error .indexError := ⟨by rfl, by rfl⟩
example : normalizeIndex [.slc ⟨none, none, some 0⟩, .int 5] [3, 4] = .error .indexError ∧
    npIndex [.slc ⟨none, none, some 0⟩, .int 5] [3, 4] = .error .valueError := ⟨by rfl, by rfl⟩
-- getitem: x[::-1, 1] on chunks ((2,1),(3,1)): per-axis pieces, grid reads, chunks
example : normalizeIndex [.slc ⟨none, none, some (-1)⟩, .int 1] ([[2, 1], [3, 1]].map isum)
    = .ok [.slc ⟨none, none, some (-1)⟩, .int 1] := by rfl
example : List.zipWith axisPieces [[2, 1], [3, 1]] [.slc ⟨none, none, some (-1)⟩, .int 1] = [[[2], [1, 0]], [[1]]] := by decide +kernel
example : gridReads [[2, 1], [3, 1]] [.slc ⟨none, none, some (-1)⟩, .int 1] = [[2, 1], [1, 1], [0, 1]] := by decide +kernel
example : ssiChunks [[2, 1], [3, 1]] [.slc ⟨none, none, some (-1)⟩, .int 1] = [[1, 2]] := by decide +kernel
example : getitemChunks [[2, 1], [3, 1]] [.none_, .int 1, .none_, .slc ⟨none, none, some (-2)⟩] = .ok [[1], [1], [1, 1]] := by rfl
example : npIndex [.none_, .int 1, .none_, .slc ⟨none, none, some (-2)⟩] [3, 4] = .ok ([[1], [3, 1]], [1, 1, 2]) := by rfl
example : outRange1 [2, 1] (.slc ⟨none, none, some (-1)⟩) = some [1, 0] := by decide +kernel
example : ssiLayer [[2, 1], [3, 1]] [.slc ⟨none, none, some (-1)⟩, .int 3] =
    [([1], [0, 1], [.slc ⟨some (-1), some (-3), some (-1)⟩, .int 0]),
     ([0], [1, 1], [.slc ⟨some (-1), some (-2), some (-1)⟩, .int 0])] := by decide +kernel
-- block-major order against C order (why `axisLift` is a permutation): they agree when every block holds one
-- position (first example) and differ when a block holds two (second)
example : (cart [[[0], [1]], [[5], [6]]]).flatMap cart = [[0, 5], [0, 6], [1, 5], [1, 6]] := by decide +kernel
example : (cart [[[0, 1]], [[5], [6]]]).flatMap cart = [[0, 5], [1, 5], [0, 6], [1, 6]] ∧
    cart ([[[0, 1]], [[5], [6]]].map List.flatten) = [[0, 5], [0, 6], [1, 5], [1, 6]] := by decide +kernel
-- .blocks[[1, 0], -1] on chunks ((2,1),(3,1,5))
example : blocksIndex [[2, 1], [3, 1, 5]] [.lst [1, 0], .int (-1)] = .ok ([[1, 2], [5]], [[1, 0], [2]]) := by rfl
example : blocksIndex [[2, 1], [3, 1, 5]] [.lst [2, 0]] = .error .indexError := by rfl
example : blocksIndex [[2, 1], [3, 1, 5]] [.none_] = .error .valueError := by rfl
-- take helpers
example : computeIndexer [0, 1, 5, 2, 3] [2, 2, 2] = [[0, 1], [5], [2, 3]] := by decide +kernel
example : slice1dInt [2, 0, 3] 2 = (2, 0) := by decide +kernel

end Dask.Props.C12
