/-
C21 — The Frisky records path computes the same results as the dask graph (theorem side).

`records` / `resolve` (Model/Graph.lean) model `_records` / `_Flattener.resolve` of
dask_array/_frisky/graph_records.py and are tied to them by correspondence on every run
(`gr.flatten`, harness/props/C21.py).  For ALL nested nodes (no size bound), any interpretation of
the task functions.  `hsd`: `sorted(set(deps))` keeps exactly the collected strings (proved for
the concrete instance below); `hinj`: `f"{parent}-sub{n}"` is injective in `n`; `hsep`: no outer
key string referenced by the node is one of the sub-key strings (tuple keys end in `)`).
-/
import DaskArrayModel.Lemmas.Flatten
namespace Dask.Props.C21
open Dask.Graph Dask.Lemmas.Graph

/-- EVALUATION.  Running the generated sub-records (in the order `_Flattener.extra` lists them)
and then the node's own record — each record seeing ONLY the dependencies it declares — stores
under the node's key the value `Task.__call__` computes for the nested node. -/
theorem C21_flatten_eval {κ φ lit σ ν : Type} [DecidableEq σ] (cfg : FlatCfg κ σ) (parent : σ)
    (I : Interp φ lit ν)
    (hsd : ∀ (l : List σ) (x : σ), x ∈ cfg.sortDedup l ↔ x ∈ l)
    (hinj : ∀ a b : Nat, cfg.subKey parent a = cfg.subKey parent b → a = b)
    (node : Node κ φ lit) (env : σ → Option ν)
    (hsep : ∀ k ∈ nodeRefs node, ∀ i, 0 < i → cfg.render k ≠ cfg.subKey parent i) :
    ∀ main extra, records cfg parent node = main :: extra →
      main.key = parent ∧
      runRecs I (extra ++ [main]) env parent = evalNode I (fun k => env (cfg.render k)) node := by
  intro main extra h
  refine ⟨records_main_key h, ?_⟩
  rcases records_cases h with ⟨deps, hd, rfl, rfl⟩ | ⟨f, kw, xs, rfl, rfl, rfl⟩
  · -- an identity record around the resolved node: it declares every string its argument refers to
    obtain ⟨hi, he⟩ := resolve_inv I hsd hinj node 0
    rw [run_main I _ ⟨parent, .ident, [], _, deps⟩, evalRec_ident, ← he env hsep]
    refine evalArg_congr I _ (fun s hs => if_pos ?_)
    rcases hd with rfl | rfl
    · exact hi.arefs s hs
    · exact (hsd _ s).mpr (hi.arefs s hs)
  · -- a `Task`: its own record over the arguments resolved at top level
    obtain ⟨_, hdecl, he⟩ := resolveArgs_inv I hsd hinj xs 0
    exact run_task I hdecl parent f kw (he env hsep)

/-- FRESHNESS and COMPLETENESS.  The generated keys are pairwise distinct `subKey parent i`
(`i ≥ 1`); every dependency string of every record names an outer key the node references or a
generated sub-record. -/
theorem C21_flatten_complete {κ φ lit σ : Type} [DecidableEq σ] (cfg : FlatCfg κ σ) (parent : σ)
    (hsd : ∀ (l : List σ) (x : σ), x ∈ cfg.sortDedup l ↔ x ∈ l)
    (hinj : ∀ a b : Nat, cfg.subKey parent a = cfg.subKey parent b → a = b)
    (node : Node κ φ lit) :
    ∀ main extra, records cfg parent node = main :: extra →
      (extra.map (·.key)).Nodup ∧
      (∀ r ∈ extra, ∃ i, 1 ≤ i ∧ r.key = cfg.subKey parent i) ∧
      (∀ r ∈ main :: extra, ∀ s ∈ r.deps,
        (∃ k ∈ nodeRefs node, s = cfg.render k) ∨ ∃ r' ∈ extra, r'.key = s) :=
  records_complete hsd hinj node

/-- the Python instance of `sorted(set(·))` satisfies `hsd` -/
theorem C21_sorted_set_mem (l : List String) (x : String) : x ∈ pyCfg.sortDedup l ↔ x ∈ l :=
  mem_sortDedupBy _ l x

/-- SHARED `seen`.  Walking several roots one after the other with one `seen` set (starting
empty; nodes deduplicated by NAME) emits at most one node per name, reaches the name of every
root, every dependency of an emitted node has the name of an emitted node, and — given per-layer
completeness (a layer's records reference only its own keys or the block grid of a dependency's
name) and that every node produces the grid of its name — every dependency of every emitted record
is produced by an emitted layer (`_check_complete` holds for the union). -/
theorem C21_walk_shared_seen {α β σ : Type} [DecidableEq β] (nm : α → β) (deps : α → List α)
    (fuel : Nat) (roots : List α) (seen' : List β) (out' : List α)
    (h : walkAll nm deps fuel roots [] [] = some (seen', out'))
    (keysOf depsOf : α → List σ) (gridOf : β → List σ)
    (hlayer : ∀ e, ∀ s ∈ depsOf e, s ∈ keysOf e ∨ ∃ d ∈ deps e, s ∈ gridOf (nm d))
    (hprod : ∀ e, ∀ s ∈ gridOf (nm e), s ∈ keysOf e) :
    (out'.map nm).Nodup ∧ (∀ b, b ∈ seen' ↔ b ∈ out'.map nm) ∧ (∀ r ∈ roots, nm r ∈ out'.map nm) ∧
    (∀ e ∈ out', ∀ d ∈ deps e, nm d ∈ out'.map nm) ∧
    ∀ e ∈ out', ∀ s ∈ depsOf e, ∃ e' ∈ out', s ∈ keysOf e' := by
  obtain ⟨hc, hr, new, h1, h2, _, h4⟩ := walkAll_spec nm deps fuel roots [] [] seen' out' h
    (fun e he => by cases he)
  have hout : out' = new := by simpa using h1
  have hiff : ∀ b, b ∈ seen' ↔ b ∈ out'.map nm := fun b => by rw [h4 b, hout]; simp
  have hc' : ∀ e ∈ out', ∀ d ∈ deps e, nm d ∈ out'.map nm :=
    fun e he d hd => (hiff _).mp (hc e he d hd)
  refine ⟨hout ▸ h2, hiff, fun r hr' => (hiff _).mp (hr r hr'), hc',
    fun e he s hs => ?_⟩
  rcases hlayer e s hs with h | ⟨d, hd, h⟩
  · exact ⟨e, he, h⟩
  · obtain ⟨e', he', hn⟩ := List.mem_map.mp (hc' e he d hd)
    exact ⟨e', he', hprod e' s (hn ▸ h)⟩

/-- a later collection walked with a non-empty shared `seen` contributes only nodes whose names
were not seen before, one per name -/
theorem C21_walk_increment {α β : Type} [DecidableEq β] (nm : α → β) (deps : α → List α) (fuel : Nat)
    (roots : List α) (seen : List β) (out : List α) (seen' : List β) (out' : List α)
    (h : walkAll nm deps fuel roots seen out = some (seen', out'))
    (hc : NameClosed nm deps out seen) :
    NameClosed nm deps out' seen' ∧ (∀ r ∈ roots, nm r ∈ seen') ∧
    ∃ new, out' = out ++ new ∧ (new.map nm).Nodup ∧ (∀ e ∈ new, nm e ∉ seen) ∧
      (∀ b, b ∈ seen' ↔ b ∈ seen ∨ b ∈ new.map nm) :=
  walkAll_spec nm deps fuel roots seen out seen' out' h hc

/-! ### non-vacuity: a concrete nested task -/

/-- keys and key strings are numbers here; sub-key `n` of parent `p` is `1000·(p+1)+n` -/
def cfgN : FlatCfg Nat Nat :=
  { render := id, subKey := fun p n => 1000 * (p + 1) + n, sortDedup := sortDedupBy (fun a b => decide (a < b)) }

def interp : Interp Nat Int Int :=
  { ofLit := id, mkList := fun vs => vs.foldl (· + ·) 0, mkTuple := fun vs => vs.foldl (· + ·) 0,
    apply := fun f _ vs => (f : Int) * vs.foldl (· + ·) 0 }

/-- `Task(f2, TaskRef 10, List(Task(f3, TaskRef 11, 7), TaskRef 10), Task(f5, DataNode 1))` -/
def nested : Node Nat Nat Int :=
  .task 2 [] (.cons (.taskRef 10) (.cons (.list (.cons (.task 3 [] (.cons (.taskRef 11) (.cons (.lit 7) .nil)))
    (.cons (.taskRef 10) .nil))) (.cons (.task 5 ["kw"] (.cons (.data 1) .nil)) .nil)))

def envN : Nat → Option Int := fun k => if k = 10 then some 100 else if k = 11 then some 4 else none

/-- record keys and dependency lists: the counter is pre-order, the records are appended post-order -/
example : (records cfgN 0 nested).map (fun r => (r.key, r.deps))
    = [(0, [10, 1001, 1002]), (1001, [11]), (1002, [])] := by decide +kernel
/-- evaluation of the node and of its flat records agree: 2·(100 + (3·(4+7) + 100) + 5·1) = 476 -/
example : evalNode interp envN nested = some 476 := by decide +kernel
example : (match records cfgN 0 nested with
           | main :: extra => runRecs interp (extra ++ [main]) envN 0
           | [] => none) = some 476 := by decide +kernel
/-- a record evaluated WITHOUT one of its collected dependencies fails (so dropping a dependency
in `_Flattener` is observable) -/
example : evalRec interp envN ⟨0, .fn 2, [], [.ref 10, .ref 11], [10]⟩ = none := by decide +kernel

/-- two collections sharing the subtree `{2, 3}`: `0 → 2 → 3`, `1 → 2`; node 12 is a pin carrying
the NAME of node 2 (as a `RootAlias` does) over a differently optimized subtree `12 → 13` -/
def depsW : Nat → List Nat := fun n =>
  if n = 0 then [2] else if n = 1 then [2] else if n = 2 then [3] else if n = 12 then [13] else []
def nmW : Nat → Nat := fun n => n % 10
example : walkAll nmW depsW 10 [0, 1] [] [] = some ([1, 3, 2, 0], [0, 2, 3, 1]) := by decide +kernel
/-- the pin 12 is skipped (its name 2 was emitted by the first collection), so is its subtree -/
example : walkAll nmW depsW 10 [0, 12] [] [] = some ([3, 2, 0], [0, 2, 3]) := by decide +kernel

end Dask.Props.C21
