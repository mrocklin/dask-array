/-
C06 — Equal names denote equal arrays.

(1) general theorem over the model (Model/Names.lean): if every class's semantic operand positions are
    among the positions its name tokenizes, then `name a = name b → den a = den b ∧ chunks a = chunks b`
    for nodes of any depth; classes whose names are pinned / hand-built enter through an explicit
    hypothesis (what the run-time registry of harness/props/C06.py checks);
(2) a name-keyed insert-if-absent cache stays sound under every history of requests;
(3) the coverage premise is DECIDED over the table generated from /repo's current tree
    (Generated/NameTables.lean, harness/translate/names.py) and lifted to the model's positions.

Trusted: `tokenize` is collision-free (names are modelled as a free term algebra); the AST
approximation of the translator (`tokenized` under-, `semantic` over-approximated), validated by the
perturbation runs of the harness.
-/
import DaskArrayModel.Lemmas.Names
import DaskArrayModel.Generated.NameTables
import DaskArrayModel.Lemmas.KernelDecide
namespace Dask.Props.C06
open Dask.KernelDecide
open Dask.Names Dask.Lemmas.Names
open Dask.Generated.NameTables

/-! ### (1) name determines denotation -/

theorem C06_name_determines_den {σ κ : Type} (T S : Nat → List Nat)
    (sem : Nat → List (Option (Val σ)) → σ) (proj : σ → κ)
    (hcov : ∀ cls, ∀ i, i ∈ S cls → i ∈ T cls)
    (a b : Node) (h : name T a = name T b) :
    den S sem a = den S sem b ∧ chunks proj S sem a = chunks proj S sem b := by
  have hd := name_determines_den T S sem (fun _ => false) (fun c _ => hcov c)
    (fun a b hp => by simp at hp) a b h
  exact ⟨hd, by unfold chunks; rw [hd]⟩

/-- with pinned / hand-named classes: they are covered by the registry hypothesis `hpin`, all others by the table -/
theorem C06_name_determines_den_pinned {σ κ : Type} (T S : Nat → List Nat)
    (sem : Nat → List (Option (Val σ)) → σ) (proj : σ → κ) (pinned : Nat → Bool)
    (hcov : ∀ cls, pinned cls = false → ∀ i, i ∈ S cls → i ∈ T cls)
    (hpin : ∀ a b : Node, pinned a.cls = true → name T a = name T b → den S sem a = den S sem b)
    (a b : Node) (h : name T a = name T b) :
    den S sem a = den S sem b ∧ chunks proj S sem a = chunks proj S sem b := by
  have hd := name_determines_den T S sem pinned hcov hpin a b h
  exact ⟨hd, by unfold chunks; rw [hd]⟩

/-- the `Node := mk cls operands` view used in the statement is faithful -/
theorem C06_node_view (c : Nat) (l : List Operand) (n : Node) :
    (Node.mk c l).cls = c ∧ (Node.mk c l).operands = l ∧ Node.mk n.cls n.operands = n :=
  ⟨Node.cls_mk c l, Node.operands_mk c l, Node.mk_cls_operands n⟩

/-! ### (2) de-duplication by name (singleton registry, `_LOWER_CACHE`, merged graphs) -/

theorem C06_cache_sound {κ ν σ : Type} [DecidableEq κ] (nm : ν → κ) (dn : ν → σ) (lower : ν → ν)
    (hnd : ∀ a b, nm a = nm b → dn a = dn b)          -- equal names denote equal arrays (1)
    (hlow : ∀ n, dn (lower n) = dn n)                  -- what is inserted denotes the requested node
    (history : List ν) :
    CacheSound nm dn (cacheRun nm lower [] history).1 ∧
    ∀ p, p ∈ (cacheRun nm lower [] history).2 → dn p.2 = dn p.1 :=
  run_sound nm dn lower hnd hlow history [] (fun _ _ h => nomatch h)

/-- one step from ANY sound cache (the invariant is inductive) -/
theorem C06_cache_step_sound {κ ν σ : Type} [DecidableEq κ] (nm : ν → κ) (dn : ν → σ) (lower : ν → ν)
    (hnd : ∀ a b, nm a = nm b → dn a = dn b) (hlow : ∀ n, dn (lower n) = dn n)
    (cache : List (κ × ν)) (hs : CacheSound nm dn cache) (n : ν) :
    CacheSound nm dn (cacheStep nm lower cache n).1 ∧ dn (cacheStep nm lower cache n).2 = dn n :=
  step_sound nm dn lower hnd hlow cache hs n

/-! ### (3) the coverage premise, over the generated table -/

/-- Classes whose name is (or can be) PINNED / hand-built instead of derived from the operands.  They are outside
    the table obligation and covered by the run-time name→content registry of harness/props/C06.py. -/
def optOut : List String := [
  "RootAlias",       -- `_name = operand("name")`: the raw root's name pinned onto the optimized tree (never in the registries / lowering cache)
  "FromGraph",       -- `_name = operand("name")`: a persisted collection keeps its name (opts out of the registry and of `_LOWER_CACHE`)
  "MapBlocksOutput", -- `_name = operand("name")`: per-output view of a multi-output map_blocks; name minted by its builder from the shared call's token
  "GUfuncLeafExpr",  -- `_name = f"{name_prefix}_{i}-{<token of the gufunc call node>}"`: the other operands are derived from that call node
  "FromArray",       -- `_name_is_exact`: exact names minted by `_accept_slice` / `_with_chunks` / user `name=` (opts out of registry and lowering cache)
  "BroadcastTrick",  -- user `name=` is used verbatim (ones/zeros/empty/full)
  "Ones", "Zeros", "Empty", "Full",  -- ditto (inherit BroadcastTrick._name)
  "FromMap",         -- `_name_prefix` is used verbatim when given
  "FromDelayed",     -- `_name_prefix` is used verbatim when given
  -- hand-built `_info` name: tokenizes the per-block seeds SPAWNED from `rng` (a derived value, read through
  -- `rng._bit_generator` / `rng._numpy_state`), not the operand; covered by the random-array family of the registry
  "Random", "RandomNormal", "RandomPoisson"
]

/-- (class, operand) pairs the AST over-approximation lists as read by semantic members although they do not change
    shape / chunks / dtype / values (validated by the perturbation runs: changing them never changes the content). -/
def nonSemantic : List (String × String) := [
  -- `meta` is only a hint for the array TYPE of the reduced meta; the dtype comes from the `dtype` operand
  ("Reduction", "meta"), ("Sum", "meta"), ("Prod", "meta"), ("Min", "meta"), ("Max", "meta"), ("Any", "meta"),
  ("All", "meta"), ("Mean", "meta"), ("Var", "meta"), ("NanSum", "meta"), ("NanProd", "meta"), ("NanMin", "meta"),
  ("NanMax", "meta"), ("NanMean", "meta"), ("NanVar", "meta"),
  -- same hint one level down (dtype is the explicit `dtype` operand, which is tokenized)
  ("PartialReduce", "reduced_meta"),
  -- key-name PREFIX only (`_name = f"{name or token or funcname(func)}-{token}"`): never changes the array
  ("Blockwise", "name"), ("Blockwise", "token"), ("SlidingWindowView", "name"), ("SlidingWindowView", "token"),
  -- the name tokenizes `self.dtype`, the dtype of the EFFECTIVE meta; the `dtype` operand only feeds that meta when
  -- `_meta_provided` is None, so it can differ between two nodes only where it does not reach the array
  ("Blockwise", "dtype"), ("SlidingWindowView", "dtype")
]

/-- semantic operands of class `i`, minus the justified exceptions -/
def semEff (i : Nat) : List String :=
  (semantic.getD i []).filter (fun p => !(nonSemantic.contains (classes.getD i "", p)))

/-- class `i` is covered: every semantic operand is tokenized, or is a justified exception
    (the two tests in the order of `rowsCovered`, which is what the kernel evaluates: the tokenized test first,
    since it almost always succeeds) -/
def covered (i : Nat) : Bool :=
  (semantic.getD i []).all (fun p => (tokenized.getD i []).contains p || nonSemantic.contains (classes.getD i "", p))

theorem covered_semEff (i : Nat) (h : covered i = true) : ∀ p, p ∈ semEff i → p ∈ tokenized.getD i [] := by
  intro p hp
  unfold semEff at hp
  rw [List.mem_filter] at hp
  unfold covered at h
  rw [List.all_eq_true] at h
  have h1 := h p hp.1
  have h2 := hp.2
  simp only [Bool.or_eq_true, Bool.not_eq_true'] at h1 h2
  rcases h1 with h1 | h1
  · rwa [List.contains_iff_mem] at h1
  · rw [h2] at h1; exact absurd h1 (by simp)

theorem C06_table_wellformed :
    params.length = classes.length ∧ tokenized.length = classes.length ∧ semantic.length = classes.length ∧
    (∀ c, c ∈ optOut → c ∈ classes) ∧ (∀ q, q ∈ nonSemantic → q.1 ∈ classes) := by
  kernel_decide

theorem C06_table_covers :
    ∀ i, i < classes.length → (covered i = true ∨ optOut.contains (classes.getD i "") = true) :=
  rowsCovered_sound (exc := nonSemantic) (by kernel_decide)

/-- positions of class `i`'s tokenized / semantic operands and the pinned flag, as the model wants them -/
def tokenizedPos (i : Nat) : List Nat := posOf (params.getD i []) (tokenized.getD i [])
def semanticPos (i : Nat) : List Nat := posOf (params.getD i []) (semEff i)
def pinnedCls (i : Nat) : Bool := !(decide (i < classes.length)) || optOut.contains (classes.getD i "")

theorem C06_generated_premise :
    ∀ cls, pinnedCls cls = false → ∀ i, i ∈ semanticPos cls → i ∈ tokenizedPos cls := by
  intro cls hp
  unfold pinnedCls at hp
  simp only [Bool.or_eq_false_iff, Bool.not_eq_false', decide_eq_true_eq] at hp
  rcases C06_table_covers cls hp.1 with h | h
  · apply posOf_subset
    exact covered_semEff cls h
  · rw [hp.2] at h; exact absurd h (by simp)

/-- the theorem instantiated on the generated table: for every expression tree over the classes of this source tree,
    equal names denote equal arrays, provided the pinned classes satisfy the registry hypothesis -/
theorem C06_generated_sound {σ κ : Type} (sem : Nat → List (Option (Val σ)) → σ) (proj : σ → κ)
    (hpin : ∀ a b : Node, pinnedCls a.cls = true → name tokenizedPos a = name tokenizedPos b →
      den semanticPos sem a = den semanticPos sem b)
    (a b : Node) (h : name tokenizedPos a = name tokenizedPos b) :
    den semanticPos sem a = den semanticPos sem b ∧ chunks proj semanticPos sem a = chunks proj semanticPos sem b :=
  C06_name_determines_den_pinned tokenizedPos semanticPos sem proj pinnedCls C06_generated_premise hpin a b h

/-- two DIFFERENT nodes with the same name (they differ in an operand that is neither tokenized nor semantic) … -/
example :
    let T : Nat → List Nat := fun _ => [0]
    let a := Node.mk 0 [Operand.lit 1, Operand.lit 5]
    let b := Node.mk 0 [Operand.lit 1, Operand.lit 6]
    a ≠ b ∧ name T a = name T b := by
  refine ⟨?_, rfl⟩
  exact fun h => nomatch h

/-- … and the theorem applies to them -/
example (sem : Nat → List (Option (Val Nat)) → Nat) :
    den (fun _ => [0]) sem (Node.mk 0 [Operand.lit 1, Operand.lit 5])
      = den (fun _ => [0]) sem (Node.mk 0 [Operand.lit 1, Operand.lit 6]) :=
  (C06_name_determines_den (fun _ => [0]) (fun _ => [0]) sem id (fun _ _ h => h) _ _ rfl).1

/-- depth: a parent over children with equal names -/
example (sem : Nat → List (Option (Val Nat)) → Nat) :
    let T : Nat → List Nat := fun _ => [0]
    let c1 := Node.mk 0 [Operand.lit 1, Operand.lit 5]
    let c2 := Node.mk 0 [Operand.lit 1, Operand.lit 6]
    den T sem (Node.mk 7 [Operand.child c1]) = den T sem (Node.mk 7 [Operand.child c2]) :=
  (C06_name_determines_den (fun _ => [0]) (fun _ => [0]) sem id (fun _ _ h => h) _ _ rfl).1

/-- the premise is necessary: a tokenizer that omits a semantic operand (e.g. `axis`) gives two nodes with one
    name and different denotations -/
example :
    let T : Nat → List Nat := fun _ => []          -- tokenizes nothing
    let S : Nat → List Nat := fun _ => [0]         -- but operand 0 is semantic
    let sem : Nat → List (Option (Val Nat)) → Nat := fun _ l =>
      match l with
      | [some (Val.lit v)] => v
      | _ => 0
    let a := Node.mk 0 [Operand.lit 1]
    let b := Node.mk 0 [Operand.lit 2]
    name T a = name T b ∧ den S sem a ≠ den S sem b := by
  refine ⟨rfl, ?_⟩
  decide +kernel

/-- the table is not trivially covered: some class has a custom tokenizer that is a strict subset of its
    operands, and one (class, operand) exception is really used -/
example : customTokenizer.contains "Reduction" = true ∧ (semantic.getD (classes.idxOf "Reduction") []).contains "meta" = true ∧
    (tokenized.getD (classes.idxOf "Reduction") []).contains "meta" = false ∧
    (tokenized.getD (classes.idxOf "Reduction") []).contains "axis" = true := by
  kernel_decide

/-- cache: a history with a repeated name is answered from the cache -/
example :
    (cacheRun (fun n : Nat => n % 2) (fun n => n + 2) [] [1, 3]).2 = [(1, 3), (3, 3)] := by
  decide +kernel

end Dask.Props.C06
