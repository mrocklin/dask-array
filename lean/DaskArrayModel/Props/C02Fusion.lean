/-
C02 (last clause) — "Blockwise fusion never changes which input block any output block is
computed from."  Property theorems assembled from Lemmas/Fusion, and non-vacuity examples.

Model: Model/Fusion.lean.  A group is the member list of a `FusedBlockwise` (root first); members
are `Blockwise` / `Elemwise` / `Transpose` / `Random`-like nodes with their own `_task` and
`_input_block_id` rules.  UNFUSED: `Reach g r m b` (block `b` of member `m` is computed to produce
root block `r`, along some path), `ExtRead g r e c` (block `c` of external input `e` is read),
executable `pathsReads`.  FUSED: `computeBlockIds` (= `_compute_block_ids`, one block per member,
first assignment wins), `fusedReads` / `fusedInternalRefs` (the `TaskRef`s of the member tasks).
Hypotheses of the main theorem, for groups of ANY size, depth, rank and block counts:
`WF g` (what lowering and `_is_blockwise_fusable` guarantee), `Ordered g` (the member order
`_fusion_pass` produces), `Accepted g` (`_remove_conflicting_exprs` records no conflict: every member
is reached under ONE symbolic mapping), `ValidBlock g r`.
-/
import DaskArrayModel.Lemmas.Fusion
namespace Dask.Props.C02Fusion
open Dask.Fusion

/-- For an accepted group and every block `r` of the root: `_compute_block_ids` succeeds and gives
every member exactly the block that the unfused graph computes along EVERY path; hence the fused
task reads exactly the (external input, block) pairs the unfused graph reads, and every internal
reference of a member task hits the member task generated for the assigned block. -/
theorem C02_fuse_block_ids (g : Group) (r : List Nat)
    (hwf : WF g) (hord : Ordered g) (hacc : Accepted g) (hr : ValidBlock g r) :
    ∃ ids, computeBlockIds g r = some ids ∧
      (∀ m, m < g.length → ∃ b, ids m = some b) ∧
      (∀ m b, Reach g r m b → ids m = some b) ∧
      (∀ m b, ids m = some b → Reach g r m b) ∧
      (∀ e c, (e, c) ∈ fusedReads g ids ↔ ExtRead g r e c) ∧
      (∀ j c, (j, c) ∈ fusedInternalRefs g ids → ids j = some c) := by
  obtain ⟨ids, h1, h2⟩ := ids_ok g r hwf hord hacc hr
  exact ⟨ids, h1, h2.total, h2.every_path, h2.reached, fusedReads_iff g r ids h2,
    fusedInternalRefs_resolve g r ids h2⟩

/-- the same with the executable path enumeration: whatever `pathsReads` finds (any depth) is read
by the fused task, and every read of the fused task is found at some depth -/
theorem C02_fuse_reads_paths (g : Group) (r : List Nat)
    (hwf : WF g) (hord : Ordered g) (hacc : Accepted g) (hr : ValidBlock g r) :
    ∃ ids, computeBlockIds g r = some ids ∧
      (∀ fuel x, x ∈ pathsReads g fuel 0 r → x ∈ fusedReads g ids) ∧
      (∀ x, x ∈ fusedReads g ids → ∃ fuel, x ∈ pathsReads g fuel 0 r) := by
  obtain ⟨ids, h1, h2⟩ := ids_ok g r hwf hord hacc hr
  refine ⟨ids, h1, fun fuel x hx => ?_, fun x hx => ?_⟩
  · exact (fusedReads_iff g r ids h2 x.1 x.2).mpr (pathsReads_sound g r fuel 0 r Reach.root x hx)
  · exact pathsReads_complete g r x.1 x.2 ((fusedReads_iff g r ids h2 x.1 x.2).mp hx)

/-- an accepted group is returned unchanged by `_remove_conflicting_exprs` -/
theorem C02_fuse_accepted_kept (g : Group) (h : Accepted g) : removeConflicting g = List.range g.length := by
  unfold removeConflicting
  have : conflictsOf g = [] := h
  simp [this]

/-- every block touched on the way (members and external inputs) exists in its array's grid -/
theorem C02_fuse_blocks_in_grid (g : Group) (r : List Nat)
    (hwf : WF g) (hord : Ordered g) (hacc : Accepted g) (hr : ValidBlock g r) :
    (∀ m b, Reach g r m b →
      b.length = (node g m).nb.length ∧ ∀ t, t < (node g m).nb.length → b.getD t 0 < (node g m).nb.getD t 1) ∧
    (∀ e c, ExtRead g r e c → ∃ i a, i < g.length ∧ a ∈ (node g i).args ∧ a.src = .ext e ∧
      c.length = a.nb.length ∧ ∀ t, t < a.nb.length → c.getD t 0 < a.nb.getD t 1) := by
  have hsym := sym_ok g hwf hord hacc
  refine ⟨fun m b h => ?_, fun e c h => ?_⟩
  · obtain ⟨hm, hb⟩ := reach_canon g r hwf hsym hr m b h
    rw [hb]
    exact ⟨conc_length _ _ _, fun t ht => conc_lt _ _ _ t ht (wfNode_of_lt g hwf m hm).nb_pos⟩
  · obtain ⟨i, b, a, hreach, hi, ha, hs, hc⟩ := h
    obtain ⟨_, hb⟩ := reach_canon g r hwf hsym hr i b hreach
    obtain ⟨M', hdep, _⟩ := canon_edge g r hwf hsym hi ha
    rw [hc, hb, hdep]
    exact ⟨i, a, hi, ha, hs, conc_length _ _ _,
      fun t ht => conc_lt _ _ _ t ht ((wfNode_of_lt g hwf i hi).arg ha).nb_pos⟩

/-- `_compute_block_id`'s `% numblocks` rule: whatever the output block and whatever the index map,
the dependency block id is inside the dependency's grid, and 0 on every single-block (broadcast)
axis — also for operands of lower rank (`ind` shorter than the output's indices) -/
theorem C02_broadcast_rule (ind : List Nat) (m : Nat → Option Nat) (nb : List Nat)
    (hl : ind.length = nb.length) (hpos : ∀ n ∈ nb, 0 < n) :
    (computeBlockId ind m nb).length = nb.length ∧
    (∀ t, t < nb.length → (computeBlockId ind m nb).getD t 0 < nb.getD t 1) ∧
    (∀ t, t < nb.length → nb.getD t 1 = 1 → (computeBlockId ind m nb).getD t 0 = 0) :=
  ⟨by rw [computeBlockId_length, hl], computeBlockId_lt ind m nb hl hpos,
    fun t ht h1 => computeBlockId_single ind m nb t (by omega) h1⟩

/-- `_broadcast_block_id` (Elemwise): for a right-aligned operand of rank ≤ the output's whose axes
have one block or as many as the output, the block id is inside the operand's grid -/
theorem C02_broadcast_rule_elemwise (nb b nbOut : List Nat) (hl : nb.length ≤ b.length)
    (hv : ∀ p, p < b.length → b.getD p 0 < nbOut.getD p 1)
    (hal : ∀ t, t < nb.length → nb.getD t 1 = 1 ∨ nb.getD t 1 = nbOut.getD (b.length - nb.length + t) 1) :
    (broadcastBlockId nb b).length = nb.length ∧
    ∀ t, t < nb.length → (broadcastBlockId nb b).getD t 0 < nb.getD t 1 :=
  ⟨broadcastBlockId_length nb b, broadcastBlockId_lt nb b nbOut hl hv hal⟩

/-- `m = x.map_blocks(f)` (2×2 blocks), root `m + m.T`: member 2 is read directly and through the
transpose (member 1) -/
def gAT : Group :=
  [ ⟨.elemwise, [1, 0], [], [⟨.mem 2, [1, 0], [2, 2]⟩, ⟨.mem 1, [1, 0], [2, 2]⟩], [2, 2]⟩,
    ⟨.transpose, [1, 0], [], [⟨.mem 2, [0, 1], [2, 2]⟩], [2, 2]⟩,
    ⟨.blockwise, [0, 1], [], [⟨.ext 0, [0, 1], [2, 2]⟩], [2, 2]⟩ ]

/-- WITHOUT conflict removal the group `m + m.T` is well-formed and ordered but not accepted;
`_remove_conflicting_exprs` drops `m`; fusing it anyway gives `m` the block `[0, 1]` for root block
`[0, 1]` while the path through the transpose computes block `[1, 0]` of `m`: the fused task never
reads block `[1, 0]` of the input, which the unfused graph reads, and its transpose task references
a member task `(m, 1, 0)` that is not generated. -/
theorem C02_fuse_conflict_witness :
    WF gAT ∧ Ordered gAT ∧ ValidBlock gAT [0, 1] ∧ conflictsOf gAT = [2] ∧ removeConflicting gAT = [0, 1] ∧
    ∃ ids, computeBlockIds gAT [0, 1] = some ids ∧ ids 2 = some [0, 1] ∧
      Reach gAT [0, 1] 2 [1, 0] ∧
      ExtRead gAT [0, 1] 0 [1, 0] ∧ (0, [1, 0]) ∉ fusedReads gAT ids ∧
      (2, [1, 0]) ∈ fusedInternalRefs gAT ids ∧ ids 2 ≠ some [1, 0] := by
  have h1 : Reach gAT [0, 1] 1 [0, 1] :=
    Reach.step (i := 0) (j := 1) (a := ⟨.mem 1, [1, 0], [2, 2]⟩) Reach.root (by decide) (by decide) rfl
  have h2 : Reach gAT [0, 1] 2 [1, 0] :=
    Reach.step (i := 1) (j := 2) (a := ⟨.mem 2, [0, 1], [2, 2]⟩) h1 (by decide) (by decide) rfl
  refine ⟨by decide +kernel, by decide +kernel, by decide +kernel, by decide +kernel, by decide +kernel, _, rfl, by decide +kernel, h2, ?_, by decide +kernel, by decide +kernel, by decide⟩
  exact ⟨2, [1, 0], ⟨.ext 0, [0, 1], [2, 2]⟩, h2, by decide +kernel, by decide +kernel, rfl, by decide⟩

/-- broadcasting group: root `map_blocks(f, A, B, C)` with `A` 2×3 blocks, `B` 1×3 blocks (broadcast
along axis 0), `C` of lower rank (3 blocks); `A = x + C` (Elemwise with a lower-rank operand), so `C`
is reached along two paths under the same mapping -/
def gB : Group :=
  [ ⟨.blockwise, [0, 1], [], [⟨.mem 1, [0, 1], [2, 3]⟩, ⟨.mem 2, [0, 1], [1, 3]⟩, ⟨.mem 3, [1], [3]⟩], [2, 3]⟩,
    ⟨.elemwise, [1, 0], [], [⟨.ext 0, [1, 0], [2, 3]⟩, ⟨.mem 3, [0], [3]⟩], [2, 3]⟩,
    ⟨.blockwise, [0, 1], [], [⟨.ext 1, [0, 1], [1, 3]⟩], [1, 3]⟩,
    ⟨.blockwise, [0], [], [⟨.ext 2, [0], [3]⟩, ⟨.ext 3, [0], [1]⟩], [3]⟩ ]

example : WF gB ∧ Ordered gB ∧ Accepted gB ∧ ∀ r ∈ grid [2, 3], ValidBlock gB r := by decide +kernel
example : (computeBlockIds gB [1, 2]).map (fun ids => (List.range 4).map ids)
    = some [some [1, 2], some [1, 2], some [0, 2], some [2]] := by decide +kernel
example : (computeBlockIds gB [1, 2]).map (fusedReads gB)
    = some [(0, [1, 2]), (1, [0, 2]), (2, [2]), (3, [0])] := by decide +kernel
example : pathsReads gB 4 0 [1, 2] = [(0, [1, 2]), (2, [2]), (3, [0]), (1, [0, 2]), (2, [2]), (3, [0])] := by decide +kernel

/-- rank-3 transposes with a non-involutive permutation: `t1 = m.transpose(1,2,0)`, `u = t1.map_blocks(f)`,
`t2 = u.transpose(2,0,1)`, root `t2 + m`; `m` (member 4, grid 2×3×4) is reached directly and through
both transposes, under the same symbolic mapping -/
def gT3 : Group :=
  [ ⟨.elemwise, [2, 1, 0], [], [⟨.mem 1, [2, 1, 0], [2, 3, 4]⟩, ⟨.mem 4, [2, 1, 0], [2, 3, 4]⟩], [2, 3, 4]⟩,
    ⟨.transpose, [2, 0, 1], [], [⟨.mem 2, [0, 1, 2], [3, 4, 2]⟩], [2, 3, 4]⟩,
    ⟨.blockwise, [0, 1, 2], [], [⟨.mem 3, [0, 1, 2], [3, 4, 2]⟩], [3, 4, 2]⟩,
    ⟨.transpose, [1, 2, 0], [], [⟨.mem 4, [0, 1, 2], [2, 3, 4]⟩], [3, 4, 2]⟩,
    ⟨.blockwise, [0, 1, 2], [], [⟨.ext 0, [0, 1, 2], [2, 3, 4]⟩], [2, 3, 4]⟩ ]

example : WF gT3 ∧ Ordered gT3 ∧ Accepted gT3 ∧ ValidBlock gT3 [1, 2, 3] := by decide +kernel
example : (computeBlockIds gT3 [1, 2, 3]).map (fun ids => (List.range 5).map ids)
    = some [some [1, 2, 3], some [1, 2, 3], some [2, 3, 1], some [2, 3, 1], some [1, 2, 3]] := by decide +kernel
example : pathsReads gT3 5 0 [1, 2, 3] = [(0, [1, 2, 3]), (0, [1, 2, 3])] := by decide +kernel
/-- … while a root that takes members 1 and 3 instead records a conflict (`conflictsOf gT3c = [3]`: two different
maps to member 3, `t1`).  The group is not `WF` (member 3 has grid 3×4×2 under an elemwise root of grid 2×3×4): the
example shows that a conflict is recorded, nothing more. -/
def gT3c : Group :=
  gT3.set 0 ⟨.elemwise, [2, 1, 0], [], [⟨.mem 1, [2, 1, 0], [2, 3, 4]⟩, ⟨.mem 3, [2, 1, 0], [3, 4, 2]⟩], [2, 3, 4]⟩
example : conflictsOf gT3c ≠ [] := by decide +kernel

/-- the `% numblocks` rule has teeth: operand with grid 3×1 (broadcast along its second axis) of a
node whose output block is (2, 1): with the rule block (2, 0); without it (2, 1), outside the grid -/
example : computeBlockId [0, 1] (idxToBlock ⟨.blockwise, [0, 1], [], [], [3, 2]⟩ [2, 1]) [3, 1] = [2, 0] := by decide +kernel
example : computeBlockIdNoMod [0, 1] (idxToBlock ⟨.blockwise, [0, 1], [], [], [3, 2]⟩ [2, 1]) = [2, 1] := by decide +kernel
/-- a new axis of the output never selects a block of an operand; a contracted single-block axis reads block 0 -/
example : computeBlockId [0, 7] (idxToBlock ⟨.blockwise, [0, 5], [5], [], [3, 2]⟩ [2, 1]) [3, 1] = [2, 0] := by decide +kernel
/-- Elemwise: lower-rank operand (grid [3]) and single-block axis under a 2×3 output -/
example : broadcastBlockId [3] [1, 2] = [2] ∧ broadcastBlockId [1, 3] [1, 2] = [0, 2] := by decide +kernel

end Dask.Props.C02Fusion
