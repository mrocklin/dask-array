/-
C07 — Names are deterministic and survive serialization.

Model (Model/Names.lean, C07 part): a node = class + operands (literals flagged stable/unstable, children)
+ an optional CARRIED token (`_determ_token`).  `nameEnv e n` is the name in process `e`; an unstable literal
(`id(obj)`, fresh `uuid`) tokenizes to `PTok.env e v`, different in every process.
`roundtrip e₁ n` = `Expr._reconstruct(*ArrayExpr.__reduce__(n))` performed on a node living in process `e₁`
(the payload carries `deterministic_token`; children are pickled by their own `__reduce__`).

Over the generated table: `__reduce__` really carries the token, `_reconstruct` really passes it,
`Array.__getstate__` drops only derived caches, and the naming code reads hidden state only at the
documented sites.
-/
import DaskArrayModel.Lemmas.Names
import DaskArrayModel.Generated.NameTables
import DaskArrayModel.Lemmas.KernelDecide
namespace Dask.Props.C07
open Dask.KernelDecide
open Dask.Names Dask.Lemmas.Names
open Dask.Generated.NameTables

/-- pickle round trip: in ANY process `e₂` the rebuilt node has the name it had in the pickling process `e₁` -/
theorem C07_reduce_roundtrip (e₁ e₂ : Nat) (n : PNode) :
    nameEnv e₂ (roundtrip e₁ n) = nameEnv e₁ n :=
  reduce_roundtrip e₁ e₂ n

/-- … and so does every node of its tree, hence every graph key derived from those names -/
theorem C07_reduce_roundtrip_tree (e₁ e₂ : Nat) (n : PNode) :
    treeNames e₂ (roundtrip e₁ n) = treeNames e₁ n := by
  unfold treeNames
  rw [reduce_roundtrip]
  unfold roundtrip
  rw [allNames_roundtripWith]

/-- the round trip changes neither class nor arity, and the rebuilt node carries exactly the old token -/
theorem C07_roundtrip_shape (e₁ : Nat) (n : PNode) :
    (roundtrip e₁ n).cls = n.cls ∧ (roundtrip e₁ n).arity = n.arity ∧
    (roundtrip e₁ n).carried = some (detToken e₁ n) :=
  roundtripWith_shape e₁ _ n

/-- determinism: the name depends on the process only through unstable operands not shielded by a carried token -/
theorem C07_name_env_indep (e₁ e₂ : Nat) (n : PNode)
    (h : n.carried.isSome = true ∨ stable n = true) : nameEnv e₁ n = nameEnv e₂ n := by
  unfold nameEnv detToken
  rcases h with h | h
  · cases hc : n.carried with
    | some t => simp
    | none => simp [hc] at h
  · rw [ptokAll_env_indep e₁ e₂ n h]

/-- `Array.__getstate__/__setstate__`: same expression, same captured configuration; the dropped caches are
    recomputable (cache invariant), so nothing observable changes -/
theorem C07_getstate_drops_only_caches {ε γ κ : Type} (materialize : ε → Bool → γ) (keysOf : ε → κ) (dflt : Bool)
    (s : CollState ε γ κ) :
    (setstate (getstate s)).expr = s.expr ∧
    (setstate (getstate s)).optimizeFlag = s.optimizeFlag ∧
    CacheInv materialize keysOf dflt (setstate (getstate s)) ∧
    (CacheInv materialize keysOf dflt s →
      observe materialize keysOf dflt (setstate (getstate s)) = observe materialize keysOf dflt s) := by
  refine ⟨rfl, rfl, ?_, ?_⟩
  · constructor
    · intro g h; simp [setstate, getstate] at h
    · intro k h; simp [setstate, getstate] at h
  · intro hinv
    obtain ⟨h1, h2⟩ := hinv
    unfold observe setstate getstate
    simp only [Option.getD_none]
    cases hl : s.lowered with
    | none =>
      cases hk : s.keys with
      | none => simp
      | some k => simp [h2 k hk]
    | some g =>
      cases hk : s.keys with
      | none => simp [h1 g hl]
      | some k => simp [h1 g hl, h2 k hk]

/-! ### tie to the source tree (generated table) -/

/-- derived caches of `Array` that `__getstate__` may drop: both are `cached_property`s recomputed from `_expr`
    (`_lowered_expr` = `_materialize(expr, flag)`, `_cached_dask_keys` = keys from the raw name and chunks) -/
def derivedCaches : List String := ["_lowered_expr", "_cached_dask_keys"]

theorem C07_pickle_protocol :
    reduceDropsToken = [] ∧ reconstructPassesToken = true ∧
    (∀ k, k ∈ getstateDropped → k ∈ derivedCaches) ∧ ¬ ("_expr" ∈ getstateDropped) := by
  kernel_decide

/-- Every place where naming code can read something that is not a function of the operands (see
    harness/translate/names.py), with why it is acceptable.  Anything else breaks this theorem. -/
def documentedExceptions : List String := [
  -- Blockwise: a `lock` kwarg that is a real (non-serializable) lock is identified by `id`: locks are identity objects
  "dask_array/_blockwise.py::Blockwise.__dask_tokenize__::id(v)",
  -- Blockwise: `token_or_identity` — an argument / kwarg with no deterministic tokenization (raises TokenizationError)
  -- falls back to (type, id): per-instance stable, documented as not reproducible across processes
  "dask_array/_blockwise.py::Blockwise.__dask_tokenize__::id(value)",
  -- Elemwise: the same `token_or_identity` fallback, reached only after the strict tokenization failed
  "dask_array/_blockwise.py::Elemwise.__dask_tokenize__::id(value)",
  -- P2PRechunk: non-strict tokenize of (child expr [via its name], chunk tuples, numbers)
  "dask_array/_rechunk.py::P2PRechunk._name::nonstrict tokenize(*self.operands)",
  -- Rechunk: fallback only if pickling the (name string, chunk ints, flags) payload fails
  "dask_array/_rechunk.py::Rechunk._name::nonstrict tokenize(*self.operands)",
  -- from_array(name=False): documented request for a unique name; from_array(name="x"): exact user name with a
  -- unique token so that two user-named sources never share registry entries
  "dask_array/core/_conversion.py::from_array::uuid.uuid1()",
  -- FromArray: a real lock object is identified by `id`
  "dask_array/io/_from_array.py::FromArray.__dask_tokenize__::id(lock)",
  -- FromArray: source with no deterministic tokenization (h5py dataset …): ONE random token per instance, cached in
  -- `_determ_token` and pickled with the node (per-instance and pickle stability are what C07 requires there)
  "dask_array/io/_from_array.py::FromArray.__dask_tokenize__::uuid.uuid4()",
  -- hand-built region name: tokenize of slices / ints only
  "dask_array/io/_from_array.py::FromArray._accept_slice::nonstrict tokenize(old_region, region_index, new_region)",
  -- integer extraction above a region read of a user-named source: tokenize of the hand-built name string and the
  -- read's cached token (for from_array(name="x") that token carries the documented per-call uuid above; it is cached
  -- in `_determ_token` and pickled with the node)
  "dask_array/io/_from_array.py::FromArray._accept_slice::nonstrict tokenize(extract_determ, self.deterministic_token)",
  -- hand-built rechunk name: tokenize of chunk tuples only
  "dask_array/io/_from_array.py::FromArray._with_chunks::nonstrict tokenize(self.chunks, chunks)",
  -- Random: tokenize of the spawned seeds / sizes / chunks / distribution args
  "dask_array/random/_expr.py::Random._info::nonstrict tokenize(bitgen_token, self.size, self.chunks, self.args, self.kwargs)",
  "dask_array/random/_expr.py::Random._info::nonstrict tokenize(bitgens)",
  -- Random (RandomState): SeedSequence seeded from the root RNG state: a pure function of the `rng` operand
  "dask_array/random/_expr.py::Random._info::np.random.SeedSequence(root_entropy)"
]

theorem C07_unstable_sites : ∀ s, s ∈ unstableSites → s ∈ documentedExceptions := by
  -- each site occurs in the list as the identical literal, so no string is evaluated
  -- (string equality by evaluation is slow in the kernel)
  simp only [unstableSites, documentedExceptions, List.mem_cons, List.not_mem_nil, or_false,
    forall_eq_or_imp, forall_eq, true_or, or_true, and_self]

/-- a node with an unstable operand and no carried token: its name really differs between processes … -/
example : nameEnv 0 (PNode.lit false 7 (PNode.nil 3 none)) ≠ nameEnv 1 (PNode.lit false 7 (PNode.nil 3 none)) :=
  fun h => nomatch h

/-- … the round trip fixes it (instance of the theorem) … -/
example : nameEnv 1 (roundtrip 0 (PNode.lit false 7 (PNode.nil 3 none))) = nameEnv 0 (PNode.lit false 7 (PNode.nil 3 none)) :=
  C07_reduce_roundtrip 0 1 _

/-- … and a `__reduce__` that does not ship the token does not: the rebuilt node carries none (this one carried none
before either, so it is rebuilt as it was) and is named afresh in process 1 -/
example : nameEnv 1 (roundtripDropToken 0 (PNode.lit false 7 (PNode.nil 3 none)))
    ≠ nameEnv 0 (PNode.lit false 7 (PNode.nil 3 none)) :=
  fun h => nomatch h

/-- a CHILD rebuilt without a token: visible in the parent's name as well -/
example :
    let c := PNode.lit false 7 (PNode.nil 3 none)
    nameEnv 1 (PNode.child (roundtripDropToken 0 c) (PNode.nil 4 none)) ≠ nameEnv 0 (PNode.child c (PNode.nil 4 none)) :=
  fun h => nomatch h

/-- stable nodes exist: the second alternative of the hypothesis of `C07_name_env_indep` can be met -/
example : stable (PNode.child (PNode.lit true 1 (PNode.nil 2 none)) (PNode.lit true 5 (PNode.nil 3 none))) = true := by decide +kernel

/-- getstate really drops something and the cache invariant is satisfiable with populated caches -/
example :
    let s : CollState Nat Nat Nat := { expr := 4, lowered := some 5, keys := some 8, optimizeFlag := some true }
    CacheInv (fun e _ => e + 1) (fun e => 2 * e) true s ∧ (getstate s).lowered = none ∧ (getstate s).expr = 4 := by
  refine ⟨⟨?_, ?_⟩, rfl, rfl⟩
  · intro g h; injection h with h; exact h.symm
  · intro k h; injection h with h; exact h.symm

/-- the site table is not empty (the scan sees the documented fallbacks) -/
example : unstableSites.length > 0 ∧ reduceOwners.contains "ArrayExpr" = true := by kernel_decide

end Dask.Props.C07
