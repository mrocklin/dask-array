/-
C03 (extension) — chunks advertised by the coarse slice pushdown (`Blockwise._accept_slice_coarse`).
Model: Model/CoarseSlice.lean.  The property theorems with their final assembly (the steps are in
Lemmas/CoarseSliceOvl.lean, the closed form of `new_blockdim`, and Lemmas/CoarseSliceNode.lean) and non-vacuity examples.
-/
import DaskArrayModel.Lemmas.CoarseSliceNode
import DaskArrayModel.Lemmas.CoarseSliceAlign
namespace Dask.Props.C03Coarse
open Dask.Py Dask.Py.PySlice Dask.Slicing Dask.Coarse Dask.Lemmas.Coarse

/-- **The rewritten node advertises exactly the chunks of the kept output blocks.**  `nodeChunks` is the model of
`Blockwise.chunks` ("most blocks wins" per label, `new_axes`, `adjust_chunks` callable / int / tuple with its length
check).  For every node whose chunks are `oc`, distinct output labels, chunks `≥ 0`, every NumPy-valid index on which the
rule fires, and no sliced `new_axes` label (`_accept_slice` declines those earlier): every sliced operand keeps exactly
the selected blocks (`keepsAll` — a consequence of the fired rule's `0 in arg.chunks[dim_idx]` gate), `Blockwise.chunks`
of the new node does not raise and equals `oc[first..last]` on every sliced axis, `oc` elsewhere. -/
theorem C03c_chunks (n : Node) (oc : List (List Int)) (idx : List Idx) (r : Result)
    (hch : nodeChunks n = some oc) (h : acceptCoarse n oc idx = some r)
    (hoc : ∀ cs ∈ oc, ∀ c ∈ cs, 0 ≤ c) (hnd : n.outInd.Nodup) (hil : idx.length ≤ n.outInd.length)
    (hok : idxsOK oc (fullIndex idx n.outInd.length) = true)
    (hnn : ∀ q ∈ chunkPairs n.ops, ∀ c ∈ q.2, 0 ≤ c) (hnew : slicedNotNew n r.plans) :
    keepsAll n.outInd r.plans n.ops = true ∧ nodeChunks (rewritten n r) = some (keptOut oc r.plans) :=
  have h0 := acceptCoarse_le n oc idx r h
  have hkeep := keepsAll_of_accept h0 hoc hok hnn
  ⟨hkeep, rewritten_chunks n oc idx r hch h0 hoc hnd hil hok hkeep hnew⟩

/-- The statement the proof goes through: the rule still has to fire, but `keepsAll` of its result is assumed instead of
operand chunks `≥ 0` (the proof does not use the zero-width gate). -/
theorem C03c_chunks_keeps (n : Node) (oc : List (List Int)) (idx : List Idx) (r : Result)
    (hch : nodeChunks n = some oc) (h : acceptCoarse n oc idx = some r)
    (hoc : ∀ cs ∈ oc, ∀ c ∈ cs, 0 ≤ c) (hnd : n.outInd.Nodup) (hil : idx.length ≤ n.outInd.length)
    (hok : idxsOK oc (fullIndex idx n.outInd.length) = true)
    (hkeep : keepsAll n.outInd r.plans n.ops = true) (hnew : slicedNotNew n r.plans) :
    nodeChunks (rewritten n r) = some (keptOut oc r.plans) :=
  rewritten_chunks n oc idx r hch (acceptCoarse_le n oc idx r h) hoc hnd hil hok hkeep hnew

/-- **… and after the top adjustment, the chunks of the sliced original** (`SliceSlicesIntegers.chunks`:
`normalize_slice` + `new_blockdim` per sliced axis, integer axes dropped), when the OUTPUT chunks are positive
(`C03c_zero_width_output_witness` shows why). -/
theorem C03c_chunks_top (n : Node) (oc : List (List Int)) (idx : List Idx) (r : Result)
    (hch : nodeChunks n = some oc) (h : acceptCoarse n oc idx = some r)
    (hoc : ∀ cs ∈ oc, ∀ c ∈ cs, 0 < c) (hnd : n.outInd.Nodup) (hil : idx.length ≤ n.outInd.length)
    (hok : idxsOK oc (fullIndex idx n.outInd.length) = true)
    (hnn : ∀ q ∈ chunkPairs n.ops, ∀ c ∈ q.2, 0 ≤ c) (hnew : slicedNotNew n r.plans) :
    nodeChunks (rewritten n r) = some (keptOut oc r.plans) ∧
    indexedChunks (keptOut oc r.plans) (r.plans.map (·.adj.toIdx))
      = indexedChunks oc (fullIndex idx n.outInd.length) :=
  have h0 := acceptCoarse_le n oc idx r h
  have hoc' : ∀ cs ∈ oc, ∀ c ∈ cs, 0 ≤ c := fun cs hcs c hc => Int.le_of_lt (hoc cs hcs c hc)
  ⟨rewritten_chunks n oc idx r hch h0 hoc' hnd hil hok (keepsAll_of_accept h0 hoc' hok hnn) hnew,
   top_chunks_nd oc _ r.plans hoc (axisPlans_zip (acceptCoarse0_some h0).1) hok⟩

/-- One label: if the label's chunks `base` adjust to `oc` (callable, int, or tuple of the right length), then the kept
input blocks `first..last` with the kept `adjust_chunks` entry (`val[first : last + 1]` for a tuple, unchanged
otherwise) adjust to exactly the kept output chunks — in particular the tuple length check of `Blockwise.chunks`
passes. -/
theorem C03c_chunks_label (a : Option AdjKind) (base oc : List Int) (f l : Nat) (hfl : f ≤ l)
    (hl : l < base.length) (h : applyAdjust a base = some oc) :
    applyAdjust (a.map (sliceAdjKind f l)) (keptChunks base f l) = some (keptChunks oc f l) :=
  applyAdjust_kept a base oc f l hfl hl h

/-- The kept output blocks: as many as the range says, and they are the blocks `first..last` of the output. -/
theorem C03c_kept_blocks (oc : List Int) (f l j : Nat) (hfl : f ≤ l) (hl : l < oc.length) (hj : j < l + 1 - f) :
    (keptChunks oc f l).length = l + 1 - f ∧ (keptChunks oc f l).getD j 0 = oc.getD (f + j) 0 ∧
    isum (keptChunks oc f l) = blockStart oc (l + 1) - blockStart oc f :=
  ⟨keptChunks_length oc f l hl hfl, getD_kept oc f l j hj, isum_kept oc f l hfl⟩

/-- Closed form of `new_blockdim` used for it: a unit-step non-empty slice of positive chunks yields the positive
overlaps of the blocks with `[start, stop)`. -/
theorem C03c_newBlockdim_unit (cs : List Int) (hpos : ∀ c ∈ cs, 0 < c) (s : PySlice) (hs : s.stp = 1)
    (hse : s.istart (isum cs) < s.istop (isum cs)) :
    newBlockdim (isum cs) cs (normalizeSlice s (isum cs)) = ovl (s.istart (isum cs)) (s.istop (isum cs)) cs 0 :=
  newBlockdim_unit cs hpos s hs hse

/-- With zero-width chunks allowed (chunks `≥ 0`) the advertised EXTENT of a sliced axis is still that of the sliced
original (`stop - start`). -/
theorem C03c_top_extent (oc : List Int) (hoc : ∀ c ∈ oc, 0 ≤ c) (s : PySlice) (hc : s ≠ colon) (pl : AxisPlan)
    (h : acceptAxis oc (.slc s) = some pl) :
    ∃ c c', indexedChunks1 (keptOut1 oc pl) pl.adj.toIdx = some c' ∧ indexedChunks1 oc (.slc s) = some c ∧
      isum c' = isum c ∧ isum c = s.istop (isum oc) - s.istart (isum oc) := by
  -- both are `new_blockdim` of a unit-step slice, whose sum is the length of the selection
  obtain ⟨f, l, w⟩ := acceptAxis_slc oc hoc s hc pl h
  obtain ⟨t, t1, t2, t3, t4⟩ := w.top
  have hse := w.nonempty
  have e0 := (Dask.Lemmas.Slice1dPos.newBlockdim_pos oc s hoc (by rw [w.unit]; exact Int.one_pos)).1
  have e1 := (Dask.Lemmas.Slice1dPos.newBlockdim_pos (keptChunks oc f l) t (keptChunks_nonneg oc hoc f l)
    (by rw [t2]; exact Int.one_pos)).1
  rw [Lemmas.SliceAlgebra.sel_length_unit s _ w.unit, Int.toNat_of_nonneg (Int.le_of_lt (Int.sub_pos.mpr hse))] at e0
  rw [Lemmas.SliceAlgebra.sel_length_unit t _ t2, t3, t4,
    Int.toNat_of_nonneg (Int.sub_nonneg_of_le (Int.sub_le_sub_right (Int.le_of_lt hse) _))] at e1
  simp only [keptOut1, w.br, t1, indexedChunks1]
  exact ⟨_, _, rfl, rfl, by rw [e0, e1]; omega, e0⟩

/-- **Witness: positivity in `C03c_chunks_top` is necessary — zero-width OUTPUT chunks change the advertised grid.**
`oc = (1, 1, 0, 2)`, `z[1:]`: the rewritten node keeps blocks 1..3 with no adjustment on top and advertises `(1, 0, 2)`;
the sliced original advertises `(1, 2)` (`new_blockdim` drops the empty block).  Same extent, same values, other grid. -/
theorem C03c_zero_width_output_witness :
    (acceptAxis [1, 1, 0, 2] (.slc ⟨some 1, none, none⟩)) = some ⟨some (1, 3), .colon⟩ ∧
    keptChunks [1, 1, 0, 2] 1 3 = [1, 0, 2] ∧
    indexedChunks1 [1, 1, 0, 2] (.slc ⟨some 1, none, none⟩) = some [1, 2] := by
  decide +kernel

/-! non-vacuity (the node of Props/C02Coarse.lean: 2-d, two array operands and a literal, tuple and int adjusters) -/
def exOps : List Opd :=
  [⟨true, some [0, 1], [[2, 3, 1], [4, 2]]⟩, ⟨true, some [1, 7], [[4, 2], [5]]⟩, ⟨true, none, []⟩]
def exNode : Node := ⟨[0, 1], exOps, [(0, .tuple [1, 2, 2]), (1, .const 3)], []⟩
def exIdx : List Idx := [.slc ⟨some 2, some 4, none⟩, .int (-2)]

example : nodeChunks exNode = some [[1, 2, 2], [3, 3]] ∧ exNode.outInd.Nodup ∧
    idxsOK [[1, 2, 2], [3, 3]] (fullIndex exIdx 2) = true ∧
    (∀ q ∈ chunkPairs exNode.ops, ∀ c ∈ q.2, (0 : Int) ≤ c) ∧
    (∀ cs ∈ [[1, 2, 2], [3, 3]], ∀ c ∈ cs, (0 : Int) < c) := by decide +kernel
example : (acceptCoarse exNode [[1, 2, 2], [3, 3]] exIdx).any (fun r =>
    keepsAll exNode.outInd r.plans exNode.ops
    && nodeChunks (rewritten exNode r) == some [[2, 2], [3]]
    && keptOut [[1, 2, 2], [3, 3]] r.plans == [[2, 2], [3]]
    && indexedChunks (keptOut [[1, 2, 2], [3, 3]] r.plans) (r.plans.map (·.adj.toIdx)) == [[1, 1]]
    && indexedChunks [[1, 2, 2], [3, 3]] (fullIndex exIdx 2) == [[1, 1]]) = true := by decide +kernel
example : applyAdjust (some (.tuple [1, 2, 2])) [2, 3, 1] = some [1, 2, 2] ∧
    applyAdjust ((some (AdjKind.tuple [1, 2, 2])).map (sliceAdjKind 1 2)) (keptChunks [2, 3, 1] 1 2) = some [2, 2] := by
  decide +kernel
example : acceptAxis [2, 3, 1] (.slc ⟨some 3, some 6, none⟩) = some ⟨some (1, 2), .rng 1 4⟩ ∧
    indexedChunks1 (keptChunks [2, 3, 1] 1 2) (Adj.rng 1 4).toIdx = some [2, 1] ∧
    indexedChunks1 [2, 3, 1] (.slc ⟨some 3, some 6, none⟩) = some [2, 1] := by decide +kernel

end Dask.Props.C03Coarse
