/-
C05 — every compute / persist / optimize entry point agrees.

Model (Model/Entry.lean, namespace Dask.Entry): a collection is (rawName, chunks, dtype, expr); its
materialized graph `g` defines `rawName × grid(chunks)` (the RootAlias pin, `pin`); the entry points are
compositions of `eval` (scheduler), `schedule` (persist), `rebuild` (= `from_graph(layer, meta, chunks, [],
name)` from `__dask_postpersist__`) and `FromGraph._layer` with the three-way `_find_layer_key` lookup
(`findLayerKey`: expected key from `keys` / own key / single name covering the grid / ValueError).

What is proved here is the NAME / KEY bookkeeping for every grid, every layer and every naming: all entry
points hand back the same block values; persisted / dask-optimized collections keep name, chunks, dtype and
keys; the lookup's failure branch is characterised exactly; a layout changed behind the collection's back
(known finding `from_graph:missing-output-block`) is the ValueError branch; the pin is what makes the root
keys exist.  NOT covered (search only, harness/props/C05.py): the glue inside `dask.base` (which graph it
asks for — e.g. `dask.optimize` walks the RAW expression tree on this tree, see known findings).
-/
import DaskArrayModel.Lemmas.Entry
namespace Dask.Props.C05
open Dask.Entry Dask.Lemmas.Entry

variable {V E : Type}

/-- All entry points yield the same assembled block values, PROVIDED the materialized graph defines
`rawName × grid(chunks)` (premise `hroot`: C04 root keys + block refinement; `C05_pin_root_keys` below shows the
RootAlias pin establishes it).  `dask.persist` is stated for every optimized form `lo` of the expression whose
root (whatever its name) produces the same blocks over the advertised grid. -/
theorem C05_entry_points_agree (c : Coll E) (g : Layer V) (vals : BlockId → V)
    (hroot : RootKeys g c.rawName c.numblocks vals) :
    epCompute c g = some ((grid c.numblocks).map vals) ∧
    epToDelayed c g = some ((grid c.numblocks).map vals) ∧
    (∃ p, epPersist c g = some p ∧ computeFG p = .ok (some ((grid c.numblocks).map vals))) ∧
    computeFG (epDaskOptimize c g) = .ok (some ((grid c.numblocks).map vals)) ∧
    (∀ lo : Lowered V, RootKeys lo.graph lo.name c.numblocks vals →
      ∃ p, epDaskPersist c lo c.numblocks = some p ∧ computeFG p = .ok (some ((grid c.numblocks).map vals))) := by
  refine ⟨computeKeys_eq hroot, ?_, epDaskPersist_computes c ⟨c.rawName, g⟩ hroot,
    computeFG_passthrough c hroot, fun lo => epDaskPersist_computes c lo⟩
  unfold epToDelayed Coll.keys
  rw [List.map_map, List.mapM_map]
  exact Dask.Py.mapM_some _ _ _ (fun b hb => hroot b hb)

/-- The persisted and dask-optimized collections keep x's name, chunks, dtype and keys. -/
theorem C05_persist_preserves_meta (c : Coll E) (g : Layer V) (lo : Lowered V) (nbLow : List Nat)
    (p : Coll (FromGraph V))
    (hp : epPersist c g = some p ∨ epDaskPersist c lo nbLow = some p ∨ p = epDaskOptimize c g) :
    p.rawName = c.rawName ∧ p.chunks = c.chunks ∧ p.dtype = c.dtype ∧ p.keys = c.keys ∧
      p.expr.name = c.rawName := by
  have key : ∀ layer : Layer V, (rebuild c layer).rawName = c.rawName ∧ (rebuild c layer).chunks = c.chunks ∧
      (rebuild c layer).dtype = c.dtype ∧ (rebuild c layer).keys = c.keys ∧
      (rebuild c layer).expr.name = c.rawName := fun _ => ⟨rfl, rfl, rfl, rfl, rfl⟩
  rcases hp with hp | hp | hp
  · obtain ⟨l, _, rfl⟩ := Option.map_eq_some_iff.mp hp
    exact key l
  · obtain ⟨l, _, rfl⟩ := Option.map_eq_some_iff.mp hp
    exact key l
  · subst hp; exact key g

/-- An operation applied to a persisted / optimized collection computes the same as applied to x: the
rebuilt collection denotes the same blocks, so every function of the blocks agrees. -/
theorem C05_followon {W : Type} (op : List V → W) (c : Coll E) (g : Layer V) (vals : BlockId → V)
    (hroot : RootKeys g c.rawName c.numblocks vals) (p : Coll (FromGraph V))
    (hp : (epPersist c g = some p) ∨ p = epDaskOptimize c g ∨
      ∃ lo : Lowered V, RootKeys lo.graph lo.name c.numblocks vals ∧ epDaskPersist c lo c.numblocks = some p) :
    (computeFG p).map (Option.map op) = .ok ((epCompute c g).map op) := by
  obtain ⟨h1, _, ⟨p1, hp1, hv1⟩, h4, h5⟩ := C05_entry_points_agree c g vals hroot
  have : computeFG p = .ok (some ((grid c.numblocks).map vals)) := by
    rcases hp with hp | hp | ⟨lo, hlo, hp⟩
    · rw [hp1] at hp; cases hp; exact hv1
    · subst hp; exact h4
    · obtain ⟨p5, hp5, hv5⟩ := h5 lo hlo
      rw [hp5] at hp; cases hp; exact hv5
  rw [this, h1]; rfl

/-- FAILURE BRANCH of `_find_layer_key`, exactly: `_layer()` raises ValueError iff for some block of the
grid (1) no expected key from `keys` is in the layer, (2) our own key is not in the layer and (3) no single
name covers exactly our grid. -/
theorem C05_lookup_error_iff (fg : FromGraph V) (kb : List (BlockId × Key))
    (hkb : keysByBlockId fg.keys [] = .ok kb) :
    layerOf fg = .error .valueError ↔
      ∃ b ∈ grid fg.numblocks, (∀ e, kb.lookup b = some e → has fg.layer e = false) ∧
        has fg.layer ⟨fg.name, b⟩ = false ∧ inferredLayerName fg = none := by
  rw [layerOf_error_iff]
  constructor
  · rintro ⟨b, hb, h⟩; exact ⟨b, hb, (find0_error_iff hkb b).mp h⟩
  · rintro ⟨b, hb, h⟩; exact ⟨b, hb, (find0_error_iff hkb b).mpr h⟩

/-- … and it never fails in any other way (no KeyError on `dsk[layer_key]`). -/
theorem C05_lookup_only_valueError (fg : FromGraph V) (e : Err) (h : layerOf fg = .error e) : e = .valueError := by
  rcases layerOf_spec fg with ⟨l, hl, _⟩ | ⟨he, _⟩
  · rw [hl] at h; cases h
  · rw [he] at h; cases h; rfl

/-- The lookup SUCCEEDS whenever the layer defines `name × grid(chunks)` (what C04 gives for a pinned graph). -/
theorem C05_lookup_succeeds_of_root_keys (fg : FromGraph V) (kb : List (BlockId × Key))
    (hkb : keysByBlockId fg.keys [] = .ok kb)
    (h : ∀ b ∈ grid fg.numblocks, has fg.layer ⟨fg.name, b⟩ = true) : ∃ l, layerOf fg = .ok l := by
  apply (layerOf_ok_iff fg).mpr
  intro b hb
  cases hf : find0 fg b with
  | ok k => exact ⟨k, rfl⟩
  | error e =>
    -- a failing lookup would mean our own key is absent
    have he := find0_error hf
    subst he
    have hown := ((find0_error_iff hkb b).mp hf).2.1
    rw [h b hb] at hown
    cases hown

/-- Every block the rebuilt layer hands out is the block the documented lookup order selects. -/
theorem C05_rebuilt_block_value (fg : FromGraph V) (l : Layer V) (h : layerOf fg = .ok l) (b : BlockId)
    (hb : b ∈ grid fg.numblocks) (k : Key) (hk : find0 fg b = .ok k) (v : V)
    (hv : get? fg.layer k = some (.data v) ∨ get? fg.layer k = some (.task v)) :
    eval l ⟨fg.name, b⟩ = some v :=
  layerOf_value h hb hk hv

/-- Known finding `from_graph:missing-output-block` in the model: `dask.persist` hands back the blocks of an
optimized form whose GRID differs from the advertised one under a foreign name: the rebuild raises. -/
theorem C05_dask_persist_layout_drift (c : Coll E) (ℓ : String) (nbLow : List Nat) (vals : BlockId → V)
    (hne : ℓ ≠ c.rawName) (hr : nbLow.length = c.numblocks.length)
    (hd : sameSet (grid nbLow) (grid c.numblocks) = false) (hg : grid c.numblocks ≠ []) :
    computeFG (rebuild c (dataLayer ℓ (grid nbLow) vals)) = .error .valueError := by
  have ⟨b, hb⟩ : ∃ b, b ∈ grid c.numblocks := by
    cases hgl : grid c.numblocks with
    | nil => exact absurd hgl hg
    | cons b r => exact ⟨b, List.mem_cons_self⟩
  have hinf := inferred_dataLayer_drift (ℓ := ℓ) (nm := c.rawName) (vals := vals) (ks := []) hr hd
  have hno : has (dataLayer ℓ (grid nbLow) vals) ⟨c.rawName, b⟩ = false := by
    simp [has, get?_dataLayer_other hne]
  have hf : find0 (rebuild c (dataLayer ℓ (grid nbLow) vals)).expr b = .error .valueError := by
    apply (find0_error_iff (fg := (rebuild c (dataLayer ℓ (grid nbLow) vals)).expr) (kb := []) rfl b).mpr
    exact ⟨fun e he => (by cases he), hno, hinf⟩
  have := (layerOf_error_iff (rebuild c (dataLayer ℓ (grid nbLow) vals)).expr).mpr ⟨b, hb, hf⟩
  unfold computeFG
  rw [this]

/-- The RootAlias pin establishes the premise of `C05_entry_points_agree` … -/
theorem C05_pin_root_keys (raw : String) (nb : List Nat) (lo : Lowered V) (g : Layer V) (vals : BlockId → V)
    (hlo : RootKeys lo.graph lo.name nb vals) (hp : pin raw nb lo = .ok g) : RootKeys g raw nb vals := by
  unfold pin at hp
  by_cases hn : lo.name = raw
  · simp only [hn, if_true] at hp
    cases hp; subst hn; exact hlo
  · simp only [hn, if_false] at hp
    cases hany : lo.graph.any (fun p => p.1.name == raw) with
    | true => simp [hany] at hp
    | false =>
      simp only [hany] at hp
      cases hp
      intro b hb
      have h0 := hlo b hb
      unfold eval at h0 ⊢
      have hget : get? (lo.graph ++ (grid nb).map (fun b => ((⟨raw, b⟩ : Key), (Node.alias ⟨lo.name, b⟩ : Node V))))
          ⟨raw, b⟩ = some (.alias ⟨lo.name, b⟩) := by
        rw [get?_append, get?_none_of_noName hany b]
        exact get?_aliasLayer hb
      simp only [evalKey_succ, hget]
      apply evalKey_weaken h0
      have : 0 < (grid nb).length := List.length_pos_of_mem hb
      simp only [List.length_append, List.length_map]
      omega

/-- … and without it a renamed root leaves every advertised key undefined. -/
theorem C05_unpinned_undefined (raw : String) (lo : Lowered V)
    (hany : lo.graph.any (fun p => p.1.name == raw) = false) (b : BlockId) : eval lo.graph ⟨raw, b⟩ = none := by
  simp [eval, evalKey_succ, get?_none_of_noName hany b]

/-- by-block-id rebuild: data is rekeyed, a task gets an alias; the collection computes [7, 8] -/
example :
    (match layerOf (⟨[(⟨"L", [0]⟩, .data 7), (⟨"L", [1]⟩, .task 8)], [2], [], "N"⟩ : FromGraph Nat) with
      | .ok l => computeKeys l "N" [2]
      | .error _ => none) = some [7, 8] := by decide +kernel

/-- the expected key from `keys` decides: `L` and `K` both cover the grid, so no name is inferred, and without
`keys` the same layer is the ValueError branch -/
example :
    (match layerOf (⟨[(⟨"L", [0]⟩, .data 7), (⟨"K", [0]⟩, .data 9)], [1], [⟨"K", [0]⟩], "N"⟩ : FromGraph Nat) with
      | .ok l => computeKeys l "N" [1]
      | .error _ => none) = some [9] := by decide +kernel

/-- failure branch: block (1,) is absent in all three ways -/
example :
    (match layerOf (⟨[(⟨"L", [0]⟩, .data 7)], [2], [], "N"⟩ : FromGraph Nat) with
      | .ok _ => false
      | .error e => e == .valueError) = true := by decide +kernel

/-- the pin: a renamed root gets alias keys; an embedded root is refused -/
example : (match pin "N" [2] (⟨"L", [(⟨"L", [0]⟩, .task 1), (⟨"L", [1]⟩, .task 2)]⟩ : Lowered Nat) with
      | .ok g => computeKeys g "N" [2]
      | .error _ => none) = some [1, 2] := by decide +kernel

example : (match pin "N" [1] (⟨"L", [(⟨"L", [0]⟩, .task 1), (⟨"N", [0]⟩, .task 2)]⟩ : Lowered Nat) with
      | .ok _ => false
      | .error e => e == .runtimeError) = true := by decide +kernel

/-- the hypotheses of the drift theorem are satisfiable: advertised grid [2], lowered grid [1] -/
example : sameSet (grid [1]) (grid [2]) = false ∧ grid [2] ≠ [] := by decide +kernel

end Dask.Props.C05
