/-
C29 — Building and inspecting arrays never touches data.

THIN THEOREMS, stated honestly: the model (Model/Meta.lean) gives the metadata function the data environment, as the
real code holds the source object, and mirrors what the code does with it (`meta_from_array` → `x[(slice(0,0),)*ndim]`;
`compute_meta` → user function on metas; `apply_infer_dtype` → user function on a zeros block of shape (1,…,1) when
neither dtype nor meta is given).  What is proved, for ALL expressions of the mini-language and ALL environments:
  * the metadata log contains only EMPTY reads (and calls on empty / unit synthetic blocks, never on read data);
  * with dtypes given, strictly empty blocks only;
  * metadata (value and log) is identical in all well-behaved environments — it cannot depend on data;
  * inspecting first does not change what evaluation returns; reads happen in evaluation (non-vacuity).
The tie to the code is (1) the generated table `Generated/DataReads.lean`: every syntactic data-touching site on a
source object / user function in the constructor, metadata and rewrite code of the source nodes, each in an allowed
class (`C29_sites_allowed`, by `decide` over the table), and (2) — carrying the weight — the recording monitor in
harness/props/C29.py.  Sources with no axis (0-d) are excluded by hypothesis: `x[()]` IS the element (the monitor
reports that case on the real code).
-/
import DaskArrayModel.Lemmas.Meta
import DaskArrayModel.Generated.DataReads
namespace Dask.Props.C29
open Dask.Meta Dask.Generated.DataReads

/-- metadata is the same in every (well-behaved) data environment: value AND instrumented log -/
theorem C29_metadata_env_independent (env₁ env₂ : Env) (h₁ : env₁.WF) (h₂ : env₂.WF) (e : Expr)
    (h : e.srcNonScalar = true) : metaLog env₁ e = metaLog env₂ e := by
  induction e with
  | src id shape chunks dtype =>
    have hs : shape ≠ [] := bne_iff_ne.mp h
    simp only [metaLog, h₁ id _ (regionSize_emptyRegion shape hs), h₂ id _ (regionSize_emptyRegion shape hs)]
  | elem a b iha ihb =>
    obtain ⟨ha, hb⟩ := Bool.and_eq_true_iff.mp h
    simp only [metaLog, iha ha, ihb hb]
  | slice a r ih => simp only [metaLog, ih h]
  | mapBlocks f a dt ih => simp only [metaLog, ih h]
  | reduce a ih => simp only [metaLog, ih h]

/-- building + inspecting performs only EMPTY reads, and calls user functions only on blocks that were not read
from a source and are empty or the (1,…,1) synthetic probe -/
theorem C29_metadata_touches_no_data (env : Env) (e : Expr) (h : e.srcNonScalar = true) :
    ∀ ev ∈ (metaLog env e).2, ev.harmless = true :=
  metaLog_all Event.harmless env (fun id shape hs => by simp [Event.harmless, regionSize_emptyRegion shape hs]) e h
    (Or.inr fun f shape => by simp [Event.harmless])

/-- when every `map_blocks` is given its dtype, strictly empty blocks only -/
theorem C29_metadata_empty_only (env : Env) (e : Expr) (h : e.srcNonScalar = true) (hd : e.dtypesGiven = true) :
    ∀ ev ∈ (metaLog env e).2, ev.emptyOnly = true :=
  metaLog_all Event.emptyOnly env (fun id shape hs => by simp [Event.emptyOnly, regionSize_emptyRegion shape hs]) e h
    (Or.inl hd)

/-- the value of a session "inspect, then compute" is the plain evaluation: metadata reads do not feed the result -/
theorem C29_eval_independent_of_inspection (sem : Sem) (env : Env) (e : Expr) :
    (inspectThenEval sem env e).1 = eval sem env e := by
  simp only [inspectThenEval]
  exact evalLog_fst sem env e

/-- the generated table: no syntactic data-touching site in the source-node code carries the generator's class 9
("other"), and no file to scan was missing.  The generator assigns 9 to whatever it cannot put in one of its allowed
classes (0 empty selection, 1 NumPy/literal-guarded, 2 call on metas, 3 unit-probe call, 4 duck copy, 5 placed in a
task); that it assigns no other number is a fact about the generator, not checked here. -/
theorem C29_sites_allowed : sites.all (fun s => s.2.2 != 9) = true ∧ missingFiles = [] := by decide +kernel

/-- evaluation DOES read: the log of `evalLog` on a source has a non-empty read -/
example : (evalLog ⟨fun a _ => a, fun _ v => v, fun _ v => v, id⟩ ⟨fun _ _ => [7]⟩ (.src 0 [2, 3] [1, 3] 0)).2
    = [.read 0 [(0, 2), (0, 3)]] ∧ (Event.read 0 [(0, 2), (0, 3)]).harmless = false := by decide +kernel

/-- the hypothesis matters: for a 0-d source the "empty" selection is the whole element -/
example : (metaLog ⟨fun _ _ => [7]⟩ (.src 0 [] [] 0)).2 = [.read 0 []] ∧ (Event.read 0 []).harmless = false := by decide +kernel

/-- without dtype the user function is called on the unit probe: harmless but not strictly empty -/
example : ((metaLog ⟨fun _ _ => []⟩ (.mapBlocks 5 (.src 0 [4] [2] 0) none)).2.all Event.emptyOnly) = false := by decide +kernel

/-- the table check can say no -/
example : ([("f", "x[:1]", 9), ("g", "x[:0]", 0)] : List (String × String × Nat)).all (fun s => s.2.2 != 9) = false := by decide +kernel

/-- the table is not empty and contains the empty-selection site of `meta_from_array` -/
example : (sites.filter (fun s => s.2.2 == 0)).length ≥ 1 ∧ scannedFunctions ≥ 10 := by decide +kernel

end Dask.Props.C29
