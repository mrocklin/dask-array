/-
C19 — windowed and scan operations match their NumPy definitions.

The property theorems with their final assembly (the steps are in Lemmas/Scan.lean, Lemmas/Window.lean)
and non-vacuity examples, over the models Model/Scan.lean and Model/Window.lean that mirror
  * `CumReduction._layer` / `CumReductionBlelloch._layer` (dask_array/reductions/_cumulative.py),
  * `supports_native_sliding_window`, `SlidingWindowReduction.chunks`, `._block_plan`,
    `supports_native_moving_window`, `MovingWindowReduction._block_plan` with the `n_trunc` of its `_layer`
    (dask_array/reductions/_sliding_window.py),
  * `ensure_minimum_chunksize`, `_overlap_internal_chunks`, the chunk arithmetic of `trim_internal`, and the
    boundary kinds `periodic` / `reflect` / `nearest` / `constant` as index maps (dask_array/_overlap.py),
and are tied to the code by harness/props/C19.py (families `sc.*`, `wn.*`).
No theorem bounds block counts, chunk sizes or windows; the hypotheses are the stated ones: the scan theorems ask for
non-empty blocks (`hne`), the plan theorems for the `supports_native_*` guard.

Not proved here: the `min_count` / NaN masking applied on top of the moving-window combination (left to
correspondence + search, see level_note).  Of overlap then trim this file has the chunk arithmetic round trip
and the boundary index maps; the value-level statement (the overlap / map / trim pipeline equals the global
stencil) is `C19o_pipeline_eq_global` in Props/C19Overlap.lean.
-/
import DaskArrayModel.Lemmas.Scan
import DaskArrayModel.Lemmas.Window
namespace Dask.Props.C19
open Dask.Py Dask.Scan Dask.Window

variable {β α : Type}

/-- Sequential scan (`CumReduction._layer`): for any associative `op` with left identity
`ident` and any list of non-empty blocks, the concatenated output blocks are the global
inclusive scan of the concatenated input. -/
theorem seqScan_correct {op : β → β → β} (hop : Assoc op) (ident : β) (hid : ∀ x, op ident x = x)
    (bs : List (List β)) (hne : ∀ b ∈ bs, b ≠ []) :
    (seqBlocks op ident bs).flatten = scanl1 op bs.flatten :=
  Dask.Lemmas.Scan.seqScan_correct hop ident hid bs hne

/-- … and the output keeps the input's chunking. -/
theorem seqScan_chunks {op : β → β → β} (hop : Assoc op) (ident : β) (hid : ∀ x, op ident x = x)
    (bs : List (List β)) (hne : ∀ b ∈ bs, b ≠ []) :
    (seqBlocks op ident bs).map List.length = bs.map List.length := by
  rw [Dask.Lemmas.Scan.seqBlocks_eq_spec hop ident hid bs hne, Dask.Lemmas.Scan.specBlocks_lengths]

/-- Blelloch wiring (`CumReductionBlelloch._layer`), EVERY block count: the value block `i`
is combined with is the fold of the totals of blocks `[0, i)` (nothing for block 0). -/
theorem blellochOffsets_correct {op : β → β → β} (hop : Assoc op) (totals : List β) :
    blellochOffsets op totals = (List.range totals.length).map (fun i => ofold op (totals.take i)) :=
  Dask.Lemmas.Scan.blellochOffsets_correct hop totals

/-- Blelloch scan: for any associative `op`, any `preop` that folds a non-empty block, and any
list of non-empty blocks (any count), the concatenated output is the global inclusive scan. -/
theorem blellochScan_correct {op : β → β → β} (hop : Assoc op) (pre : List β → β)
    (hpre : ∀ x xs, pre (x :: xs) = xs.foldl op x) (bs : List (List β)) (hne : ∀ b ∈ bs, b ≠ []) :
    (blellochBlocks op pre bs).flatten = scanl1 op bs.flatten :=
  Dask.Lemmas.Scan.blellochScan_correct hop pre hpre bs hne

theorem blellochScan_chunks {op : β → β → β} (hop : Assoc op) (pre : List β → β)
    (hpre : ∀ x xs, pre (x :: xs) = xs.foldl op x) (bs : List (List β)) (hne : ∀ b ∈ bs, b ≠ []) :
    (blellochBlocks op pre bs).map List.length = bs.map List.length := by
  rw [Dask.Lemmas.Scan.blellochBlocks_eq_spec hop pre hpre bs hne, Dask.Lemmas.Scan.specBlocks_lengths]

/-- Native sliding-window plan, index level: under `supports_native_sliding_window`, every row
of `_block_plan` with a positive `out_len` names in-range blocks `i < b ≤ e < nblocks`, a
non-negative band offset that fits inside the band for every `t < out_len`, and `out_len ≤`
the block's own length. -/
theorem slidingPlan_inRange (chunks : List Int) (window : Int)
    (hsup : supportsNativeSliding chunks window = true) (i : Nat) (hi : i < chunks.length) :
    ∃ p, (slidingBlockPlan chunks window)[i]? = some p ∧
      p.outLen = max 0 (min (chunks.getD i 0) (isum chunks - window + 1 - blockStart chunks i)) ∧
      (0 < p.outLen →
        (i : Int) < p.b ∧ p.b ≤ p.e ∧ p.e.toNat < chunks.length ∧ 0 ≤ p.bandOffset ∧
        blockStart chunks p.b.toNat + p.bandOffset + p.outLen ≤ blockStart chunks (p.e.toNat + 1) ∧
        p.outLen ≤ chunks.getD i 0 ∧
        blockStart chunks i + p.outLen + window - 1 ≤ isum chunks) := by
  obtain ⟨p, hp, hol, ok⟩ := Dask.Lemmas.Window.slidingPlan_ok chunks window hsup i hi
  refine ⟨p, hp, hol, fun h => ?_⟩
  obtain ⟨b, e, ok⟩ := ok h
  rw [ok.b_eq, ok.e_eq]
  exact ⟨Int.ofNat_lt.mpr ok.i_lt_b, Int.ofNat_le.mpr ok.b_le_e, ok.e_lt, ok.off_nonneg, ok.band_fits, ok.own_le,
    ok.in_array⟩

/-- Native sliding-window plan, data level: suffix of block `i` from `t` ++ whole middle blocks
`i+1 … b-1` ++ the first `band_offset + t + 1` elements of the band `b … e` is exactly the
window `x[start_i + t : start_i + t + W]`, which lies inside the array. -/
theorem slidingPlan_tiles (chunks : List Int) (window : Int)
    (hsup : supportsNativeSliding chunks window = true) (x : List α)
    (i : Nat) (hi : i < chunks.length) (p : SPlan)
    (hp : (slidingBlockPlan chunks window)[i]? = some p) (t : Int) (ht0 : 0 ≤ t) (ht : t < p.outLen) :
    slice x (blockStart chunks i + t) (blockStart chunks (i + 1))
        ++ (blocksRange chunks x (i + 1) p.b.toNat).flatten
        ++ ((blocksRange chunks x p.b.toNat (p.e.toNat + 1)).flatten).take (p.bandOffset + t + 1).toNat
      = slice x (blockStart chunks i + t) (blockStart chunks i + t + window)
    ∧ blockStart chunks i + t + window ≤ isum chunks :=
  Dask.Lemmas.Window.slidingPlan_tiles chunks window hsup x i hi p hp t ht0 ht

/-- … hence for any associative `op`: `suffix_scan[t] ⊕ totals(middle) ⊕ prefix_scan[band_offset+t]`
(the combination `_sliding_window_banded_reduce` computes) is the reduction of that window. -/
theorem slidingPlan_correct {op : α → α → α} (hop : Assoc op) (chunks : List Int) (window : Int)
    (hsup : supportsNativeSliding chunks window = true) (x : List α)
    (i : Nat) (hi : i < chunks.length) (p : SPlan)
    (hp : (slidingBlockPlan chunks window)[i]? = some p) (t : Int) (ht0 : 0 ≤ t) (ht : t < p.outLen) :
    oop op
      ((blocksRange chunks x (i + 1) p.b.toNat).foldl (fun a blk => oop op a (ofold op blk))
        (ofold op (slice x (blockStart chunks i + t) (blockStart chunks (i + 1)))))
      (ofold op (((blocksRange chunks x p.b.toNat (p.e.toNat + 1)).flatten).take (p.bandOffset + t + 1).toNat))
    = ofold op (slice x (blockStart chunks i + t) (blockStart chunks i + t + window)) :=
  Dask.Lemmas.Window.slidingPlan_correct hop chunks window hsup x i hi p hp t ht0 ht

/-- `SlidingWindowReduction.chunks` (trim arithmetic): the output chunk lengths along the sliding
axis sum to `n - W + 1`, and they are exactly the positive `out_len`s of the plan, in order. -/
theorem slidingWindowReduction_chunks (chunks : List Int) (window : Int) (hcs : ∀ c ∈ chunks, 0 < c)
    (hw : 1 ≤ window) (hn : window ≤ isum chunks) :
    isum (slidingOutChunks chunks window) = isum chunks - window + 1 ∧
    slidingOutChunks chunks window
      = ((slidingBlockPlan chunks window).map (·.outLen)).takeWhile (fun v => decide (0 < v)) :=
  ⟨Dask.Lemmas.Window.trimLoop_sum chunks (fun c hc => Int.le_of_lt (hcs c hc)) _ (by omega) (by omega),
   Dask.Lemmas.Window.outChunks_eq_planLoop _ _ _ hcs _ _⟩

/-- Native moving-window (`bottleneck.move_*`) plan, index level: under
`supports_native_moving_window` the first block has no band and no clipping beyond the array
start; every later block `i` has band blocks `0 ≤ g ≤ h < i`, middle blocks `h+1 … i-1`, a
non-negative band offset and `0 ≤ n_trunc ≤ c`, and for every `t < c` the clipped left edge
`max(0, start_i + t - W + 1)` is band position `band_offset + max(0, t - n_trunc)`, inside block ≤ `h`. -/
theorem movingPlan_inRange (chunks : List Int) (window : Int)
    (hsup : supportsNativeMoving chunks window = true) (i : Nat) (hi : i < chunks.length) :
    ∃ m, (movingBlockPlan chunks window)[i]? = some m ∧
      m.start = blockStart chunks i ∧ m.c = chunks.getD i 0 ∧
      (i = 0 → m.g = none ∧ m.h = none ∧ m.midLo = 0 ∧ m.midHi = 0 ∧
        ∀ t, 0 ≤ t → t < m.c → leftEdge chunks window i t = 0) ∧
      (0 < i → ∃ g h : Int, m.g = some g ∧ m.h = some h ∧ 0 ≤ g ∧ g ≤ h ∧ h.toNat < i ∧
        m.midLo = h + 1 ∧ m.midHi = i ∧ 0 ≤ m.bandOffset ∧ 0 ≤ m.nTrunc ∧ m.nTrunc ≤ m.c ∧
        ∀ t, 0 ≤ t → t < m.c →
          leftEdge chunks window i t = blockStart chunks g.toNat + m.bandOffset + max 0 (t - m.nTrunc) ∧
          leftEdge chunks window i t < blockStart chunks (h.toNat + 1)) := by
  obtain ⟨m, hm, ok⟩ := Dask.Lemmas.Window.movingPlan_ok chunks window hsup i hi
  refine ⟨m, hm, ok.start_eq, ok.c_eq, fun h => ?_, fun h => ?_⟩
  · have first := ok.first h
    exact ⟨first.g_none, first.h_none, first.midLo_eq, first.midHi_eq, first.edge⟩
  · obtain ⟨g, h, band⟩ := ok.rest h
    exact ⟨g, h, band.g_eq, band.h_eq, Int.natCast_nonneg g, Int.ofNat_le.mpr band.g_le_h, band.h_lt_i,
      band.midLo_eq, band.midHi_eq, band.off_nonneg, band.trunc_nonneg, band.trunc_le,
      fun t ht0 ht => ⟨band.edge t ht0 ht, band.edge_lt t ht0 ht⟩⟩

/-- Native moving-window plan, data level: the band suffix from `band_offset + max(0, t - n_trunc)`
++ the whole middle blocks ++ the first `t + 1` elements of block `i` is exactly the clipped
trailing window `x[max(0, j - W + 1) : j + 1]`, `j = start_i + t`. -/
theorem movingPlan_tiles (chunks : List Int) (window : Int)
    (hsup : supportsNativeMoving chunks window = true) (x : List α)
    (i : Nat) (hi : i < chunks.length) (m : MPlan)
    (hm : (movingBlockPlan chunks window)[i]? = some m) (t : Int) (ht0 : 0 ≤ t) (ht : t < m.c) :
    (movingBand chunks x m).drop (m.bandOffset + max 0 (t - m.nTrunc)).toNat
        ++ (blocksRange chunks x m.midLo.toNat m.midHi.toNat).flatten
        ++ slice x (blockStart chunks i) (blockStart chunks i + t + 1)
      = slice x (leftEdge chunks window i t) (blockStart chunks i + t + 1)
    ∧ blockStart chunks i + t + 1 ≤ isum chunks :=
  Dask.Lemmas.Window.movingPlan_tiles chunks window hsup x i hi m hm t ht0 ht

/-- … hence for any associative `op` (the reducer's ufunc on NaN-substituted values; `+` on the
valid-count plane): the combination `_moving_window_banded_reduce` forms for position `t`
(written in window order) is the reduction of the clipped trailing window. -/
theorem movingPlan_correct {op : α → α → α} (hop : Assoc op) (chunks : List Int) (window : Int)
    (hsup : supportsNativeMoving chunks window = true) (x : List α)
    (i : Nat) (hi : i < chunks.length) (m : MPlan)
    (hm : (movingBlockPlan chunks window)[i]? = some m) (t : Int) (ht0 : 0 ≤ t) (ht : t < m.c) :
    oop op
      ((blocksRange chunks x m.midLo.toNat m.midHi.toNat).foldl (fun a blk => oop op a (ofold op blk))
        (ofold op ((movingBand chunks x m).drop (m.bandOffset + max 0 (t - m.nTrunc)).toNat)))
      (ofold op (slice x (blockStart chunks i) (blockStart chunks i + t + 1)))
    = ofold op (slice x (leftEdge chunks window i t) (blockStart chunks i + t + 1)) :=
  Dask.Lemmas.Window.movingPlan_correct hop chunks window hsup x i hi m hm t ht0 ht

/-- `ensure_minimum_chunksize(size, chunks)` on non-negative chunks: the sum is preserved and
EVERY output chunk is at least `size` (a single chunk only arises as a special case of that);
it raises (`none`) exactly when the whole axis is shorter than `size`. -/
theorem ensureMinimumChunksize_spec (size : Int) (chunks : List Int) (hne : chunks ≠ [])
    (hpos : ∀ c ∈ chunks, 0 ≤ c) :
    match ensureMinimumChunksize size chunks with
    | some out => isum out = isum chunks ∧ (∀ c ∈ out, size ≤ c) ∧ out ≠ []
    | none => isum chunks < size :=
  Dask.Lemmas.Window.ensureMinimumChunksize_spec size chunks hne hpos

/-- The boundary kinds of `overlap` / `map_overlap` are the NumPy pad index maps, for every
axis length `n > 0`, every depth `0 ≤ depth ≤ n` and every padded position: `periodic` = `wrap`,
`reflect` = `symmetric`, `nearest` = `edge`, a constant fills exactly the positions outside the
array; every non-constant source lies inside the array. -/
theorem boundaryKinds_numpy_pad (n depth p : Int) (hn : 0 < n) (_hd0 : 0 ≤ depth) (hdn : depth ≤ n)
    (hp0 : 0 ≤ p) (hp : p < n + 2 * depth) :
    boundarySrc .periodic n depth p = some (padWrap n (p - depth)) ∧
    boundarySrc .reflect n depth p = some (padSymmetric n (p - depth)) ∧
    boundarySrc .nearest n depth p = some (padEdge n (p - depth)) ∧
    boundarySrc .constant n depth p = (if 0 ≤ p - depth ∧ p - depth < n then some (p - depth) else none) ∧
    (0 ≤ padWrap n (p - depth) ∧ padWrap n (p - depth) < n) ∧
    (0 ≤ padSymmetric n (p - depth) ∧ padSymmetric n (p - depth) < n) ∧
    (0 ≤ padEdge n (p - depth) ∧ padEdge n (p - depth) < n) := by
  exact ⟨Dask.Lemmas.Window.boundarySrc_periodic n depth p, Dask.Lemmas.Window.boundarySrc_reflect n depth p,
    Dask.Lemmas.Window.boundarySrc_nearest n depth p hn, Dask.Lemmas.Window.boundarySrc_constant n depth p,
    Dask.Lemmas.Window.padWrap_range (by omega) (by omega),
    Dask.Lemmas.Window.padSymmetric_range (by omega) (by omega), Dask.Lemmas.Window.padEdge_range hn _⟩

/-- Chunk arithmetic of overlap then trim (boundary "none"): `trim_internal`'s chunks of
`_overlap_internal_chunks(chunks, (left, right))` are the original chunks, for every chunk list
and all depths. -/
theorem overlapTrim_chunks_id (cks : List Int) (l r : Int) :
    trimInternalChunks (overlapInternalChunks cks l r) l r true = cks := by
  cases cks with
  | nil => rfl
  | cons b0 rest =>
    rcases List.eq_nil_or_concat rest with h | ⟨mid, last, h⟩
    · subst h
      simp [overlapInternalChunks, trimInternalChunks]
    · rw [List.concat_eq_append] at h
      subst h
      rw [Dask.Lemmas.Window.overlapInternalChunks_concat]
      unfold trimInternalChunks
      apply List.ext_getElem
      · simp
      · intro i h1 h2
        simp only [List.getElem_map, List.getElem_range, List.length_cons, List.length_append, List.length_map]
        -- entry `0` gives back `r`, the last one `l`, the inner ones both
        cases i with
        | zero => simp
        | succ k =>
          simp only [List.getD_cons_succ, List.getElem_cons_succ]
          by_cases hk : k < mid.length
          · simp [List.getD_eq_getElem?_getD, List.getElem?_append_left, List.getElem_append_left, hk]
            omega
          · have : k = mid.length := by simp at h2; omega
            subst this
            simp [List.getD_eq_getElem?_getD]

/-- associativity / identity hypotheses are satisfiable and the models compute something -/
example : seqBlocks (· + ·) (0 : Int) [[1, 2], [3], [4, 5, 6]] = [[1, 3], [6], [10, 15, 21]] := by decide +kernel

example : (seqBlocks (· + ·) (0 : Int) [[1, 2], [3], [4, 5, 6]]).flatten = scanl1 (· + ·) [1, 2, 3, 4, 5, 6] :=
  seqScan_correct (fun a b c => Int.add_assoc a b c) 0 (fun x => Int.zero_add x) _ (by decide +kernel)

/-- 7 blocks (not a power of two): up-sweep and down-sweep both fire -/
example : blellochSteps 6 = [⟨1, 1⟩, ⟨3, 1⟩, ⟨5, 1⟩, ⟨3, 2⟩, ⟨5, 2⟩, ⟨2, 1⟩, ⟨4, 1⟩] := by decide +kernel

example : blellochOffsets (· + ·) ([1, 2, 3, 4, 5, 6, 7] : List Int)
    = [none, some 1, some 3, some 6, some 10, some 15, some 21] := by decide +kernel

/-- a non-commutative associative operation (list append) -/
example : blellochOffsets (· ++ ·) [[0], [1], [2], [3], [4], [5]]
    = [none, some [0], some [0, 1], some [0, 1, 2], some [0, 1, 2, 3], some [0, 1, 2, 3, 4]] := by decide +kernel

example : (blellochBlocks (· + ·) (fun l => l.foldl (· + ·) (0 : Int)) [[1, 2], [3], [4, 5, 6], [7]]).flatten
    = scanl1 (· + ·) [1, 2, 3, 4, 5, 6, 7] :=
  blellochScan_correct (fun a b c => Int.add_assoc a b c) _ (fun x xs => by simp [List.foldl_cons]) _ (by decide +kernel)

/-- the guard is satisfiable, the plan has rows with positive `out_len`, windows span several
blocks (W = 4 over unit blocks: two middle blocks and a band) -/
example : supportsNativeSliding [1, 1, 1, 1, 1, 1] 4 = true := by decide +kernel
example : slidingBlockPlan [1, 1, 1, 1, 1, 1] 4
    = [⟨1, 0, 3, 3⟩, ⟨1, 0, 4, 4⟩, ⟨1, 0, 5, 5⟩, ⟨0, 0, 3, 3⟩, ⟨0, 0, 4, 4⟩, ⟨0, 0, 5, 5⟩] := by decide +kernel
example : supportsNativeSliding [2, 2, 2, 2] 4 = true ∧
    slidingBlockPlan [2, 2, 2, 2] 4 = [⟨2, 1, 1, 2⟩, ⟨2, 1, 2, 3⟩, ⟨1, 1, 3, 3⟩, ⟨0, 0, 3, 3⟩] ∧
    slidingOutChunks [2, 2, 2, 2] 4 = [2, 2, 1] := by decide +kernel
/-- the guard refuses what the overlap path keeps -/
example : supportsNativeSliding [4, 4] 3 = false := by decide +kernel

example : supportsNativeMoving [2, 3, 2] 4 = true ∧
    movingBlockPlan [2, 3, 2] 4
      = [⟨0, 2, 0, none, none, 0, 0, 2⟩, ⟨2, 3, 0, some 0, some 0, 1, 1, 1⟩, ⟨5, 2, 0, some 1, some 1, 2, 2, 0⟩] := by decide +kernel
/-- a window spanning several unit blocks: band + two middle blocks -/
example : supportsNativeMoving [1, 1, 1, 1, 1] 4 = true ∧
    (movingBlockPlan [1, 1, 1, 1, 1] 4)[4]? = some ⟨4, 1, 0, some 1, some 1, 2, 4, 0⟩ := by decide +kernel

example : (List.range 8).map (fun (p : Nat) => boundarySrc .reflect 4 2 p) = [some 1, some 0, some 0, some 1, some 2, some 3, some 3, some 2] := by decide +kernel
example : (List.range 8).map (fun (p : Nat) => boundarySrc .periodic 4 2 p) = [some 2, some 3, some 0, some 1, some 2, some 3, some 0, some 1] := by decide +kernel
example : overlapInternalChunks [3, 4, 5] 1 2 = [5, 7, 6] ∧ trimInternalChunks [5, 7, 6] 1 2 true = [3, 4, 5] := by decide +kernel

example : ensureMinimumChunksize 10 [20, 20, 1] = some [20, 11, 10] := by decide +kernel
example : ensureMinimumChunksize 3 [1, 1, 3] = some [5] := by decide +kernel
example : ensureMinimumChunksize 5 [1, 1, 2] = none := by decide +kernel

end Dask.Props.C19
