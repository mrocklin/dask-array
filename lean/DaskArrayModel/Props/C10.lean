/-
C10 — Computation is schedule-independent (theorem side).

Tasks are PURE functions of their dependency values (`Task.fn : List ν → ν`); that the real tasks
are pure and leave their dependencies and the user's sources untouched is what the harness
monitors (dependency / source fingerprints, harness/props/C10.py) — the theorem cannot exhibit a
mutation.  For ALL graphs (no size bound).
-/
import DaskArrayModel.Lemmas.Graph
namespace Dask.Props.C10
open Dask.Graph

/-- Evaluation along a topological order never needs an undefined dependency: it runs to the end,
the result is defined exactly on the keys of the graph, and every key holds its task applied to
the values of its dependencies. -/
theorem C10_topo_eval_defined {κ ν : Type} [DecidableEq κ] (g : Graph κ ν) (hwf : WF g)
    (order : List κ) (h : IsTopo g order) :
    ∃ env, evalOrder g order Env.empty = some env ∧
      (∀ k, (env k).isSome ↔ k ∈ keys g) ∧
      ∀ k ∈ order, ∀ t, (k, t) ∈ g → env k = evalTask env t ∧ (env k).isSome :=
  Dask.Lemmas.Graph.topo_eval_defined hwf h

/-- ANY two topological orders (lists of all keys in which every task comes after its
dependencies) of a graph with distinct keys evaluate to the same key→value map. -/
theorem C10_topo_eval_unique {κ ν : Type} [DecidableEq κ] (g : Graph κ ν) (hwf : WF g)
    (o1 o2 : List κ) (h1 : IsTopo g o1) (h2 : IsTopo g o2) :
    ∃ env, evalOrder g o1 Env.empty = some env ∧ evalOrder g o2 Env.empty = some env :=
  Dask.Lemmas.Graph.topo_eval_unique hwf h1 h2

/-- Whatever a scheduler does (threads included): any two assignments of values in which every key
holds a value, namely its task applied to the values of its dependencies, agree key by key (the
result of `C10_topo_eval_defined` is one such assignment). -/
theorem C10_solution_unique {κ ν : Type} [DecidableEq κ] (g : Graph κ ν)
    (order : List κ) (h : IsTopo g order) (e1 e2 : Env κ ν)
    (h1 : ∀ k ∈ order, ∀ t, (k, t) ∈ g → e1 k = evalTask e1 t ∧ (e1 k).isSome)
    (h2 : ∀ k ∈ order, ∀ t, (k, t) ∈ g → e2 k = evalTask e2 t ∧ (e2 k).isSome) :
    ∀ k ∈ keys g, e1 k = e2 k :=
  fun k hk => Dask.Lemmas.Graph.solutions_agree order [] h.1 (fun _ hd => by cases hd) h1 h2 k (h.2 k hk)

/-- a graph (distinct keys) that has a topological order is closed -/
theorem C10_topo_closed {κ ν : Type} [DecidableEq κ] (g : Graph κ ν) (hwf : WF g)
    (order : List κ) (h : IsTopo g order) : closed g := by
  intro p hp d hd
  exact Dask.Lemmas.Graph.TopoFrom_deps_mem hwf hp hd order [] h.1 (fun _ hx => nomatch hx)
    (h.2 p.1 (Dask.Lemmas.Graph.mem_keys_of_mem hp))

/-- The executable order checker used in the correspondence (driver command `gr.istopo`, applied to
the orders the instrumented executor and dask's own schedulers really used) is sound. -/
theorem C10_checker_sound {κ ν : Type} [DecidableEq κ] (g : Graph κ ν) (order : List κ)
    (h : isTopoB (skeleton g) order = true) : IsTopo g order := by
  simp only [isTopoB, Bool.and_eq_true, List.all_eq_true, List.contains_eq_mem,
    decide_eq_true_eq] at h
  refine ⟨Dask.Lemmas.Graph.topoFromB_sound order [] h.1, ?_⟩
  intro k hk
  obtain ⟨p, hp, rfl⟩ := List.mem_map.mp hk
  exact h.2 (p.1, p.2.deps) (List.mem_map.mpr ⟨p, hp, rfl⟩)

/-! ### non-vacuity: a diamond with two different topological orders -/

def t0 : Task Nat Int := ⟨[], fun _ => 5⟩
def t1 : Task Nat Int := ⟨[0], fun vs => vs.headD 0 + 1⟩
def t2 : Task Nat Int := ⟨[0], fun vs => vs.headD 0 * 2⟩
def t3 : Task Nat Int := ⟨[1, 2], fun vs => vs.foldl (· + ·) 0⟩
def diamond : Graph Nat Int := [(0, t0), (1, t1), (2, t2), (3, t3)]

example : WF diamond := by unfold WF keys diamond; decide +kernel

example : IsTopo diamond [0, 1, 2, 3] := C10_checker_sound diamond _ (by decide +kernel)

example : IsTopo diamond [0, 2, 1, 3] := C10_checker_sound diamond _ (by decide +kernel)

example : (evalOrder diamond [0, 1, 2, 3] Env.empty).map (fun e => [e 0, e 1, e 2, e 3])
    = some [some 5, some 6, some 10, some 16] := by decide +kernel
example : (evalOrder diamond [0, 2, 1, 3] Env.empty).map (fun e => [e 0, e 1, e 2, e 3])
    = some [some 5, some 6, some 10, some 16] := by decide +kernel
example : isTopoB (skeleton diamond) [0, 2, 1, 3] = true ∧ isTopoB (skeleton diamond) [1, 0, 2, 3] = false := by
  decide +kernel
/-- an order that is not topological needs an undefined dependency -/
example : (evalOrder diamond [1, 0, 2, 3] Env.empty).isNone = true := by decide +kernel

end Dask.Props.C10
