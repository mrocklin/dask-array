/-
C23 — A random array is one fixed realization.  The property theorems (flat-index and history
lemmas are in Lemmas/Hist) and non-vacuity examples.  Model: Model/Hist.lean (`Random` node =
parameters + per-block seed vector drawn at construction; histories of computes / derived
computations / pickles / further draws from the live generator / rebuilds).
Every statement is for ALL seeds, generator states, block grids (all ranks), abstract `spawn`
functions and histories.
-/
import DaskArrayModel.Lemmas.Hist
namespace Dask.Props.C23
open Dask.Hist

/-- Along ANY history, the node held by `x` keeps its seed vector, and every seed used by any
task (of `x.compute()`, of a derived computation after culling/rewrites, after pickling, after a
rebuild from the same seed, after other arrays were drawn from the same generator) is the seed
`seeds[flat index of the block]` of the ORIGINAL node.  (Scalar distribution parameters:
`deps = []`; see `C23_array_param_witness`.) -/
theorem C23_one_realization (spawn : Nat → Nat → Nat) (k : Kind) (w : World)
    (hwf : WF spawn k w) (hd : w.node.params.deps = []) (ops : List Op) :
    (run spawn k ops w).node = w.node ∧
    ∀ o ∈ (run spawn k ops w).obs, o ∈ w.obs ∨ ∃ bid, o = observe w.node bid := by
  induction ops generalizing w with
  | nil => exact ⟨rfl, fun o ho => Or.inl ho⟩
  | cons op ops ih =>
    have hfix := Dask.Lemmas.Hist.step_fixed spawn k w op
    have hwf' : WF spawn k (step spawn k w op) := by
      unfold WF; rw [hfix.1, hfix.2]; exact hwf
    have h := ih (step spawn k w op) hwf' (by rw [hfix.1]; exact hd)
    refine ⟨h.1.trans hfix.1, fun o ho => ?_⟩
    rcases h.2 o ho with h1 | ⟨bid, rfl⟩
    · exact Dask.Lemmas.Hist.step_obs spawn k w hwf hd op o h1
    · exact Or.inr ⟨bid, by rw [hfix.1]⟩

/-- pickling: `_reconstruct` draws fresh seeds (the unpickled generator copy advances) and the
carried `_info` cache overwrites them — the node is unchanged. -/
theorem C23_pickle (spawn : Nat → Nat → Nat) (k : Kind) (g : Gen) (r : Node) :
    reconstruct spawn k (reduce g r) = r :=
  Dask.Lemmas.Hist.reconstruct_reduce spawn k g r

/-- a rewrite never re-instantiates a node without expression operands -/
theorem C23_rewrite_reuses (spawn : Nat → Nat → Nat) (k : Kind) (g : Gen) (r : Node) (f : Nat → Nat)
    (hd : r.params.deps = []) : rebuild spawn k g r f = (r, g) :=
  Dask.Lemmas.Hist.rebuild_scalar spawn k g r f hd

/-- same generator state (seed and consumption) and same number of blocks ⇒ same seed vector
(distribution parameters and chunk SIZES do not enter). -/
theorem C23_rebuild (spawn : Nat → Nat → Nat) (k : Kind) (g1 g2 : Gen) (p1 p2 : Params)
    (hg : g1 = g2) (hn : nblocks p1.numblocks = nblocks p2.numblocks) :
    (construct spawn k g1 p1).1.seeds = (construct spawn k g2 p2).1.seeds := by
  subst hg; simp [construct, hn]

/-- the seed vector has one entry per block -/
theorem C23_seed_count (spawn : Nat → Nat → Nat) (k : Kind) (g : Gen) (p : Params) :
    (construct spawn k g p).1.seeds.length = nblocks p.numblocks :=
  Dask.Lemmas.Hist.draw_length spawn k g _

/-! ### `_block_id_to_flat_index` is a bijection grid → `range(#blocks)` (all ranks) -/

/-- the Python loop computes the row-major (C order) rank -/
theorem C23_flat_index_rowMajor (numblocks bid : List Nat) (h : InGrid numblocks bid) :
    flatIndex numblocks bid = rowMajor numblocks bid :=
  Dask.Lemmas.Hist.flatIndex_eq_rowMajor _ _ (Dask.Lemmas.Hist.inGrid_length _ _ h)

theorem C23_flat_index_range (numblocks bid : List Nat) (h : InGrid numblocks bid) :
    flatIndex numblocks bid < nblocks numblocks := by
  rw [C23_flat_index_rowMajor _ _ h]; exact Dask.Lemmas.Hist.rowMajor_lt _ _ h

theorem C23_flat_index_injective (numblocks b b' : List Nat) (h : InGrid numblocks b) (h' : InGrid numblocks b')
    (e : flatIndex numblocks b = flatIndex numblocks b') : b = b' := by
  rw [C23_flat_index_rowMajor _ _ h, C23_flat_index_rowMajor _ _ h'] at e
  exact Dask.Lemmas.Hist.rowMajor_inj _ _ _ h h' e

theorem C23_flat_index_surjective (numblocks : List Nat) (k : Nat) (hk : k < nblocks numblocks) :
    InGrid numblocks (unflatIndex numblocks k) ∧ flatIndex numblocks (unflatIndex numblocks k) = k := by
  have h := Dask.Lemmas.Hist.unflat_spec numblocks k hk
  exact ⟨h.1, by rw [C23_flat_index_rowMajor _ _ h.1]; exact h.2⟩

/-- the grid enumerated by `itertools.product` is exactly the set of valid block ids -/
theorem C23_grid_mem (numblocks bid : List Nat) : bid ∈ grid numblocks ↔ InGrid numblocks bid := by
  rw [Dask.Lemmas.Hist.grid_eq_allIdx, Dask.Lemmas.Hist.inGrid_iff_InB, Dask.ND.mem_allIdx]

/-- `itertools.product` order IS flat-index order: the k-th block id of the grid has flat index k
(so `sizes[flat]` / `bitgens[flat]`, both listed in product order, belong to that block) -/
theorem C23_grid_order (numblocks : List Nat) :
    (grid numblocks).map (flatIndex numblocks) = List.range (nblocks numblocks) := by
  rw [← Dask.Lemmas.Hist.grid_rowMajor numblocks]
  exact List.map_congr_left fun bs h => C23_flat_index_rowMajor numblocks bs ((C23_grid_mem numblocks bs).mp h)

/-- trailing `extra_chunks` coordinates (multinomial) do not change the index -/
theorem C23_flat_index_extra (numblocks bid extra : List Nat) (h : InGrid numblocks bid) :
    flatIndex numblocks (bid ++ extra) = flatIndex numblocks bid :=
  Dask.Lemmas.Hist.flatIndex_extra _ _ _ (Dask.Lemmas.Hist.inGrid_length _ _ h)

/-- each block gets its own seed (for an injective child derivation): culling or slicing away a
block cannot shift another block onto its seed. -/
theorem C23_blocks_distinct_seeds (spawn : Nat → Nat → Nat) (hinj : ∀ s a b, spawn s a = spawn s b → a = b)
    (k : Kind) (g : Gen) (p : Params) (b b' : List Nat)
    (hb : InGrid p.numblocks b) (hb' : InGrid p.numblocks b')
    (e : (observe (construct spawn k g p).1 b).2 = (observe (construct spawn k g p).1 b').2) : b = b' := by
  simp only [observe, construct] at e
  rw [C23_flat_index_rowMajor _ _ hb, C23_flat_index_rowMajor _ _ hb'] at e
  have hl := Dask.Lemmas.Hist.draw_length spawn k g (nblocks p.numblocks)
  exact Dask.Lemmas.Hist.rowMajor_inj _ _ _ hb hb'
    ((List.getElem?_inj (by rw [hl]; exact Dask.Lemmas.Hist.rowMajor_lt _ _ hb)
      (Dask.Lemmas.Hist.draw_nodup spawn hinj k g (nblocks p.numblocks))).mp e)

/-- a concrete (injective) child derivation for the examples -/
def spawn0 (s k : Nat) : Nat := 1000 * s + k

def node0 : Node := (construct spawn0 .generator ⟨7, 4⟩ ⟨0, [2, 3], []⟩).1
def world0 : World := ⟨⟨7, 10⟩, ⟨7, 4⟩, node0, []⟩

example : node0.seeds = [7004, 7005, 7006, 7007, 7008, 7009] := by decide +kernel
example : WF spawn0 .generator world0 := by unfold WF; decide
example : flatIndex [2, 3] [1, 2] = 5 ∧ flatIndex [2, 3, 4] [1, 2, 3] = 23 ∧ flatIndex [2, 3] [1, 2, 0] = 5 := by decide +kernel
example : unflatIndex [2, 3, 4] 23 = [1, 2, 3] := by decide +kernel
example : (grid [2, 3]).map (flatIndex [2, 3]) = [0, 1, 2, 3, 4, 5] := by decide +kernel
/-- a history: compute; a sliced derivation keeping blocks (1,0),(1,2); pickle; another array from the
same generator; rebuild from the seed; compute — every observation is the original vector's entry. -/
example : (run spawn0 .generator
      [.compute, .derive (· + 1) [[1, 0], [1, 2]], .pickle, .other ⟨1, [5], []⟩, .rebuildSameSeed, .compute] world0).obs.map (·.2)
    = [some 7004, some 7005, some 7006, some 7007, some 7008, some 7009, some 7007, some 7009,
       some 7004, some 7005, some 7006, some 7007, some 7008, some 7009,
       some 7004, some 7005, some 7006, some 7007, some 7008, some 7009] := by decide +kernel

/-- NECESSITY of `deps = []`: with an array-valued parameter whose expression a rewrite renames, the
node is re-instantiated and the derived computation uses OTHER seeds (the live generator has moved on).
This is the behaviour of the implementation (finding `random:array-param-node-rebuilt`). -/
theorem C23_array_param_witness :
    let w : World := ⟨⟨7, 10⟩, ⟨7, 4⟩, (construct spawn0 .generator ⟨7, 4⟩ ⟨0, [2], [5]⟩).1, []⟩
    (run spawn0 .generator [.compute, .derive (· + 1) [[0], [1]]] w).obs.map (·.2)
      = [some 7004, some 7005, some 7010, some 7011] := by decide +kernel

/-- NECESSITY of the carried cache: without `_info` in the pickle the reconstructed node has fresh seeds. -/
theorem C23_pickle_needs_cache :
    (reconstruct spawn0 .generator { reduce ⟨7, 10⟩ node0 with cache := none }).seeds ≠ node0.seeds := by decide +kernel

end Dask.Props.C23
